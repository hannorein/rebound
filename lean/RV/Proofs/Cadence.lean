import RV.Model.Cadence
/-
  The output cadence of the archive heartbeat (RV/Model/Cadence.lean) over exact arithmetic: a snapshot at the first
  step boundary at or after each prescribed time (interval, step-count and wall-time mode), the cadence state across
  a restart, and the repaired heartbeat, which needs no bound on the step length.  At the end the growth schedule
  `capAt` of the reader's index arrays (`cap_ok`), used by the C06/C07 capacity theorems.
-/
set_option linter.unusedVariables false
namespace RV.Cadence

theorem hb_int (s d next t : Int) :
    hb intOps s d next t = if s * next ≤ s * t then (true, next + s * d) else (false, next) := by
  simp only [hb, intOps, decide_eq_true_eq]

theorem run_cons (s d next t : Int) (r : List Int) :
    run intOps s d next (t :: r) =
      ((hb intOps s d next t).1 :: (run intOps s d (hb intOps s d next t).2 r).1,
       (run intOps s d (hb intOps s d next t).2 r).2) := rfl

theorem dir_mul_add {s : Int} (hs : s = 1 ∨ s = -1) (a b : Int) : s * (a + s * b) = s * a + b := by
  rcases hs with rfl | rfl <;> omega

/-- consecutive step boundaries move in the direction of integration by at most one interval -/
def Chain (s d : Int) : Int → List Int → Prop
  | _, [] => True
  | p, t :: r => 0 ≤ s * (t - p) ∧ s * (t - p) ≤ d ∧ Chain s d t r

/-- exact cadence: at every boundary a snapshot is taken iff the prescribed time `next` has been reached, the
    boundary is then less than one interval past it (it is the first boundary at or after the prescribed
    time, and the following prescribed time is still ahead), and `next` advances by exactly one interval -/
def Exact (s d : Int) : Int → List Int → List Bool → Prop
  | _, [], [] => True
  | next, t :: r, b :: bs =>
    (b = true ↔ s * next ≤ s * t) ∧ (b = true → s * t < s * next + d) ∧
      Exact s d (if b then next + s * d else next) r bs
  | _, _, _ => False

theorem cadence_exact (s d : Int) (hs : s = 1 ∨ s = -1) (p next : Int) (ts : List Int)
    (hinv : s * p < s * next) (hc : Chain s d p ts) :
    Exact s d next ts (run intOps s d next ts).1 := by
  induction ts generalizing p next with
  | nil => trivial
  | cons t r ih =>
    obtain ⟨h0, h1, hr⟩ := hc
    rw [Int.mul_sub] at h0 h1
    rw [run_cons, hb_int]
    split <;> rename_i hle
    · exact ⟨iff_of_true rfl hle, fun _ => by omega, ih t (next + s * d) (by rw [dir_mul_add hs]; omega) hr⟩
    · exact ⟨iff_of_false Bool.false_ne_true hle, nofun, ih t next (by omega) hr⟩

/-- number of snapshots taken -/
def count : List Bool → Nat
  | [] => 0
  | b :: r => (if b then 1 else 0) + count r

theorem cadence_next (s d : Int) (next : Int) (ts : List Int) :
    (run intOps s d next ts).2 = next + (count (run intOps s d next ts).1 : Int) * (s * d) := by
  induction ts generalizing next with
  | nil => simp [run, count]
  | cons t r ih =>
    rw [run_cons, hb_int]
    split
    · simp only [count, if_true, ih, Int.natCast_add, Int.add_mul]; omega
    · simp only [count, Bool.false_eq_true, if_false, ih, Nat.zero_add]

/-! ### wall-time cadence: the clock is an arbitrary input -/

theorem hbWall_eq_hb (d next w : Int) : hbWall intOps d next w = hb intOps 1 d next w := by
  simp only [hbWall, hb, intOps, decide_eq_true_eq, Int.one_mul]

theorem runWall_eq_run (d next : Int) (ws : List Int) : runWall intOps d next ws = run intOps 1 d next ws := by
  induction ws generalizing next with
  | nil => rfl
  | cons w r ih => simp only [runWall, run, hbWall_eq_hb, ih]

/-- what holds for EVERY clock sequence: a snapshot is taken at a heartbeat iff the prescribed wall time has been
    reached (never early, never omitted), at most one per heartbeat, and `next` moves by exactly one interval -/
def WallSound (d : Int) : Int → List Int → List Bool → Prop
  | _, [], [] => True
  | next, w :: r, b :: bs => (b = true ↔ next ≤ w) ∧ WallSound d (if b then next + d else next) r bs
  | _, _, _ => False

theorem wall_sound (d next : Int) (ws : List Int) : WallSound d next ws (runWall intOps d next ws).1 := by
  rw [runWall_eq_run]
  induction ws generalizing next with
  | nil => trivial
  | cons w r ih =>
    rw [run_cons, hb_int, Int.one_mul, Int.one_mul, Int.one_mul]
    split <;> rename_i hle
    · exact ⟨iff_of_true rfl hle, ih _⟩
    · exact ⟨iff_of_false Bool.false_ne_true hle, ih _⟩

theorem wall_next (d next : Int) (ws : List Int) :
    (runWall intOps d next ws).2 = next + (count (runWall intOps d next ws).1 : Int) * d := by
  rw [runWall_eq_run, cadence_next, Int.one_mul]

/-- with a clock that is non-decreasing and advances by at most one interval between heartbeats the wall-time
    cadence is exact (it is the interval cadence with sign +1) -/
theorem wall_exact (d : Int) (hd : 0 < d) (p next : Int) (ws : List Int)
    (hinv : p < next) (hc : Chain 1 d p ws) :
    Exact 1 d next ws (runWall intOps d next ws).1 := by
  rw [runWall_eq_run]
  exact cadence_exact 1 d (Or.inl rfl) p next ws (by omega) hc

def ChainStep (step : Nat) : Nat → List Nat → Prop
  | _, [] => True
  | p, t :: r => p ≤ t ∧ t ≤ p + step ∧ ChainStep step t r

def ExactStep (step : Nat) : Nat → List Nat → List Bool → Prop
  | _, [], [] => True
  | next, t :: r, b :: bs =>
    (b = true ↔ next ≤ t) ∧ (b = true → t < next + step) ∧
      ExactStep step (if b then next + step else next) r bs
  | _, _, _ => False

theorem cadence_step_exact (step : Nat) (p next : Nat) (ts : List Nat)
    (hinv : p < next) (hc : ChainStep step p ts) :
    ExactStep step next ts (runStep step next ts).1 := by
  induction ts generalizing p next with
  | nil => trivial
  | cons t r ih =>
    obtain ⟨h0, h1, hr⟩ := hc
    simp only [runStep, hbStep]
    split <;> rename_i hle
    · exact ⟨iff_of_true rfl hle, fun _ => by omega, ih t (next + step) (by omega) hr⟩
    · exact ⟨iff_of_false Bool.false_ne_true hle, nofun, ih t next (by omega) hr⟩

def intNe : Int → Int → Bool := fun a b => decide (a ≠ b)

theorem run_append (s d next : Int) (a b : List Int) :
    run intOps s d next (a ++ b) =
      ((run intOps s d next a).1 ++ (run intOps s d (run intOps s d next a).2 b).1,
       (run intOps s d (run intOps s d next a).2 b).2) := by
  induction a generalizing next with
  | nil => rfl
  | cons t r ih => simp only [List.cons_append, run_cons, ih]

theorem runStep_append (step next : Nat) (a b : List Nat) :
    runStep step next (a ++ b) =
      ((runStep step next a).1 ++ (runStep step (runStep step next a).2 b).1,
       (runStep step (runStep step next a).2 b).2) := by
  induction a generalizing next with
  | nil => rfl
  | cons t r ih => simp only [List.cons_append, runStep, ih]

theorem arm_same (d next t : Int) : arm intNe d next d t = (d, next) := by simp [arm, intNe]

theorem arm_changed (d d' next t : Int) (h : d ≠ d') : arm intNe d next d' t = (d', t) := by simp [arm, intNe, h]

/-- the heartbeat that wrote a snapshot does not fire a second time at the same boundary, provided the boundary was
    less than one interval past the prescribed time (which `cadence_exact` gives for steps no longer than the interval) -/
theorem hb_no_refire (s d next t : Int) (hs : s = 1 ∨ s = -1) (hnl : s * t < s * next + d) :
    hb intOps s d (next + s * d) t = (false, next + s * d) := by
  rw [hb_int, dir_mul_add hs, if_neg (by omega)]

/-- ... and it DOES fire again when the prescribed time lags by a whole interval or more (finding
    `cadence:lagging-next-duplicate`: the model follows the source) -/
theorem hb_refire_lagging (s d next t : Int) (hlag : s * (next + s * d) ≤ s * t) :
    (hb intOps s d (next + s * d) t).1 = true := by
  rw [hb_int, if_pos hlag]

/-- **restart neither skips nor duplicates.**  Uninterrupted run over the boundaries `ts1 ++ t :: ts2`; the heartbeat at
    `t` writes snapshot k (and `t` is less than an interval past the prescribed time).  Restart from snapshot k with the
    persisted state, re-arm with the same interval, integrate on: the heartbeat at `t` stays silent, every later
    boundary gets a snapshot iff it got one in the uninterrupted run, and the final cadence state is the same. -/
theorem restart_exact (s d next0 t : Int) (ts1 ts2 : List Int) (hs : s = 1 ∨ s = -1)
    (hfire : s * (run intOps s d next0 ts1).2 ≤ s * t) (hnl : s * t < s * (run intOps s d next0 ts1).2 + d) :
    let n1 := (run intOps s d next0 ts1).2
    let rest := run intOps s d (n1 + s * d) ts2
    run intOps s d next0 (ts1 ++ t :: ts2) = ((run intOps s d next0 ts1).1 ++ true :: rest.1, rest.2) ∧
    restart intOps intNe s d (n1 + s * d) d t ts2 = (false :: rest.1, rest.2) := by
  intro n1 rest
  constructor
  · rw [run_append, run_cons, hb_int, if_pos hfire]
  · rw [restart, arm_same, run_cons, hb_no_refire s d n1 t hs hnl]

/-- lagging prescribed time: the restarted run writes snapshot k a second time -/
theorem restart_lagging_duplicates (s d n1 t : Int) (ts2 : List Int) (hlag : s * (n1 + s * d) ≤ s * t) :
    (restart intOps intNe s d (n1 + s * d) d t ts2).1.head? = some true := by
  rw [restart, arm_same, run_cons, hb_refire_lagging s d n1 t hlag]; rfl

/-- re-arming with a different interval after the restart: a snapshot at the restart time, then the new cadence -/
theorem restart_rearmed (s d d' pn t : Int) (ts2 : List Int) (h : d ≠ d') :
    restart intOps intNe s d pn d' t ts2 = (true :: (run intOps s d' (t + s * d') ts2).1, (run intOps s d' (t + s * d') ts2).2) := by
  rw [restart, arm_changed d d' pn t h, run_cons, hb_int, if_pos (Int.le_refl _)]

theorem hbStep_no_refire (step next sd : Nat) (hnl : sd < next + step) :
    hbStep step (next + step) sd = (false, next + step) := by
  rw [hbStep, if_neg (by omega)]

theorem restartStep_exact (step next0 sk : Nat) (ts1 ts2 : List Nat)
    (hfire : (runStep step next0 ts1).2 ≤ sk) (hnl : sk < (runStep step next0 ts1).2 + step) :
    let n1 := (runStep step next0 ts1).2
    let rest := runStep step (n1 + step) ts2
    runStep step next0 (ts1 ++ sk :: ts2) = ((runStep step next0 ts1).1 ++ true :: rest.1, rest.2) ∧
    restartStep step (n1 + step) step sk ts2 = (false :: rest.1, rest.2) := by
  intro n1 rest
  constructor
  · rw [runStep_append, runStep, hbStep, if_pos hfire]
  · rw [restartStep, armStep, if_neg (not_not_intro rfl), runStep, hbStep_no_refire step n1 sk hnl]

/-- wall-time mode is re-armed unconditionally: the restarted run writes a snapshot at once (documented in
    simulationarchive.c:654 "this will create two snapshots if restarted") -/
theorem wall_restart_fires (d w : Int) : (hbWall intOps d (armWall d w).2 w).1 = true := by
  rw [hbWall_eq_hb, hb_int, armWall, if_pos (Int.le_refl _)]

/-! ### repaired heartbeat: no hypothesis on the step length -/

/-- the repaired heartbeat fires whenever the original does (`hbR_not_fire` is the converse) -/
theorem hbR_fire (s d next t : Int) (h : s * next ≤ s * t) : (hbR intOpsR s d next t).1 = true := by
  simp only [hbR, intOpsR, intOps, decide_eq_true_eq, if_pos h]; split <;> rfl

theorem hbR_not_fire (s d next t : Int) (h : ¬ s * next ≤ s * t) : hbR intOpsR s d next t = (false, next) := by
  simp only [hbR, intOpsR, intOps, decide_eq_true_eq, if_neg h]

/-- after the repaired heartbeat wrote a snapshot the prescribed time is strictly ahead of `t` and at most one
    interval ahead: the following prescribed time of the grid `next0 + k·interval` -/
theorem hbR_next_ahead (s d next t : Int) (hs : s = 1 ∨ s = -1) (hd : 0 < d) (hfire : s * next ≤ s * t) :
    s * t < s * (hbR intOpsR s d next t).2 ∧ s * (hbR intOpsR s d next t).2 ≤ s * t + d := by
  simp only [hbR, intOpsR, intOps, decide_eq_true_eq, Bool.and_eq_true, if_pos hfire, hd, and_true]
  have e1 := dir_mul_add hs next d
  split <;> rename_i h1
  · -- `next + s*d` is still not ahead of `t`: with `q` the whole intervals between the two, `q + 1` more intervals
    -- bring it ahead, and the rounding correction `if (sign*next <= sign*t)` never applies on integers
    generalize hq : s * (t - (next + s * d)) / d = q
    have ha := Int.mul_ediv_self_le (x := s * (t - (next + s * d))) (Int.ne_of_gt hd)
    have hb := Int.lt_mul_ediv_self_add (x := s * (t - (next + s * d))) hd
    rw [hq, Int.mul_sub, Int.mul_comm d q] at ha hb
    have e2 : s * (next + s * d + s * (q + 1) * d) = s * next + d + (q * d + d) := by
      rw [Int.mul_assoc s, dir_mul_add hs, e1, Int.add_mul, Int.one_mul]
    rw [if_neg (by omega), e2]
    omega
  · dsimp only; omega

/-- when the step is not longer than the interval past the prescribed time, the repaired heartbeat is the one of the
    source as it stands (so `cadence_exact` holds for it unchanged) -/
theorem hbR_eq_hb (s d next t : Int) (hs : s = 1 ∨ s = -1) (hnl : s * t < s * next + d) :
    hbR intOpsR s d next t = hb intOps s d next t := by
  have : ¬ (s * (next + s * d) ≤ s * t) := by rw [dir_mul_add hs]; omega
  simp only [hbR, hb, intOpsR, intOps, decide_eq_true_eq, Bool.and_eq_true, this, false_and, if_false]

/-- the repaired heartbeat never writes twice at the same time, whatever the ratio of step and interval -/
theorem hbR_no_refire (s d next t : Int) (hs : s = 1 ∨ s = -1) (hd : 0 < d) (hfire : s * next ≤ s * t) :
    (hbR intOpsR s d (hbR intOpsR s d next t).2 t) = (false, (hbR intOpsR s d next t).2) :=
  hbR_not_fire s d _ t (Int.not_le.mpr (hbR_next_ahead s d next t hs hd hfire).1)

theorem runR_cons (s d next t : Int) (r : List Int) :
    runR intOpsR s d next (t :: r) =
      ((hbR intOpsR s d next t).1 :: (runR intOpsR s d (hbR intOpsR s d next t).2 r).1,
       (runR intOpsR s d (hbR intOpsR s d next t).2 r).2) := rfl

theorem runR_append (s d next : Int) (a b : List Int) :
    runR intOpsR s d next (a ++ b) =
      ((runR intOpsR s d next a).1 ++ (runR intOpsR s d (runR intOpsR s d next a).2 b).1,
       (runR intOpsR s d (runR intOpsR s d next a).2 b).2) := by
  induction a generalizing next with
  | nil => rfl
  | cons t r ih => simp only [List.cons_append, runR_cons, ih]

/-- **restart neither skips nor duplicates, repaired source, every step length**: no `hnl` hypothesis -/
theorem restartR_exact (s d next0 t : Int) (ts1 ts2 : List Int) (hs : s = 1 ∨ s = -1) (hd : 0 < d)
    (hfire : s * (runR intOpsR s d next0 ts1).2 ≤ s * t) :
    let n1 := (hbR intOpsR s d (runR intOpsR s d next0 ts1).2 t).2
    let rest := runR intOpsR s d n1 ts2
    runR intOpsR s d next0 (ts1 ++ t :: ts2) = ((runR intOpsR s d next0 ts1).1 ++ true :: rest.1, rest.2) ∧
    restartR intOpsR intNe s d n1 d t ts2 = (false :: rest.1, rest.2) := by
  intro n1 rest
  constructor
  · rw [runR_append, runR_cons, hbR_fire s d _ t hfire]
  · rw [restartR, arm_same, runR_cons, hbR_no_refire s d _ t hs hd hfire]

/-- the index arrays are always large enough: slot `i` exists when iteration `i` writes it, and the loop
    bound `i < nblobsmax` never ends the walk -/
theorem cap_ok (i : Nat) : i < capAt i := by
  induction i with
  | zero => exact Nat.zero_lt_succ _
  | succ n ih =>
    rw [capAt, growCap]
    split <;> omega

end RV.Cadence
