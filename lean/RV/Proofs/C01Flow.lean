import RV.Model.Sched
import Mathlib.Algebra.Group.Prod
import Mathlib.Algebra.Module.Basic
import Mathlib.Algebra.Group.End
import Mathlib.Tactic.Ring
import Mathlib.Tactic.Abel
/-
  C01 — the abstract part: schedules as words in one-parameter groups.

  * `reverse_neg_cancel`: for any family of flows (`φ i 0 = 1`, `φ i s * φ i t = φ i (s+t)`) in any monoid, the
    schedule run backwards with negated times undoes the schedule.  Corollary: a palindromic schedule `S` satisfies
    `S(−h) ∘ S(h) = id` (time reversibility), for every step `h`.  `conjugate_reversible`: the same for a palindrome
    conjugated by a processor, `P ++ C ++ P⁻¹`.
  * `norm_sound`: dropping force evaluations, merging neighbouring operators of the same group and dropping identities
    (`RV.C01.norm`, the form on which the generated schedules are compared) does not change the map.
  * drift and kick on phase space `V × V` are exact flows, additive in the time, for an arbitrary force field.
-/
namespace RV.C01.Flow
open RV.C01

section abstract
variable {M : Type} [Monoid M] {ι : Type} {K : Type} [AddGroup K]

structure Flows (φ : ι → K → M) : Prop where
  zero : ∀ i, φ i 0 = 1
  add : ∀ i s t, φ i s * φ i t = φ i (s + t)

/-- the map of a schedule: the product of the operators in list order -/
def evalS (φ : ι → K → M) : List (ι × K) → M
  | [] => 1
  | p :: r => φ p.1 p.2 * evalS φ r

def negS (S : List (ι × K)) : List (ι × K) := S.map (fun p => (p.1, -p.2))

omit [AddGroup K] in
theorem evalS_append (φ : ι → K → M) (S T : List (ι × K)) : evalS φ (S ++ T) = evalS φ S * evalS φ T := by
  induction S with
  | nil => simp [evalS]
  | cons p r ih => simp [evalS, ih, mul_assoc]

theorem cancel (φ : ι → K → M) (hφ : Flows φ) (i : ι) (t : K) : φ i (-t) * φ i t = 1 := by
  rw [hφ.add, neg_add_cancel, hφ.zero]

theorem reverse_neg_cancel (φ : ι → K → M) (hφ : Flows φ) (S : List (ι × K)) :
    evalS φ (negS S).reverse * evalS φ S = 1 := by
  induction S with
  | nil => simp [negS, evalS]
  | cons p r ih =>
    have h1 : (negS (p :: r)).reverse = (negS r).reverse ++ [(p.1, -p.2)] := by simp [negS]
    rw [h1, evalS_append]
    show evalS φ (negS r).reverse * (φ p.1 (-p.2) * 1) * (φ p.1 p.2 * evalS φ r) = 1
    rw [mul_one, mul_assoc, ← mul_assoc (φ p.1 (-p.2)), cancel φ hφ, one_mul, ih]

theorem palindrome_reversible (φ : ι → K → M) (hφ : Flows φ) (S : List (ι × K)) (hS : S.reverse = S) :
    evalS φ (negS S) * evalS φ S = 1 := by
  have h : (negS S).reverse = negS S := by
    unfold negS; rw [← List.map_reverse, hS]
  rw [← h]; exact reverse_neg_cancel φ hφ S

/-- a conjugated palindrome (the shape `SplitSym` asserts): `P ++ C ++ P⁻¹` with palindromic `C` is undone by
    `P ++ C(−) ++ P⁻¹`, where `C(−)` is `C` with negated times and `P⁻¹ = (negS P).reverse` -/
theorem conjugate_reversible (φ : ι → K → M) (hφ : Flows φ) (P C : List (ι × K)) (hC : C.reverse = C) :
    evalS φ (P ++ negS C ++ (negS P).reverse) * evalS φ (P ++ C ++ (negS P).reverse) = 1 := by
  have hP : evalS φ (negS P).reverse * evalS φ P = 1 := reverse_neg_cancel φ hφ P
  have hK : evalS φ (negS C) * evalS φ C = 1 := palindrome_reversible φ hφ C hC
  simp only [evalS_append]
  calc evalS φ P * evalS φ (negS C) * evalS φ (negS P).reverse * (evalS φ P * evalS φ C * evalS φ (negS P).reverse)
      = evalS φ P * evalS φ (negS C) * (evalS φ (negS P).reverse * evalS φ P) * evalS φ C * evalS φ (negS P).reverse := by
        simp only [mul_assoc]
    _ = evalS φ P * (evalS φ (negS C) * evalS φ C) * evalS φ (negS P).reverse := by rw [hP, mul_one]; simp only [mul_assoc]
    _ = evalS φ P * evalS φ (negS P).reverse := by rw [hK, mul_one]
    _ = 1 := by
        have := reverse_neg_cancel φ hφ (negS P).reverse
        have e : (negS (negS P).reverse).reverse = P := by
          unfold negS; simp [List.map_reverse, Function.comp_def]
        rw [e] at this; exact this
end abstract

/-! ### the generated schedules as words: times `(a·h, b·h³)` in the additive group `ℚ × ℚ` -/
section generated
variable {M : Type} [Monoid M]

def timesOf (h : Rat) (l : List G) : List (Nat × (Rat × Rat)) := l.map (fun g => (g.letter, (g.t * h, g.j * h ^ 3)))

theorem timesOf_neg (h : Rat) (l : List G) : timesOf (-h) l = negS (timesOf h l) := by
  unfold timesOf negS
  rw [List.map_map]
  apply List.map_congr_left
  intro g _
  show (g.letter, (g.t * -h, g.j * (-h) ^ 3)) = (g.letter, -(g.t * h, g.j * h ^ 3))
  have e1 : g.t * -h = -(g.t * h) := by ring
  have e2 : g.j * (-h) ^ 3 = -(g.j * h ^ 3) := by ring
  rw [e1, e2]; rfl

def raw (s : List Op) : List G := (s.filter (·.kind != 2)).map toG

theorem timesOf_cons (h : Rat) (g : G) (l : List G) :
    timesOf h (g :: l) = (g.letter, (g.t * h, g.j * h ^ 3)) :: timesOf h l := rfl

/-- an operator is kept or, when both its times vanish, dropped: the map is the same.  The condition is written
    `(… && …) = true` because that is what the `if` of `consG` elaborates to, so that `exact evalS_keep …` closes its branches -/
theorem evalS_keep (φ : Nat → (Rat × Rat) → M) (hφ : Flows φ) (h : Rat) (g : G) (l : List G) :
    evalS φ (timesOf h (if (g.t == 0 && g.j == 0) = true then l else g :: l)) =
      φ g.letter (g.t * h, g.j * h ^ 3) * evalS φ (timesOf h l) := by
  split_ifs with hz
  · rw [Bool.and_eq_true, beq_iff_eq, beq_iff_eq] at hz
    have : ((g.t * h, g.j * h ^ 3) : Rat × Rat) = 0 := by rw [hz.1, hz.2]; ext <;> simp
    rw [this, hφ.zero, one_mul]
  · rfl

theorem evalS_consG (φ : Nat → (Rat × Rat) → M) (hφ : Flows φ) (h : Rat) (g : G) (l : List G) :
    evalS φ (timesOf h (consG g l)) = φ g.letter (g.t * h, g.j * h ^ 3) * evalS φ (timesOf h l) := by
  cases l with
  | nil => exact evalS_keep φ hφ h g []
  | cons p r =>
    simp only [consG]
    by_cases hl : (p.letter == g.letter) = true
    · -- same group: the two times add
      rw [if_pos hl, timesOf_cons]
      rw [beq_iff_eq] at hl
      have : ((g.t * h, g.j * h ^ 3) : Rat × Rat) + (p.t * h, p.j * h ^ 3) = ((g.t + p.t) * h, (g.j + p.j) * h ^ 3) := by
        ext <;> simp <;> ring
      show _ = φ g.letter _ * (φ p.letter (p.t * h, p.j * h ^ 3) * _)
      rw [hl, ← mul_assoc, hφ.add, this]
      exact evalS_keep φ hφ h ⟨g.letter, g.t + p.t, g.j + p.j⟩ r
    · rw [if_neg hl]; exact evalS_keep φ hφ h g (p :: r)

theorem norm_sound (φ : Nat → (Rat × Rat) → M) (hφ : Flows φ) (h : Rat) (s : List Op) :
    evalS φ (timesOf h (norm s)) = evalS φ (timesOf h (raw s)) := by
  unfold norm raw
  induction (s.filter (·.kind != 2)) with
  | nil => rfl
  | cons o r ih =>
    rw [List.foldr_cons, evalS_consG φ hφ, ih]; rfl

theorem palindrome_step_reversible (φ : Nat → (Rat × Rat) → M) (hφ : Flows φ) (s : List Op) (hs : Palindrome s) (h : Rat) :
    evalS φ (timesOf (-h) (norm s)) * evalS φ (timesOf h (norm s)) = 1 := by
  rw [timesOf_neg]
  apply palindrome_reversible φ hφ
  unfold timesOf
  rw [← List.map_reverse, ← hs]
end generated

section phase
variable {V : Type} [AddCommGroup V] [Module Rat V]

def drift (τ : Rat) (s : V × V) : V × V := (s.1 + τ • s.2, s.2)
/-- kick for time `τ` (and jerk coefficient `j`) in the force field `a` (jerk field `g`), both functions of the position -/
def kick (a g : V → V) (τ : Rat × Rat) (s : V × V) : V × V := (s.1, s.2 + τ.1 • a s.1 + τ.2 • g s.1)

theorem drift_zero (s : V × V) : drift 0 s = s := by simp [drift]
theorem drift_add (σ τ : Rat) (s : V × V) : drift σ (drift τ s) = drift (σ + τ) s := by
  simp only [drift, add_smul]; ext
  · show s.1 + τ • s.2 + σ • s.2 = s.1 + (σ • s.2 + τ • s.2); abel
  · rfl
theorem kick_zero (a g : V → V) (s : V × V) : kick a g 0 s = s := by simp [kick]
theorem kick_add (a g : V → V) (σ τ : Rat × Rat) (s : V × V) : kick a g σ (kick a g τ s) = kick a g (σ + τ) s := by
  simp only [kick, Prod.fst_add, Prod.snd_add, add_smul]; ext
  · rfl
  · show s.2 + τ.1 • a s.1 + τ.2 • g s.1 + σ.1 • a s.1 + σ.2 • g s.1 =
      s.2 + (σ.1 • a s.1 + τ.1 • a s.1) + (σ.2 • g s.1 + τ.2 • g s.1)
    abel

/-- letter 0 = drift, every other letter = kick in the same fields, as elements of the monoid `Function.End (V × V)`
    (`f * g = f ∘ g`: the product of a schedule is read right to left; for the cancellation statement this is immaterial) -/
def phaseFlow (a g : V → V) (i : Nat) (τ : Rat × Rat) : Function.End (V × V) :=
  match i with
  | 0 => drift τ.1
  | _ + 1 => kick a g τ

theorem phaseFlow_flows (a g : V → V) : Flows (phaseFlow (V := V) a g) where
  zero := by
    intro i
    cases i with
    | zero => exact funext (fun s => drift_zero s)
    | succ n => exact funext (fun s => kick_zero a g s)
  add := by
    intro i σ τ
    cases i with
    | zero => exact funext (fun s => drift_add σ.1 τ.1 s)
    | succ n => exact funext (fun s => kick_add a g σ τ s)

theorem phase_space_reversible (a g : V → V) (s : List Op) (hs : Palindrome s) (h : Rat) (x : V × V) :
    (evalS (phaseFlow a g) (timesOf (-h) (norm s)) * evalS (phaseFlow a g) (timesOf h (norm s))) x = x := by
  rw [palindrome_step_reversible (phaseFlow a g) (phaseFlow_flows a g) s hs h]; rfl
end phase
end RV.C01.Flow
