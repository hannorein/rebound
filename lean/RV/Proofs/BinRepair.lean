/-
  The recovery walk of `reb_simulation_save_to_file` (simulationarchive.c:555-580): on a complete trailer chain
  followed by ANY residual bytes it ends exactly at the end of the last valid snapshot.  Hence: whenever the
  corruption test fires (e.g. on a zero-filled tail), the append position is the end of the last valid snapshot.
-/
import RV.Proofs.BinRestart
namespace RV.Bin

theorem freadInto_end (fld X : Bytes) : freadInto fld (endBytes ++ X) 16 = endBytes ++ fld.drop 16 := by
  unfold freadInto
  have : (endBytes ++ X).take 16 = endBytes := by
    rw [List.take_append_of_le_length (by simp)]; exact List.take_of_length_le (by simp)
  simp [this]

theorem endpad_clean (Y : Bytes) : ((endBytes ++ Y).drop 4).take 4 = [0, 0, 0, 0] := by
  simp [endBytes, hdrBytes, le32, le64]

theorem repairWalk_step (file : Bytes) (fuel pos last : Nat) (fld X tb : Bytes) (hp : ¬ pos < 16)
    (hsrc : file.drop (pos - 16) = endBytes ++ X) (htb : (file.drop pos).take 12 = tb) (hl : tb.length = 12) :
    repairWalk file (fuel + 1) pos last fld =
      if sgn32 (de ((tb.drop 8).take 4)) > 0
      then repairWalk file fuel (pos + 12 + (sgn32 (de ((tb.drop 8).take 4))).toNat) (pos + 12) (endBytes ++ fld.drop 16)
      else (pos + 12, endBytes ++ fld.drop 16) := by
  conv => lhs; unfold repairWalk
  simp only [hp, if_false, hsrc, readHdr_end, freadInto_end, htb, hl, Nat.lt_irrefl, ne_eq, not_true_eq_false]

/-- the walk over `… END ++ chain ++ tail`: every complete blob is passed, the walk stops at the trailer whose
    `offset_next` is 0 — whatever follows it — that is, where the intact chain would end -/
theorem repairWalk_chain (tail : Bytes) (ds : List (List Field)) (hds : ChainOK ds) (A : Bytes) (idx prev : Nat)
    (fuel : Nat) (hf : ds.length < fuel) (last : Nat) (fld : Bytes) :
    (repairWalk (A ++ (endBytes ++ chainG (finTail tail) idx prev ds)) fuel (A.length + 16) last fld).1
        = A.length + 16 + (chainG finIntact idx prev ds).length ∧
    (((repairWalk (A ++ (endBytes ++ chainG (finTail tail) idx prev ds)) fuel (A.length + 16) last fld).2).drop 4).take 4
        = [0, 0, 0, 0] := by
  induction ds generalizing A idx prev fuel last fld with
  | nil =>
    cases fuel with
    | zero => omega
    | succ n =>
      have hsrc : (A ++ (endBytes ++ chainG (finTail tail) idx prev [])).drop (A.length + 16 - 16)
          = endBytes ++ chainG (finTail tail) idx prev [] := by simp
      have htb : ((A ++ (endBytes ++ chainG (finTail tail) idx prev [])).drop (A.length + 16)).take 12
          = trailerBytes idx prev 0 := by
        have : A.length + 16 = (A ++ endBytes).length := by simp
        rw [this, ← List.append_assoc, List.drop_left]
        simp only [chainG, finTail, finIntact, trailer_take]
      rw [repairWalk_step _ n _ last fld _ _ (by omega) hsrc htb (by simp), trailer_next _ _ _ (by omega)]
      have h0 : ¬ (sgn32 0 > 0) := by decide
      rw [if_neg h0]
      exact ⟨by simp [chainG, finIntact], endpad_clean _⟩
  | cons d r ih =>
    cases fuel with
    | zero => omega
    | succ n =>
      obtain ⟨hd, hdl⟩ := hds d (List.mem_cons_self ..)
      have hr : ChainOK r := fun x hx => hds x (List.mem_cons_of_mem _ hx)
      have hl : r.length < n := by simp at hf; omega
      have hge := blobLen_ge d
      have hsrc : (A ++ (endBytes ++ chainG (finTail tail) idx prev (d :: r))).drop (A.length + 16 - 16)
          = endBytes ++ chainG (finTail tail) idx prev (d :: r) := by simp
      have htb : ((A ++ (endBytes ++ chainG (finTail tail) idx prev (d :: r))).drop (A.length + 16)).take 12
          = trailerBytes idx prev (blobLen d) := by
        have : A.length + 16 = (A ++ endBytes).length := by simp
        rw [this, ← List.append_assoc, List.drop_left]
        simp only [chainG, trailer_take]
      rw [repairWalk_step _ n _ last fld _ _ (by omega) hsrc htb (by simp), trailer_next _ _ _ (by omega),
        sgn32_small _ hdl]
      have hpos' : ((blobLen d : Nat) : Int) > 0 := by omega
      simp only [hpos', if_true, Int.toNat_natCast]
      have hre : A ++ (endBytes ++ chainG (finTail tail) idx prev (d :: r))
          = (A ++ (endBytes ++ (trailerBytes idx prev (blobLen d) ++ encFs d))) ++ (endBytes ++ chainG (finTail tail) (idx + 1) (blobLen d) r) := by
        simp [chainG, List.append_assoc]
      have hlen : A.length + 16 + 12 + blobLen d = (A ++ (endBytes ++ (trailerBytes idx prev (blobLen d) ++ encFs d))).length + 16 := by
        simp [blobLen]; omega
      rw [hre, hlen]
      obtain ⟨e1, e2⟩ := ih hr (A ++ (endBytes ++ (trailerBytes idx prev (blobLen d) ++ encFs d))) (idx + 1) (blobLen d) n hl
        (A.length + 16 + 12) (endBytes ++ fld.drop 16)
      refine ⟨?_, e2⟩
      rw [e1]
      simp [chainG, blobLen]; omega

theorem repairWalk_archI_tail (hdr : Bytes) (fs0 : List Field) (ds : List (List Field)) (h : ArchOK hdr fs0 ds)
    (tail : Bytes) (fuel : Nat) (hf : ds.length < fuel) (last : Nat) (fld : Bytes) :
    (repairWalk (archI hdr fs0 ds ++ tail) fuel (64 + blobLen fs0) last fld).1 = (archI hdr fs0 ds).length ∧
    (((repairWalk (archI hdr fs0 ds ++ tail) fuel (64 + blobLen fs0) last fld).2).drop 4).take 4 = [0, 0, 0, 0] := by
  have hform : archI hdr fs0 ds ++ tail = (hdr ++ encFs fs0) ++ (endBytes ++ chainG (finTail tail) 0 0 ds) := by
    rw [archI_tail]; simp [archG, List.append_assoc]
  have hpos : 64 + blobLen fs0 = (hdr ++ encFs fs0).length + 16 := by simp [blobLen, h.hdr.len]; omega
  have hlen : (archI hdr fs0 ds).length = (hdr ++ encFs fs0).length + 16 + (chainG finIntact 0 0 ds).length := by
    simp [archI, archG]; omega
  rw [hform, hpos, hlen]
  exact repairWalk_chain tail ds h.ds (hdr ++ encFs fs0) 0 0 fuel hf last fld

/-- **append position = end of the last valid snapshot, for every tail**: whenever the writer's corruption test
    fires on `archive ++ tail` (it then walks the trailer chain), NoFakeTrailer holds — whatever the tail is -/
theorem recovers_tail_of_corrupt (hdr : Bytes) (fs0 : List Field) (ds : List (List Field)) (h : ArchOK hdr fs0 ds)
    (tail : Bytes) (so last : Nat) (fld : Bytes)
    (hro : recoverOf (archI hdr fs0 ds ++ tail) = some (so, last, fld, true)) :
    Recovers (archI hdr fs0 ds ++ tail) (archI hdr fs0 ds).length := by
  have hfuel : ds.length < (archI hdr fs0 ds ++ tail).length + 1 := by
    have := chainG_length_ge (finTail tail) 0 0 ds
    rw [archI_tail]; simp only [archG, List.length_append]; omega
  unfold Recovers noFakeTrailer
  rw [hro]
  rw [recoverOf_first h.hdr h.b0.wf (chainG (finTail tail) 0 0 ds) _ (archI_tail hdr fs0 ds tail)] at hro
  split at hro
  · cases hro
  · simp only [Option.some.injEq, Prod.mk.injEq] at hro
    obtain ⟨_, hlast, hfld, hc⟩ := hro
    rw [hc] at hlast hfld
    obtain ⟨e1, e2⟩ := repairWalk_archI_tail hdr fs0 ds h tail _ hfuel (64 + blobLen fs0 + 12)
      (fileCorrupt (archI hdr fs0 ds ++ tail)
        (decide (sgn32 (de ((((chainG (finTail tail) 0 0 ds).take 12).drop 8).take 4)) > 0)) endBytes).2
    simp only [if_true] at hlast hfld
    rw [hlast] at e1
    rw [hfld] at e2
    simp [e1, e2]

theorem de_replicate_zero (n : Nat) : de (List.replicate n 0) = 0 := by
  induction n with
  | zero => rfl
  | succ k ih => simp [List.replicate_succ, de, ih]

/-- a file that ends with twelve zero bytes fails the corruption test when it is said to hold several blobs:
    the last trailer has no back offset -/
theorem fileCorrupt_zero_tail (F : Bytes) (n : Nat) (hn : 12 ≤ n) (fld : Bytes) :
    fileCorrupt (F ++ List.replicate n 0) true fld = (true, fld) := by
  have hlast12 : (F ++ List.replicate n 0).drop ((F ++ List.replicate n 0).length - 12) = List.replicate 12 0 := by
    have e : (F ++ List.replicate n 0).length - 12 = F.length + (n - 12) := by simp; omega
    rw [e, List.drop_append, List.drop_eq_nil_of_le (by omega)]
    simp only [List.nil_append, Nat.add_sub_cancel_left, List.drop_replicate]
    congr 1; omega
  have h12 : ¬ ((F ++ List.replicate n 0).length < 12) := by simp; omega
  have hz : de ((List.replicate 12 0).drop 4 |>.take 4) = 0 := by decide
  have hz2 : sgn32 0 = 0 := by decide
  unfold fileCorrupt
  simp only [h12, if_false, hlast12, hz, hz2, Bool.true_and]
  simp

theorem recoverOf_zero_tail (hdr : Bytes) (fs0 : List Field) (d : List Field) (r : List (List Field))
    (h : ArchOK hdr fs0 (d :: r)) (n : Nat) (hn : 12 ≤ n) :
    ∃ last fld, recoverOf (archI hdr fs0 (d :: r) ++ List.replicate n 0) = some (64 + blobLen fs0, last, fld, true) := by
  obtain ⟨hd, hdl⟩ := h.ds d (List.mem_cons_self ..)
  have hge := blobLen_ge d
  have hZ : (chainG (finTail (List.replicate n 0)) 0 0 (d :: r)).take 12 = trailerBytes 0 0 (blobLen d) := by
    simp only [chainG, trailer_take]
  have hmore : decide (sgn32 (de (((trailerBytes 0 0 (blobLen d)).drop 8).take 4)) > 0) = true := by
    rw [trailer_next _ _ _ (by omega), sgn32_small _ hdl]; simp; omega
  rw [recoverOf_first h.hdr h.b0.wf _ _ (archI_tail hdr fs0 (d :: r) (List.replicate n 0)), hZ, hmore,
    fileCorrupt_zero_tail _ n hn, if_neg (by simp)]
  exact ⟨_, _, rfl⟩

end RV.Bin
