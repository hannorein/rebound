import RV.Proofs.GravityEnc
import Mathlib.Algebra.Module.BigOperators
/-
  REB_GRAVITY_JACOBI (gravity.c:81-138): the running sums are `R_j = Σ_{i<j} m_i x_i`,
  `M_j = Σ_{i<j} m_i`; slot `k` ends up with the direct sum over all other particles except
  the pair {0,1} (pairs with at least one member active), plus the Jacobi terms.
-/
set_option linter.unusedSimpArgs false
namespace RV.Gravity
open RV
variable {K : Type} [Field K]

/-- `Rj`, `Mj` before outer iteration `j` -/
def Rn (m : Nat → K) (x : Nat → V3 K) (n : Nat) : V3 K := ∑ i ∈ Finset.range n, m i • x i
def Mn (m : Nat → K) (n : Nat) : K := ∑ i ∈ Finset.range n, m i

/-- `Qj = x_j - Rj/Mj` -/
def Qv (x : Nat → V3 K) (R : V3 K) (M : K) (j : Nat) : V3 K :=
  ⟨(x j).x - R.x / M, (x j).y - R.y / M, (x j).z - R.z / M⟩

/-- the Jacobi term added to slot `i` in outer iteration `j` (`j>1`, `i ≤ j`) -/
def jacTerm (G : K) (sqrt : K → K) (m : Nat → K) (x : Nat → V3 K) (R : V3 K) (M : K) (j i : Nat) : V3 K :=
  (G * (if i < j then -(m j) else M)
    / (sqrt ((Qv x R M j).x * (Qv x R M j).x + (Qv x R M j).y * (Qv x R M j).y + (Qv x R M j).z * (Qv x R M j).z)
      * sqrt ((Qv x R M j).x * (Qv x R M j).x + (Qv x R M j).y * (Qv x R M j).y + (Qv x R M j).z * (Qv x R M j).z)
      * sqrt ((Qv x R M j).x * (Qv x R M j).x + (Qv x R M j).y * (Qv x R M j).y + (Qv x R M j).z * (Qv x R M j).z)))
    • Qv x R M j

/-- `dx*dx + dy*dy + dz*dz` of the direct term (no softening in this routine) -/
def d2 (x : Nat → V3 K) (i j : Nat) : K :=
  (dvec x 0 i j).x * (dvec x 0 i j).x + (dvec x 0 i j).y * (dvec x 0 i j).y + (dvec x 0 i j).z * (dvec x 0 i j).z

/-- contribution of the inner loop body `(j,i)` to slot `k` -/
def innerC (kern : K → K) (G : K) (sqrt : K → K) (Na : Nat) (m : Nat → K) (x : Nat → V3 K) (R : V3 K) (M : K)
    (j i k : Nat) : V3 K :=
  (if 1 < j then (if i = k then jacTerm G sqrt m x R M j i else 0) else 0)
  + (if (i ≠ j ∧ (i ≠ 0 ∨ j ≠ 1)) ∧ (i < Na ∨ j < Na) then
      ((if i = k then (-(kern (d2 x i j) * m j)) • dvec x 0 i j else 0)
        + (if j = k then (kern (d2 x i j) * m i) • dvec x 0 i j else 0))
    else 0)

theorem additive_guard {f : Acc K → Acc K} {c : Nat → V3 K} (p : Prop) [Decidable p]
    (hf : Additive f c) :
    Additive (fun acc => if p then f acc else acc) (fun k => if p then c k else 0) := by
  by_cases h : p
  · simpa only [h, if_true] using hf
  · simpa only [h, if_false] using additive_id

theorem additive_jacInner (kern : K → K) (G : K) (sqrt : K → K) (Na : Nat) {N : Nat} (m : Nat → K) (x : Nat → V3 K)
    (R : V3 K) (M : K) {i j : Nat} (hi : i < N) (hj : j < N) :
    Additive (fun acc => jacInner kern G sqrt Na (mkPs N m x) R M j acc i)
      (innerC kern G sqrt Na m x R M j i) := by
  have e : (⟨(x i).x - (x j).x, (x i).y - (x j).y, (x i).z - (x j).z⟩ : V3 K) = dvec x 0 i j := by
    ext <;> simp [dvec]
  have es : ((x i).x - (x j).x) * ((x i).x - (x j).x) + ((x i).y - (x j).y) * ((x i).y - (x j).y)
      + ((x i).z - (x j).z) * ((x i).z - (x j).z) = d2 x i j := by
    simp [d2, dvec]
  -- the body is two guarded steps in a row: the Jacobi term, then the direct term
  have hf : (fun acc => jacInner kern G sqrt Na (mkPs N m x) R M j acc i)
      = (fun acc => (fun acc : Acc K => if (i ≠ j ∧ (i ≠ 0 ∨ j ≠ 1)) ∧ (i < Na ∨ j < Na) then
            addTo (acc.modify i fun a => ⟨a.x - kern (d2 x i j) * m j * ((x i).x - (x j).x),
                a.y - kern (d2 x i j) * m j * ((x i).y - (x j).y), a.z - kern (d2 x i j) * m j * ((x i).z - (x j).z)⟩)
              j (kern (d2 x i j) * m i) (dvec x 0 i j)
          else acc)
        ((fun acc : Acc K => if 1 < j then
            addTo acc i (G * (if i < j then -(m j) else M)
              / (sqrt ((Qv x R M j).x * (Qv x R M j).x + (Qv x R M j).y * (Qv x R M j).y + (Qv x R M j).z * (Qv x R M j).z)
                * sqrt ((Qv x R M j).x * (Qv x R M j).x + (Qv x R M j).y * (Qv x R M j).y + (Qv x R M j).z * (Qv x R M j).z)
                * sqrt ((Qv x R M j).x * (Qv x R M j).x + (Qv x R M j).y * (Qv x R M j).y + (Qv x R M j).z * (Qv x R M j).z)))
              (Qv x R M j)
          else acc) acc)) := by
    funext acc
    simp only [jacInner, mkPs_get m x hi, mkPs_get m x hj, sc_hadd, sc_hsub, sc_hmul, sc_hdiv, sc_hneg, e, es,
      bne_iff_ne, Bool.and_eq_true, Bool.or_eq_true, decide_eq_true_eq, ne_eq, Qv]
  rw [hf]
  refine additive_congr (additive_comp (additive_guard _ (additive_addTo i _ _))
    (additive_guard _ (additive_comp (f := fun acc : Acc K => acc.modify i _)
      (g := fun acc => addTo acc j _ _)
      (additive_modify i _ ((-(kern (d2 x i j) * m j)) • dvec x 0 i j) ?_) (additive_addTo j _ _)))) ?_
  · intro a; ext <;> simp [dvec] <;> ring
  · intro k; simp [innerC, jacTerm]

theorem innerC_zero (kern : K → K) (G : K) (sqrt : K → K) (Na : Nat) (m : Nat → K) (x : Nat → V3 K) (R : V3 K) (M : K)
    {j i k : Nat} (hi : i ≠ k) (hj : j ≠ k) : innerC kern G sqrt Na m x R M j i k = 0 := by
  simp [innerC, hi, hj]

/-- body of the outer `for (int j=0; j<N; j++)` loop -/
def jacBody (kern : K → K) (G : K) (sqrt : K → K) (Na : Nat) (ps : Array (Body K)) (st : JacSt K) (j : Nat) : JacSt K :=
  let acc := st.acc.setIfInBounds j V3.zero
  let acc := forRange 0 (j + 1) acc (jacInner kern G sqrt Na ps st.R st.M j)
  match ps[j]? with
  | some pj =>
    ⟨acc, ⟨st.R.x + pj.m * pj.p.x, st.R.y + pj.m * pj.p.y, st.R.z + pj.m * pj.p.z⟩, st.M + pj.m⟩
  | none => ⟨acc, st.R, st.M⟩

theorem accJacobi_def (kern : K → K) (G : K) (sqrt : K → K) (Na : Nat) (ps : Array (Body K)) (init : Acc K) :
    accJacobi kern G sqrt Na ps init
      = (forRange 0 ps.size (⟨init, V3.zero, Scalar.zero⟩ : JacSt K) (jacBody kern G sqrt Na ps)).acc := rfl

/-- contribution of outer iteration `j` to slot `k` -/
def cj (kern : K → K) (G : K) (sqrt : K → K) (Na : Nat) (m : Nat → K) (x : Nat → V3 K) (j k : Nat) : V3 K :=
  ∑ i ∈ Finset.Ico 0 (j + 1), innerC kern G sqrt Na m x (Rn m x j) (Mn m j) j i k

theorem cj_zero (kern : K → K) (G : K) (sqrt : K → K) (Na : Nat) (m : Nat → K) (x : Nat → V3 K) {j k : Nat}
    (h : j < k) : cj kern G sqrt Na m x j k = 0 := by
  unfold cj
  apply Finset.sum_eq_zero
  intro i hi
  have := Finset.mem_Ico.mp hi
  exact innerC_zero kern G sqrt Na m x _ _ (by omega) (by omega)

theorem jacobi_invariant (kern : K → K) (G : K) (sqrt : K → K) (Na : Nat) {N : Nat} (m : Nat → K) (x : Nat → V3 K)
    (init : Acc K) (hinit : init.size = N) :
    ∀ n, n ≤ N →
      let st := forRange 0 n (⟨init, V3.zero, Scalar.zero⟩ : JacSt K) (jacBody kern G sqrt Na (mkPs N m x))
      st.R = Rn m x n ∧ st.M = Mn m n ∧ st.acc.size = N ∧
      ∀ k, st.acc[k]? = if k < n then some (∑ j ∈ Finset.range n, cj kern G sqrt Na m x j k) else init[k]? := by
  intro n
  induction n with
  | zero =>
    intro _
    simp only [forRange_empty 0 0 (le_refl 0)]
    refine ⟨by simp [Rn], by simp [Mn], hinit, ?_⟩
    intro k; simp
  | succ n ih =>
    intro hn
    have hn' : n < N := by omega
    obtain ⟨iR, iM, iS, iA⟩ := ih (by omega)
    rw [forRange_succ 0 n (Nat.zero_le n)]
    set st := forRange 0 n (⟨init, V3.zero, Scalar.zero⟩ : JacSt K) (jacBody kern G sqrt Na (mkPs N m x)) with hst
    have hadd : Additive (fun acc => forRange 0 (n + 1) acc (jacInner kern G sqrt Na (mkPs N m x) st.R st.M n))
        (cj kern G sqrt Na m x n) := by
      unfold cj
      rw [iR, iM]
      apply additive_forRange
      intro i _ hi
      exact additive_jacInner kern G sqrt Na m x _ _ (by omega) hn'
    have hsize : (forRange 0 (n + 1) (st.acc.setIfInBounds n V3.zero)
        (jacInner kern G sqrt Na (mkPs N m x) st.R st.M n)).size = N := by
      unfold forRange
      rw [foldl_size_eq]
      · simpa using iS
      · intro acc i
        unfold jacInner
        cases (mkPs N m x)[i]? <;> cases (mkPs N m x)[n]? <;> simp [addTo]
        split_ifs <;> simp [addTo]
    simp only [jacBody, mkPs_get m x hn', sc_hadd, sc_hmul]
    refine ⟨?_, ?_, hsize, ?_⟩
    · rw [iR]; simp only [Rn, Finset.sum_range_succ]; ext <;> simp
    · rw [iM]; simp only [Mn, Finset.sum_range_succ]
    · intro k
      rw [hadd _ k, Array.getElem?_setIfInBounds, iS]
      by_cases hk : k < n
      · have : n ≠ k := by omega
        simp only [this, if_false, iA k, hk, if_true, Option.map_some, show k < n + 1 by omega, Finset.sum_range_succ]
      · by_cases hkn : n = k
        · subst hkn
          simp only [if_true, hn', Option.map_some, show n < n + 1 by omega, Finset.sum_range_succ]
          congr 1
          rw [Finset.sum_eq_zero (fun j hj => cj_zero kern G sqrt Na m x (Finset.mem_range.mp hj))]
          simp
        · have h1 : ¬ k < n + 1 := by omega
          simp only [hkn, if_false, iA k, hk, h1]
          rw [cj_zero kern G sqrt Na m x (show n < k by omega)]
          cases init[k]? <;> simp

end RV.Gravity
