import RV.Proofs.Orbit
/-
  C11 (ii): reader ∘ constructor in exact arithmetic, on the model functions themselves.
-/
set_option linter.unusedSectionVars false
namespace RV.Orbit
variable {K : Type} [Field K] [LinearOrder K] [IsStrictOrderedRing K]

omit [LinearOrder K] [IsStrictOrderedRing K] in
theorem evec_component (MU r a v0 e cfv VS dot W VW dir : K) (hr : r ≠ 0) (hMU : MU ≠ 0)
    (hmur : MU / r = v0 ^ 2 * (1 + e * cfv)) (hMUr : v0 ^ 2 * r * (1 + e * cfv) = MU)
    (hvs : VS = MU * (2 / r - 1 / a))
    (A : (VS - v0 ^ 2 * (1 + e * cfv)) * W - dot * VW = v0 ^ 2 * r * (1 + e * cfv) * e * dir) :
    1 / MU * ((MU * (2 / r - 1 / a) - MU / r) * W - r * (dot / r) * VW) = e * dir := by
  have h1 : r * (dot / r) = dot := by field_simp
  rw [h1, hmur, ← hvs, A, hMUr]
  field_simp

theorem libm_fabs (L : Libm K) (x : K) : @ScalarT.fabs K L.orbitK.toScalarT x = L.fabs x := rfl

/-- uniqueness of the non-negative root -/
theorem sqrt_eq_of_mul_self {L : Libm K} (hsqrt : ∀ x, 0 ≤ x → 0 ≤ L.sqrt x ∧ L.sqrt x ^ 2 = x) {x y : K}
    (hx : 0 ≤ x) (h : y = x * x) : L.sqrt y = x := by
  subst h
  obtain ⟨s0, s2⟩ := hsqrt (x * x) (mul_self_nonneg x)
  exact (sq_eq_sq₀ s0 hx).mp (s2.trans (sq x).symm)

theorem sqrt_pos_of_pos {L : Libm K} (hsqrt : ∀ x, 0 ≤ x → 0 ≤ L.sqrt x ∧ L.sqrt x ^ 2 = x) {x : K}
    (hx : 0 < x) : 0 < L.sqrt x := by
  obtain ⟨s0, s2⟩ := hsqrt x hx.le
  exact lt_of_le_of_ne s0 fun h => hx.ne' (by rw [← s2, ← h]; ring)

/-- reader ∘ constructor in exact arithmetic, on the model functions themselves: the
    semi-major axis, the distance, the eccentricity vector and the angular-momentum vector
    that `orbitFromParticle` computes for the particle `fromOrbit` built are the ones of
    the elements it was built from -/
theorem reader_of_constructor (L : Libm K)
    (htrig : ∀ x, L.cos x ^ 2 + L.sin x ^ 2 = 1)
    (hsqrt : ∀ x, 0 ≤ x → 0 ≤ L.sqrt x ∧ L.sqrt x ^ 2 = x)
    (v : Variant) (G : K) (pr : Part K) (m a e inc Om om f t0 : K) (P : Part K) (o : Orb K)
    (hP : @fromOrbit K L.orbitK v G pr m a e inc Om om f = .ok P)
    (ho : @orbitFromParticle K L.orbitK v G P pr t0 = .ok o)
    (hmu : 0 < G * (m + pr.m)) (ha : a ≠ 0) (hasym : v.asymLe = false → e * L.cos f ≠ -1) :
    o.d = a * (1 - e * e) / (1 + e * L.cos f) ∧ o.a = a ∧
    o.ex = e * (L.cos Om * L.cos om - L.sin Om * L.sin om * L.cos inc) ∧
    o.ey = e * (L.sin Om * L.cos om + L.cos Om * L.sin om * L.cos inc) ∧
    o.ez = e * (L.sin om * L.sin inc) ∧ o.e = e := by
  obtain ⟨hchk, hPc⟩ := fromOrbit_ok L v G pr m a e inc Om om f P hP
  obtain ⟨he, hd, hpos, hdpos⟩ := guard_denoms _ _ _ _ _ _ hchk (fun _ => ha) hasym
  have hv0 : 0 ≤ v0sq G pr.m m a e := by
    rw [v0sq_eq, div_div]; exact div_nonneg (le_of_lt hmu) (le_of_lt hpos)
  obtain ⟨hs0, hs2⟩ := hsqrt _ hv0
  have R := core_relations G pr m a e (L.cos Om) (L.sin Om) (L.cos om) (L.sin om) (L.cos f) (L.sin f)
    (L.cos inc) (L.sin inc) (L.sqrt (v0sq G pr.m m a e)) (htrig _) (htrig _) (htrig _) (htrig _) ha he hd (by rw [← v0sq_eq]; exact hs2)
  obtain ⟨e1, e2, e3, e4, e5, e6, e7⟩ := core_rel pr m a e (L.cos Om) (L.sin Om) (L.cos om) (L.sin om)
    (L.cos f) (L.sin f) (L.cos inc) (L.sin inc) (L.sqrt (v0sq G pr.m m a e))
  rw [← hPc] at R e1 e2 e3 e4 e5 e6 e7
  rw [radius_eq] at e1 e2 e3
  obtain ⟨R1, R2, R3, ⟨R4, _, _, _⟩, R5⟩ := R
  generalize hv0def : L.sqrt (v0sq G pr.m m a e) = v0 at *
  rw [v0sq_eq] at hs2
  generalize hrdef : a * (1 - e * e) / (1 + e * L.cos f) = r at *
  have hr_pos : 0 < r := by rw [← hrdef]; exact div_pos hpos hdpos
  have hrd : r * (1 + e * L.cos f) = a * (1 - e * e) := by rw [← hrdef]; field_simp
  have hmu2 : v0 ^ 2 * (a * (1 - e * e)) = G * (m + pr.m) := by
    have he' : (1 : K) - e ^ 2 ≠ 0 := by rwa [pow_two]
    rw [hs2]; field_simp
  have hmur : G * (m + pr.m) / r = v0 ^ 2 * (1 + e * L.cos f) := by
    rw [div_eq_iff (ne_of_gt hr_pos), ← hmu2]; linear_combination (-(v0 ^ 2)) * hrd
  replace ho := orbitFromParticle_ok L _ _ _ _ _ _ ho
  subst ho
  simp only [orbitBody, evec, invariants, libm_sqrt, sc_hadd, sc_hsub, sc_hmul, sc_hdiv, sc_neg, sc_one, two, sc_ofNat,
    Nat.cast_ofNat, e7]
  have hsum : (P.x - pr.x) * (P.x - pr.x) + (P.y - pr.y) * (P.y - pr.y) + (P.z - pr.z) * (P.z - pr.z) = r * r := by
    linear_combination R1
  have hd_eq : L.sqrt ((P.x - pr.x) * (P.x - pr.x) + (P.y - pr.y) * (P.y - pr.y) + (P.z - pr.z) * (P.z - pr.z)) = r :=
    sqrt_eq_of_mul_self hsqrt hr_pos.le hsum
  have hvsq : (P.vx - pr.vx) * (P.vx - pr.vx) + (P.vy - pr.vy) * (P.vy - pr.vy) + (P.vz - pr.vz) * (P.vz - pr.vz)
      = G * (m + pr.m) * (2 / r - 1 / a) := by linear_combination R2
  rw [hd_eq, hvsq]
  have hMU0 : G * (m + pr.m) ≠ 0 := ne_of_gt hmu
  have hr0 : r ≠ 0 := ne_of_gt hr_pos
  have hMUr : v0 ^ 2 * r * (1 + e * L.cos f) = G * (m + pr.m) := by
    rw [← hmu2]; linear_combination (v0 ^ 2) * hrd
  have Ax := rel_ex r v0 e (L.cos Om) (L.sin Om) (L.cos om) (L.sin om) (L.cos f) (L.sin f) (L.cos inc) (L.sin inc)
    (htrig _) (htrig _) (htrig _) (htrig _)
  have Ay := rel_ey r v0 e (L.cos Om) (L.sin Om) (L.cos om) (L.sin om) (L.cos f) (L.sin f) (L.cos inc) (L.sin inc)
    (htrig _) (htrig _) (htrig _) (htrig _)
  have Az := rel_ez r v0 e (L.cos Om) (L.sin Om) (L.cos om) (L.sin om) (L.cos f) (L.sin f) (L.cos inc) (L.sin inc)
    (htrig _) (htrig _) (htrig _) (htrig _)
  rw [← e1, ← e2, ← e3, ← e4, ← e5, ← e6] at Ax Ay Az
  have hex := evec_component _ r a v0 e (L.cos f) _ _ _ _ _ hr0 hMU0 hmur hMUr R2 Ax
  have hey := evec_component _ r a v0 e (L.cos f) _ _ _ _ _ hr0 hMU0 hmur hMUr R2 Ay
  have hez := evec_component _ r a v0 e (L.cos f) _ _ _ _ _ hr0 hMU0 hmur hMUr R2 Az
  rw [hex, hey, hez]
  have he0 : 0 ≤ e := ((check_none_iff _ _ _ _ _ _).mp hchk).2.1
  refine ⟨rfl, ?_, rfl, rfl, rfl, ?_⟩
  · generalize G * (m + pr.m) = MU at hMU0 ⊢
    have h1 : MU * (2 / r - 1 / a) - 2 * (MU / r) = -(MU / a) := by
      field_simp; ring
    rw [h1, neg_div_neg_eq]
    field_simp
  · have hu := peri_dir_unit (L.cos Om) (L.sin Om) (L.cos om) (L.sin om) (L.cos inc) (L.sin inc) (htrig _) (htrig _) (htrig _)
    have : e * (L.cos Om * L.cos om - L.sin Om * L.sin om * L.cos inc) * (e * (L.cos Om * L.cos om - L.sin Om * L.sin om * L.cos inc)) +
        e * (L.sin Om * L.cos om + L.cos Om * L.sin om * L.cos inc) * (e * (L.sin Om * L.cos om + L.cos Om * L.sin om * L.cos inc)) +
        e * (L.sin om * L.sin inc) * (e * (L.sin om * L.sin inc)) = e * e := by
      linear_combination (e * e) * hu
    exact sqrt_eq_of_mul_self hsqrt he0 this
end RV.Orbit
