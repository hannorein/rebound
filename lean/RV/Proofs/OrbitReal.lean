import RV.Proofs.OrbitAngles
import Mathlib.Analysis.SpecialFunctions.Trigonometric.Inverse
/-
  C11 (ii): the abstract libm hypotheses are satisfied by the real functions
  (Real.cos, Real.sin, Real.arccos, Real.sqrt, C-style fmod on ℝ).
-/
namespace RV.Orbit
/-- `Real.cos`, `sin`, `arccos`, `sqrt`, … and an arbitrary `fmod`; the fields no C11 theorem over ℝ uses
    (`atan2`, `atan`, `log`, `acosh`, `cbrt`, `pow`, `tiny`) are placeholders -/
noncomputable def realLibm (fmod : ℝ → ℝ → ℝ) : Libm ℝ where
  sqrt := Real.sqrt
  sin := Real.sin
  cos := Real.cos
  fabs := fun x => |x|
  tan := Real.tan
  atan2 := fun _ _ => 0
  acos := Real.arccos
  asin := Real.arcsin
  atan := fun _ => 0
  exp := Real.exp
  log := fun _ => 0
  sinh := Real.sinh
  cosh := Real.cosh
  tanh := Real.tanh
  acosh := fun _ => 0
  cbrt := fun _ => 0
  floor := fun x => (⌊x⌋ : ℝ)
  ceil := fun x => (⌈x⌉ : ℝ)
  pow := fun _ _ => 0
  fmod := fmod
  pi := Real.pi
  tiny := 0

theorem realTrigSpec (fmod : ℝ → ℝ → ℝ) : TrigSpec (realLibm fmod) where
  pi_pos := Real.pi_pos
  sq := Real.cos_sq_add_sin_sq
  cos_zero := Real.cos_zero
  cos_pi := Real.cos_pi
  acos_cos := fun _ h0 h1 => Real.arccos_cos h0 h1
  sin_pos := fun _ h0 h1 => Real.sin_pos_of_pos_of_lt_pi h0 h1
  cos_neg := Real.cos_neg
  sin_neg := Real.sin_neg
  cos_add := Real.cos_add
  sin_add := Real.sin_add

theorem realSqrtSpec (fmod : ℝ → ℝ → ℝ) : ∀ x : ℝ, 0 ≤ x → 0 ≤ (realLibm fmod).sqrt x ∧ (realLibm fmod).sqrt x ^ 2 = x :=
  fun x hx => ⟨Real.sqrt_nonneg x, Real.sq_sqrt hx⟩
/-- C `fmod` on the reals: `x - y·trunc(x/y)` -/
noncomputable def fmodR (x y : ℝ) : ℝ := x - y * (if 0 ≤ x / y then (⌊x / y⌋ : ℝ) else (⌈x / y⌉ : ℝ))

theorem fmodR_spec : FmodSpec fmodR where
  bound := by
    intro x y hy
    unfold fmodR
    split_ifs with h
    · have h1 := Int.floor_le (x / y)
      have h2 := Int.lt_floor_add_one (x / y)
      have e : x = y * (x / y) := by field_simp
      constructor <;> nlinarith
    · have h1 := Int.le_ceil (x / y)
      have h2 := Int.ceil_lt_add_one (x / y)
      have e : x = y * (x / y) := by field_simp
      constructor <;> nlinarith
  nonneg := by
    intro x y hy hx
    unfold fmodR
    have hq : 0 ≤ x / y := div_nonneg hx (le_of_lt hy)
    rw [if_pos hq]
    have h1 := Int.floor_le (x / y)
    have e : x = y * (x / y) := by field_simp
    nlinarith
  congr := by
    intro x y hy
    unfold fmodR
    split_ifs with h
    · exact ⟨⌊x / y⌋, by ring⟩
    · exact ⟨⌈x / y⌉, by ring⟩
end RV.Orbit
