import RV.Proofs.C01WordInt
import RV.Model.Advertised
import RV.Gen.C01Janus
/- C01 / JANUS: scheme tables s1odr2 … s33odr10c and the schedules `reb_integrator_janus_part1/2` build from them
   (`CompositionOrder` is decided on the integer tries of `C01WordInt`) -/
namespace RV.C01.Janus
open RV.C01 RV.C01.Gen RV.C01.Adv

/-- the stage sizes `gg(s, 0..stages-1)` of the source: the first `(stages+1)/2` entries of `gamma`, mirrored -/
def stageSizes (stages : Nat) (gamma : List Rat) : List Rat :=
  (List.range stages).map (fun i => if i < (stages + 1) / 2 then gamma.getD i 0 else gamma.getD (stages - 1 - i) 0)

theorem counts : janusCounts = [("schemes", 5)] ∧ janusSchemes.map (fun e => (e.1, e.2.1)) = [(2, 1), (4, 5), (6, 9), (8, 15), (10, 33)]
    ∧ janusStep.map (·.1) = [2, 4, 6, 8, 10] ∧ ∀ e ∈ janusSchemes, e.2.2.length = 17 := by decide +kernel

/-- each step is the drift–kick–drift composition of leapfrog maps with the mirrored `gamma` as stage sizes -/
theorem scheme_structure : ∀ e ∈ janusSchemes, ∀ s ∈ janusStep.lookup e.1,
    kicks s = stageSizes e.2.1 e.2.2 ∧ IsLeapfrogComposition s ∧ countKind 1 s = e.2.1 := by decide +kernel

theorem consistent : ∀ e ∈ janusStep, Consistent e.2 tolJanus := by decide +kernel
theorem symmetric : ∀ e ∈ janusStep, Palindrome e.2 := by decide +kernel
theorem fresh : ∀ e ∈ janusStep, Fresh e.2 := by decide +kernel

/-- `Σγᵢ = 1`, `Σγᵢ³ = Σγᵢ⁵ = … = 0` up to the advertised order -/
theorem power_sums : ∀ e ∈ janusStep, Near (powerSum (kicks e.2) 1) 1 tolJanus ∧
    ∀ j ∈ List.range (e.1 / 2), j = 0 ∨ Near (powerSum (kicks e.2) (2 * j + 1)) 0 tolJanus := by decide +kernel

/-- all order conditions of a symmetric composition of symmetric second-order maps, up to the advertised order -/
theorem composition_order : ∀ e ∈ janusStep, CompositionOrder (kicks e.2) e.1 tolJanus := by decide +kernel
end RV.C01.Janus
