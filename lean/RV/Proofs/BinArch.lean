/-
  The archive theorem: for a history s0, s1 … sn the archive written by n appends has n+1 index entries
  with the right times, and snapshot k is (id by id) the state s_k.
-/
import RV.Proofs.BinSnap
namespace RV.Bin

/-- what is assumed of a history: a header, a first serialisation `fs0` and later serialisations `bs`,
    all with well-formed fields, unique ids, an 8-byte time field each, version ≥ 2, deltas < 2³¹ bytes -/
structure HistOK (v : Variant) (cmp : Nat → Bytes → Bytes → Bool) (hdr : Bytes) (fs0 : List Field)
    (bs : List (List Field)) : Prop where
  hdr : HdrOK hdr
  b0 : BlobOK fs0
  s0 : ScanOK fs0
  ver : 2 ≤ verOf fs0 0
  u0 : (ids fs0).Nodup
  each : ∀ b ∈ bs, BlobOK b ∧ (ids b).Nodup ∧ (∀ f ∈ fs0, f.ty = T_ID → ∃ g ∈ b, g.ty = f.ty) ∧
    blobLen (diffF v cmp fs0 b) < 2147483648

def deltas (v : Variant) (cmp : Nat → Bytes → Bytes → Bool) (fs0 : List Field) (bs : List (List Field)) :
    List (List Field) := bs.map (diffF v cmp fs0)

/-- the archive after saving `fs0` and appending `bs` (every append is `overwrite … pendingData`, see
    `append_shape`) -/
def archOf (v : Variant) (cmp : Nat → Bytes → Bytes → Bool) (hdr : Bytes) (fs0 : List Field)
    (bs : List (List Field)) : Bytes := archI hdr fs0 (deltas v cmp fs0 bs)

theorem archOK_of_hist (v : Variant) (cmp : Nat → Bytes → Bytes → Bool) (hdr : Bytes) (fs0 : List Field)
    (bs : List (List Field)) (h : HistOK v cmp hdr fs0 bs)
    (hv : v.f1 = true ∨ ∀ b ∈ bs, ¬ Vanishes fs0 b) : ArchOK hdr fs0 (deltas v cmp fs0 bs) := by
  refine ⟨h.hdr, h.b0, h.s0, h.ver, ?_⟩
  intro d hd
  obtain ⟨b, hb, rfl⟩ := List.mem_map.mp hd
  obtain ⟨hbo, hbu, hbt, hbl⟩ := h.each b hb
  exact ⟨diffF_BlobOK v cmp fs0 b h.b0 hbo hbu (hv.imp_right fun hv => hv b hb) hbt, hbl⟩

theorem fixTimes_length (v : Variant) (es : List Entry) : (fixTimes v es).length = es.length := by
  unfold fixTimes
  cases v.f11
  · simp
  · cases es <;> simp

/-- the F11 repair touches times only -/
theorem fixTimes_off (v : Variant) (es : List Entry) : (fixTimes v es).map (·.off) = es.map (·.off) := by
  unfold fixTimes
  cases v.f11
  · simp
  · cases es <;> simp [Function.comp_def]

/-- **archive theorem, snapshots**: loading snapshot `j+1` gives, id by id ("absent" = "empty"), the state
    whose serialisation `b` was the `j`-th append -/
theorem archive_snapshot (v : Variant) (cmp : Nat → Bytes → Bytes → Bool) (hc : CmpExact cmp) (init : State)
    (hdr : Bytes) (fs0 : List Field) (bs : List (List Field)) (h : HistOK v cmp hdr fs0 bs)
    (hv : v.f1 = true ∨ ∀ b ∈ bs, ¬ Vanishes fs0 b)
    (j : Nat) (b : List Field) (hj : bs[j]? = some b)
    (hinit : ∀ f ∈ fs0, (∀ g ∈ b, g.ty ≠ f.ty) → init.val f.ty = []) :
    ∃ st, snapshot init (archOf v cmp hdr fs0 bs)
            ((index v (archOf v cmp hdr fs0 bs)).map (·.off)) (j + 1) = some st ∧
          ∀ k, st.val k = (applyF init b).val k := by
  have hA := archOK_of_hist v cmp hdr fs0 bs h hv
  have hidx : (index v (archOf v cmp hdr fs0 bs)).map (·.off) = (archEntries fs0 (deltas v cmp fs0 bs)).map (·.off) := by
    rw [archOf, index_intact v hdr fs0 _ hA, fixTimes_off]
  have hjd : (deltas v cmp fs0 bs)[j]? = some (diffF v cmp fs0 b) := by
    simp [deltas, List.getElem?_map, hj]
  obtain ⟨hs, _⟩ := snapshot_arch init hdr fs0 (deltas v cmp fs0 bs) hA j _ hjd
  refine ⟨_, by rw [hidx, archOf]; exact hs, ?_⟩
  intro k
  have hb := h.each b (List.mem_of_getElem? hj)
  exact delta_law_fields v cmp hc init fs0 b h.u0 hb.2.1 hinit k

/-- the entry half of `chain_get`, for a chain that starts at any offset (`chain_get` ties the offset to the
    length of a file prefix) -/
theorem chainEntries_get (pos : Nat) (ds : List (List Field)) (j : Nat) (d : List Field) (hj : ds[j]? = some d) :
    ∃ off, (chainEntries pos ds)[j]? = some ⟨off, tOf d none⟩ := by
  induction ds generalizing j pos with
  | nil => simp at hj
  | cons d0 r ih =>
    cases j with
    | zero =>
      simp only [List.getElem?_cons_zero, Option.some.injEq] at hj
      subst hj
      exact ⟨pos, by simp [chainEntries]⟩
    | succ j' =>
      simp only [List.getElem?_cons_succ] at hj
      obtain ⟨off, ho⟩ := ih (pos + blobLen d0 + 12) j' hj
      exact ⟨off, by simp [chainEntries, ho]⟩

/-- **archive theorem, times**: the time the index reports for snapshot `j+1`.
    `t0`,`tb` are the time fields of the first and of the appended serialisation. -/
theorem archive_time (v : Variant) (cmp : Nat → Bytes → Bytes → Bool) (hdr : Bytes) (fs0 : List Field)
    (bs : List (List Field)) (h : HistOK v cmp hdr fs0 bs) (hv : v.f1 = true ∨ ∀ b ∈ bs, ¬ Vanishes fs0 b)
    (j : Nat) (b : List Field) (hj : bs[j]? = some b) (t0 tb : Field)
    (h0 : t0 ∈ fs0) (hb : tb ∈ b) (h0t : t0.ty = T_ID) (hbt : tb.ty = T_ID) :
    ∃ off, (index v (archOf v cmp hdr fs0 bs))[j + 1]? =
      some ⟨off, if sameF cmp t0 tb then (if v.f11 then some t0.data else none) else some tb.data⟩ := by
  have hA := archOK_of_hist v cmp hdr fs0 bs h hv
  have hbb := h.each b (List.mem_of_getElem? hj)
  have hjd : (deltas v cmp fs0 bs)[j]? = some (diffF v cmp fs0 b) := by
    simp [deltas, List.getElem?_map, hj]
  obtain ⟨off, ho⟩ := chainEntries_get (off1 fs0) _ j _ hjd
  have ht := tOf_diff v cmp fs0 b h.u0 hbb.2.1 t0 tb h0 hb h0t hbt
  have ht0 : tOf fs0 none = some t0.data := by
    rw [tOf_none]
    exact get_applyF_mem [] fs0 T_ID t0.data ⟨t0, h0, h0t⟩
      (fun e he hty => by rw [unique_of_nodup fs0 h.u0 t0 e h0 he (hty.trans h0t.symm)])
  refine ⟨off, ?_⟩
  rw [archOf, index_intact v hdr fs0 _ hA]
  unfold fixTimes archEntries
  cases hf11 : v.f11
  · simp only [Bool.false_eq_true, if_false, List.getElem?_cons_succ, ho, ht]
  · simp only [if_true, List.getElem?_cons_succ, List.getElem?_map, ho, Option.map_some, ht, ht0]
    cases sameF cmp t0 tb <;> simp

end RV.Bin
