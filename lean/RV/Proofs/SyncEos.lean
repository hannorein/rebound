import RV.Model.SyncEos
import RV.Proofs.SyncMerc
/-
  C09 / EOS: the full-resolution operator list (RV.Model.SyncEos, replayed bit for bit against
  reb_integrator_eos_part2 / _synchronize) refines the abstract outer schedule the EOS theorem is about.
-/
set_option linter.unusedSectionVars false
namespace RV.Sync.Eos
open RV RV.Sync
variable {K E : Type} [Scalar K]

def execE (den : EOp K → E → E) : List (EOp K) → E → E
  | [], s => s
  | p :: ps, s => execE den ps (den p s)

theorem execE_append (den : EOp K → E → E) (a b : List (EOp K)) (s : E) :
    execE den (a ++ b) s = execE den b (execE den a s) := by
  induction a generalizing s with
  | nil => rfl
  | cons p ps ih => exact ih _

/-- the abstract operators of `ESem`, realised by the concrete operator lists -/
def semOf (den : EOp K → E → E) (T : Tab K) (phi0 phi1 n : Nat) (dt : K) : ESem E where
  pre := execE den (concr T phi0 phi1 n dt .pre)
  post := execE den (concr T phi0 phi1 n dt .post)
  drift := fun k => execE den (concr T phi0 phi1 n dt (.drift k))
  body := execE den (concr T phi0 phi1 n dt .body)

theorem exec_concr (den : EOp K → E → E) (T : Tab K) (phi0 phi1 n : Nat) (dt : K) (l : List EPrim) (s : E) :
    execE den (l.flatMap (concr T phi0 phi1 n dt)) s = eExec (semOf den T phi0 phi1 n dt) l s := by
  induction l generalizing s with
  | nil => rfl
  | cons p ps ih =>
    rw [List.flatMap_cons, execE_append, ih]
    cases p <;> rfl

end RV.Sync.Eos
