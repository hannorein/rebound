import RV.Proofs.IntegrateSplit
/-
  C08: the no-progress guard of /repo addb1f3 (`loopG`, `integrateG`) only ever turns a run that would have
  gone on into an error: whenever it does not fire, the call is the call without the guard.
-/
set_option linter.unusedSectionVars false
namespace RV.Integrate
open RV
variable {K : Type} [Field K] [LinearOrder K] [IsStrictOrderedRing K]

theorem loopG_silent (step : StepFn K) (env : Nat → Flags) (tmax : K) (inf : Bool) :
    ∀ (fuel k : Nat) (np : Bool) (s : Sim K) (lf : K) (o : Outcome K) (lf' : K),
      loopG step env tmax inf fuel k np s lf = (o, lf', false) →
      loop step env tmax inf fuel k s lf = (o, lf') := by
  intro fuel
  induction fuel with
  | zero =>
    intro k np s lf o lf' h
    simp only [loopG, Prod.mk.injEq] at h
    simp only [loop, Prod.mk.injEq]
    exact ⟨h.1, h.2.1⟩
  | succ fuel ih =>
    intro k np s lf o lf' h
    unfold loopG at h
    unfold loop
    cases hce : checkExit s tmax inf lf (env k) with
    | blocked b =>
      rw [hce] at h
      simp only [Prod.mk.injEq] at h ⊢
      exact ⟨h.1, h.2.1⟩
    | ret s1 lf1 =>
      rw [hce] at h
      simp only at h ⊢
      by_cases hneg : s1.status < 0
      · rw [if_pos hneg] at h
        rw [if_pos hneg]
        cases np with
        | true => simp at h
        | false =>
          simp only [Bool.false_eq_true, if_false] at h
          exact ih _ _ _ _ _ _ h
      · rw [if_neg hneg] at h
        rw [if_neg hneg]
        simp only [Prod.mk.injEq] at h ⊢
        exact ⟨h.1, h.2.1⟩

theorem integrateG_silent (step : StepFn K) (env : Nat → Flags) (fuel : Nat) (s : Sim K) (tmax : K)
    (inf nanGuard : Bool) (o : Outcome K)
    (h : integrateG nanGuard step env fuel s tmax inf = (o, false)) :
    integrate step env fuel s tmax inf = o := by
  unfold integrateG at h
  simp only [fne_iff, ne_eq, not_true_eq_false, decide_false, Bool.and_false, Bool.false_eq_true, if_false] at h
  unfold integrate
  rcases hs : start s tmax (env 0) with ⟨s1, lf⟩
  rw [hs] at h
  simp only at h ⊢
  rcases hl : loopG step env tmax inf fuel 0 false s1 lf with ⟨o1, lf1, g⟩
  rw [hl] at h
  cases o1 <;>
  · simp only [Prod.mk.injEq] at h
    obtain ⟨h1, h2⟩ := h
    subst h2
    rw [loopG_silent step env tmax inf fuel 0 false _ _ _ _ hl]
    exact h1

end RV.Integrate
