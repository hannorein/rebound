import RV.Model.ParticlesSide
/-
  Proofs about RV/Model/ParticlesSide.lean (property C14): the repaired TRACE re-indexing loop deletes row and
  column `index` for every N (in place: no read is behind a write), MERCURIUS' part1 never reads an unwritten
  `dcrit` cell once new cells are zero-filled, and the regrow policies cover every slot a step touches.
-/
namespace RV.Particles.Side

/-! ### TRACE `current_Ks` -/

section
variable {α : Type}

/-- flat positions of an `n×n` matrix stored row by row -/
theorem flat_lt {n i j : Nat} (hi : i < n) (hj : j < n) : i * n + j < n * n :=
  calc i * n + j < (i + 1) * n := by rw [Nat.succ_mul]; omega
    _ ≤ n * n := Nat.mul_le_mul_right n hi

theorem flat_div {n i j : Nat} (hj : j < n) : (i * n + j) / n = i :=
  Nat.div_eq_of_lt_le (Nat.le_add_right _ _) (by rw [Nat.succ_mul]; omega)

theorem flat_mod {n i j : Nat} (hj : j < n) : (i * n + j) % n = j := Nat.mul_add_mod_of_lt hj

theorem flat_inj {n i j i' j' : Nat} (hj : j < n) (hj' : j' < n) (h : i * n + j = i' * n + j') : i = i' ∧ j = j' :=
  ⟨by rw [← flat_div (i := i) hj, h, flat_div hj'], by rw [← flat_mod (i := i) hj, h, flat_mod hj']⟩

/-- one assignment `ks'[dst] = ks'[src]` of an in-place loop on `ks`, where cell `src` still holds its original value -/
theorem copyCell_step (ks ks' : List α) (dst src : Nat) (hlen : ks'.length = ks.length)
    (hsrc : src < ks.length) (hdst : dst < ks.length) (hrd : ks'[src]? = ks[src]?) :
    ∃ ks'', copyCell ks' dst src = some ks'' ∧ ks''.length = ks.length ∧
      ∀ p, ks''[p]? = if dst = p then ks[src]? else ks'[p]? := by
  rw [← hlen] at hdst
  refine ⟨ks'.set dst ks[src], ?_, by rw [List.length_set, hlen], fun p => ?_⟩
  · unfold copyCell; rw [hrd, List.getElem?_eq_getElem hsrc]; exact if_pos hdst
  · rw [List.getElem?_set, if_pos hdst, List.getElem?_eq_getElem hsrc]

theorem skip_ge (index i : Nat) : i ≤ skip index i := by unfold skip; split <;> omega
theorem skip_le (index i m : Nat) (hi : i < m) : skip index i ≤ m := by unfold skip; split <;> omega

/-- where entry `p` of the new (m×m, flat) matrix comes from in the old ((m+1)×(m+1), flat) one -/
def oldOf (m index p : Nat) : Nat := skip index (p / m) * (m + 1) + skip index (p % m)

/-- loop invariant: the first `k` cells hold their final values, the others are untouched -/
structure KInv (m index : Nat) (ks ks' : List α) (k : Nat) : Prop where
  len : ks'.length = ks.length
  rest : ∀ p, k ≤ p → ks'[p]? = ks[p]?
  done : ∀ p, p < k → ks'[p]? = ks[oldOf m index p]?

theorem copy_step (m index i j : Nat) (ks ks' : List α) (hlen : ks.length = (m + 1) * (m + 1))
    (hi : i < m) (hj : j < m) (h : KInv m index ks ks' (i * m + j)) :
    ∃ ks'', copyCell ks' (i * m + j) (skip index i * (m + 1) + skip index j) = some ks'' ∧
      KInv m index ks ks'' (i * m + j + 1) := by
  -- the source is not before the destination, so it has not been overwritten
  have hge : i * m + j ≤ skip index i * (m + 1) + skip index j :=
    Nat.add_le_add (Nat.mul_le_mul (skip_ge index i) (Nat.le_succ m)) (skip_ge index j)
  have hlt : skip index i * (m + 1) + skip index j < ks.length :=
    hlen ▸ flat_lt (Nat.lt_succ_of_le (skip_le index i m hi)) (Nat.lt_succ_of_le (skip_le index j m hj))
  obtain ⟨ks'', e, len, get⟩ := copyCell_step ks ks' (i * m + j) _ h.len hlt (by omega) (h.rest _ hge)
  refine ⟨ks'', e, len, fun p hp => ?_, fun p hp => ?_⟩
  · rw [get, if_neg (by omega)]; exact h.rest p (by omega)
  · rw [get]
    split
    · next hpk => rw [← hpk, oldOf, flat_div hj, flat_mod hj]
    · exact h.done p (by omega)

theorem newRow_spec (m index i : Nat) (ks : List α) (hlen : ks.length = (m + 1) * (m + 1)) (hi : i < m) :
    ∀ (cnt j : Nat) (ks' : List α), j + cnt ≤ m → KInv m index ks ks' (i * m + j) →
      ∃ ks'', newRow (m + 1) m index i cnt j ks' = some ks'' ∧ KInv m index ks ks'' (i * m + j + cnt) := by
  intro cnt
  induction cnt with
  | zero => intro j ks' _ h; exact ⟨ks', rfl, h⟩
  | succ c ih =>
    intro j ks' hjc h
    obtain ⟨k1, e1, inv1⟩ := copy_step m index i j ks ks' hlen hi (by omega) h
    obtain ⟨k2, e2, inv2⟩ := ih (j + 1) k1 (by omega) inv1
    exact ⟨k2, by simp only [newRow, e1]; exact e2,
      (show i * m + (j + 1) + c = i * m + j + (c + 1) by omega) ▸ inv2⟩

theorem newRows_spec (m index : Nat) (ks : List α) (hlen : ks.length = (m + 1) * (m + 1)) :
    ∀ (cnt i : Nat) (ks' : List α), i + cnt ≤ m → KInv m index ks ks' (i * m) →
      ∃ ks'', newRows (m + 1) m index cnt i ks' = some ks'' ∧ KInv m index ks ks'' ((i + cnt) * m) := by
  intro cnt
  induction cnt with
  | zero => intro i ks' _ h; exact ⟨ks', rfl, h⟩
  | succ c ih =>
    intro i ks' hic h
    obtain ⟨k1, e1, inv1⟩ := newRow_spec m index i ks hlen (by omega) m 0 ks' (by omega) h
    rw [Nat.add_zero, ← Nat.succ_mul] at inv1
    obtain ⟨k2, e2, inv2⟩ := ih (i + 1) k1 (by omega) inv1
    exact ⟨k2, by simp only [newRows, e1]; exact e2, (show i + 1 + c = i + (c + 1) by omega) ▸ inv2⟩

/-- the repaired loop is "delete row and column `index`", for every N ≥ 1, every index, every matrix, in place and
    without leaving the N×N allocation -/
theorem reshuffleNew_spec (n index : Nat) (ks : List α) (hn : 1 ≤ n) (hlen : ks.length = n * n) :
    ∃ out, reshuffleNew n index ks = some out ∧ out.length = n * n ∧
      ∀ i j, i < n - 1 → j < n - 1 → out[i * (n - 1) + j]? = deleteRowCol n index ks i j := by
  obtain ⟨m, rfl⟩ : ∃ m, n = m + 1 := ⟨n - 1, by omega⟩
  obtain ⟨out, e, inv⟩ := newRows_spec m index ks hlen m 0 ks (by omega)
    ⟨rfl, fun _ _ => rfl, fun p hp => by omega⟩
  rw [Nat.zero_add] at inv
  refine ⟨out, e, by rw [inv.len, hlen], fun i j hi hj => ?_⟩
  rw [Nat.add_sub_cancel] at hi hj ⊢
  rw [inv.done _ (flat_lt hi hj), oldOf, flat_div hj, flat_mod hj]; rfl

/-! ### TRACE `current_Ks`: growing in place -/

/-- backward loop invariant: sources `p ≥ k` have been moved to `p + p/n`, cells below `d` are untouched -/
structure GInv (n : Nat) (ks ks' : List α) (k d : Nat) : Prop where
  len : ks'.length = ks.length
  low : ∀ q, q < d → ks'[q]? = ks[q]?
  done : ∀ p, k ≤ p → p < n * n → ks'[p + p / n]? = ks[p]?

theorem grow_step (n i c : Nat) (ks ks' : List α) (hlen : ks.length = (n + 1) * (n + 1))
    (hi : i < n) (hc : c < n) (h : GInv n ks ks' (i * n + (c + 1)) (i * n + (c + 1) + i)) :
    ∃ ks'', copyCell ks' (i * n + c + i) (i * n + c) = some ks'' ∧ GInv n ks ks'' (i * n + c) (i * n + c + i) := by
  have hdst : i * n + c + i < ks.length := by
    have : i * (n + 1) + c < (n + 1) * (n + 1) := flat_lt (by omega) (by omega)
    rw [Nat.mul_add_one] at this; omega
  obtain ⟨ks'', e, len, get⟩ := copyCell_step ks ks' (i * n + c + i) (i * n + c) h.len (by omega) hdst (h.low _ (by omega))
  refine ⟨ks'', e, len, fun q hq => ?_, fun p hp hpn => ?_⟩
  · rw [get, if_neg (by omega)]; exact h.low q (by omega)
  · rw [get]
    by_cases hpk : p = i * n + c
    · rw [hpk, flat_div hc, if_pos rfl]
    · -- a later source lies in row `i` or below, its destination is past this one
      have hdiv : i ≤ p / n := (Nat.le_div_iff_mul_le (by omega)).mpr (by omega)
      rw [if_neg (by omega)]; exact h.done p (by omega) hpn

theorem growRow_spec (n i : Nat) (ks : List α) (hlen : ks.length = (n + 1) * (n + 1)) (hi : i < n) :
    ∀ (c : Nat) (ks' : List α), c ≤ n → GInv n ks ks' (i * n + c) (i * n + c + i) →
      ∃ ks'', growRow n i c ks' = some ks'' ∧ GInv n ks ks'' (i * n) (i * n + i) := by
  intro c
  induction c with
  | zero => intro ks' _ h; exact ⟨ks', rfl, h⟩
  | succ c ih =>
    intro ks' hc h
    obtain ⟨k1, e1, inv1⟩ := grow_step n i c ks ks' hlen hi (by omega) h
    obtain ⟨k2, e2, inv2⟩ := ih k1 (by omega) inv1
    exact ⟨k2, by simp only [growRow, e1]; exact e2, inv2⟩

theorem growRows_spec (n : Nat) (ks : List α) (hlen : ks.length = (n + 1) * (n + 1)) :
    ∀ (r : Nat) (ks' : List α), r ≤ n → GInv n ks ks' (r * n) (r * n + r) →
      ∃ ks'', growRows n r ks' = some ks'' ∧ GInv n ks ks'' 0 0 := by
  intro r
  induction r with
  | zero => intro ks' _ h; exact ⟨ks', rfl, by rwa [Nat.zero_mul] at h⟩
  | succ r ih =>
    intro ks' hr h
    -- row r: sources r*n + c for c = n-1 … 0; the invariant with the (weaker) bound d = k + r
    rw [Nat.succ_mul] at h
    obtain ⟨k1, e1, inv1⟩ := growRow_spec n r ks hlen (by omega) n ks' (by omega)
      ⟨h.len, fun q hq => h.low q (by omega), h.done⟩
    obtain ⟨k2, e2, inv2⟩ := ih k1 (by omega) inv1
    exact ⟨k2, by simp only [growRows, e1]; exact e2, inv2⟩

/-- the backward loop moves the old n×n block to the positions it has in the (n+1)×(n+1) matrix, in place, for every n -/
theorem growRows_block (n : Nat) (ks : List α) (hlen : ks.length = (n + 1) * (n + 1)) :
    ∃ out, growRows n n ks = some out ∧ out.length = ks.length ∧
      ∀ i j, i < n → j < n → out[i * (n + 1) + j]? = ks[i * n + j]? := by
  obtain ⟨out, e, inv⟩ := growRows_spec n ks hlen n ks (by omega)
    ⟨rfl, fun _ _ => rfl, fun p hp hpn => by omega⟩
  refine ⟨out, e, inv.len, fun i j hi hj => ?_⟩
  rw [← inv.done (i * n + j) (Nat.zero_le _) (flat_lt hi hj), flat_div hj, Nat.mul_add_one, Nat.add_right_comm]

theorem setCells_spec (v : α) : ∀ (cells : List Nat) (ks : List α), (∀ k ∈ cells, k < ks.length) →
    ∃ out, setCells v cells ks = some out ∧ out.length = ks.length ∧
      (∀ q ∈ cells, out[q]? = some v) ∧ (∀ q, q ∉ cells → out[q]? = ks[q]?) := by
  intro cells
  induction cells with
  | nil => intro ks _; exact ⟨ks, rfl, rfl, nofun, fun _ _ => rfl⟩
  | cons k rest ih =>
    intro ks h
    have hk : k < ks.length := h k List.mem_cons_self
    obtain ⟨out, e, hl, hin, hout⟩ := ih (ks.set k v) fun x hx => by
      rw [List.length_set]; exact h x (List.mem_cons_of_mem k hx)
    rw [List.length_set] at hl
    refine ⟨out, by simp only [setCells, setCell, if_pos hk]; exact e, hl, fun q hq => ?_, fun q hq => ?_⟩
    · by_cases hqr : q ∈ rest
      · exact hin q hqr
      · obtain rfl : q = k := (List.mem_cons.mp hq).resolve_right hqr
        rw [hout q hqr, List.getElem?_set_self hk]
    · rw [List.mem_cons, not_or] at hq
      rw [hout q hq.2, List.getElem?_set_ne (Ne.symm hq.1)]

/-- TRACE, adding a particle during a step: the old block is kept (both variants), the new particle's pair with every member of
    the encounter is flagged; with the repair (`clear`) every other cell of the new column is 0 -/
theorem ksAdd_spec (clear : Bool) (n : Nat) (enc : List Nat) (zero one : α) (ks : List α)
    (hlen : ks.length = (n + 1) * (n + 1)) (henc : ∀ i ∈ enc, i < n) :
    ∃ out, ksAdd clear n enc zero one ks = some out ∧
      (∀ i j, i < n → j < n → out[i * (n + 1) + j]? = ks[i * n + j]?) ∧
      (∀ i, i ∈ enc → out[i * (n + 1) + n]? = some one) ∧
      (clear = true → ∀ i, i < n → i ∉ enc → out[i * (n + 1) + n]? = some zero) := by
  obtain ⟨k1, e1, l1, b1⟩ := growRows_block n ks hlen
  -- the (optional) clearing of the new column and the new row
  let cl := (List.range (n + 1)).map (fun i => i * (n + 1) + n) ++ (List.range (n + 1)).map (fun i => n * (n + 1) + i)
  have hcl : ∀ k ∈ cl, k < k1.length := by
    intro k hk
    rw [l1, hlen]
    rcases List.mem_append.mp hk with h | h <;> obtain ⟨i, hi, rfl⟩ := List.mem_map.mp h
    · exact flat_lt (List.mem_range.mp hi) (Nat.lt_succ_self n)
    · exact flat_lt (Nat.lt_succ_self n) (List.mem_range.mp hi)
  have hbc : ∀ (l : List Nat) i j, j < n → i * (n + 1) + j ∉ l.map fun i => i * (n + 1) + n := by
    intro l i j hj hm
    obtain ⟨i', _, e⟩ := List.mem_map.mp hm
    have := (flat_inj (Nat.lt_succ_self n) (Nat.lt_succ_of_lt hj) e).2; omega
  have hblock : ∀ i j, i < n → j < n → i * (n + 1) + j ∉ cl := by
    intro i j hi hj hm
    rcases List.mem_append.mp hm with h | h
    · exact hbc _ i j hj h
    · obtain ⟨i', hi', e⟩ := List.mem_map.mp h
      have := (flat_inj (List.mem_range.mp hi') (Nat.lt_succ_of_lt hj) e).1; omega
  obtain ⟨k2, e2, l2, b2, c2⟩ : ∃ k2, (if clear then setCells zero cl k1 else some k1) = some k2 ∧ k2.length = k1.length ∧
      (∀ i j, i < n → j < n → k2[i * (n + 1) + j]? = k1[i * (n + 1) + j]?) ∧
      (clear = true → ∀ i, i < n → k2[i * (n + 1) + n]? = some zero) := by
    cases clear
    · exact ⟨k1, rfl, rfl, fun _ _ _ _ => rfl, nofun⟩
    · obtain ⟨k2, e, l, qin, qout⟩ := setCells_spec zero cl k1 hcl
      exact ⟨k2, e, l, fun i j hi hj => qout _ (hblock i j hi hj), fun _ i hi =>
        qin _ (List.mem_append_left _ (List.mem_map.mpr ⟨i, List.mem_range.mpr (by omega), rfl⟩))⟩
  let col := enc.map fun i => i * (n + 1) + n
  have hcol : ∀ k ∈ col, k < k2.length := by
    intro k hk
    obtain ⟨i, hi, rfl⟩ := List.mem_map.mp hk
    rw [l2, l1, hlen]
    exact flat_lt (Nat.lt_succ_of_lt (henc i hi)) (Nat.lt_succ_self n)
  obtain ⟨out, e3, l3, qin, qout⟩ := setCells_spec one col k2 hcol
  refine ⟨out, ?_, fun i j hi hj => ?_, fun i hi => qin _ (List.mem_map.mpr ⟨i, hi, rfl⟩), fun hc i hi hni => ?_⟩
  · unfold ksAdd; rw [e1]; simp only []; rw [e2]; exact e3
  · rw [qout _ (hbc enc i j hj), b2 i j hi hj, b1 i j hi hj]
  · rw [qout]
    · exact c2 hc i hi
    · intro hm
      obtain ⟨i', hi', e⟩ := List.mem_map.mp hm
      exact hni ((flat_inj (Nat.lt_succ_self n) (Nat.lt_succ_self n) e).1 ▸ hi')

end

/-! ### MERCURIUS part1 -/

theorem allInit_getElem (d : List (Option Nat)) (h : allInit d = true) (i : Nat) (hi : i < d.length) :
    ∃ v, d[i]? = some (some v) := by
  have := List.all_eq_true.mp h d[i] (List.getElem_mem hi)
  obtain ⟨v, hv⟩ := Option.isSome_iff_exists.mp this
  exact ⟨v, by rw [List.getElem?_eq_getElem hi, hv]⟩

theorem readsUninit_of_allInit (d : List (Option Nat)) (n : Nat) (hl : n ≤ d.length) (h : allInit d = true) :
    readsUninit d n = false := by
  refine List.any_eq_false.mpr fun i hi => ?_
  obtain ⟨v, hv⟩ := allInit_getElem d h i (by have := List.mem_range.mp hi; omega)
  rw [hv]; exact Bool.false_ne_true

theorem part1_grow (z : Bool) (m : Merc) (n : Nat) (vals : Nat → Nat) (h : m.dcrit.length < n) :
    part1 z m n vals =
      part1 z { m with dcrit := m.dcrit ++ List.replicate (n - m.dcrit.length) (if z then some 0 else none),
                       recalcR := true, recalcC := true } n vals := by
  have h' : ¬ (m.dcrit ++ List.replicate (n - m.dcrit.length) (if z then some 0 else none)).length < n := by
    rw [List.length_append, List.length_replicate]; omega
  unfold part1
  simp only [if_pos h, if_neg h']

theorem allInit_rewrite (d : List (Option Nat)) (n : Nat) (vals : Nat → Nat) (h : allInit d = true) :
    allInit ((List.range d.length).map fun i => if i < n then some (vals i) else d[i]?.join) = true := by
  refine List.all_eq_true.mpr fun x hx => ?_
  obtain ⟨i, hi, rfl⟩ := List.mem_map.mp hx
  obtain ⟨v, hv⟩ := allInit_getElem d h i (List.mem_range.mp hi)
  rw [hv]; split <;> rfl

theorem part1_of_allInit (z : Bool) (m : Merc) (n : Nat) (vals : Nat → Nat) (hl : n ≤ m.dcrit.length)
    (h : allInit m.dcrit = true) :
    (part1 z m n vals).2 = false ∧ allInit (part1 z m n vals).1.dcrit = true ∧
    (part1 z m n vals).1.dcrit.length = m.dcrit.length := by
  -- no branch of the synchronisation stage changes `dcrit` or `recalcR`
  simp only [part1, if_neg (Nat.not_lt.mpr hl), apply_ite Prod.fst, apply_ite Prod.snd, apply_ite Merc.dcrit,
    apply_ite Merc.recalcR, ite_self, readsUninit_of_allInit _ n hl h, Bool.or_self, true_and]
  split
  · exact ⟨allInit_rewrite _ n vals h, by rw [List.length_map, List.length_range]⟩
  · exact ⟨h, rfl⟩

/-- with the zero fill (repo commit 4316980) part1 never reads a cell that was not written, whatever the flags, and leaves
    every cell written and at least `N` of them -/
theorem part1_zeroFill (m : Merc) (n : Nat) (vals : Nat → Nat) (h : allInit m.dcrit = true) :
    (part1 true m n vals).2 = false ∧ allInit (part1 true m n vals).1.dcrit = true ∧
    ((part1 true m n vals).1.dcrit.length = max m.dcrit.length n) := by
  by_cases hlt : m.dcrit.length < n
  · rw [part1_grow _ _ _ _ hlt]
    have hlen : (m.dcrit ++ List.replicate (n - m.dcrit.length) (some 0)).length = n := by
      rw [List.length_append, List.length_replicate]; omega
    obtain ⟨hb, hi, hl⟩ := part1_of_allInit true ⟨_, true, true, m.safeMode, m.synced⟩ n vals (Nat.le_of_eq hlen.symm)
      (by unfold allInit at *; rw [List.all_append, h, List.all_replicate]; simp)
    exact ⟨hb, hi, hl.trans (hlen.trans (by omega))⟩
  · obtain ⟨hb, hi, hl⟩ := part1_of_allInit true m n vals (by omega) h
    exact ⟨hb, hi, by omega⟩

theorem regrow_ge (p : Policy) (alloc n : Nat) : n ≤ regrow p alloc n := by
  cases p <;> simp only [regrow] <;> split <;> omega

theorem regrow_exact (alloc n : Nat) : regrow .exact alloc n = n := by
  simp only [regrow]; split <;> omega

theorem sideStep_ok (k : Kind) (hk : k.slot0 = true → k.skipEmpty = true) (s : SideState) (op : SideOp) :
    (sideStep k s op).2 = true ∧ (op = .step → (k.skipEmpty = true ∧ s.n = 0) ∨ s.n ≤ (sideStep k s op).1.alloc) := by
  cases op with
  | setN n => exact ⟨rfl, nofun⟩
  | step =>
    unfold sideStep
    by_cases he : (k.skipEmpty && s.n == 0) = true
    · rw [if_pos he]
      exact ⟨rfl, fun _ => Or.inl (by simpa using he)⟩
    · rw [if_neg he]
      have hge := regrow_ge k.policy s.alloc s.n
      refine ⟨List.all_eq_true.mpr fun i hi => decide_eq_true ?_, fun _ => Or.inr hge⟩
      rw [touched, if_neg he] at hi
      rcases List.mem_append.mp hi with h1 | h1
      · have := List.mem_range.mp h1; omega
      · -- slot 0 is touched only by arrays that skip the empty simulation, so here `0 < N`
        split at h1
        · next hs0 =>
          have : s.n ≠ 0 := fun h0 => he (by rw [hk hs0, h0]; rfl)
          rw [List.mem_singleton.mp h1]; omega
        · cases h1

theorem sideRun_ok (k : Kind) (hk : k.slot0 = true → k.skipEmpty = true) :
    ∀ (ops : List SideOp) (s : SideState), (sideRun k s ops).2 = true := by
  intro ops
  induction ops with
  | nil => intro s; rfl
  | cons op rest ih =>
    intro s
    simp only [sideRun, Bool.and_eq_true]
    exact ⟨(sideStep_ok k hk s op).1, ih _⟩

end RV.Particles.Side
