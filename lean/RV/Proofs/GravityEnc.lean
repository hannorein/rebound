import RV.Proofs.GravityLaws
/-
  The encounter routines (MERCURIUS mode 1, TRACE Kepler mode; gravity.c:617-748, 848-983):
  star term by assignment for the particles in `encounter_map`, then the BASIC-shaped loop
  nests (start indices 2 / 1) over *map indices*.  Result: the sub-system re-indexed by the
  map receives the BASIC{ignore=2} sum with the routine's weight, plus the star term.
-/
set_option linter.unusedSimpArgs false
namespace RV.Gravity
open RV
variable {K : Type} [Field K]

/-- an encounter map given by a function: every array is of this form -/
def mkMap (L : Nat) (mp : Nat → Nat) : Array Nat := Array.ofFn (n := L) fun i => mp i

theorem mkMap_get {L : Nat} (mp : Nat → Nat) {i : Nat} (h : i < L) : (mkMap L mp)[i]? = some (mp i) := by
  simp [mkMap, Array.getElem?_ofFn, h]

theorem forRange_succ {σ : Type} (a b : Nat) (h : a ≤ b) (s : σ) (f : σ → Nat → σ) :
    forRange a (b + 1) s f = f (forRange a b s f) b := by
  unfold forRange
  have : b + 1 - a = (b - a) + 1 := by omega
  rw [this, List.range'_concat, List.foldl_append]
  simp
  congr 1
  omega

theorem forRange_empty {σ : Type} (a b : Nat) (h : b ≤ a) (s : σ) (f : σ → Nat → σ) :
    forRange a b s f = s := by
  unfold forRange
  have : b - a = 0 := by omega
  simp [this]

/-- the star term written into the slot of particle `k` -/
def starV (starPref : K → K) (soft2 : K) (x : Nat → V3 K) (k : Nat) : V3 K :=
  (starPref ((x k).x * (x k).x + (x k).y * (x k).y + (x k).z * (x k).z + soft2)) • x k

/-- body of the "Acceleration due to star" loop -/
def starBody (starPref : K → K) (soft2 : K) (ps : Array (Body K)) (map : Array Nat) (acc : Acc K)
    (i : Nat) : Acc K :=
  match map[i]? with
  | some mi =>
    match ps[mi]? with
    | some p =>
      let x := p.p.x
      let y := p.p.y
      let z := p.p.z
      let prefact := starPref (x * x + y * y + z * z + soft2)
      acc.setIfInBounds mi ⟨prefact * x, prefact * y, prefact * z⟩
    | none => acc
  | none => acc

theorem starLoop_def (starPref : K → K) (soft2 : K) (ps : Array (Body K)) (map : Array Nat)
    (encN : Nat) (acc : Acc K) :
    starLoop starPref soft2 ps map encN acc = forRange 1 encN acc (starBody starPref soft2 ps map) := rfl

theorem starBody_size (starPref : K → K) (soft2 : K) (ps : Array (Body K)) (map : Array Nat)
    (acc : Acc K) (i : Nat) : (starBody starPref soft2 ps map acc i).size = acc.size := by
  unfold starBody
  cases map[i]? with
  | none => rfl
  | some mi =>
    cases h : ps[mi]? with
    | none => simp [h]
    | some p => simp [h]

theorem foldl_size_eq {α ι : Type} (l : List ι) (g : Array α → ι → Array α)
    (hg : ∀ acc i, (g acc i).size = acc.size) (acc : Array α) : (l.foldl g acc).size = acc.size := by
  induction l generalizing acc with
  | nil => rfl
  | cons a r ih => simp only [List.foldl_cons]; rw [ih, hg]

theorem starBody_get (starPref : K → K) (soft2 : K) {N L : Nat} (m : Nat → K) (x : Nat → V3 K)
    (mp : Nat → Nat) (acc : Acc K) (hsz : acc.size = N) {i : Nat} (hi : i < L) (hmi : mp i < N) (k : Nat) :
    (starBody starPref soft2 (mkPs N m x) (mkMap L mp) acc i)[k]?
      = if mp i = k then some (starV starPref soft2 x k) else acc[k]? := by
  simp only [starBody, mkMap_get mp hi, mkPs_get m x hmi, sc_hadd, sc_hmul, Array.getElem?_setIfInBounds, hsz, hmi, if_true]
  by_cases h : mp i = k
  · subst h
    simp only [if_true]
    congr 1
  · simp [h]

open Classical in
/-- "Acceleration due to star" loop: exactly the slots `map[i]`, `1 ≤ i < encounter_N`, are
    overwritten with the star term of that particle; all other slots are untouched -/
theorem starLoop_get (starPref : K → K) (soft2 : K) {N L : Nat} (m : Nat → K) (x : Nat → V3 K)
    (mp : Nat → Nat) (acc : Acc K) (hsz : acc.size = N) :
    ∀ (encN : Nat), encN ≤ L → (∀ i, i < encN → mp i < N) → ∀ k,
      (starLoop starPref soft2 (mkPs N m x) (mkMap L mp) encN acc)[k]?
        = if ∃ i, 1 ≤ i ∧ i < encN ∧ mp i = k then some (starV starPref soft2 x k) else acc[k]? := by
  intro encN
  induction encN with
  | zero =>
    intro _ _ k
    rw [starLoop_def, forRange_empty _ _ (by omega)]
    have : ¬ ∃ i, 1 ≤ i ∧ i < 0 ∧ mp i = k := by rintro ⟨i, _, h, _⟩; omega
    simp [this]
  | succ b ih =>
    intro hL hmp k
    by_cases hb : b = 0
    · subst hb
      rw [starLoop_def, forRange_empty _ _ (by omega)]
      have : ¬ ∃ i, 1 ≤ i ∧ i < 0 + 1 ∧ mp i = k := by rintro ⟨i, h1, h, _⟩; omega
      simp [this]
    · have hb1 : 1 ≤ b := by omega
      have ihb := ih (by omega) (fun i hi => hmp i (by omega)) k
      rw [starLoop_def] at ihb ⊢
      rw [forRange_succ 1 b hb1]
      have hsize : (forRange 1 b acc (starBody starPref soft2 (mkPs N m x) (mkMap L mp))).size = N := by
        unfold forRange
        rw [foldl_size_eq _ _ (starBody_size starPref soft2 _ _), hsz]
      rw [starBody_get starPref soft2 m x mp _ hsize (show b < L by omega) (hmp b (by omega)) k, ihb]
      by_cases hk : mp b = k
      · have : ∃ i, 1 ≤ i ∧ i < b + 1 ∧ mp i = k := ⟨b, hb1, by omega, hk⟩
        rw [if_pos hk, if_pos this]
      · have e : (∃ i, 1 ≤ i ∧ i < b + 1 ∧ mp i = k) ↔ (∃ i, 1 ≤ i ∧ i < b ∧ mp i = k) := by
          constructor
          · rintro ⟨i, h1, h2, h3⟩
            have : i ≠ b := by rintro rfl; exact hk h3
            exact ⟨i, h1, by omega, h3⟩
          · rintro ⟨i, h1, h2, h3⟩
            exact ⟨i, h1, by omega, h3⟩
        simp only [hk, if_false, e]

/-- contribution of one mapped pair update to slot `k` -/
theorem additive_pairMap (pref : K → Nat → Nat → K) (soft2 : K) {N L : Nat} (m : Nat → K)
    (x : Nat → V3 K) (mp : Nat → Nat) (both : Bool) {i j : Nat} (hi : i < L) (hj : j < L)
    (hmi : mp i < N) (hmj : mp j < N) :
    Additive (fun acc => pairMap pref soft2 (mkPs N m x) (mkMap L mp) both acc i j)
      (pairC pref soft2 m x 0 both (mp i) (mp j)) := by
  have h := additive_pairStep pref soft2 m x 0 both hmi hmj
  have hf : (fun acc => pairMap pref soft2 (mkPs N m x) (mkMap L mp) both acc i j)
      = (fun acc => pairStep pref soft2 (mkPs N m x) 0 both acc (mp i) (mp j)) := by
    funext acc
    simp only [pairMap, pairStep, mkMap_get mp hi, mkMap_get mp hj, mkPs_get m x hmi, mkPs_get m x hmj,
      sc_hadd, sc_hsub, sc_hmul, sc_hneg, V3.zero_x, V3.zero_y, V3.zero_z, zero_add]
  rw [hf]; exact h

/-- the weight seen in map-index space, with the `continue` test folded in as weight 0 -/
def prefEnc (pref : K → Nat → Nat → K) (skip : Nat → Nat → Bool) (mp : Nat → Nat) (s : K) (i j : Nat) : K :=
  if skip (mp i) (mp j) = true then 0 else pref s (mp i) (mp j)

theorem pairC_mapped (pref : K → Nat → Nat → K) (skip : Nat → Nat → Bool) (soft2 : K) (m : Nat → K)
    (x : Nat → V3 K) (mp : Nat → Nat) (both : Bool) {encN : Nat}
    (hinj : ∀ i j, i < encN → j < encN → mp i = mp j → i = j)
    {i j i0 : Nat} (hi : i < encN) (hj : j < encN) (hi0 : i0 < encN) :
    (if skip (mp i) (mp j) = true then 0 else pairC pref soft2 m x 0 both (mp i) (mp j) (mp i0))
      = pairC (prefEnc pref skip mp) soft2 (fun t => m (mp t)) (fun t => x (mp t)) 0 both i j i0 := by
  have e1 : (mp i = mp i0) ↔ (i = i0) := ⟨hinj i i0 hi hi0, fun h => by rw [h]⟩
  have e2 : (mp j = mp i0) ↔ (j = i0) := ⟨hinj j i0 hj hi0, fun h => by rw [h]⟩
  unfold pairC roleI roleJ prefEnc
  have hs : s2 (fun t => x (mp t)) soft2 0 i j = s2 x soft2 0 (mp i) (mp j) := rfl
  have hd : dvec (fun t => x (mp t)) 0 i j = dvec x 0 (mp i) (mp j) := rfl
  simp only [hs, hd, e1, e2]
  by_cases hsk : skip (mp i) (mp j) = true
  · simp [hsk]
  · simp [hsk]

theorem pairC_unmapped (pref : K → Nat → Nat → K) (soft2 : K) (m : Nat → K)
    (x : Nat → V3 K) (mp : Nat → Nat) (both : Bool) {i j k : Nat} (hi : mp i ≠ k) (hj : mp j ≠ k) :
    pairC pref soft2 m x 0 both (mp i) (mp j) k = 0 := by
  simp [pairC, hi, hj]

/-- the two pair loop nests of the encounter routines, as one function of the accumulator -/
def encLoops (pref : K → Nat → Nat → K) (skip : Nat → Nat → Bool) (soft2 : K) (tpType : Bool)
    (ps : Array (Body K)) (map : Array Nat) (encN encNa : Nat) (acc : Acc K) : Acc K :=
  let acc := forRange 2 encNa acc fun acc i =>
    forRange 1 i acc fun acc j =>
      match map[i]?, map[j]? with
      | some mi, some mj => if skip mi mj then acc else pairMap pref soft2 ps map true acc i j
      | _, _ => acc
  forRange (max encNa 2) encN acc fun acc i =>
    forRange 1 encNa acc fun acc j =>
      match map[i]?, map[j]? with
      | some mi, some mj => if skip mi mj then acc else pairMap pref soft2 ps map tpType acc i j
      | _, _ => acc

theorem accEnc_eq (pref : K → Nat → Nat → K) (starPref : K → K) (skip : Nat → Nat → Bool)
    (soft : K) (tpType : Bool) (ps : Array (Body K)) (map : Array Nat) (encN encNa : Nat) (init : Acc K) :
    accEnc pref starPref skip soft tpType ps map encN encNa init
      = encLoops pref skip (soft * soft) tpType ps map encN encNa
          (starLoop starPref (soft * soft) ps map encN (init.setIfInBounds 0 V3.zero)) := rfl

/-- contribution of the encounter loop nests to slot `k`, as the loops run -/
def encC (pref : K → Nat → Nat → K) (skip : Nat → Nat → Bool) (soft2 : K) (tp : Bool)
    (m : Nat → K) (x : Nat → V3 K) (mp : Nat → Nat) (encN encNa : Nat) (k : Nat) : V3 K :=
  (∑ i ∈ Finset.Ico 2 encNa, ∑ j ∈ Finset.Ico 1 i,
      if skip (mp i) (mp j) = true then 0 else pairC pref soft2 m x 0 true (mp i) (mp j) k)
  + (∑ i ∈ Finset.Ico (max encNa 2) encN, ∑ j ∈ Finset.Ico 1 encNa,
      if skip (mp i) (mp j) = true then 0 else pairC pref soft2 m x 0 tp (mp i) (mp j) k)

theorem additive_encLoops (pref : K → Nat → Nat → K) (skip : Nat → Nat → Bool) (soft2 : K) (tp : Bool)
    {N L : Nat} (m : Nat → K) (x : Nat → V3 K) (mp : Nat → Nat) (encN encNa : Nat)
    (hL : encN ≤ L) (hNa : encNa ≤ encN) (hmp : ∀ i, i < encN → mp i < N) :
    Additive (encLoops pref skip soft2 tp (mkPs N m x) (mkMap L mp) encN encNa)
      (encC pref skip soft2 tp m x mp encN encNa) := by
  unfold encLoops encC
  refine additive_comp
    (f := fun acc => forRange 2 encNa acc fun acc i =>
      forRange 1 i acc fun acc j =>
        match (mkMap L mp)[i]?, (mkMap L mp)[j]? with
        | some mi, some mj => if skip mi mj then acc else pairMap pref soft2 (mkPs N m x) (mkMap L mp) true acc i j
        | _, _ => acc)
    (g := fun acc => forRange (max encNa 2) encN acc fun acc i =>
      forRange 1 encNa acc fun acc j =>
        match (mkMap L mp)[i]?, (mkMap L mp)[j]? with
        | some mi, some mj => if skip mi mj then acc else pairMap pref soft2 (mkPs N m x) (mkMap L mp) tp acc i j
        | _, _ => acc) ?_ ?_
  · apply additive_forRange
    intro i hi1 hi2
    apply additive_forRange
    intro j hj1 hj2
    simp only [mkMap_get mp (show i < L by omega), mkMap_get mp (show j < L by omega)]
    by_cases hs : skip (mp i) (mp j) = true
    · simpa [hs] using additive_id (K := K)
    · simpa [hs] using additive_pairMap pref soft2 m x mp true (show i < L by omega) (show j < L by omega)
        (hmp i (by omega)) (hmp j (by omega))
  · apply additive_forRange
    intro i hi1 hi2
    apply additive_forRange
    intro j hj1 hj2
    simp only [mkMap_get mp (show i < L by omega), mkMap_get mp (show j < L by omega)]
    by_cases hs : skip (mp i) (mp j) = true
    · simpa [hs] using additive_id (K := K)
    · simpa [hs] using additive_pairMap pref soft2 m x mp tp (show i < L by omega) (show j < L by omega)
        (hmp i (by omega)) (hmp j (by omega))

/-- in map-index space the loop contribution to slot `map[i0]` is the BASIC box contribution
    (start indices 2 / 1, no ghost shift) of the re-indexed sub-system -/
theorem encC_mapped (pref : K → Nat → Nat → K) (skip : Nat → Nat → Bool) (soft : K) (tp : Bool)
    (m : Nat → K) (x : Nat → V3 K) (mp : Nat → Nat) (encN encNa : Nat) (hNa : encNa ≤ encN)
    (hinj : ∀ i j, i < encN → j < encN → mp i = mp j → i = j) {i0 : Nat} (hi0 : i0 < encN) :
    encC pref skip (soft * soft) tp m x mp encN encNa (mp i0)
      = boxC (prefEnc pref skip mp) ⟨encNa, tp, 2, soft⟩ encN (fun t => m (mp t)) (fun t => x (mp t)) 0 i0 := by
  unfold encC boxC
  simp only [startI_2, startJ_2]
  congr 1
  · apply Finset.sum_congr rfl
    intro i hi
    apply Finset.sum_congr rfl
    intro j hj
    have := Finset.mem_Ico.mp hi
    have := Finset.mem_Ico.mp hj
    exact pairC_mapped pref skip (soft * soft) m x mp true hinj (by omega) (by omega) hi0
  · apply Finset.sum_congr rfl
    intro i hi
    apply Finset.sum_congr rfl
    intro j hj
    have := Finset.mem_Ico.mp hi
    have := Finset.mem_Ico.mp hj
    exact pairC_mapped pref skip (soft * soft) m x mp tp hinj (by omega) (by omega) hi0

/-- a single box without ghost shift in declarative form (symmetric weight) -/
theorem boxC_declarative (pref : K → Nat → Nat → K) (hsym : ∀ s i j, pref s i j = pref s j i)
    (cfg : Cfg K) {N : Nat} (m : Nat → K) (x : Nat → V3 K) (hNa : cfg.nActive ≤ N)
    (hig : cfg.ignore ≤ 2) {k : Nat} (hk : k < N) :
    boxC pref cfg N m x 0 k = ∑ j ∈ Finset.range N,
      if Src cfg.nActive cfg.tpType cfg.ignore k j then force pref (cfg.soft * cfg.soft) m x 0 k j else 0 := by
  have h1 := accBasic_get pref cfg [0] m x hNa hk
  have h2 := accBasic_declarative pref hsym cfg [0] (by intro G; simp) m x hNa hig hk
  rw [h1] at h2
  simpa using Option.some.inj h2

/-- slot `map[i0]` after the encounter routine: star term + box contribution of the re-indexed
    sub-system (before the loop ranges are turned into the declarative source set) -/
theorem accEnc_get_boxC (pref : K → Nat → Nat → K) (starPref : K → K) (skip : Nat → Nat → Bool)
    (soft : K) (tp : Bool) {N L : Nat} (m : Nat → K) (x : Nat → V3 K) (mp : Nat → Nat)
    (encN encNa : Nat) (init : Acc K) (hinit : init.size = N) (hL : encN ≤ L) (hNa : encNa ≤ encN)
    (hmp : ∀ i, i < encN → mp i < N)
    (hinj : ∀ i j, i < encN → j < encN → mp i = mp j → i = j)
    {i0 : Nat} (h1 : 1 ≤ i0) (h2 : i0 < encN) :
    (accEnc pref starPref skip soft tp (mkPs N m x) (mkMap L mp) encN encNa init)[mp i0]?
      = some (starV starPref (soft * soft) x (mp i0)
          + boxC (prefEnc pref skip mp) ⟨encNa, tp, 2, soft⟩ encN (fun t => m (mp t)) (fun t => x (mp t)) 0 i0) := by
  rw [accEnc_eq, additive_encLoops pref skip (soft * soft) tp m x mp encN encNa hL hNa hmp,
    starLoop_get starPref (soft * soft) m x mp _ (by simpa using hinit) encN hL hmp (mp i0)]
  have hex : ∃ i, 1 ≤ i ∧ i < encN ∧ mp i = mp i0 := ⟨i0, h1, h2, rfl⟩
  simp only [hex, if_true, Option.map_some]
  rw [encC_mapped pref skip soft tp m x mp encN encNa hNa hinj h2]

end RV.Gravity
