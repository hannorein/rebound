import RV.Proofs.Sync
import Mathlib.Algebra.Group.Basic
/-
  C09, physics part: unsafe mode + synchronize = safe mode, under the group laws of the
  (otherwise uninterpreted) primitives.
-/
set_option linter.unusedSectionVars false
namespace RV.Sync
variable {T PJ X V A : Type}

/-- the first-corrector block of part1 (`inv = 1`) / synchronize (`inv = -1`) -/
def corrBlk (c : Config) (inv : Int) : List Prim :=
  if c.corrector != 0 then correctorOps c.coord c.corrector inv else []
/-- the second-corrector block -/
def c2Blk (c : Config) (inv : Int) : List Prim :=
  if c.corrector2 then corrector2Ops c.c2fixed inv else []

theorem closed_corrBlk (c : Config) (inv : Int) : Closed (corrBlk c inv) :=
  closed_ite _ (closed_corrector _ _ _) closed_nil
theorem closed_c2Blk (c : Config) (inv : Int) : Closed (c2Blk c inv) :=
  closed_ite _ (closed_corrector2 _ _) closed_nil

/-- group laws of the primitives (exact arithmetic) -/
structure Laws [AddCommGroup T] (S : Sem T PJ X V A) : Prop where
  kepler_add : ∀ a b p, S.kepler a (S.kepler b p) = S.kepler (a + b) p
  com_add : ∀ a b p, S.com a (S.com b p) = S.com (a + b) p
  kepler_com : ∀ a b p, S.kepler a (S.com b p) = S.com b (S.kepler a p)
  from_to : ∀ p, S.fromI (S.toIpos p) (S.toIvel p) p = p
  ev_half : S.ev (.frac 1 2) + S.ev (.frac 1 2) = S.ev (.frac 1 1)
  ev_comp : S.ev (.frac 5 8) + S.ev (.frac 3 8) = S.ev (.frac 1 1)

/-- a block whose `inv = 1` instance undoes its `inv = -1` instance on the internal coordinates -/
def InverseOn (S : Sem T PJ X V A) (blk : Int → List Prim) : Prop :=
  ∀ s : St PJ X V A, (exec S (blk (-1) ++ blk 1) s).pj = s.pj

theorem closed_pj_congr (S : Sem T PJ X V A) {b : List Prim} (hb : Closed b) {s s' : St PJ X V A}
    (h : s.pj = s'.pj) : (exec S b s).pj = (exec S b s').pj :=
  (agree_exec S b _ _ _ (agree_pj h)).1 (hb.pj (L := ⟨true, false, false, false, false, false⟩) rfl)

variable [AddCommGroup T]

theorem ev_first_last {S : Sem T PJ X V A} (L : Laws S) (k : Nat) :
    S.ev (firstCoef k) + S.ev (lastCoef k) = S.ev (.frac 1 1) := by
  unfold firstCoef lastCoef
  split
  · exact L.ev_comp
  · exact L.ev_half

theorem syncMid_eq (c : Config) :
    syncMid c = [.kepler (lastCoef c.kernel), .com (lastCoef c.kernel)] ++ c2Blk c (-1) ++
      corrBlk c (-1) ++ [.toInertial] := rfl

theorem driftOps_true_eq (c : Config) :
    driftOps c true = corrBlk c 1 ++ c2Blk c 1 ++
      [.kepler (firstCoef c.kernel), .com (firstCoef c.kernel)] := rfl

theorem driftOps_false_eq (c : Config) :
    driftOps c false = [.kepler (.frac 1 1), .com (.frac 1 1)] := rfl

theorem syncMid_pos (S : Sem T PJ X V A) (c : Config) (s : St PJ X V A) :
    (exec S (syncMid c) s).pos = S.toIpos (exec S (syncMid c) s).pj ∧
    (exec S (syncMid c) s).vel = S.toIvel (exec S (syncMid c) s).pj := by
  rw [syncMid_eq, exec_append]
  simp [exec, denote]

/-- the heart of the matter: last half drift + inverse correctors (synchronize), then
    correctors + first half drift (next part1) = one full drift -/
theorem merge_drifts {S : Sem T PJ X V A} (L : Laws S) (c : Config)
    (hC : InverseOn S (corrBlk c)) (hC2 : InverseOn S (c2Blk c))
    (u w : St PJ X V A) (hw : w.pj = (exec S (syncMid c) u).pj) :
    (exec S (driftOps c true) w).pj = (exec S (driftOps c false) u).pj := by
  rw [syncMid_eq] at hw
  simp only [exec_append] at hw
  rw [driftOps_true_eq, driftOps_false_eq]
  simp only [exec_append]
  -- name the intermediate states of synchronize
  generalize hm0 : exec S [Prim.kepler (lastCoef c.kernel), Prim.com (lastCoef c.kernel)] u = m0 at hw
  generalize hm1 : exec S (c2Blk c (-1)) m0 = m1 at hw
  generalize hm2 : exec S (corrBlk c (-1)) m1 = m2 at hw
  have hw2 : w.pj = m2.pj := by rw [hw]; simp [exec, denote]
  -- first corrector cancels
  have h1 : (exec S (corrBlk c 1) w).pj = m1.pj := by
    rw [closed_pj_congr S (closed_corrBlk c 1) hw2, ← hm2, ← exec_append]
    exact hC m1
  -- second corrector cancels
  have h2 : (exec S (c2Blk c 1) (exec S (corrBlk c 1) w)).pj = m0.pj := by
    rw [closed_pj_congr S (closed_c2Blk c 1) h1, ← hm1, ← exec_append]
    exact hC2 m0
  have h0 : m0.pj = S.com (S.ev (lastCoef c.kernel)) (S.kepler (S.ev (lastCoef c.kernel)) u.pj) := by
    rw [← hm0]; simp [exec, denote]
  simp only [exec, denote]
  rw [h2, h0, L.kepler_com, L.kepler_add, L.com_add, ev_first_last L]

/-! ### safe and unsafe instances of one configuration -/

def Config.mode (c : Config) (safe keep : Bool) : Config := { c with safe := safe, keep := keep }

@[simp] theorem driftOps_mode (c : Config) (a b i : Bool) : driftOps (c.mode a b) i = driftOps c i := rfl
@[simp] theorem stepTail_mode (c : Config) (a b : Bool) : stepTail (c.mode a b) = stepTail c := rfl
@[simp] theorem syncMid_mode (c : Config) (a b : Bool) : syncMid (c.mode a b) = syncMid c := rfl
@[simp] theorem mode_safe (c : Config) (a b : Bool) : (c.mode a b).safe = a := rfl
@[simp] theorem mode_keep (c : Config) (a b : Bool) : (c.mode a b).keep = b := rfl
@[simp] theorem mode_coord (c : Config) (a b : Bool) : (c.mode a b).coord = c.coord := rfl
@[simp] theorem mode_kernel (c : Config) (a b : Bool) : (c.mode a b).kernel = c.kernel := rfl
@[simp] theorem mode_corrector (c : Config) (a b : Bool) : (c.mode a b).corrector = c.corrector := rfl
@[simp] theorem mode_corrector2 (c : Config) (a b : Bool) : (c.mode a b).corrector2 = c.corrector2 := rfl
@[simp] theorem mode_c2fixed (c : Config) (a b : Bool) : (c.mode a b).c2fixed = c.c2fixed := rfl

theorem stepOps_safe (c : Config) (r : Bool) :
    stepOps (c.mode true false) ⟨true, r, true⟩ =
      ([.init, .fromInertial] ++ driftOps c true ++ stepTail c ++ ([.init] ++ syncMid c) ++
        [.advT (.frac 1 2)], ⟨true, false, true⟩) := by
  have e : syncOps (c.mode true false) ⟨false, false, true⟩ =
      ([.init] ++ syncMid c, ⟨true, false, true⟩) := by
    rw [syncOps_unsync _ _ (by simp [initF])]
    simp [initF]
  cases r <;>
    simp [stepOps, part1Ops, part2Ops, initF, driftOps, stepTail, List.append_assoc, e] <;> rfl

theorem syncOps_unsafe_unsync (c : Config) (r : Bool) :
    syncOps (c.mode false false) ⟨false, r, true⟩ = ([.init] ++ syncMid c, ⟨true, r, true⟩) := by
  rw [syncOps_unsync _ _ (by simp [initF])]
  simp [initF]

theorem flags_eta (f : Flags) : f = ⟨f.isSync, f.recalc, f.allocated⟩ := rfl

/-- a synchronised simulation whose coordinates are about to be recalculated: the start state of
    the physics theorems -/
theorem initF_fresh {f : Flags} (h0 : f.isSync = true) (hr : (initF f).recalc = true) :
    initF f = ⟨true, true, true⟩ := by
  rw [flags_eta (initF f), initF_isSync, h0, hr, initF_allocated]

theorem apply_step_safe (S : Sem T PJ X V A) (c : Config) (v : Flags × St PJ X V A) (r : Bool)
    (hv : v.1 = ⟨true, r, true⟩) :
    apply S (c.mode true false) .step v = (⟨true, false, true⟩, exec S (syncMid c) (exec S (stepTail c)
      (exec S (driftOps c true) (denote S .fromInertial v.2)))) := by
  rw [apply_step, hv, stepOps_safe]; simp only [exec_append]; rfl

/-- an unsafe-mode step without recalculation: the drift is the merged one iff unsynchronised -/
theorem apply_step_unsafe (S : Sem T PJ X V A) (c : Config) (k : Bool) (u : Flags × St PJ X V A) (i : Bool)
    (hu : u.1 = ⟨i, false, true⟩) :
    apply S (c.mode false k) .step u =
      (⟨false, false, true⟩, exec S (stepTail c) (exec S (driftOps c i) u.2)) := by
  rw [apply_step, hu, stepOps_unsafe _ rfl _ rfl]
  simp only [Bool.false_eq_true, if_false, exec_append]; rfl

theorem apply_step_unsafe_recalc (S : Sem T PJ X V A) (c : Config) (k : Bool) (u : Flags × St PJ X V A)
    (hu : u.1 = ⟨true, true, true⟩) :
    apply S (c.mode false k) .step u = (⟨false, false, true⟩, exec S (stepTail c)
      (exec S (driftOps c true) (denote S .fromInertial u.2))) := by
  rw [apply_step, hu, stepOps_unsafe _ rfl _ rfl]
  simp only [if_true, exec_append]; rfl

theorem apply_step_initF (S : Sem T PJ X V A) (c : Config) (u : Flags × St PJ X V A) :
    apply S c .step (initF u.1, u.2) = apply S c .step u := by
  rw [apply_step, apply_step, stepOps_initF]

/-- relation between the unsafe run `u` (steps and synchronisations) and the safe run `v`
    (the same steps) -/
inductive Inv (S : Sem T PJ X V A) (c : Config) :
    Flags × St PJ X V A → Flags × St PJ X V A → Prop
  /-- nothing stepped yet: same state, synchronised, coordinates will be recalculated -/
  | fresh (u v) : u.2 = v.2 → initF u.1 = ⟨true, true, true⟩ → initF v.1 = ⟨true, true, true⟩ → Inv S c u v
  /-- unsafe run is half a drift behind -/
  | unsync (u v) : u.1 = ⟨false, false, true⟩ → v.1 = ⟨true, false, true⟩ →
      v.2.pj = (exec S (syncMid c) u.2).pj → v.2.pos = S.toIpos v.2.pj → v.2.vel = S.toIvel v.2.pj →
      Inv S c u v
  /-- unsafe run was synchronised by the user -/
  | synced (u v) : u.1 = ⟨true, false, true⟩ → v.1 = ⟨true, false, true⟩ →
      u.2.pj = v.2.pj → u.2.pos = v.2.pos → u.2.vel = v.2.vel →
      v.2.pos = S.toIpos v.2.pj → v.2.vel = S.toIvel v.2.pj → Inv S c u v
  /-- both runs synchronised, the user (a callback) has edited the particles and set the
      recalculate flag: same internal coordinates, same (edited) particles -/
  | edited (u v) : u.1 = ⟨true, true, true⟩ → v.1.isSync = true → v.1.allocated = true →
      u.2.pj = v.2.pj → u.2.pos = v.2.pos → u.2.vel = v.2.vel → Inv S c u v

theorem exec_cons (S : Sem T PJ X V A) (p : Prim) (ps : List Prim) (s : St PJ X V A) :
    exec S (p :: ps) s = exec S ps (denote S p s) := rfl

/-- the common end of every step case: once the drifts agree on `pj`, the safe run ends
    `syncMid` ahead of the unsafe one -/
theorem step_join (S : Sem T PJ X V A) (c : Config) {a b : St PJ X V A} (h : a.pj = b.pj) :
    let v' := exec S (syncMid c) (exec S (stepTail c) b)
    v'.pj = (exec S (syncMid c) (exec S (stepTail c) a)).pj ∧ v'.pos = S.toIpos v'.pj ∧ v'.vel = S.toIvel v'.pj :=
  ⟨closed_pj_congr S (closed_syncMid c) (closed_pj_congr S (closed_stepTail c) h).symm,
    (syncMid_pos S c _).1, (syncMid_pos S c _).2⟩

theorem inv_join (S : Sem T PJ X V A) (c : Config) {a b : St PJ X V A} (h : a.pj = b.pj) :
    Inv S c (⟨false, false, true⟩, exec S (stepTail c) a)
      (⟨true, false, true⟩, exec S (syncMid c) (exec S (stepTail c) b)) :=
  let ⟨h3, h4, h5⟩ := step_join S c h
  .unsync _ _ rfl rfl h3 h4 h5

theorem inv_step {S : Sem T PJ X V A} (L : Laws S) (c : Config)
    (hC : InverseOn S (corrBlk c)) (hC2 : InverseOn S (c2Blk c))
    {u v : Flags × St PJ X V A} (h : Inv S c u v) :
    Inv S c (apply S (c.mode false false) .step u) (apply S (c.mode true false) .step v) := by
  cases h with
  | fresh h1 h2 h3 =>
    rw [← apply_step_initF S _ u, ← apply_step_initF S _ v, apply_step_unsafe_recalc S c _ _ h2,
      apply_step_safe S c _ _ h3, h1]
    exact inv_join S c rfl
  | unsync h1 h2 h3 h4 h5 =>
    rw [apply_step_unsafe S c _ u _ h1, apply_step_safe S c v _ h2]
    refine inv_join S c (merge_drifts L c hC hC2 u.2 _ ?_).symm
    show S.fromI v.2.pos v.2.vel v.2.pj = _
    rw [h4, h5, L.from_to, h3]
  | synced h1 h2 h3 h4 h5 h6 h7 =>
    rw [apply_step_unsafe S c _ u _ h1, apply_step_safe S c v _ h2]
    refine inv_join S c (closed_pj_congr S (closed_driftOps c true) ?_)
    show _ = S.fromI v.2.pos v.2.vel v.2.pj
    rw [h6, h7, L.from_to, h3]
  | edited h1 h2 h3 h4 h5 h6 =>
    rw [apply_step_unsafe_recalc S c _ u h1, apply_step_safe S c v v.1.recalc (by have := flags_eta v.1; rwa [h2, h3] at this)]
    refine inv_join S c (closed_pj_congr S (closed_driftOps c true) ?_)
    show S.fromI u.2.pos u.2.vel u.2.pj = S.fromI v.2.pos v.2.vel v.2.pj
    rw [h4, h5, h6]

theorem inv_sync (S : Sem T PJ X V A) (c : Config) {u v : Flags × St PJ X V A} (h : Inv S c u v) :
    Inv S c (apply S (c.mode false false) .synchronize u) v := by
  rw [apply_sync]
  cases h with
  | fresh h1 h2 h3 =>
    have hs : (initF u.1).isSync = true := by rw [h2]
    rw [syncOps_sync _ _ hs]
    exact Inv.fresh _ _ h1 (by rw [initF_idem]; exact h2) h3
  | unsync h1 h2 h3 h4 h5 =>
    rw [h1, syncOps_unsafe_unsync]
    have e : exec S ([Prim.init] ++ syncMid c) u.2 = exec S (syncMid c) u.2 := rfl
    refine Inv.synced _ _ rfl h2 ?_ ?_ ?_ h4 h5 <;> simp only [e]
    · exact h3.symm
    · rw [(syncMid_pos S c _).1, ← h3, h4]
    · rw [(syncMid_pos S c _).2, ← h3, h5]
  | synced h1 h2 h3 h4 h5 h6 h7 =>
    have hs : (initF u.1).isSync = true := by rw [h1]; rfl
    rw [syncOps_sync _ _ hs, h1]
    exact Inv.synced _ _ rfl h2 h3 h4 h5 h6 h7
  | edited h1 h2 h3 h4 h5 h6 =>
    have hs : (initF u.1).isSync = true := by rw [h1]; rfl
    rw [syncOps_sync _ _ hs, h1]
    exact Inv.edited _ _ rfl h2 h3 h4 h5 h6

theorem inv_run {S : Sem T PJ X V A} (L : Laws S) (c : Config)
    (hC : InverseOn S (corrBlk c)) (hC2 : InverseOn S (c2Blk c))
    (σ : List (Op (X × V))) (hσ : ∀ o ∈ σ, o.benign = true) (u v : Flags × St PJ X V A)
    (h : Inv S c u v) :
    Inv S c (run S (c.mode false false) σ u) (run S (c.mode true false) (σ.filter Op.isStep) v) :=
  run_filter_sim (apply S (c.mode false false)) (apply S (c.mode true false)) (fun o u v ho h => by
    cases o with
    | step => exact inv_step L c hC hC2 h
    | synchronize => exact inv_sync S c h
    | read => exact h
    | setRecalc | poke _ => cases ho) σ hσ u v h

theorem sync_isSync_unsafe (S : Sem T PJ X V A) (c : Config) (u : Flags × St PJ X V A) :
    (apply S (c.mode false false) .synchronize u).1.isSync = true :=
  syncOps_nokeep_isSync (c.mode false false) rfl u.1

theorem inv_final (S : Sem T PJ X V A) (c : Config) {u v : Flags × St PJ X V A} (h : Inv S c u v) :
    (apply S (c.mode false false) .synchronize u).2.pj = v.2.pj ∧
    (apply S (c.mode false false) .synchronize u).2.pos = v.2.pos ∧
    (apply S (c.mode false false) .synchronize u).2.vel = v.2.vel := by
  have := inv_sync S c h
  cases this with
  | fresh h1 h2 h3 => rw [h1]; exact ⟨rfl, rfl, rfl⟩
  | unsync h1 h2 h3 h4 h5 =>
    -- impossible: synchronize (no keep) always leaves is_synchronized = 1
    have := sync_isSync_unsafe S c u
    rw [h1] at this; cases this
  | synced h1 h2 h3 h4 h5 h6 h7 => exact ⟨h3, h4, h5⟩
  | edited h1 h2 h3 h4 h5 h6 => exact ⟨h4, h5, h6⟩

theorem run_append (S : Sem T PJ X V A) (c : Config) (a b : List (Op (X × V))) (x : Flags × St PJ X V A) :
    run S c (a ++ b) x = run S c b (run S c a x) := by
  induction a generalizing x with
  | nil => rfl
  | cons o os ih => exact ih _

/-- synchronize, then the callback's edit, then the recalculate flag (unsafe run) against edit and
    flag (safe run) -/
theorem inv_sync_edit (S : Sem T PJ X V A) (c : Config) (w : X × V) {u v : Flags × St PJ X V A}
    (h : Inv S c u v) :
    Inv S c (run S (c.mode false false) [.synchronize, .poke w, .setRecalc] u)
      (run S (c.mode true false) [.poke w, .setRecalc] v) := by
  have hi := sync_isSync_unsafe S c u
  have h' := inv_sync S c h
  show Inv S c (apply S (c.mode false false) .setRecalc (apply S (c.mode false false) (.poke w)
      (apply S (c.mode false false) .synchronize u)))
    (apply S (c.mode true false) .setRecalc (apply S (c.mode true false) (.poke w) v))
  generalize apply S (c.mode false false) .synchronize u = u1 at hi h' ⊢
  cases h' with
  | fresh h1 h2 h3 =>
    refine Inv.fresh _ _ ?_ ?_ ?_
    · show ({ u1.2 with pos := w.1, vel := w.2 } : St PJ X V A) = { v.2 with pos := w.1, vel := w.2 }
      rw [h1]
    · show initF { u1.1 with recalc := true } = _
      rw [initF_setRecalc, h2]
    · show initF { v.1 with recalc := true } = _
      rw [initF_setRecalc, h3]
  | unsync h1 h2 h3 h4 h5 => rw [h1] at hi; cases hi
  | synced h1 h2 h3 h4 h5 h6 h7 =>
    refine Inv.edited _ _ ?_ ?_ ?_ h3 rfl rfl
    · show ({ u1.1 with recalc := true } : Flags) = _
      rw [h1]
    · show ({ v.1 with recalc := true } : Flags).isSync = true
      rw [h2]
    · show ({ v.1 with recalc := true } : Flags).allocated = true
      rw [h2]
  | edited h1 h2 h3 h4 h5 h6 =>
    refine Inv.edited _ _ ?_ h2 h3 h4 rfl rfl
    show ({ u1.1 with recalc := true } : Flags) = _
    rw [h1]

theorem inv_macro {S : Sem T PJ X V A} (L : Laws S) (c : Config)
    (hC : InverseOn S (corrBlk c)) (hC2 : InverseOn S (c2Blk c)) (m : MOp (X × V))
    {u v : Flags × St PJ X V A} (h : Inv S c u v) :
    Inv S c (run S (c.mode false false) m.expand u)
      (run S (c.mode true false) (m.expand.filter Op.isKept) v) := by
  cases m with
  | synchronize => exact inv_sync S c h
  | read => exact h
  | cbStep pre post =>
    have hstep : ∀ {u v}, Inv S c u v → Inv S c (run S (c.mode false false) [.step] u)
        (run S (c.mode true false) ([Op.step].filter Op.isKept) v) := fun h => inv_step L c hC hC2 h
    cases pre <;> cases post <;> simp only [MOp.expand, cbStepPlan, List.filter_append, run_append]
    · exact hstep h
    · exact inv_sync_edit S c _ (hstep h)
    · exact hstep (inv_sync_edit S c _ h)
    · exact inv_sync_edit S c _ (hstep (inv_sync_edit S c _ h))

theorem filter_flatMap_expand (l : List (MOp (X × V))) :
    (expandAll l).filter Op.isKept = l.flatMap (fun m => m.expand.filter Op.isKept) := by
  induction l with
  | nil => rfl
  | cons m ms ih =>
    show ((m.expand ++ expandAll ms).filter Op.isKept) = _
    rw [List.filter_append, ih]; rfl

theorem inv_macro_run {S : Sem T PJ X V A} (L : Laws S) (c : Config)
    (hC : InverseOn S (corrBlk c)) (hC2 : InverseOn S (c2Blk c)) (l : List (MOp (X × V)))
    (u v : Flags × St PJ X V A) (h : Inv S c u v) :
    Inv S c (run S (c.mode false false) (expandAll l) u)
      (run S (c.mode true false) ((expandAll l).filter Op.isKept) v) := by
  rw [filter_flatMap_expand]
  induction l generalizing u v with
  | nil => exact h
  | cons m ms ih =>
    show Inv S c (run S _ (m.expand ++ expandAll ms) u)
      (run S _ (m.expand.filter Op.isKept ++ ms.flatMap (fun m => m.expand.filter Op.isKept)) v)
    rw [run_append, run_append]
    exact ih _ _ (inv_macro L c hC hC2 m h)

end RV.Sync
