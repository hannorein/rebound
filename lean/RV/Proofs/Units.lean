import RV.Proofs.Field
import RV.Model.Units
import RV.Gen.C20Units
import Mathlib.Data.Rat.Defs
import Mathlib.Algebra.Order.Field.Rat
import Mathlib.Algebra.Order.AbsoluteValue.Basic
import Mathlib.Tactic.NormNum
/-
  The exact instance of `ScalarP` (any field), and how the generated unit tables of RV/Gen/C20Units.lean are read:
  values as rationals, lookup by name, agreement with a reference within a relative tolerance.
-/
namespace RV.Units
open RV

/-- exact instance: any field, the power is the ring power -/
instance exactP {K : Type} [Field K] : ScalarP K where
  toScalar := fieldScalar
  powi a n := a ^ n

@[simp] theorem p_powi {K : Type} [Field K] (a : K) (n : Nat) : ScalarP.powi a n = a ^ n := rfl

/-- value of a table row `(name, numerator, denominator)` -/
def val (e : String × Int × Nat) : ℚ := (e.2.1 : ℚ) / (e.2.2 : ℚ)
def toQ (p : Int × Nat) : ℚ := (p.1 : ℚ) / (p.2 : ℚ)

def lookup (tbl : List (String × Int × Nat)) (n : String) : Option ℚ :=
  (tbl.find? (fun e => e.1 == n)).map val

def Within (x ref rtol : ℚ) : Prop := |x - ref| ≤ rtol * ref
instance (x ref rtol : ℚ) : Decidable (Within x ref rtol) := by unfold Within; infer_instance

/-- every row of `tbl` has a reference row of the same name within its tolerance;
    `scale` multiplies the table value first (`G_SI` for the masses defined as GM/G_SI) -/
def AllWithin (tbl : List (String × Int × Nat)) (scale : ℚ)
    (ref : List (String × (Int × Nat) × (Int × Nat))) : Prop :=
  ∀ e ∈ tbl, ∃ r ∈ ref, r.1 = e.1 ∧ Within (val e * scale) (toQ r.2.1) (toQ r.2.2)
instance (tbl scale ref) : Decidable (AllWithin tbl scale ref) := by unfold AllWithin; infer_instance

def names (tbl : List (String × Int × Nat)) : List String := tbl.map (·.1)
def refNames (ref : List (String × (Int × Nat) × (Int × Nat))) : List String := ref.map (·.1)

/-- 2^-50: four units in the last place of a double -/
def ulp4 : ℚ := 1 / 1125899906842624

end RV.Units
