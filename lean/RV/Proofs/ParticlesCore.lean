import RV.Proofs.Particles
/-
  Core operation-level lemmas for C14 (particle array only, without the MERCURIUS side array): every operation of RV/Model/Particles.lean keeps the storage
  invariant, never faults, and — outside the call shapes of findings F4/F18 — does on the
  abstract list exactly what `Spec` says.
-/
set_option linter.unusedSimpArgs false
namespace RV.Particles

/-- storage invariant: the allocation is what `N_allocated` says and holds all live particles -/
def Inv (c : State) : Prop := c.mem.length = c.nAlloc ∧ c.N ≤ c.nAlloc

instance (c : State) : Decidable (Inv c) := inferInstanceAs (Decidable (_ ∧ _))

theorem Inv.le {c : State} (h : Inv c) : c.N ≤ c.mem.length := by have := h.1; have := h.2; omega

theorem abs_len {c : State} (h : Inv c) : (abs c).ps.length = c.N := List.length_take_of_le h.le

theorem addCore_spec (c : State) (hinv : Inv c) (p : P) (g : Geo) :
    Inv (addCore c p g).1 ∧ (addCore c p g).2 ≠ .fault ∧
    (c.staleLeaf = false → (abs (addCore c p g).1, (addCore c p g).2) = (abs c).addCore p g) ∧
    (addCore c p g).1.mercurius = c.mercurius ∧ (c.staleLeaf = false → (addCore c p g).1.staleLeaf = false) := by
  obtain ⟨k, hg, hlt⟩ := grow_spec c.mem c.nAlloc c.N hinv.1
  have hle := hinv.le
  have hwl : c.N < (c.mem ++ List.replicate k P.zero).length := by
    rw [List.length_append, List.length_replicate, hinv.1]; exact hlt
  have hlen2 : ((c.mem ++ List.replicate k P.zero).set c.N p).length = c.nAlloc + k := by
    rw [List.length_set, List.length_append, List.length_replicate, hinv.1]
  -- the live prefix before and after `N++`
  have t0 : ((c.mem ++ List.replicate k P.zero).set c.N p).take c.N = c.mem.take c.N := by
    rw [List.take_set_of_le (Nat.le_refl _), List.take_append_of_le_length hle]
  have t1 : ((c.mem ++ List.replicate k P.zero).set c.N p).take (c.N + 1) = c.mem.take c.N ++ [p] := by
    rw [List.take_succ_eq_append_getElem (by rw [List.length_set]; exact hwl), t0, List.getElem_set_self]
  unfold addCore Spec.addCore
  by_cases hg1 : g = .outsideBoundary
  · simp only [if_pos hg1]; exact ⟨hinv, by simp, fun _ => by simp [abs], by simp⟩
  · simp only [if_neg hg1, hg, writeAt, if_pos hwl]
    cases htc : c.treeCfg <;> cases hbc : c.boxCfg <;> by_cases hg2 : g = .outsideTreeBox <;>
      cases hst : c.staleLeaf <;>
      simp [abs, Inv, htc, hbc, hg2, hlen2, t1, t0, hst] <;> omega

/-- the sorted path as it is: with `v.treeFirst` a tree refuses before anything moves, without it after -/
theorem removeSorted_spec (v : Variant) (c : State) (hinv : Inv c) (idx : Int)
    (h0 : 0 ≤ idx) (h1 : idx < c.N) :
    Inv (removeSorted v c idx).1 ∧ (removeSorted v c idx).2 ≠ .fault ∧
    (abs (removeSorted v c idx).1, (removeSorted v c idx).2) =
      (if v.treeFirst && c.treeRoot then (abs c, Out.errTreeSorted) else
        ({ abs c with ps := (abs c).ps.eraseIdx idx.toNat,
                      active := if idx < c.nActive then c.nActive - 1 else c.nActive },
         if c.treeRoot then Out.errTreeSorted else Out.removed)) := by
  have hle := hinv.le
  have hs := shiftLoop_eq (c.N - 1 - idx.toNat) c.mem idx.toNat c.N (by omega) hle
  have hlen : ((c.mem.take c.N).eraseIdx idx.toNat).length = c.N - 1 := by
    rw [List.length_eraseIdx_of_lt (by rw [List.length_take_of_le hle]; omega), List.length_take_of_le hle]
  unfold removeSorted
  split
  · exact ⟨hinv, by simp, rfl⟩
  · simp only [hs]
    refine ⟨?_, by cases c.treeRoot <;> simp, ?_⟩
    · have := hinv.1; have := hinv.2
      cases c.treeRoot <;> simp [Inv, hlen] <;> omega
    · cases htr : c.treeRoot <;> simp [abs, htr, List.take_left' hlen]

/-- the unsorted path as it is: `N_active` is clamped only with `v.unsortedClamp` -/
theorem removeUnsorted_spec (v : Variant) (c : State) (hinv : Inv c) (idx : Int)
    (h0 : 0 ≤ idx) (h1 : idx < c.N) :
    Inv (removeUnsorted v c idx).1 ∧ (removeUnsorted v c idx).2 ≠ .fault ∧
    ∃ last, (abs c).ps.getLast? = some last ∧
      (abs (removeUnsorted v c idx).1, (removeUnsorted v c idx).2) =
        (if c.treeRoot then
          { abs c with ps := (abs c).ps.modify idx.toNat (fun p => { p with flagged := true }) }
         else
          { abs c with ps := ((abs c).ps.set idx.toNat last).dropLast,
                       active := if v.unsortedClamp then clampActive c.nActive (c.N - 1) else c.nActive },
         Out.removed) := by
  have hle := hinv.le
  have hil : idx.toNat < c.mem.length := by omega
  obtain ⟨last, e1, e2, e3⟩ := take_moveLast c.mem c.N idx.toNat hle (by omega)
  unfold removeUnsorted
  split
  · rw [List.getElem?_eq_getElem hil]
    refine ⟨by simpa [Inv] using hinv, by simp, last, e2, ?_⟩
    simp only [abs, take_flag c.mem c.N idx.toNat (fun p => { p with flagged := true }) hil]
  · simp only [e1, writeAt, if_pos hil]
    refine ⟨?_, by simp, last, e2, ?_⟩
    · have := hinv.1; have := hinv.2; simp [Inv]; omega
    · simp only [abs, e3]

/-- the call shapes in which the source variant `v` departs from the documented behaviour
    (F4a, F4b, F4c, F4d, F18b) are excluded -/
def NoShapeCore (v : Variant) (c : State) (index : Int) (ks : Bool) : Prop :=
  (v.rangeFirst = true ∨ c.N ≠ 1 ∨ rangeBad c index = false) ∧
  (v.treeFirst = true ∨ c.treeRoot = false ∨ (ks || c.forceSorted) = false ∨ c.N = 1 ∨ c.nVar ≠ 0 ∨
    rangeBad c index = true) ∧
  (v.lastClamp = true ∨ c.N ≠ 1 ∨ c.nActive ≤ 0) ∧
  (v.unsortedClamp = true ∨ (ks || c.forceSorted) = true ∨ c.treeRoot = true ∨ c.nActive < c.N ∨ c.N = 1 ∨
    c.nVar ≠ 0 ∨ rangeBad c index = true) ∧
  (v.resetTree = true ∨ c.N ≠ 1 ∨ c.treeRoot = false)

theorem NoShapeCore.repaired (c : State) (index : Int) (ks : Bool) :
    NoShapeCore Variant.repaired c index ks := by
  simp [NoShapeCore, Variant.repaired]

theorem removeCore_eq (v : Variant) (c : State) (idx : Int) (ks : Bool) :
    removeCore v c idx ks =
      if rangeBad c idx = true then
        (if v.rangeFirst = false ∧ c.N = 1 then removeShortcut v c else (c, Out.errRange))
      else if c.N = 1 then removeShortcut v c else removeRest v c idx (ks || c.forceSorted) := by
  unfold removeCore
  cases v.rangeFirst <;> by_cases h1 : c.N = 1 <;> cases rangeBad c idx <;> simp [h1]

theorem rangeBad_iff (c : State) (idx : Int) : rangeBad c idx = true ↔ (idx < 0 ∨ idx ≥ (c.N : Int)) := by
  simp [rangeBad]; omega

theorem not_rangeBad_iff {c : State} {idx : Int} : ¬ rangeBad c idx = true ↔ 0 ≤ idx ∧ idx < (c.N : Int) := by
  rw [rangeBad_iff]; omega

theorem removeCore_of_valid (v : Variant) (c : State) (idx : Int) (ks : Bool) (h0 : 0 ≤ idx)
    (h1 : idx < (c.N : Int)) (hN : c.N ≠ 1) :
    removeCore v c idx ks = removeRest v c idx (ks || c.forceSorted) := by
  rw [removeCore_eq, if_neg (not_rangeBad_iff.mpr ⟨h0, h1⟩), if_neg hN]

theorem removeShortcut_inv (v : Variant) (c : State) (hinv : Inv c) :
    Inv (removeShortcut v c).1 ∧ (removeShortcut v c).2 ≠ .fault := by
  simp [removeShortcut, Inv]; exact hinv.1

theorem removeCore_spec (v : Variant) (c : State) (hinv : Inv c) (idx : Int) (ks : Bool) :
    Inv (removeCore v c idx ks).1 ∧ (removeCore v c idx ks).2 ≠ .fault ∧
    (NoShapeCore v c idx ks → (abs (removeCore v c idx ks).1, (removeCore v c idx ks).2) = (abs c).removeCore idx ks) := by
  have hlen := abs_len hinv
  rw [removeCore_eq]
  by_cases hrb : rangeBad c idx = true
  · have hr := (rangeBad_iff c idx).mp hrb
    have hspec : (abs c).removeCore idx ks = (abs c, Out.errRange) := by
      unfold Spec.removeCore; rw [hlen, if_pos (by omega)]
    rw [if_pos hrb]
    by_cases hsc : v.rangeFirst = false ∧ c.N = 1
    · rw [if_pos hsc]
      refine ⟨(removeShortcut_inv v c hinv).1, (removeShortcut_inv v c hinv).2, fun hs => ?_⟩
      simpa [hsc.1, hsc.2, hrb] using hs.1
    · rw [if_neg hsc]
      exact ⟨hinv, by simp, fun _ => hspec.symm⟩
  · have hr := not_rangeBad_iff.mp hrb
    rw [if_neg hrb]
    by_cases hN1 : c.N = 1
    · rw [if_pos hN1]
      refine ⟨(removeShortcut_inv v c hinv).1, (removeShortcut_inv v c hinv).2, fun hs => ?_⟩
      obtain ⟨_, _, h3, _, h5⟩ := hs
      have hna : (if v.lastClamp = true then clampActive c.nActive 0 else c.nActive) = clampActive c.nActive 0 := by
        rcases h3 with h | h | h
        · rw [if_pos h]
        · exact absurd hN1 h
        · rw [show clampActive c.nActive 0 = c.nActive from if_neg (by omega), ite_self]
      have htr : (if v.resetTree = true then false else c.treeRoot) = false := by
        rcases h5 with h | h | h
        · rw [if_pos h]
        · exact absurd hN1 h
        · rw [h, ite_self]
      unfold Spec.removeCore; rw [hlen]
      rw [if_neg (by omega), if_pos hN1]
      simp [removeShortcut, abs, hna, htr]
    · rw [if_neg hN1]
      unfold removeRest
      have hspec0 : (abs c).removeCore idx ks = (abs c).removeMany idx (ks || c.forceSorted) := by
        unfold Spec.removeCore; rw [hlen]
        rw [if_neg (by omega), if_neg hN1]
        rfl
      have htr' : (abs c).treeRoot = c.treeRoot := rfl
      have hac' : (abs c).active = c.nActive := rfl
      by_cases hnv : c.nVar ≠ 0
      · rw [if_pos hnv]
        exact ⟨hinv, by simp, fun _ => by rw [hspec0]; unfold Spec.removeMany; rw [if_pos (show (abs c).nVar ≠ 0 from hnv)]⟩
      · rw [if_neg hnv]
        by_cases hks : (ks || c.forceSorted) = true
        · rw [if_pos hks]
          obtain ⟨a1, a2, a3⟩ := removeSorted_spec v c hinv idx hr.1 hr.2
          refine ⟨a1, a2, fun hs => ?_⟩
          have : v.treeFirst = true ∨ c.treeRoot = false := by
            simpa [hks, hN1, hnv, hrb] using hs.2.1
          rw [a3, hspec0]; unfold Spec.removeMany
          rw [if_neg (show ¬ (abs c).nVar ≠ 0 from hnv), if_pos hks]
          cases htr : c.treeRoot
          · simp [htr', htr, hac']
          · simp [htr', htr, this.resolve_right (by simp [htr])]
        · rw [if_neg hks]
          obtain ⟨a1, a2, a3⟩ := removeUnsorted_spec v c hinv idx hr.1 hr.2
          refine ⟨a1, a2, fun hs => ?_⟩
          have : v.unsortedClamp = true ∨ c.treeRoot = true ∨ c.nActive < c.N := by
            simpa [hks, hN1, hnv, hrb] using hs.2.2.2.1
          obtain ⟨last, hl, e⟩ := a3
          rw [e, hspec0]; unfold Spec.removeMany
          rw [if_neg (show ¬ (abs c).nVar ≠ 0 from hnv), if_neg hks, hl, hac', hlen]
          cases htr : c.treeRoot
          · have hcl : (if v.unsortedClamp = true then clampActive c.nActive (c.N - 1) else c.nActive) =
                clampActive c.nActive (c.N - 1) := by
              rcases this with h | h | h
              · rw [if_pos h]
              · rw [htr] at h; cases h
              · rw [show clampActive c.nActive (c.N - 1) = c.nActive from if_neg (by omega), ite_self]
            simp [hcl, htr', htr]
          · simp [htr', htr, hac']

end RV.Particles
