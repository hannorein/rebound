import RV.Proofs.Field
import RV.Model.Rotation
import Mathlib.Algebra.Order.Field.Basic
import Mathlib.Algebra.Order.AbsoluteValue.Basic
import Mathlib.Tactic.Linarith
import Mathlib.Tactic.Positivity
import Mathlib.Tactic.NormNum
/-
  About RV/Model/Rotation.lean, over a field with abstract `sqrt`, `sin`, `cos`, `acos` (`RealFns`).
  (1) Algebra, any field: `rotate` as a matrix (`rotate_rows`) and in Rodrigues form (`rotate_expand`), its dot
  products, linearity, composition and cross product (through the sandwich `sand`), inverse.
  (2) `normalize` and the from-to constructor on unit vectors: the reduced quaternion `redq`, the acute and the
  obtuse case (`fromToUnit_spec`), the antiparallel branch as found and repaired.
  (3) Angle-axis (`rodrigues`), the coordinate rotations, `orbit`; vectors a from-to rotation fixes.
-/
set_option linter.unusedSectionVars false
namespace RV.Rot
open RV

/-- the transcendental / root functions of the exact model, kept abstract: theorems state
    exactly which of their properties they use -/
class RealFns (K : Type) where
  sqrt : K → K
  sin : K → K
  cos : K → K
  acos : K → K

section
variable {K : Type} [Field K] [LinearOrder K] [RealFns K]

/-- the exact-arithmetic instance of the operation class of the rotation model: a linearly
    ordered field; comparisons are the order, `fabs` is `|·|`, `isnormal x` is `x ≠ 0`
    (in exact arithmetic `0 * (1/0) = 0`, so the normalised zero vector has squared length
    `0`, which is what sends `reb_rotation_init_from_to` into its antiparallel branch; in
    IEEE arithmetic the same quantity is NaN, equally not `isnormal`) -/
instance exactR : ScalarR K where
  toScalar := fieldScalar
  lt a b := decide (a < b)
  le a b := decide (a ≤ b)
  sqrt := RealFns.sqrt
  sin := RealFns.sin
  cos := RealFns.cos
  fabs a := |a|
  acos := RealFns.acos
  isnormal a := decide (a ≠ 0)

@[simp] theorem r_lt (a b : K) : ScalarR.lt a b = decide (a < b) := rfl
@[simp] theorem r_le (a b : K) : ScalarR.le a b = decide (a ≤ b) := rfl
@[simp] theorem r_sqrt (a : K) : ScalarR.sqrt a = RealFns.sqrt a := rfl
@[simp] theorem r_sin (a : K) : ScalarR.sin a = RealFns.sin a := rfl
@[simp] theorem r_cos (a : K) : ScalarR.cos a = RealFns.cos a := rfl
@[simp] theorem r_fabs (a : K) : ScalarR.fabs a = |a| := rfl
@[simp] theorem r_isnormal (a : K) : ScalarR.isnormal a = decide (a ≠ 0) := rfl
end

section Algebra
variable {K : Type} [Field K]

@[simp] theorem two_eq : (two : K) = 2 := by simp [two]

@[ext] theorem V3.ext' {a b : V3 K} (hx : a.x = b.x) (hy : a.y = b.y) (hz : a.z = b.z) : a = b := by
  cases a; cases b; simp_all

@[ext] theorem Quat.ext' {a b : Quat K} (h1 : a.ix = b.ix) (h2 : a.iy = b.iy) (h3 : a.iz = b.iz)
    (h4 : a.r = b.r) : a = b := by
  cases a; cases b; simp_all

/-- `reb_vec3d_irotate` applies the matrix of the Euler–Rodrigues parameters, for **any** quaternion -/
theorem rotate_rows (v : V3 K) (q : Quat K) :
    (rotate v q).x = (1 - 2 * (q.iy * q.iy + q.iz * q.iz)) * v.x + 2 * (q.ix * q.iy - q.r * q.iz) * v.y
        + 2 * (q.ix * q.iz + q.r * q.iy) * v.z ∧
    (rotate v q).y = 2 * (q.ix * q.iy + q.r * q.iz) * v.x + (1 - 2 * (q.ix * q.ix + q.iz * q.iz)) * v.y
        + 2 * (q.iy * q.iz - q.r * q.ix) * v.z ∧
    (rotate v q).z = 2 * (q.ix * q.iz - q.r * q.iy) * v.x + 2 * (q.iy * q.iz + q.r * q.ix) * v.y
        + (1 - 2 * (q.ix * q.ix + q.iy * q.iy)) * v.z := by
  refine ⟨?_, ?_, ?_⟩ <;>
    simp only [rotate, cross, vadd, vmul, imag, two_eq, sc_hadd, sc_hsub, sc_hmul] <;> ring

theorem imag_mk (c : V3 K) (r : K) : imag (⟨c.x, c.y, c.z, r⟩ : Quat K) = c := rfl

theorem dot_comm (a b : V3 K) : dot a b = dot b a := by
  simp only [dot, sc_hadd, sc_hmul]; ring

theorem dot_cross_left (a b : V3 K) : dot (cross a b) a = 0 := by
  simp only [dot, cross, sc_hadd, sc_hsub, sc_hmul]; ring

theorem cross_cross (a b c : V3 K) :
    cross (cross a b) c = vadd (vmul b (dot a c)) (vmul a (-dot b c)) := by
  ext <;> simp only [dot, cross, vadd, vmul, sc_hadd, sc_hsub, sc_hmul] <;> ring

theorem len2_cross (f e : V3 K) : len2 (cross f e) = len2 f * len2 e - dot f e * dot f e := by
  simp only [len2, cross, dot, sc_hadd, sc_hsub, sc_hmul]; ring

theorem vmul_left (a v : V3 K) (s : K) :
    len2 (vmul a s) = s * s * len2 a ∧ cross (vmul a s) v = vmul (cross a v) s ∧
      dot (vmul a s) v = s * dot a v := by
  refine ⟨?_, ?_, ?_⟩
  · simp only [len2, dot, vmul, sc_hadd, sc_hmul]; ring
  · ext <;> simp only [cross, vmul, sc_hsub, sc_hmul] <;> ring
  · simp only [dot, vmul, sc_hadd, sc_hmul]; ring

/-- `v + 2r (u × v) + 2 u × (u × v)`, `u = imag q`, with the triple product expanded: for **any** `q` -/
theorem rotate_expand (v : V3 K) (q : Quat K) :
    rotate v q = vadd (vadd (vmul v (1 - 2 * len2 (imag q))) (vmul (cross (imag q) v) (2 * q.r)))
      (vmul (imag q) (2 * dot (imag q) v)) := by
  ext <;> simp only [rotate_rows, len2, dot, cross, vadd, vmul, imag, sc_hadd, sc_hsub, sc_hmul] <;> ring

/-- exact value of the dot product of two rotated vectors, for **any** quaternion -/
theorem rotate_dot_general (v w : V3 K) (q : Quat K) :
    dot (rotate v q) (rotate w q) =
      dot v w + 4 * (qlen2 q - 1) * dot (cross (imag q) v) (cross (imag q) w) := by
  simp only [rotate, dot, cross, vadd, vmul, imag, qlen2, two_eq, sc_hadd, sc_hsub, sc_hmul]
  ring

theorem dot_rotate (v w : V3 K) (q : Quat K) (hq : qlen2 q = 1) :
    dot (rotate v q) (rotate w q) = dot v w := by
  rw [rotate_dot_general, hq]; ring

theorem len2_rotate (v : V3 K) (q : Quat K) (hq : qlen2 q = 1) : len2 (rotate v q) = len2 v :=
  dot_rotate v v q hq

theorem qlen2_mul (p q : Quat K) : qlen2 (qmul p q) = qlen2 p * qlen2 q := by
  simp only [qlen2, qmul, sc_hadd, sc_hsub, sc_hmul]
  ring


/-- the quaternion sandwich `q v q̄` written out: `(r² − |u|²) v + 2 r (u × v) + 2 (u·v) u` -/
def sand (q : Quat K) (v : V3 K) : V3 K :=
  let u := imag q
  let a := q.r * q.r - dot u u
  let c := cross u v
  let d := dot u v
  ⟨a * v.x + 2 * q.r * c.x + 2 * d * u.x, a * v.y + 2 * q.r * c.y + 2 * d * u.y,
   a * v.z + 2 * q.r * c.z + 2 * d * u.z⟩

/-- what `reb_vec3d_irotate` computes, for **any** quaternion: `q v q̄ + (1 − |q|²) v` -/
theorem rotate_eq_sand (v : V3 K) (q : Quat K) :
    rotate v q = vadd (sand q v) (vmul v (1 - qlen2 q)) := by
  ext <;> simp only [rotate, sand, dot, cross, vadd, vmul, imag, qlen2, two_eq, sc_hadd, sc_hsub, sc_hmul] <;> ring

theorem rotate_unit (v : V3 K) (q : Quat K) (h : qlen2 q = 1) : rotate v q = sand q v := by
  rw [rotate_eq_sand, h]
  ext <;> simp [vadd, vmul]

/-- the sandwich is a homomorphism (associativity of the quaternion product) -/
theorem sand_mul (p q : Quat K) (v : V3 K) : sand (qmul p q) v = sand p (sand q v) := by
  ext <;> simp only [sand, qmul, dot, cross, imag, sc_hadd, sc_hsub, sc_hmul] <;> ring

theorem sand_cross (q : Quat K) (v w : V3 K) :
    cross (sand q v) (sand q w) = vmul (sand q (cross v w)) (qlen2 q) := by
  ext <;> simp only [sand, qlen2, dot, cross, vmul, imag, sc_hadd, sc_hsub, sc_hmul] <;> ring

theorem rotate_mul (p q : Quat K) (v : V3 K) (hp : qlen2 p = 1) (hq : qlen2 q = 1) :
    rotate v (qmul p q) = rotate (rotate v q) p := by
  have hpq : qlen2 (qmul p q) = 1 := by rw [qlen2_mul, hp, hq, one_mul]
  rw [rotate_unit _ _ hpq, rotate_unit _ _ hq, rotate_unit _ _ hp, sand_mul]

theorem rotate_cross (q : Quat K) (v w : V3 K) (hq : qlen2 q = 1) :
    rotate (cross v w) q = cross (rotate v q) (rotate w q) := by
  rw [rotate_unit _ _ hq, rotate_unit _ _ hq, rotate_unit _ _ hq, sand_cross, hq]
  ext <;> simp [vmul]

theorem rotate_add (q : Quat K) (v w : V3 K) :
    rotate (vadd v w) q = vadd (rotate v q) (rotate w q) := by
  ext <;> simp only [rotate_rows, vadd, sc_hadd] <;> ring

theorem rotate_smul (q : Quat K) (v : V3 K) (s : K) :
    rotate (vmul v s) q = vmul (rotate v q) s := by
  ext <;> simp only [rotate_rows, vmul, sc_hmul] <;> ring

theorem rotate_sub (q : Quat K) (v w : V3 K) :
    rotate (V3.sub v w) q = V3.sub (rotate v q) (rotate w q) := by
  ext <;> simp only [rotate_rows, V3.sub, sc_hsub] <;> ring

theorem rotate_id (v : V3 K) : rotate v (qid : Quat K) = v := by
  ext <;> simp [rotate_rows, qid]

/-- `inverse q` is `conj q` scaled by `c = 1/|q|²`; all that is used of `c` is `|q|² c = 1` -/
theorem inverse_spec (q : Quat K) (h : qlen2 q ≠ 0) :
    qmul q (inverse q) = qid ∧ qmul (inverse q) q = qid ∧ qlen2 (inverse q) = 1 / qlen2 q := by
  have hc : qlen2 q * (1 / qlen2 q) = 1 := mul_one_div_cancel h
  have e : inverse q = ⟨-q.ix * (1 / qlen2 q), -q.iy * (1 / qlen2 q), -q.iz * (1 / qlen2 q),
      q.r * (1 / qlen2 q)⟩ := rfl
  rw [e]
  generalize 1 / qlen2 q = c at hc ⊢
  simp only [qlen2, sc_hadd, sc_hmul] at hc
  refine ⟨?_, ?_, ?_⟩
  · ext <;> simp only [qmul, qid, sc_hadd, sc_hsub, sc_hmul, sc_one, sc_zero]
    · ring
    · ring
    · ring
    · linear_combination hc
  · ext <;> simp only [qmul, qid, sc_hadd, sc_hsub, sc_hmul, sc_one, sc_zero]
    · ring
    · ring
    · ring
    · linear_combination hc
  · simp only [qlen2, sc_hadd, sc_hmul]
    linear_combination c * hc

theorem qmul_inverse (q : Quat K) (h : qlen2 q ≠ 0) : qmul q (inverse q) = qid := (inverse_spec q h).1

theorem inverse_qmul (q : Quat K) (h : qlen2 q ≠ 0) : qmul (inverse q) q = qid := (inverse_spec q h).2.1

theorem qlen2_inverse (q : Quat K) (h : qlen2 q ≠ 0) : qlen2 (inverse q) = 1 / qlen2 q :=
  (inverse_spec q h).2.2

theorem inverse_unit (q : Quat K) (h : qlen2 q = 1) : inverse q = conj q := by
  ext <;> simp [inverse, h]

theorem rotate_inverse (q : Quat K) (v : V3 K) (h : qlen2 q = 1) :
    rotate (rotate v q) (inverse q) = v := by
  have hn : qlen2 q ≠ 0 := by rw [h]; exact one_ne_zero
  have hi : qlen2 (inverse q) = 1 := by rw [qlen2_inverse q hn, h]; simp
  rw [← rotate_mul _ _ _ hi h, inverse_qmul q hn, rotate_id]

end Algebra

section Ordered
variable {K : Type} [Field K] [LinearOrder K] [IsStrictOrderedRing K] [RealFns K]

/-- the only property of `sqrt` the theorems use: on non-negative arguments it returns a
    non-negative square root (true of `Real.sqrt`; the IEEE `sqrt` satisfies it to half an ulp) -/
def SqrtSpec (K : Type) [Field K] [LinearOrder K] [RealFns K] : Prop :=
  ∀ x : K, 0 ≤ x → 0 ≤ RealFns.sqrt x ∧ RealFns.sqrt x * RealFns.sqrt x = x

/-- the only property of `sin`, `cos` the theorems use -/
def TrigSpec (K : Type) [Field K] [RealFns K] : Prop :=
  ∀ a : K, RealFns.sin a * RealFns.sin a + RealFns.cos a * RealFns.cos a = 1

theorem len2_nonneg (v : V3 K) : 0 ≤ len2 v :=
  add_nonneg (add_nonneg (mul_self_nonneg v.x) (mul_self_nonneg v.y)) (mul_self_nonneg v.z)

theorem len2_eq_zero {v : V3 K} (h : len2 v = 0) : v.x = 0 ∧ v.y = 0 ∧ v.z = 0 := by
  simp only [len2, dot, sc_hadd, sc_hmul] at h
  have hx := mul_self_nonneg v.x
  have hy := mul_self_nonneg v.y
  have hz := mul_self_nonneg v.z
  refine ⟨?_, ?_, ?_⟩ <;> apply mul_self_eq_zero.mp <;> linarith

theorem sqrt_ne_zero (hs : SqrtSpec K) {x : K} (hx : 0 ≤ x) (h : x ≠ 0) : RealFns.sqrt x ≠ 0 := by
  intro h0
  have := (hs x hx).2
  rw [h0, mul_zero] at this
  exact h this.symm

/-- uniqueness of the non-negative root -/
theorem sqrt_mul_self (hs : SqrtSpec K) {a : K} (ha : 0 ≤ a) : RealFns.sqrt (a * a) = a := by
  obtain ⟨h0, h1⟩ := hs (a * a) (mul_self_nonneg a)
  rcases mul_self_eq_mul_self_iff.mp h1 with h | h
  · exact h
  · linarith

theorem sqrt_one (hs : SqrtSpec K) : RealFns.sqrt (1 : K) = 1 := by
  simpa using sqrt_mul_self hs (zero_le_one' K)

theorem sqrt_four (hs : SqrtSpec K) : RealFns.sqrt (4 : K) = 2 := by
  have := sqrt_mul_self hs (zero_le_two (α := K)); norm_num at this; exact this

theorem normalize_def (v : V3 K) :
    normalize v = ⟨1 / RealFns.sqrt (len2 v) * v.x, 1 / RealFns.sqrt (len2 v) * v.y,
      1 / RealFns.sqrt (len2 v) * v.z⟩ := by
  simp only [normalize, vmul, r_sqrt, sc_hmul, sc_hdiv, sc_one]

theorem normalize_of_unit (hs : SqrtSpec K) (v : V3 K) (h : len2 v = 1) : normalize v = v := by
  rw [normalize_def, h, sqrt_one hs]
  ext <;> simp

theorem dot_normalize_left (v w : V3 K) :
    dot (normalize v) w = 1 / RealFns.sqrt (len2 v) * dot v w := by
  rw [normalize_def]; simp only [dot, sc_hadd, sc_hmul]; ring

theorem normalize_unit (hs : SqrtSpec K) (v : V3 K) (h : len2 v ≠ 0) : len2 (normalize v) = 1 := by
  obtain ⟨h0, h1⟩ := hs (len2 v) (len2_nonneg v)
  have hne := sqrt_ne_zero hs (len2_nonneg v) h
  rw [normalize_def]
  generalize RealFns.sqrt (len2 v) = s at *
  simp only [len2, dot, sc_hadd, sc_hmul] at h1 ⊢
  field_simp
  linear_combination -h1

/-- the zero vector is "normalised" to the zero vector (`0 * (1/0) = 0` in a field) -/
theorem normalize_zero (v : V3 K) (h : len2 v = 0) : len2 (normalize v) = 0 := by
  obtain ⟨hx, hy, hz⟩ := len2_eq_zero h
  rw [normalize_def]
  simp [len2, dot, hx, hy, hz]


/-- `reb_rotation_init_from_to_reduced` with the normalised half vector made explicit -/
def redq (f h : V3 K) : Quat K := ⟨(cross f h).x, (cross f h).y, (cross f h).z, dot f h⟩

theorem fromToReduced_def (f t : V3 K) : fromToReduced f t = redq f (normalize (vadd f t)) := rfl

/-- Lagrange's identity: the reduced quaternion of two unit vectors is unit -/
theorem redq_unit (f h : V3 K) (hf : len2 f = 1) (hh : len2 h = 1) : qlen2 (redq f h) = 1 := by
  simp only [len2, dot, sc_hadd, sc_hmul] at hf hh
  simp only [redq, qlen2, cross, dot, sc_hadd, sc_hsub, sc_hmul]
  linear_combination (h.x * h.x + h.y * h.y + h.z * h.z) * hf + hh

/-- it reflects `f` across `h` -/
theorem redq_maps (f h : V3 K) (hf : len2 f = 1) (hh : len2 h = 1) :
    rotate f (redq f h) = ⟨2 * dot f h * h.x - f.x, 2 * dot f h * h.y - f.y, 2 * dot f h * h.z - f.z⟩ := by
  have hl := len2_cross f h
  rw [hf, hh, one_mul] at hl
  have hf' : dot f f = 1 := hf
  -- `(f × h) · f = 0`, `(f × h) × f = h − (f·h) f`, `|f × h|² = 1 − (f·h)²`
  rw [rotate_expand, show imag (redq f h) = cross f h from rfl, show (redq f h).r = dot f h from rfl, hl,
    dot_cross_left, cross_cross, hf', dot_comm h f]
  ext <;> simp only [vadd, vmul, sc_hadd, sc_hmul] <;> ring

/-- the reduced constructor on two unit vectors that are not antiparallel: unit, maps `f ↦ t` -/
theorem reduced_spec (hs : SqrtSpec K) (f t : V3 K) (hf : len2 f = 1) (ht : len2 t = 1)
    (hne : len2 (vadd f t) ≠ 0) :
    qlen2 (fromToReduced f t) = 1 ∧ rotate f (fromToReduced f t) = t := by
  have hh := normalize_unit hs (vadd f t) hne
  rw [fromToReduced_def]
  refine ⟨redq_unit f _ hf hh, ?_⟩
  rw [redq_maps f _ hf hh]
  obtain ⟨h0, h1⟩ := hs (len2 (vadd f t)) (len2_nonneg _)
  have hsne := sqrt_ne_zero hs (len2_nonneg _) hne
  rw [normalize_def]
  generalize RealFns.sqrt (len2 (vadd f t)) = s at *
  simp only [len2, dot, vadd, sc_hadd, sc_hmul] at hf ht h1 ⊢
  ext <;> simp only <;> field_simp
  · linear_combination (f.x + t.x) * hf - (f.x + t.x) * ht - (f.x + t.x) * h1
  · linear_combination (f.y + t.y) * hf - (f.y + t.y) * ht - (f.y + t.y) * h1
  · linear_combination (f.z + t.z) * hf - (f.z + t.z) * ht - (f.z + t.z) * h1


theorem len2_vadd (f t : V3 K) : len2 (vadd f t) = len2 f + 2 * dot f t + len2 t := by
  simp only [len2, dot, vadd, sc_hadd, sc_hmul]; ring

/-- facts about the bisector `half = normalize (f + t)` of two unit vectors -/
theorem half_props (hs : SqrtSpec K) (f t : V3 K) (hf : len2 f = 1) (ht : len2 t = 1)
    (hne : len2 (vadd f t) ≠ 0) :
    len2 (normalize (vadd f t)) = 1 ∧
    dot f (normalize (vadd f t)) = dot (normalize (vadd f t)) t ∧
    0 ≤ dot f (normalize (vadd f t)) ∧
    cross f (normalize (vadd f t)) = cross (normalize (vadd f t)) t := by
  refine ⟨normalize_unit hs _ hne, ?_, ?_, ?_⟩
  · rw [normalize_def]
    generalize RealFns.sqrt (len2 (vadd f t)) = s
    simp only [len2, dot, vadd, sc_hadd, sc_hmul] at hf ht ⊢
    linear_combination (1 / s) * (hf - ht)
  · obtain ⟨h0, h1⟩ := hs (len2 (vadd f t)) (len2_nonneg _)
    have hsne := sqrt_ne_zero hs (len2_nonneg _) hne
    have hpos : 0 < RealFns.sqrt (len2 (vadd f t)) := lt_of_le_of_ne h0 (Ne.symm hsne)
    rw [normalize_def]
    have key : dot f ⟨1 / RealFns.sqrt (len2 (vadd f t)) * (vadd f t).x,
        1 / RealFns.sqrt (len2 (vadd f t)) * (vadd f t).y,
        1 / RealFns.sqrt (len2 (vadd f t)) * (vadd f t).z⟩ = RealFns.sqrt (len2 (vadd f t)) / 2 := by
      generalize RealFns.sqrt (len2 (vadd f t)) = s at *
      rw [len2_vadd, hf, ht] at h1
      simp only [len2, dot, vadd, sc_hadd, sc_hmul] at hf ht h1 ⊢
      field_simp
      linear_combination 2 * hf - h1
    rw [key]; positivity
  · rw [normalize_def]
    ext <;> simp only [cross, vadd, sc_hadd, sc_hsub, sc_hmul] <;> ring

/-- in exact arithmetic the two half-angle rotations of the two-stage branch coincide -/
theorem two_stage_eq (f h t : V3 K) (hf : len2 f = 1) (hh : len2 h = 1)
    (ht : len2 t = 1) (hd : dot f h = dot h t) (hc : cross f h = cross h t) :
    fromToReduced f h = fromToReduced h t := by
  have hL : len2 (vadd f h) = len2 (vadd h t) := by
    rw [len2_vadd, len2_vadd, hf, hh, ht, hd]
  rw [fromToReduced_def, fromToReduced_def, normalize_def, normalize_def, hL]
  generalize 1 / RealFns.sqrt (len2 (vadd h t)) = c
  have hcx : (cross f h).x = (cross h t).x := by rw [hc]
  have hcy : (cross f h).y = (cross h t).y := by rw [hc]
  have hcz : (cross f h).z = (cross h t).z := by rw [hc]
  simp only [len2, dot, cross, sc_hadd, sc_hsub, sc_hmul] at hf hh ht hd hcx hcy hcz
  ext <;> simp only [redq, cross, dot, vadd, sc_hadd, sc_hsub, sc_hmul]
  · linear_combination c * hcx
  · linear_combination c * hcy
  · linear_combination c * hcz
  · linear_combination c * hf - c * hh + c * hd


theorem fromToUnit_acute (anti : V3 K → Quat K) (f t : V3 K) (hd : 0 ≤ dot f t) :
    fromToUnit anti f t = fromToReduced f t := by
  have : ScalarR.le (Scalar.zero : K) (dot f t) = true := by simpa using hd
  simp only [fromToUnit, this, if_true]

theorem fromToUnit_two_stage (anti : V3 K → Quat K) (f t : V3 K) (hd : dot f t < 0)
    (hn : len2 (normalize (vadd f t)) ≠ 0) :
    fromToUnit anti f t =
      qmul (fromToReduced f (normalize (vadd f t))) (fromToReduced (normalize (vadd f t)) t) := by
  have h1 : ScalarR.le (Scalar.zero : K) (dot f t) = false := by simpa using hd
  have h2 : ScalarR.isnormal (len2 (normalize (vadd f t))) = true := by simpa using hn
  -- the model writes the half vector as a literal triple, defeq to `vadd f t`
  have h2' : ScalarR.isnormal (len2 (normalize (⟨f.x + t.x, f.y + t.y, f.z + t.z⟩ : V3 K))) = true := h2
  simp only [fromToUnit, h1, h2']
  rfl

theorem fromToUnit_anti (anti : V3 K → Quat K) (f t : V3 K) (hd : dot f t < 0)
    (hn : len2 (normalize (vadd f t)) = 0) :
    fromToUnit anti f t = anti f := by
  have h1 : ScalarR.le (Scalar.zero : K) (dot f t) = false := by simpa using hd
  have h2 : ScalarR.isnormal (len2 (normalize (vadd f t))) = false := by simpa using hn
  have h2' : ScalarR.isnormal (len2 (normalize (⟨f.x + t.x, f.y + t.y, f.z + t.z⟩ : V3 K))) = false := h2
  simp only [fromToUnit, h1, h2']
  rfl

/-- the obtuse, non-antiparallel case: two reduced rotations through the bisector `h`, each unit and
    mapping its first argument to its second; in exact arithmetic they coincide -/
theorem fromToUnit_obtuse (hs : SqrtSpec K) (anti : V3 K → Quat K) (f t : V3 K)
    (hf : len2 f = 1) (ht : len2 t = 1) (hne : len2 (vadd f t) ≠ 0) (hd : dot f t < 0) :
    let h := normalize (vadd f t)
    fromToUnit anti f t = qmul (fromToReduced f h) (fromToReduced h t) ∧
    (qlen2 (fromToReduced f h) = 1 ∧ rotate f (fromToReduced f h) = h) ∧
    (qlen2 (fromToReduced h t) = 1 ∧ rotate h (fromToReduced h t) = t) ∧
    fromToReduced f h = fromToReduced h t := by
  intro h
  obtain ⟨hh, hdd, hpos, hcc⟩ := half_props hs f t hf ht hne
  have hn : len2 h ≠ 0 := by rw [hh]; exact one_ne_zero
  have hfh : len2 (vadd f h) ≠ 0 := by
    rw [len2_vadd, hf, hh]; intro h0; linarith [hpos]
  have hht : len2 (vadd h t) ≠ 0 := by
    rw [len2_vadd, hh, ht, ← hdd]; intro h0; linarith [hpos]
  exact ⟨fromToUnit_two_stage anti f t hd hn, reduced_spec hs f h hf hh hfh, reduced_spec hs h t hh ht hht,
    two_stage_eq f h t hf hh ht hdd hcc⟩

/-- every non-antiparallel case of `reb_rotation_init_from_to` on unit vectors -/
theorem fromToUnit_spec (hs : SqrtSpec K) (anti : V3 K → Quat K) (f t : V3 K)
    (hf : len2 f = 1) (ht : len2 t = 1) (hne : len2 (vadd f t) ≠ 0) :
    qlen2 (fromToUnit anti f t) = 1 ∧ rotate f (fromToUnit anti f t) = t := by
  rcases le_or_gt 0 (dot f t) with hd | hd
  · rw [fromToUnit_acute anti f t hd]
    exact reduced_spec hs f t hf ht hne
  · obtain ⟨e, ⟨a1, a2⟩, ⟨b1, b2⟩, hAB⟩ := fromToUnit_obtuse hs anti f t hf ht hne hd
    rw [e]
    refine ⟨by rw [qlen2_mul, a1, b1, one_mul], ?_⟩
    rw [rotate_mul _ _ _ a1 b1, ← hAB, a2, hAB, b2]

/-! ### the antiparallel branch (rotations.c:189-210) -/

/-- the coordinate axis picked by the three sub-branches: one of the unit vectors, and the
    component of `f` along it is the smallest in absolute value -/
theorem smallestAxis_spec (f : V3 K) :
    (smallestAxis f = ex ∨ smallestAxis f = ey ∨ smallestAxis f = ez) ∧
    dot f (smallestAxis f) * dot f (smallestAxis f) ≤ f.x * f.x ∧
    dot f (smallestAxis f) * dot f (smallestAxis f) ≤ f.y * f.y ∧
    dot f (smallestAxis f) * dot f (smallestAxis f) ≤ f.z * f.z := by
  have sq : ∀ a b : K, |a| ≤ |b| → a * a ≤ b * b := fun a b h => by
    have := sq_le_sq.mpr h; simpa [sq] using this
  unfold smallestAxis
  simp only [r_fabs, r_le, Bool.and_eq_true, decide_eq_true_eq]
  by_cases h1 : |f.x| ≤ |f.y| ∧ |f.x| ≤ |f.z|
  · rw [if_pos h1]
    refine ⟨Or.inl rfl, ?_⟩
    have e : dot f (ex : V3 K) = f.x := by simp [dot, ex]
    rw [e]
    exact ⟨le_refl _, sq _ _ h1.1, sq _ _ h1.2⟩
  · rw [if_neg h1]
    by_cases h2 : |f.y| ≤ |f.z|
    · rw [if_pos h2]
      refine ⟨Or.inr (Or.inl rfl), ?_⟩
      have e : dot f (ey : V3 K) = f.y := by simp [dot, ey]
      rw [e]
      have hyx : |f.y| ≤ |f.x| := by
        by_contra hc
        push Not at hc
        exact h1 ⟨le_of_lt hc, le_trans (le_of_lt hc) h2⟩
      exact ⟨sq _ _ hyx, le_refl _, sq _ _ h2⟩
    · rw [if_neg h2]
      refine ⟨Or.inr (Or.inr rfl), ?_⟩
      have e : dot f (ez : V3 K) = f.z := by simp [dot, ez]
      rw [e]
      push Not at h2
      have hzx : |f.z| ≤ |f.x| := by
        by_contra hc
        push Not at hc
        exact h1 ⟨(hc.trans h2).le, hc.le⟩
      exact ⟨sq _ _ hzx, sq _ _ (le_of_lt h2), le_refl _⟩

theorem smallestAxis_unit (f : V3 K) : len2 (smallestAxis f) = 1 := by
  rcases (smallestAxis_spec f).1 with h | h | h <;> rw [h] <;> simp [len2, dot, ex, ey, ez]

theorem smallest_sq_le (f : V3 K) (hf : len2 f = 1) :
    3 * (dot f (smallestAxis f) * dot f (smallestAxis f)) ≤ 1 := by
  obtain ⟨_, hx, hy, hz⟩ := smallestAxis_spec f
  simp only [len2, dot, sc_hadd, sc_hmul] at hf
  have : dot f (smallestAxis f) * dot f (smallestAxis f) * 3 ≤ f.x * f.x + f.y * f.y + f.z * f.z := by
    linarith
  linarith

/-- the quaternion `(f × e, 0)` for unit `f`, `e`:  |q|² = 1 − (f·e)²  and
    `rotate f q = (2 (f·e)² − 1) f` -/
theorem axis_quat (f e : V3 K) (hf : len2 f = 1) (he : len2 e = 1) :
    qlen2 (⟨(cross f e).x, (cross f e).y, (cross f e).z, 0⟩ : Quat K) = 1 - dot f e * dot f e ∧
    rotate f (⟨(cross f e).x, (cross f e).y, (cross f e).z, 0⟩ : Quat K) =
      vmul f (2 * (dot f e * dot f e) - 1) := by
  have hl := len2_cross f e
  rw [hf, he, one_mul] at hl
  refine ⟨?_, ?_⟩
  · rw [← hl]; simp only [qlen2, len2, dot, sc_hadd, sc_hmul]; ring
  · rw [rotate_expand, imag_mk, hl, dot_cross_left]
    ext <;> simp only [vadd, vmul, sc_hadd, sc_hmul] <;> ring

/-- a unit quaternion `(a, 0)` with `a ⟂ f` turns `f` into `−f` -/
theorem pi_rotation (f a : V3 K) (ha : len2 a = 1) (hd : dot a f = 0) :
    qlen2 (⟨a.x, a.y, a.z, 0⟩ : Quat K) = 1 ∧
    rotate f (⟨a.x, a.y, a.z, 0⟩ : Quat K) = vmul f (-1) := by
  refine ⟨?_, ?_⟩
  · rw [← ha]; simp only [qlen2, len2, dot, sc_hadd, sc_hmul]; ring
  · rw [rotate_expand, imag_mk, ha, hd]
    ext <;> simp only [vadd, vmul, sc_hadd, sc_hmul] <;> ring

theorem antiparallel_of_sum_zero (f t : V3 K) (hf : len2 f = 1) (h : len2 (vadd f t) = 0) :
    t = vmul f (-1) ∧ dot f t < 0 := by
  obtain ⟨hx, hy, hz⟩ := len2_eq_zero h
  simp only [vadd, sc_hadd] at hx hy hz
  have e : t = vmul f (-1) := by
    ext <;> simp only [vmul, sc_hmul] <;> linarith
  refine ⟨e, ?_⟩
  have : dot f (vmul f (-1)) = -len2 f := by simp only [len2, dot, vmul, sc_hadd, sc_hmul]; ring
  rw [e, this, hf]; exact neg_one_lt_zero

theorem antiAsFound_spec (f : V3 K) (hf : len2 f = 1) :
    qlen2 (antiparallelAsFound f) = 1 - dot f (smallestAxis f) * dot f (smallestAxis f) ∧
    rotate f (antiparallelAsFound f) =
      vmul f (2 * (dot f (smallestAxis f) * dot f (smallestAxis f)) - 1) :=
  axis_quat f (smallestAxis f) hf (smallestAxis_unit f)

/-- the antiparallel branch **repaired** (axis normalised): unit, turns `f` into `−f` -/
theorem antiFixed_spec (hs : SqrtSpec K) (f : V3 K) (hf : len2 f = 1) :
    qlen2 (antiparallelFixed f) = 1 ∧ rotate f (antiparallelFixed f) = vmul f (-1) := by
  have hm := smallest_sq_le f hf
  have hc : len2 (cross f (smallestAxis f)) ≠ 0 := by
    rw [len2_cross, hf, smallestAxis_unit]
    intro h; linarith
  have ha := normalize_unit hs _ hc
  have hperp : dot (normalize (cross f (smallestAxis f))) f = 0 := by
    rw [dot_normalize_left, dot_cross_left, mul_zero]
  exact pi_rotation f _ ha hperp

/-- the antiparallel branch **as found**: for unit `f`, `t = −f`, with `m` the component of
    `f` of smallest absolute value:  |q|² = 1 − m²,  `rotate f q = (1 − 2m²) t`.
    It is a unit quaternion mapping `f ↦ t` iff `m = 0`. -/
theorem fromToUnit_asfound_anti (f t : V3 K) (hf : len2 f = 1)
    (h0 : len2 (vadd f t) = 0) :
    qlen2 (fromToUnit antiparallelAsFound f t) =
        1 - dot f (smallestAxis f) * dot f (smallestAxis f) ∧
    rotate f (fromToUnit antiparallelAsFound f t) =
        vmul t (1 - 2 * (dot f (smallestAxis f) * dot f (smallestAxis f))) := by
  obtain ⟨et, hd⟩ := antiparallel_of_sum_zero f t hf h0
  rw [fromToUnit_anti _ f t hd (normalize_zero _ h0)]
  obtain ⟨a, b⟩ := antiAsFound_spec f hf
  refine ⟨a, ?_⟩
  rw [b, et]
  ext <;> simp only [vmul, sc_hmul] <;> ring

/-- `from_to` on unit vectors, given that the antiparallel treatment is right for this pair -/
theorem fromToUnit_spec' (hs : SqrtSpec K) (anti : V3 K → Quat K) (f t : V3 K)
    (hf : len2 f = 1) (ht : len2 t = 1)
    (hanti : len2 (vadd f t) = 0 → qlen2 (anti f) = 1 ∧ rotate f (anti f) = t) :
    qlen2 (fromToUnit anti f t) = 1 ∧ rotate f (fromToUnit anti f t) = t := by
  by_cases h0 : len2 (vadd f t) = 0
  · obtain ⟨_, hd⟩ := antiparallel_of_sum_zero f t hf h0
    rw [fromToUnit_anti _ f t hd (normalize_zero _ h0)]
    exact hanti h0
  · exact fromToUnit_spec hs _ f t hf ht h0

/-- `reb_rotation_init_from_to` with the repair, on unit vectors: all branches -/
theorem fromToUnit_fixed_spec (hs : SqrtSpec K) (f t : V3 K) (hf : len2 f = 1) (ht : len2 t = 1) :
    qlen2 (fromToUnit antiparallelFixed f t) = 1 ∧ rotate f (fromToUnit antiparallelFixed f t) = t :=
  fromToUnit_spec' hs _ f t hf ht fun h0 => by
    rw [(antiparallel_of_sum_zero f t hf h0).1]; exact antiFixed_spec hs f hf


/-- Rodrigues' formula for the quaternion `(s a, c)`, `|a| = 1`, `s² + c² = 1`, in terms of the
    double-angle quantities `C = c² − s²`, `S = 2 s c` -/
theorem rodrigues (a v : V3 K) (s c : K) (ha : len2 a = 1) (htr : s * s + c * c = 1) :
    qlen2 (⟨s * a.x, s * a.y, s * a.z, c⟩ : Quat K) = 1 ∧
    rotate v (⟨s * a.x, s * a.y, s * a.z, c⟩ : Quat K) =
      vadd (vadd (vmul v (c * c - s * s)) (vmul (cross a v) (2 * s * c)))
        (vmul a ((1 - (c * c - s * s)) * dot a v)) := by
  obtain ⟨h1, h2, h3⟩ := vmul_left a v s
  rw [ha] at h1
  refine ⟨?_, ?_⟩
  · rw [← htr, ← mul_one (s * s), ← h1]; simp only [qlen2, len2, dot, vmul, sc_hadd, sc_hmul]; ring
  · rw [rotate_expand, show imag (⟨s * a.x, s * a.y, s * a.z, c⟩ : Quat K) = vmul a s from rfl, h1, h2, h3]
    ext <;> simp only [vadd, vmul, sc_hadd, sc_hmul]
    · linear_combination (-(v.x - a.x * dot a v)) * htr
    · linear_combination (-(v.y - a.y * dot a v)) * htr
    · linear_combination (-(v.z - a.z * dot a v)) * htr

theorem angleAxis_def (angle : K) (axis : V3 K) :
    angleAxis angle axis =
      ⟨RealFns.sin (angle / 2) * (normalize axis).x, RealFns.sin (angle / 2) * (normalize axis).y,
       RealFns.sin (angle / 2) * (normalize axis).z, RealFns.cos (angle / 2)⟩ := by
  simp only [angleAxis, vmul, two_eq, r_sin, r_cos, sc_hmul, sc_hdiv]

theorem len2_ez : len2 (ez : V3 K) = 1 := by simp [len2, dot, ez]
theorem len2_ex : len2 (ex : V3 K) = 1 := by simp [len2, dot, ex]

theorem normalize_ez (hs : SqrtSpec K) : normalize (ez : V3 K) = ez := normalize_of_unit hs _ len2_ez

theorem normalize_ex (hs : SqrtSpec K) : normalize (ex : V3 K) = ex := normalize_of_unit hs _ len2_ex

theorem rotZ (v : V3 K) (s c : K) (h : s * s + c * c = 1) :
    qlen2 (⟨0, 0, s, c⟩ : Quat K) = 1 ∧
    rotate v (⟨0, 0, s, c⟩ : Quat K) =
      ⟨(c * c - s * s) * v.x - 2 * s * c * v.y, 2 * s * c * v.x + (c * c - s * s) * v.y, v.z⟩ := by
  constructor
  · simp only [qlen2, sc_hadd, sc_hmul]; linear_combination h
  · ext <;> simp only [rotate_rows]
    · linear_combination (-v.x) * h
    · linear_combination (-v.y) * h
    · ring

theorem rotX (v : V3 K) (s c : K) (h : s * s + c * c = 1) :
    qlen2 (⟨s, 0, 0, c⟩ : Quat K) = 1 ∧
    rotate v (⟨s, 0, 0, c⟩ : Quat K) =
      ⟨v.x, (c * c - s * s) * v.y - 2 * s * c * v.z, 2 * s * c * v.y + (c * c - s * s) * v.z⟩ := by
  constructor
  · simp only [qlen2, sc_hadd, sc_hmul]; linear_combination h
  · ext <;> simp only [rotate_rows]
    · ring
    · linear_combination (-v.y) * h
    · linear_combination (-v.z) * h

theorem orbit_def (hs : SqrtSpec K) (Om inc om : K) :
    orbit Om inc om =
      qmul (⟨0, 0, RealFns.sin (Om / 2), RealFns.cos (Om / 2)⟩ : Quat K)
        (qmul (⟨RealFns.sin (inc / 2), 0, 0, RealFns.cos (inc / 2)⟩ : Quat K)
              (⟨0, 0, RealFns.sin (om / 2), RealFns.cos (om / 2)⟩ : Quat K)) := by
  simp only [orbit, angleAxis_def, normalize_ez hs, normalize_ex hs]
  simp [ez, ex]


/-! ### to_new_axes -/

theorem normalize_rotate (v : V3 K) (q : Quat K) (hq : qlen2 q = 1) :
    normalize (rotate v q) = rotate (normalize v) q := by
  rw [normalize_def, normalize_def, len2_rotate v q hq]
  have : (⟨1 / RealFns.sqrt (len2 v) * v.x, 1 / RealFns.sqrt (len2 v) * v.y,
      1 / RealFns.sqrt (len2 v) * v.z⟩ : V3 K) = vmul v (1 / RealFns.sqrt (len2 v)) := by
    ext <;> simp [vmul]
  rw [this, rotate_smul]
  ext <;> simp [vmul]

/-- the reduced quaternion `(f × h, f · h)` fixes every vector orthogonal to `f` and `h` -/
theorem redq_fixes (f h w : V3 K) (hfw : dot f w = 0) (hhw : dot h w = 0) :
    rotate w (redq f h) = w := by
  -- `(f × h) × w = (f·w) h − (h·w) f = 0`, and `rotate w q = w + (r t + u × t)` with `t = 2 (u × w)`
  have hc : cross (imag (redq f h)) w = ⟨0, 0, 0⟩ := by
    rw [show imag (redq f h) = cross f h from rfl, cross_cross, hfw, hhw]; ext <;> simp [vadd, vmul]
  simp only [rotate, hc]
  ext <;> simp [vadd, vmul, cross]

theorem dot_vadd_left (f t w : V3 K) : dot (vadd f t) w = dot f w + dot t w := by
  simp only [dot, vadd, sc_hadd, sc_hmul]; ring

theorem fromToReduced_fixes (f t w : V3 K) (hfw : dot f w = 0) (htw : dot t w = 0) :
    rotate w (fromToReduced f t) = w := by
  rw [fromToReduced_def]
  apply redq_fixes f _ w hfw
  rw [dot_normalize_left, dot_vadd_left, hfw, htw]; ring

/-- outside the antiparallel branch the from-to rotation fixes every vector orthogonal to both -/
theorem fromToUnit_fixes (hs : SqrtSpec K) (anti : V3 K → Quat K) (f t w : V3 K)
    (hf : len2 f = 1) (ht : len2 t = 1) (hne : len2 (vadd f t) ≠ 0)
    (hfw : dot f w = 0) (htw : dot t w = 0) :
    rotate w (fromToUnit anti f t) = w := by
  rcases le_or_gt 0 (dot f t) with hd | hd
  · rw [fromToUnit_acute anti f t hd]; exact fromToReduced_fixes f t w hfw htw
  · obtain ⟨e, ⟨a1, -⟩, ⟨b1, -⟩, -⟩ := fromToUnit_obtuse hs anti f t hf ht hne hd
    have hhw : dot (normalize (vadd f t)) w = 0 := by
      rw [dot_normalize_left, dot_vadd_left, hfw, htw]; ring
    rw [e, rotate_mul _ _ _ a1 b1, fromToReduced_fixes _ t w hhw htw, fromToReduced_fixes f _ w hfw hhw]

end Ordered
end RV.Rot
