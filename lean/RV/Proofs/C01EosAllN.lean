import RV.Model.Sched
import Mathlib.Algebra.Order.Field.Rat
import Mathlib.Tactic.Ring
import Mathlib.Tactic.FieldSimp
import Mathlib.Tactic.Linarith
/-
  C01 / EOS: the inner scheme for **every** number of sub-steps `n ≥ 1`.
  `innerSched pre head body merge tail post n` is the hand model of the `n`-loop of `reb_integrator_eos_drift_shell0`
  (`RV.C01.Eos.inner_loop_model` ties it to the source's unrolling for n = 1..4).  If merging two sub-steps is exact
  (`merge` carries the coefficients of `tail` followed by `head`) and the processors cancel, the drift / centre-of-mass /
  kick sums of the `n`-sub-step scheme equal those of a single sub-step, for all `n`.
-/
namespace RV.C01.EosAllN
open RV.C01

theorem foldl_add (l : List Rat) (a : Rat) : l.foldl (· + ·) a = a + l.foldl (· + ·) 0 := by
  induction l generalizing a with
  | nil => simp
  | cons x r ih => simp only [List.foldl_cons]; rw [ih (a + x), ih (0 + x)]; ring

theorem sumQ_append (a b : List Rat) : sumQ (a ++ b) = sumQ a + sumQ b := by
  unfold sumQ; rw [List.foldl_append, foldl_add]

theorem sumBy_append (p : Op → Bool) (f : Op → Rat) (a b : List Op) : sumBy p f (a ++ b) = sumBy p f a + sumBy p f b := by
  unfold sumBy; rw [List.filter_append, List.map_append, sumQ_append]

theorem sumBy_nil (p : Op → Bool) (f : Op → Rat) : sumBy p f [] = 0 := rfl

theorem sumBy_cons (p : Op → Bool) (f : Op → Rat) (o : Op) (r : List Op) :
    sumBy p f (o :: r) = (if p o then f o else 0) + sumBy p f r := by
  have : o :: r = [o] ++ r := rfl
  rw [this, sumBy_append]
  congr 1
  unfold sumBy sumQ
  by_cases h : p o = true <;> simp [h]

structure Scales (p : Op → Bool) (f : Op → Rat) : Prop where
  sel : ∀ (n : Nat) (o : Op), p (scaleOp n o) = p o
  val : ∀ (n : Nat) (o : Op), p o = true → f (scaleOp n o) = f o / (n : Rat)

theorem sumBy_scale (p : Op → Bool) (f : Op → Rat) (hs : Scales p f) (n : Nat) (l : List Op) :
    sumBy p f (l.map (scaleOp n)) = sumBy p f l / (n : Rat) := by
  induction l with
  | nil => simp [sumBy_nil]
  | cons o r ih =>
    rw [List.map_cons, sumBy_cons, sumBy_cons, ih, hs.sel]
    by_cases h : p o = true
    · simp only [h, if_true]; rw [hs.val n o h]; ring
    · simp only [h]; simp

theorem rep_sum (p : Op → Bool) (f : Op → Rat) (body merge : List Op) (k : Nat) :
    sumBy p f (innerRaw.rep body merge k) = (k : Rat) * (sumBy p f body + sumBy p f merge) := by
  induction k with
  | zero => simp [innerRaw.rep, sumBy_nil]
  | succ k ih =>
    rw [innerRaw.rep, sumBy_append, sumBy_append, ih]; push_cast; ring

theorem raw_sum (p : Op → Bool) (f : Op → Rat) (head body merge tail : List Op) (n : Nat) (hn : 1 ≤ n)
    (hm : sumBy p f merge = sumBy p f head + sumBy p f tail) :
    sumBy p f (innerRaw head body merge tail n) = (n : Rat) * (sumBy p f head + sumBy p f body + sumBy p f tail) := by
  match n, hn with
  | 1, _ => simp only [innerRaw, sumBy_append]; push_cast; ring
  | k + 2, _ =>
    simp only [innerRaw, sumBy_append, rep_sum, hm]; push_cast; ring

/-- **all n**: with exact merging and cancelling processors, the `n`-sub-step scheme has the sums of one sub-step -/
theorem inner_sum_all_n (p : Op → Bool) (f : Op → Rat) (hs : Scales p f) (pre head body merge tail post : List Op)
    (hm : sumBy p f merge = sumBy p f head + sumBy p f tail) (hp : sumBy p f pre + sumBy p f post = 0)
    (n : Nat) (hn : 1 ≤ n) :
    sumBy p f (innerSched pre head body merge tail post n) = sumBy p f (head ++ body ++ tail) := by
  unfold innerSched
  rw [sumBy_scale p f hs, sumBy_append, sumBy_append, raw_sum p f head body merge tail n hn hm, sumBy_append, sumBy_append]
  have hn' : (n : Rat) ≠ 0 := by
    have : (0 : Rat) < n := by exact_mod_cast hn
    exact ne_of_gt this
  field_simp
  linarith [hp]

theorem scales_drift : Scales (fun o => o.kind == 0) (·.a) where
  sel := by intro n o; unfold scaleOp; split <;> simp_all
  val := by intro n o h; unfold scaleOp; simp_all

theorem scales_com : Scales (fun o => o.kind == 0 && o.b == 1) (·.a) where
  sel := by
    intro n o; unfold scaleOp; split
    · simp_all
    · rename_i h
      have h0 : (o.kind == 0) = false := by simpa using h
      simp [h0]
  val := by
    intro n o h; unfold scaleOp
    have : (o.kind == 0) = true := by
      rw [Bool.and_eq_true] at h; exact h.1
    simp [this]

theorem scales_kick : Scales isKick (·.a) where
  sel := by
    intro n o; unfold scaleOp isKick; split
    · rename_i h; simp_all
    · rfl
  val := by
    intro n o h; unfold scaleOp
    have : ¬ ((o.kind == 0) = true) := by
      intro h0; unfold isKick at h; simp_all
    simp [this]

theorem inner_consistent_all_n (pre head body merge tail post : List Op)
    (hd : driftSum merge = driftSum head + driftSum tail) (hc : comSum merge = comSum head + comSum tail)
    (hk : kickSum merge = kickSum head + kickSum tail)
    (pd : driftSum pre + driftSum post = 0) (pc : comSum pre + comSum post = 0) (pk : kickSum pre + kickSum post = 0)
    (tol : Rat) (h1 : Consistent (head ++ body ++ tail) tol) (n : Nat) (hn : 1 ≤ n) :
    Consistent (innerSched pre head body merge tail post n) tol := by
  unfold Consistent at *
  have e1 := inner_sum_all_n _ _ scales_drift pre head body merge tail post hd pd n hn
  have e2 := inner_sum_all_n _ _ scales_com pre head body merge tail post hc pc n hn
  have e3 := inner_sum_all_n _ _ scales_kick pre head body merge tail post hk pk n hn
  unfold driftSum comSum kickSum at *
  rw [e1, e2, e3]; exact h1
end RV.C01.EosAllN
