import RV.Model.Sync
/-
  Lemmas for C09: soundness of the dataflow analysis, closed blocks, the interleaving argument.
-/
namespace RV.Sync
variable {T PJ X V A : Type}

theorem agree_denote (S : Sem T PJ X V A) (p : Prim) (L : Comps) (s s' : St PJ X V A)
    (h : agree L s s') : agree (transfer p L) (denote S p s) (denote S p s') := by
  -- a primitive either touches nothing, or overwrites components by functions of those it reads
  cases p <;> first
    | exact h
    | (obtain ⟨h1, h2, h3, h4, h5, h6⟩ := h
       simp only [transfer, denote, agree, Bool.and_eq_true]
       refine ⟨?_, ?_, ?_, ?_, ?_, ?_⟩ <;> first
         | assumption
         | (intro hh; simp only [h1, h2, h3, h4, h6, hh]))

theorem agree_exec (S : Sem T PJ X V A) (ps : List Prim) (L : Comps) (s s' : St PJ X V A)
    (h : agree L s s') : agree (transferList ps L) (exec S ps s) (exec S ps s') := by
  induction ps generalizing L s s' with
  | nil => exact h
  | cons p ps ih => exact ih _ _ _ (agree_denote S p L s s' h)

def Comps.le (L M : Comps) : Prop :=
  (L.pj = true → M.pj = true) ∧ (L.pos = true → M.pos = true) ∧ (L.vel = true → M.vel = true) ∧
  (L.acc = true → M.acc = true) ∧ (L.saved = true → M.saved = true) ∧ (L.tmp = true → M.tmp = true)

theorem Comps.le_refl (L : Comps) : L.le L := ⟨id, id, id, id, id, id⟩
theorem Comps.le_trans {L M N : Comps} (a : L.le M) (b : M.le N) : L.le N :=
  ⟨fun h => b.1 (a.1 h), fun h => b.2.1 (a.2.1 h), fun h => b.2.2.1 (a.2.2.1 h),
   fun h => b.2.2.2.1 (a.2.2.2.1 h), fun h => b.2.2.2.2.1 (a.2.2.2.2.1 h),
   fun h => b.2.2.2.2.2 (a.2.2.2.2.2 h)⟩

theorem agree_of_le {L M : Comps} (h : L.le M) {s s' : St PJ X V A} (a : agree M s s') :
    agree L s s' :=
  ⟨fun x => a.1 (h.1 x), fun x => a.2.1 (h.2.1 x), fun x => a.2.2.1 (h.2.2.1 x),
   fun x => a.2.2.2.1 (h.2.2.2.1 x), fun x => a.2.2.2.2.1 (h.2.2.2.2.1 x),
   fun x => a.2.2.2.2.2 (h.2.2.2.2.2 x)⟩

theorem transferList_append (a b : List Prim) (L : Comps) :
    transferList (a ++ b) L = transferList b (transferList a L) := by
  induction a generalizing L with
  | nil => rfl
  | cons p ps ih => exact ih _

/-- `Closed ps`: once the two runs agree on `pj`, running `ps` loses no agreement -/
def Closed (ps : List Prim) : Prop := ∀ L : Comps, L.pj = true → L.le (transferList ps L)

theorem Closed.pj {ps : List Prim} (h : Closed ps) {L : Comps} (hl : L.pj = true) :
    (transferList ps L).pj = true := (h L hl).1 hl

theorem closed_nil : Closed [] := fun L _ => L.le_refl

theorem closed_append {a b : List Prim} (ha : Closed a) (hb : Closed b) : Closed (a ++ b) := by
  intro L hl
  rw [transferList_append]
  exact Comps.le_trans (ha L hl) (hb _ (ha.pj hl))

/-- closedness of a block is a finite check: one inequality per set of components that contains
    `pj`; for a literal block `simp` evaluates it -/
theorem closed_of_forall {ps : List Prim}
    (h : ∀ pos vel acc saved tmp : Bool,
      Comps.le ⟨true, pos, vel, acc, saved, tmp⟩ (transferList ps ⟨true, pos, vel, acc, saved, tmp⟩)) :
    Closed ps := fun ⟨_, pos, vel, acc, saved, tmp⟩ hl => by
  cases hl; exact h pos vel acc saved tmp

theorem closed_init : Closed [.init] :=
  closed_of_forall fun _ _ _ _ _ => by simp [transferList, transfer, Comps.le]
theorem closed_warn : Closed [.warn] :=
  closed_of_forall fun _ _ _ _ _ => by simp [transferList, transfer, Comps.le]
theorem closed_drift (a b : Coef) : Closed [.kepler a, .com b] :=
  closed_of_forall fun _ _ _ _ _ => by simp [transferList, transfer, Comps.le]
theorem closed_kepler (a : Coef) : Closed [.kepler a] :=
  closed_of_forall fun _ _ _ _ _ => by simp [transferList, transfer, Comps.le]
theorem closed_toI : Closed [.toInertial] :=
  closed_of_forall fun _ _ _ _ _ => by simp [transferList, transfer, Comps.le]
theorem closed_advT (a : Coef) : Closed [.advT a] :=
  closed_of_forall fun _ _ _ _ _ => by simp [transferList, transfer, Comps.le]
theorem closed_jump_toI (a b : Coef) : Closed [.jump a, .toInertial, .advT b] :=
  closed_of_forall fun _ _ _ _ _ => by simp [transferList, transfer, Comps.le]

theorem closed_zOps (co : Coord) (ai : Nat) (am : Int) (bn : Nat) (bs : Int) :
    Closed (zOps co ai am bn bs) :=
  closed_of_forall fun _ _ _ _ _ => by cases co <;> simp [zOps, transferList, transfer, Comps.le]

theorem closed_zList (co : Coord) (inv : Int) (l : List (Nat × Int × Nat × Int)) :
    Closed (zList co inv l) := by
  induction l with
  | nil => exact closed_nil
  | cons x r ih =>
    obtain ⟨ai, as, bn, bs⟩ := x
    exact closed_append (closed_zOps _ _ _ _ _) ih

theorem closed_corrector (co : Coord) (order : Nat) (inv : Int) :
    Closed (correctorOps co order inv) := closed_zList _ _ _

theorem closed_opC (a b : Coef) : Closed (opC a b) :=
  closed_of_forall fun _ _ _ _ _ => by simp [opC, transferList, transfer, Comps.le]
theorem closed_opY (a b : Coef) : Closed (opY a b) := closed_append (closed_opC _ _) (closed_opC _ _)
theorem closed_opU (a b : Coef) : Closed (opU a b) :=
  closed_append (closed_append (closed_append (closed_kepler _) (closed_opY _ _)) (closed_opY _ _))
    (closed_kepler _)
theorem closed_opUinv (a b : Coef) : Closed (opUinv a b) :=
  closed_append (closed_append (closed_append (closed_kepler _) (closed_opY _ _)) (closed_opY _ _))
    (closed_kepler _)
theorem closed_corrector2 (fx : Bool) (inv : Int) : Closed (corrector2Ops fx inv) := by
  unfold corrector2Ops
  cases fx
  · exact closed_append (closed_opU _ _) (closed_opU _ _)
  · simp only [if_true]
    split
    · exact closed_append (closed_opU _ _) (closed_opU _ _)
    · exact closed_append (closed_opUinv _ _) (closed_opUinv _ _)

theorem closed_ite (b : Prop) [Decidable b] {p q : List Prim} (hp : Closed p) (hq : Closed q) :
    Closed (if b then p else q) := by split <;> assumption

/-- the kick is closed once positions and accelerations are agreed (they are: `to_inertial`
    and the acceleration update precede it) -/
theorem kick_le (k : Nat) (L : Comps) (h1 : L.pj = true) (h2 : L.pos = true) (h3 : L.acc = true) :
    L.le (transferList (kickOps k) L) := by
  obtain ⟨pj, pos, vel, acc, saved, tmp⟩ := L
  simp only at h1 h2 h3; subst h1 h2 h3
  match k with
  | 0 => simp [transferList, transfer, Comps.le, kickOps]
  | 1 => simp [transferList, transfer, Comps.le, kickOps]
  | 2 => simp [transferList, transfer, Comps.le, kickOps]
  | 3 => simp [transferList, transfer, Comps.le, kickOps]
  | _ + 4 => simp [transferList, Comps.le, kickOps]

theorem initF_idem (f : Flags) : initF (initF f) = initF f := by
  unfold initF; split <;> simp_all

theorem initF_allocated (f : Flags) : (initF f).allocated = true := by
  unfold initF; split <;> simp_all

theorem initF_isSync (f : Flags) : (initF f).isSync = f.isSync := by
  unfold initF; split <;> rfl

theorem initF_of_allocated {f : Flags} (h : f.allocated = true) : initF f = f := by
  unfold initF; simp [h]

theorem syncOps_initF (c : Config) (f : Flags) : syncOps c (initF f) = syncOps c f := by
  unfold syncOps; rw [initF_idem]

theorem part1Ops_initF (c : Config) (f : Flags) : part1Ops c (initF f) = part1Ops c f := by
  unfold part1Ops; rw [initF_idem]

theorem stepOps_initF (c : Config) (f : Flags) : stepOps c (initF f) = stepOps c f := by
  unfold stepOps; rw [part1Ops_initF]

/-- what `synchronize` does between saving and restoring `p_jh` -/
def syncMid (c : Config) : List Prim :=
  [.kepler (lastCoef c.kernel), .com (lastCoef c.kernel)] ++
  (if c.corrector2 then corrector2Ops c.c2fixed (-1) else []) ++
  (if c.corrector != 0 then correctorOps c.coord c.corrector (-1) else []) ++
  [.toInertial]

theorem closed_syncMid (c : Config) : Closed (syncMid c) :=
  closed_append (closed_append (closed_append (closed_drift _ _)
    (closed_ite _ (closed_corrector2 _ _) closed_nil))
    (closed_ite _ (closed_corrector _ _ _) closed_nil)) closed_toI

theorem syncOps_unsync (c : Config) (f : Flags) (h : (initF f).isSync = false) :
    syncOps c f = (.init :: ((if c.keep then [Prim.savePJ] else []) ++ syncMid c ++
      (if c.keep then [Prim.restorePJ] else [])),
      if c.keep then initF f else { initF f with isSync := true }) := by
  unfold syncOps syncMid
  simp [h]

theorem syncOps_sync (c : Config) (f : Flags) (h : (initF f).isSync = true) :
    syncOps c f = ([.init], initF f) := by
  unfold syncOps; simp [h]

theorem syncOps_nokeep_isSync (c : Config) (hk : c.keep = false) (f : Flags) :
    (syncOps c f).2.isSync = true := by
  cases hs : (initF f).isSync
  · rw [syncOps_unsync c f hs]; simp [hk]
  · rw [syncOps_sync c f hs]; exact hs

theorem syncOps_allocated (c : Config) (f : Flags) : (syncOps c f).2.allocated = true := by
  cases hs : (initF f).isSync
  · rw [syncOps_unsync c f hs]; split <;> exact initF_allocated f
  · rw [syncOps_sync c f hs]; exact initF_allocated f

theorem transferList_syncMid_posvel (c : Config) (L : Comps) (h : L.pj = true) :
    (transferList (syncMid c) L).pos = true ∧ (transferList (syncMid c) L).vel = true := by
  unfold syncMid
  rw [transferList_append]
  have hc : Closed ([Prim.kepler (lastCoef c.kernel), .com (lastCoef c.kernel)] ++
      (if c.corrector2 then corrector2Ops c.c2fixed (-1) else []) ++
      (if c.corrector != 0 then correctorOps c.coord c.corrector (-1) else [])) :=
    closed_append (closed_append (closed_drift _ _)
      (closed_ite _ (closed_corrector2 _ _) closed_nil))
      (closed_ite _ (closed_corrector _ _ _) closed_nil)
  have := hc.pj h
  simp only [transferList, transfer]
  exact ⟨this, this⟩

/-- a block between `savePJ` and `restorePJ` (or bare, `k = false`): if the block is closed, so is
    the whole, since the copy is taken from the agreed `pj` itself; positions and velocities the
    block regenerates stay regenerated -/
theorem transfer_cached {mid : List Prim} (hm : Closed mid)
    (hpv : ∀ L, L.pj = true → (transferList mid L).pos = true ∧ (transferList mid L).vel = true)
    (k : Bool) (L : Comps) (hl : L.pj = true) :
    let M := transferList ((if k then [Prim.savePJ] else []) ++ mid ++ (if k then [Prim.restorePJ] else [])) L
    L.le M ∧ M.pos = true ∧ M.vel = true := by
  cases k
  · simpa using ⟨hm L hl, hpv L hl⟩
  · intro M
    have e : M = { transferList mid { L with saved := L.pj } with
        pj := (transferList mid { L with saved := L.pj }).saved } := by
      simp only [M, if_true, transferList_append]; rfl
    obtain ⟨_, a2, a3, a4, a5, a6⟩ := hm { L with saved := L.pj } hl
    rw [e]
    exact ⟨⟨fun _ => a5 hl, a2, a3, a4, fun _ => a5 hl, a6⟩, hpv { L with saved := L.pj } hl⟩

theorem closed_syncOps (c : Config) (f : Flags) : Closed (syncOps c f).1 := by
  cases hs : (initF f).isSync
  · rw [syncOps_unsync c f hs]
    show Closed ([Prim.init] ++ _)
    exact closed_append closed_init fun L hl =>
      (transfer_cached (closed_syncMid c) (transferList_syncMid_posvel c) c.keep L hl).1
  · rw [syncOps_sync c f hs]; exact closed_init

theorem exec_append (S : Sem T PJ X V A) (a b : List Prim) (s : St PJ X V A) :
    exec S (a ++ b) s = exec S b (exec S a s) := by
  induction a generalizing s with
  | nil => rfl
  | cons p ps ih => exact ih _

/-- everything of a step after the drift: jump, to_inertial, acceleration update, kick -/
def stepTail (c : Config) : List Prim :=
  [.jump (.frac 1 2), .toInertial, .advT (.frac 1 2), .updateAcc] ++ kickOps c.kernel

theorem closed_stepTail (c : Config) : Closed (stepTail c) := by
  intro L hl
  unfold stepTail
  rw [transferList_append]
  have h1 : L.le (transferList [Prim.jump (.frac 1 2), .toInertial, .advT (.frac 1 2), .updateAcc] L) ∧
      (transferList [Prim.jump (.frac 1 2), .toInertial, .advT (.frac 1 2), .updateAcc] L).pj = true ∧
      (transferList [Prim.jump (.frac 1 2), .toInertial, .advT (.frac 1 2), .updateAcc] L).pos = true ∧
      (transferList [Prim.jump (.frac 1 2), .toInertial, .advT (.frac 1 2), .updateAcc] L).acc = true := by
    obtain ⟨pj, pos, vel, acc, saved, tmp⟩ := L
    simp only at hl; subst hl
    simp [transferList, transfer, Comps.le]
  exact Comps.le_trans h1.1 (kick_le _ _ h1.2.1 h1.2.2.1 h1.2.2.2)

/-- the drift of part1 -/
def driftOps (c : Config) (isSync : Bool) : List Prim :=
  if isSync then
    (if c.corrector != 0 then correctorOps c.coord c.corrector 1 else []) ++
    (if c.corrector2 then corrector2Ops c.c2fixed 1 else []) ++
    [.kepler (firstCoef c.kernel), .com (firstCoef c.kernel)]
  else [.kepler (.frac 1 1), .com (.frac 1 1)]

theorem closed_driftOps (c : Config) (b : Bool) : Closed (driftOps c b) := by
  unfold driftOps
  cases b
  · exact closed_drift _ _
  · exact closed_append (closed_append (closed_ite _ (closed_corrector _ _ _) closed_nil)
      (closed_ite _ (closed_corrector2 _ _) closed_nil)) (closed_drift _ _)

theorem stepOps_unsafe (c : Config) (hs : c.safe = false) (g : Flags) (hg : g.allocated = true) :
    stepOps c g =
      (if g.recalc then
          (if g.isSync then
             [.init, .fromInertial] ++ driftOps c true ++ stepTail c ++ [.advT (.frac 1 2)]
           else
             [.init] ++ (syncOps c g).1 ++ [.warn, .fromInertial] ++ driftOps c (c.p1fix || (syncOps c g).2.isSync) ++
               stepTail c ++ [.advT (.frac 1 2)])
        else [.init] ++ driftOps c g.isSync ++ stepTail c ++ [.advT (.frac 1 2)],
       { isSync := false, recalc := false, allocated := true }) := by
  obtain ⟨isSync, recalc, allocated⟩ := g
  simp only at hg; subst hg
  cases isSync <;> cases recalc <;>
    simp [stepOps, part1Ops, part2Ops, hs, initF, driftOps, stepTail, List.append_assoc]
  all_goals
    (cases hk : c.keep <;> cases c.p1fix <;> simp [syncOps, initF, hk])

theorem exec_saved (S : Sem T PJ X V A) : ∀ ps : List Prim, Prim.savePJ ∉ ps → ∀ s : St PJ X V A,
    (exec S ps s).saved = s.saved
  | [], _, _ => rfl
  | p :: ps, h, s => by
    rw [List.mem_cons, not_or] at h
    show (exec S ps (denote S p s)).saved = _
    rw [exec_saved S ps h.2]
    cases p <;> first | rfl | exact absurd rfl h.1

theorem savePJ_not_mem_zList (co : Coord) (inv : Int) (l : List (Nat × Int × Nat × Int)) :
    Prim.savePJ ∉ zList co inv l := by
  induction l with
  | nil => exact List.not_mem_nil
  | cons x r ih =>
    obtain ⟨ai, as, bn, bs⟩ := x
    cases co <;> simpa [zList, zOps] using ih

theorem savePJ_not_mem_opC (a b : Coef) : Prim.savePJ ∉ opC a b := by simp [opC]

theorem savePJ_not_mem_corrector2 (fx : Bool) (inv : Int) : Prim.savePJ ∉ corrector2Ops fx inv := by
  unfold corrector2Ops
  cases fx
  · simp [opU, opY, savePJ_not_mem_opC]
  · simp only [if_true]
    split <;> simp [opU, opUinv, opY, savePJ_not_mem_opC]

theorem savePJ_not_mem_syncMid (c : Config) : Prim.savePJ ∉ syncMid c := by
  unfold syncMid correctorOps
  simp only [List.mem_append, not_or]
  refine ⟨⟨⟨by simp, ?_⟩, ?_⟩, by simp⟩ <;> split <;>
    first | exact List.not_mem_nil | exact savePJ_not_mem_corrector2 _ _ | exact savePJ_not_mem_zList _ _ _

theorem exec_sync_keep_pj (S : Sem T PJ X V A) (c : Config) (hk : c.keep = true) (f : Flags)
    (s : St PJ X V A) : (exec S (syncOps c f).1 s).pj = s.pj := by
  cases hs : (initF f).isSync
  · rw [syncOps_unsync c f hs]
    simp only [hk, if_true]
    show (exec S ([Prim.init] ++ (([Prim.savePJ] ++ syncMid c) ++ [Prim.restorePJ])) s).pj = _
    rw [exec_append, exec_append, exec_append]
    simp only [exec, denote]
    rw [exec_saved S _ (savePJ_not_mem_syncMid c)]
  · rw [syncOps_sync c f hs]; rfl

theorem syncOps_keep_flags (c : Config) (hk : c.keep = true) (f : Flags) :
    (syncOps c f).2 = initF f := by
  cases hs : (initF f).isSync
  · rw [syncOps_unsync c f hs]; simp [hk]
  · rw [syncOps_sync c f hs]

/-- after an unsynchronised `synchronize` the two runs agree on positions and velocities as soon
    as they agreed on `pj` -/
theorem sync_unsync_posvel (c : Config) (f : Flags) (hs : (initF f).isSync = false) (L : Comps)
    (hl : L.pj = true) :
    (transferList (syncOps c f).1 L).pos = true ∧ (transferList (syncOps c f).1 L).vel = true := by
  rw [syncOps_unsync c f hs]
  exact (transfer_cached (closed_syncMid c) (transferList_syncMid_posvel c) c.keep L hl).2

/-! ### dataflow of a step in unsafe mode -/

theorem step_pj_determined (c : Config) (hs : c.safe = false) (g : Flags)
    (hg : g.allocated = true) :
    (transferList (stepOps c g).1 ⟨true, g.isSync, g.isSync, false, false, false⟩).pj = true := by
  rw [stepOps_unsafe c hs g hg]
  have tailc : ∀ b, Closed (driftOps c b ++ stepTail c ++ [Prim.advT (.frac 1 2)]) := fun b =>
    closed_append (closed_append (closed_driftOps c b) (closed_stepTail c)) (closed_advT _)
  cases hr : g.recalc <;> cases hi : g.isSync <;> simp only [if_true, if_false, Bool.false_eq_true]
  · have := (closed_append closed_init (tailc false)).pj (L := ⟨true, false, false, false, false, false⟩) rfl
    simpa [List.append_assoc] using this
  · have := (closed_append closed_init (tailc true)).pj (L := ⟨true, true, true, false, false, false⟩) rfl
    simpa [List.append_assoc] using this
  · -- recalculating while unsynchronised: synchronize first, then from_inertial
    have e : [Prim.init] ++ (syncOps c g).1 ++ [Prim.warn, Prim.fromInertial] ++
        driftOps c (c.p1fix || (syncOps c g).2.isSync) ++ stepTail c ++ [Prim.advT (.frac 1 2)] =
        ([Prim.init] ++ (syncOps c g).1) ++ ([Prim.warn, Prim.fromInertial] ++
        (driftOps c (c.p1fix || (syncOps c g).2.isSync) ++ stepTail c ++ [Prim.advT (.frac 1 2)])) := by
      simp [List.append_assoc]
    rw [e, transferList_append, transferList_append]
    have hs' : (initF g).isSync = false := by rw [initF_of_allocated hg]; exact hi
    have hc := closed_append closed_init (closed_syncOps c g)
    have h1 := hc.pj (L := ⟨true, false, false, false, false, false⟩) rfl
    have h2 : (transferList ([Prim.init] ++ (syncOps c g).1) ⟨true, false, false, false, false, false⟩).pos = true ∧
        (transferList ([Prim.init] ++ (syncOps c g).1) ⟨true, false, false, false, false, false⟩).vel = true := by
      rw [transferList_append]
      exact sync_unsync_posvel c g hs' _ rfl
    generalize transferList ([Prim.init] ++ (syncOps c g).1) ⟨true, false, false, false, false, false⟩ = M at *
    have h3 : (transferList [Prim.warn, Prim.fromInertial] M).pj = true := by
      simp [transferList, transfer, h1, h2.1, h2.2]
    exact (tailc _).pj h3
  · have e : [Prim.init, Prim.fromInertial] ++ driftOps c true ++ stepTail c ++ [Prim.advT (.frac 1 2)] =
        [Prim.init, Prim.fromInertial] ++ (driftOps c true ++ stepTail c ++ [Prim.advT (.frac 1 2)]) := by
      simp [List.append_assoc]
    rw [e, transferList_append]
    exact (tailc true).pj (by simp [transferList, transfer])

/-- A run over `σ` against the run of another machine over the operations of `σ` that `keep` keeps:
    if every kept operation maps related states to related states and every dropped one leaves
    the first state related to the second, the final states are related.  `runf`, `rung` are any
    functions with the two equations of a run (found by `rfl`). -/
theorem run_filter_sim {O α β : Type} {R : α → β → Prop} {P : O → Prop} {keep : O → Bool}
    (f : O → α → α) (g : O → β → β) {runf : List O → α → α} {rung : List O → β → β}
    (hstep : ∀ o x y, P o → R x y → R (f o x) (if keep o then g o y else y))
    (σ : List O) (hσ : ∀ o ∈ σ, P o) (x : α) (y : β) (h : R x y)
    (hf0 : ∀ x, runf [] x = x := by intros; rfl)
    (hf1 : ∀ o os x, runf (o :: os) x = runf os (f o x) := by intros; rfl)
    (hg0 : ∀ y, rung [] y = y := by intros; rfl)
    (hg1 : ∀ o os y, rung (o :: os) y = rung os (g o y) := by intros; rfl) :
    R (runf σ x) (rung (σ.filter keep) y) := by
  induction σ generalizing x y with
  | nil => rw [hf0, List.filter_nil, hg0]; exact h
  | cons o os ih =>
    have h' := hstep o x y (hσ o List.mem_cons_self) h
    rw [hf1, List.filter_cons]
    cases hk : keep o <;> simp only [hk, if_true, if_false, Bool.false_eq_true] at h' ⊢
    · exact ih (fun o ho => hσ o (List.mem_cons_of_mem _ ho)) _ _ h'
    · rw [hg1]
      exact ih (fun o ho => hσ o (List.mem_cons_of_mem _ ho)) _ _ h'

/-- two (flags, state) pairs that no subsequent step can tell apart (keep_unsynchronized) -/
def Rel (x y : Flags × St PJ X V A) : Prop :=
  initF x.1 = initF y.1 ∧ x.2.pj = y.2.pj ∧
  ((initF x.1).isSync = true → x.2.pos = y.2.pos ∧ x.2.vel = y.2.vel)

theorem Rel.refl (x : Flags × St PJ X V A) : Rel x x := ⟨rfl, rfl, fun _ => ⟨rfl, rfl⟩⟩
theorem Rel.symm {x y : Flags × St PJ X V A} (h : Rel x y) : Rel y x :=
  ⟨h.1.symm, h.2.1.symm, fun hs => by
    have := h.2.2 (by rw [h.1]; exact hs)
    exact ⟨this.1.symm, this.2.symm⟩⟩
theorem Rel.trans {x y z : Flags × St PJ X V A} (a : Rel x y) (b : Rel y z) : Rel x z :=
  ⟨a.1.trans b.1, a.2.1.trans b.2.1, fun hs => by
    have h1 := a.2.2 hs
    have h2 := b.2.2 (by rw [← a.1]; exact hs)
    exact ⟨h1.1.trans h2.1, h1.2.trans h2.2⟩⟩

theorem apply_step (S : Sem T PJ X V A) (c : Config) (x : Flags × St PJ X V A) :
    apply S c .step x = ((stepOps c x.1).2, exec S (stepOps c x.1).1 x.2) := rfl
theorem apply_sync (S : Sem T PJ X V A) (c : Config) (x : Flags × St PJ X V A) :
    apply S c .synchronize x = ((syncOps c x.1).2, exec S (syncOps c x.1).1 x.2) := rfl
theorem apply_read (S : Sem T PJ X V A) (c : Config) (x : Flags × St PJ X V A) :
    apply S c .read x = x := rfl

theorem agree_pj {s s' : St PJ X V A} (h : s.pj = s'.pj) :
    agree ⟨true, false, false, false, false, false⟩ s s' :=
  ⟨fun _ => h, fun hh => (by cases hh), fun hh => (by cases hh), fun hh => (by cases hh),
   fun hh => (by cases hh), fun hh => (by cases hh)⟩

theorem agree_pj_posvel {s s' : St PJ X V A} (b : Bool) (h : s.pj = s'.pj)
    (h2 : b = true → s.pos = s'.pos ∧ s.vel = s'.vel) :
    agree ⟨true, b, b, false, false, false⟩ s s' :=
  ⟨fun _ => h, fun hh => (h2 hh).1, fun hh => (h2 hh).2, fun hh => (by cases hh),
   fun hh => (by cases hh), fun hh => (by cases hh)⟩

theorem rel_step (S : Sem T PJ X V A) (c : Config) (hs : c.safe = false)
    {x y : Flags × St PJ X V A} (h : Rel x y) : Rel (apply S c .step x) (apply S c .step y) := by
  obtain ⟨h1, h2, h3⟩ := h
  rw [apply_step, apply_step, ← stepOps_initF c x.1, ← stepOps_initF c y.1, ← h1]
  have hg := initF_allocated x.1
  generalize initF x.1 = g at *
  have hd := step_pj_determined c hs g hg
  have ha : agree ⟨true, g.isSync, g.isSync, false, false, false⟩ x.2 y.2 :=
    agree_pj_posvel _ h2 h3
  have := agree_exec S (stepOps c g).1 _ _ _ ha
  refine ⟨rfl, this.1 hd, ?_⟩
  rw [stepOps_unsafe c hs g hg]
  simp [initF]

theorem rel_sync (S : Sem T PJ X V A) (c : Config) (hk : c.keep = true)
    (x : Flags × St PJ X V A) : Rel x (apply S c .synchronize x) := by
  rw [apply_sync]
  refine ⟨?_, ?_, ?_⟩
  · simp only [syncOps_keep_flags c hk, initF_idem]
  · exact (exec_sync_keep_pj S c hk x.1 x.2).symm
  · intro hh
    simp only [syncOps_sync c x.1 hh]
    exact ⟨rfl, rfl⟩

theorem rel_sync_obs (S : Sem T PJ X V A) (c : Config) {x y : Flags × St PJ X V A} (h : Rel x y) :
    (apply S c .synchronize x).1 = (apply S c .synchronize y).1 ∧
    (apply S c .synchronize x).2.pj = (apply S c .synchronize y).2.pj ∧
    (apply S c .synchronize x).2.pos = (apply S c .synchronize y).2.pos ∧
    (apply S c .synchronize x).2.vel = (apply S c .synchronize y).2.vel := by
  rw [apply_sync, apply_sync, ← syncOps_initF c x.1, ← syncOps_initF c y.1, ← h.1]
  cases hs : (initF x.1).isSync
  · have ha : agree ⟨true, false, false, false, false, false⟩ x.2 y.2 := agree_pj h.2.1
    have := agree_exec S (syncOps c (initF x.1)).1 _ _ _ ha
    have hs' : (initF (initF x.1)).isSync = false := by rw [initF_idem]; exact hs
    have hpv := sync_unsync_posvel c (initF x.1) hs' ⟨true, false, false, false, false, false⟩ rfl
    have hpj := (closed_syncOps c (initF x.1)).pj (L := ⟨true, false, false, false, false, false⟩) rfl
    exact ⟨rfl, this.1 hpj, this.2.1 hpv.1, this.2.2.1 hpv.2⟩
  · have hs' : (initF (initF x.1)).isSync = true := by rw [initF_idem]; exact hs
    rw [syncOps_sync c _ hs']
    have := h.2.2 hs
    exact ⟨rfl, h.2.1, this.1, this.2⟩

theorem rel_run (S : Sem T PJ X V A) (c : Config) (hk : c.keep = true) (hs : c.safe = false)
    (σ : List (Op (X × V))) (hσ : ∀ o ∈ σ, o.benign = true) (x y : Flags × St PJ X V A)
    (h : Rel x y) : Rel (run S c σ x) (run S c (σ.filter Op.isStep) y) :=
  run_filter_sim (apply S c) (apply S c) (fun o x y ho h => by
    cases o with
    | step => exact rel_step S c hs h
    | synchronize => exact (rel_sync S c hk x).symm.trans h
    | read => exact h
    | setRecalc | poke _ => cases ho) σ hσ x y h

theorem initF_setRecalc (f : Flags) :
    initF { f with recalc := true } = { initF f with recalc := true } := by
  unfold initF; split <;> simp_all

theorem rel_setRecalc (S : Sem T PJ X V A) (c : Config) {x y : Flags × St PJ X V A} (h : Rel x y) :
    Rel (apply S c .setRecalc x) (apply S c .setRecalc y) := by
  obtain ⟨h1, h2, h3⟩ := h
  refine ⟨?_, h2, ?_⟩
  · show initF { x.1 with recalc := true } = initF { y.1 with recalc := true }
    rw [initF_setRecalc, initF_setRecalc, h1]
  · intro hs
    have : (initF x.1).isSync = true := by
      have e : (initF { x.1 with recalc := true }).isSync = (initF x.1).isSync := by
        rw [initF_setRecalc]
      exact e ▸ hs
    exact h3 this

theorem rel_poke (S : Sem T PJ X V A) (c : Config) (v : X × V) {x y : Flags × St PJ X V A}
    (h : Rel x y) : Rel (apply S c (.poke v) x) (apply S c (.poke v) y) :=
  ⟨h.1, h.2.1, fun _ => ⟨rfl, rfl⟩⟩

theorem rel_run_all (S : Sem T PJ X V A) (c : Config) (hk : c.keep = true) (hs : c.safe = false)
    (σ : List (Op (X × V))) (x y : Flags × St PJ X V A) (h : Rel x y) :
    Rel (run S c σ x) (run S c (σ.filter Op.isKept) y) :=
  run_filter_sim (P := fun _ => True) (apply S c) (apply S c) (fun o x y _ h => by
    cases o with
    | step => exact rel_step S c hs h
    | synchronize => exact (rel_sync S c hk x).symm.trans h
    | read => exact h
    | setRecalc => exact rel_setRecalc S c h
    | poke v => exact rel_poke S c v h) σ (fun _ _ => trivial) x y h

end RV.Sync
