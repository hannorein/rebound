import RV.Proofs.WHSteps
/-
  Democratic heliocentric coordinates (WHFast `coordinates = democraticheliocentric`, also the frame
  of MERCURIUS/TRACE): slot 0 = (R, V) centre of mass, slot i ≥ 1 = (Q_i, W_i) = (x_i − x_0, v_i − V).
      L = M R×V + Σ_{i≥1} m_i Q_i × W_i ,     P = M V
  and what the jump step, the interaction step, the Kepler step and the com step do to them.
-/
namespace RV.WH
open RV RV.Diag
variable {K : Type} [Field K]

def Mtot (N : Nat) (m : Nat → K) : K := ∑ i ∈ Finset.range N, m i
def Rcom (N : Nat) (m : Nat → K) (x : Nat → V3 K) : V3 K := (1 / Mtot N m) • ∑ i ∈ Finset.range N, m i • x i

structure DS (K : Type) where
  R : V3 K
  V : V3 K
  Q : Nat → V3 K
  W : Nat → V3 K

def LD (N : Nat) (m : Nat → K) (s : DS K) : V3 K :=
  Mtot N m • V3.cross s.R s.V + ∑ i ∈ Finset.Ico 1 N, m i • V3.cross (s.Q i) (s.W i)
def PD (N : Nat) (m : Nat → K) (s : DS K) : V3 K := Mtot N m • s.V

/-- `reb_whfast_jump_step` (DH): `p_h[i].x += dt * (Σ_k m_k p_h[k].v)/m0` for every `i ≥ 1` -/
def jumpDH (N : Nat) (m : Nat → K) (τ : K) (s : DS K) : DS K :=
  { s with Q := fun i => s.Q i + (τ / m 0) • ∑ k ∈ Finset.Ico 1 N, m k • s.W k }

theorem LD_add_Q (N : Nat) (m : Nat → K) (s : DS K) (q : Nat → V3 K) :
    LD N m { s with Q := fun i => s.Q i + q i } = LD N m s + ∑ i ∈ Finset.Ico 1 N, m i • V3.cross (q i) (s.W i) := by
  dsimp only [LD]
  rw [add_assoc, ← Finset.sum_add_distrib]
  exact congrArg _ (Finset.sum_congr rfl fun i _ => by rw [V3.add_cross, smul_add])

theorem LD_add_W (N : Nat) (m : Nat → K) (s : DS K) (w : Nat → V3 K) :
    LD N m { s with W := fun i => s.W i + w i } = LD N m s + ∑ i ∈ Finset.Ico 1 N, m i • V3.cross (s.Q i) (w i) := by
  dsimp only [LD]
  rw [add_assoc, ← Finset.sum_add_distrib]
  exact congrArg _ (Finset.sum_congr rfl fun i _ => by rw [V3.cross_add, smul_add])

theorem jump_conserves (N : Nat) (m : Nat → K) (τ : K) (s : DS K) :
    LD N m (jumpDH N m τ s) = LD N m s ∧ PD N m (jumpDH N m τ s) = PD N m s ∧
    (jumpDH N m τ s).R = s.R ∧ (jumpDH N m τ s).V = s.V := by
  refine ⟨?_, rfl, rfl, rfl⟩
  -- the common displacement is parallel to `p = Σ m_k W_k`:  Σ m_i (c p) × W_i = c p × p = 0
  have e : ∀ i ∈ Finset.Ico 1 N, m i • V3.cross ((τ / m 0) • ∑ k ∈ Finset.Ico 1 N, m k • s.W k) (s.W i)
      = (τ / m 0) • V3.cross (∑ k ∈ Finset.Ico 1 N, m k • s.W k) (m i • s.W i) := fun i _ => by
    rw [V3.smul_cross, V3.cross_smul, smul_comm]
  rw [jumpDH, LD_add_Q, Finset.sum_congr rfl e, ← Finset.smul_sum, ← V3.cross_sum, V3.cross_self, smul_zero, add_zero]

/-- `reb_whfast_interaction_step` (DH): `p_h[i].v += dt * a_i`, `i ≥ 1` -/
def kickDH (τ : K) (a : Nat → V3 K) (s : DS K) : DS K := { s with W := fun i => s.W i + τ • a i }

/-- the DH interaction step conserves L and P when the planet–planet forces (evaluated at the inertial
    positions `x`, with `Q_i = x_i − x_0`) obey Newton 3 and carry no torque, and the star feels none
    of them (`gravity_ignore_terms = 2`) -/
theorem kickDH_conserves (N : Nat) (hN : 1 ≤ N) (m : Nat → K) (τ : K) (x a : Nat → V3 K) (s : DS K)
    (hQ : ∀ i, s.Q i = x i - x 0) (ha0 : a 0 = 0)
    (h3 : ∑ i ∈ Finset.range N, m i • a i = 0)
    (ht : ∑ i ∈ Finset.range N, m i • V3.cross (x i) (a i) = 0) :
    LD N m (kickDH τ a s) = LD N m s ∧ PD N m (kickDH τ a s) = PD N m s ∧
    (∑ i ∈ Finset.Ico 1 N, m i • (kickDH τ a s).W i) = ∑ i ∈ Finset.Ico 1 N, m i • s.W i := by
  have h3' : ∑ i ∈ Finset.Ico 1 N, m i • a i = 0 := by
    rw [range_split N hN, ha0, smul_zero, zero_add] at h3; exact h3
  have ht' : ∑ i ∈ Finset.Ico 1 N, m i • V3.cross (x i) (a i) = 0 := by
    rw [range_split N hN, ha0, V3.cross_zero, smul_zero, zero_add] at ht; exact ht
  refine ⟨?_, rfl, ?_⟩
  · have e : ∀ i ∈ Finset.Ico 1 N, m i • V3.cross (s.Q i) (τ • a i)
        = τ • (m i • V3.cross (x i) (a i) - V3.cross (x 0) (m i • a i)) := fun i _ => by
      rw [hQ i, V3.cross_smul, V3.sub_cross, V3.cross_smul, smul_comm, smul_sub]
    rw [kickDH, LD_add_W, Finset.sum_congr rfl e, ← Finset.smul_sum, Finset.sum_sub_distrib, ht', ← V3.cross_sum, h3',
      V3.cross_zero, sub_zero, smul_zero, add_zero]
  · simp only [kickDH, smul_add, Finset.sum_add_distrib]
    rw [show ∑ i ∈ Finset.Ico 1 N, m i • τ • a i = τ • ∑ i ∈ Finset.Ico 1 N, m i • a i by
      rw [Finset.smul_sum]; apply Finset.sum_congr rfl; intro i _; rw [smul_comm], h3']
    simp

/-! Kepler step (each `(Q_i, W_i)` keeps its own `Q×W`) and com step in DH coordinates -/
theorem keplerDH_conserves (N : Nat) (m : Nat → K) (s s' : DS K) (hR : s'.R = s.R) (hV : s'.V = s.V)
    (h : ∀ i, 1 ≤ i → i < N → V3.cross (s'.Q i) (s'.W i) = V3.cross (s.Q i) (s.W i)) :
    LD N m s' = LD N m s ∧ PD N m s' = PD N m s := by
  refine ⟨?_, by simp [PD, hV]⟩
  unfold LD
  rw [hR, hV]
  congr 1
  apply Finset.sum_congr rfl
  intro i hi
  have := Finset.mem_Ico.mp hi
  rw [h i this.1 this.2]

theorem comDH_conserves (N : Nat) (m : Nat → K) (τ : K) (s : DS K) :
    LD N m { s with R := s.R + τ • s.V } = LD N m s ∧ PD N m { s with R := s.R + τ • s.V } = PD N m s := by
  refine ⟨?_, rfl⟩
  unfold LD
  simp only
  rw [V3.add_cross, V3.smul_cross, V3.cross_self]; simp

end RV.WH
