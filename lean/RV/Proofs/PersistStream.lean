import RV.Proofs.PersistRow
/-
  Whole-table theorems: decode ∘ encode = restore, and re-saving reproduces the stream.
-/
namespace RV.Persist

variable {psz : Nat} {sp : Special} {tbl : List Desc}

theorem applyAll_flatMap (s : Sim) (ds : List Desc) (cur : Sim) (w : List Warning)
    (h : ∀ d ∈ ds, lookup tbl d.id = some d ∧ WFd psz s d) :
    applyAll psz sp tbl (cur, w) (ds.flatMap (encodeField psz s)) = (ds.foldl (writeS psz s) cur, w) := by
  induction ds generalizing cur with
  | nil => rfl
  | cons d r ih =>
    rw [List.flatMap_cons, applyAll_append, apply_encodeField s cur w d (h d (by simp)).1 (h d (by simp)).2]
    rw [List.foldl_cons]
    exact ih _ (fun x hx => h x (List.mem_cons_of_mem _ hx))

theorem encodeField_shape (psz : Nat) (s : Sim) (d : Desc) :
    encodeField psz s d = [] ∨ ∃ p, encodeField psz s d = [(d.id, p)] := by
  rcases rowKind psz d.dtype with ⟨sz, hs⟩ | hd | hd | hd | hd
  · exact .inr ⟨_, encodeField_simple s d sz hs⟩
  · rw [encodeField_pointer s d hd]; split <;> simp
  · rw [encodeField_fixed s d hd]; split <;> simp
  · rw [encodeField_dp7 s d hd]; split <;> simp
  · exact .inl (encodeField_none s d hd)

theorem encodeField_id (s : Sim) (d : Desc) : ∀ f ∈ encodeField psz s d, f.1 = d.id := by
  intro f hf
  rcases encodeField_shape psz s d with h | ⟨p, h⟩ <;> rw [h] at hf
  · cases hf
  · rw [List.mem_singleton.mp hf]

theorem flatMap_ids (s : Sim) (ds : List Desc) :
    ∀ f ∈ ds.flatMap (encodeField psz s), ∃ d ∈ ds, f.1 = d.id := by
  intro f hf
  rw [List.mem_flatMap] at hf
  obtain ⟨d, hd, hfd⟩ := hf
  exact ⟨d, hd, encodeField_id s d f hfd⟩

theorem lookup_some_mem (id : Nat) (d : Desc) (h : lookup tbl id = some d) : d ∈ live tbl ∧ d.id = id :=
  ⟨List.mem_of_find?_eq_some h, by simpa using List.find?_some h⟩

theorem apply_fp (ok : TableOK psz sp tbl) (cur : Sim) (w : List Warning) (fp : Bool) :
    applyField psz sp tbl (cur, w) (sp.fpIdWritten, encLE 4 (if fp then 1 else 0)) =
      (cur, if fp then w ++ [.pointers] else w) := by
  have hv : ∀ n, n < 256 → leNat ((encLE 4 n).take 4) = n := fun n hn => by
    rw [List.take_of_length_le (encLE_length 4 _).le, leNat_encLE]; omega
  unfold applyField
  cases hl : lookup tbl sp.fpIdWritten with
  | none => cases fp <;> simp [ok.fpNotLegacy, ok.fpEq, hv]
  | some d =>
    obtain ⟨hm, hid⟩ := lookup_some_mem _ d hl
    cases fp <;> simp [ok.fpRow d hm (hid.trans ok.fpEq), simpleSize, ok.fpNotLegacy, ok.fpEq, hv]

/-- **decode ∘ encode**, for every table with unique ids and every well-formed simulation:
    the reader ends with the source's value at every location some live row persists, the initial value
    elsewhere, and the only possible warning is the function-pointer reminder. -/
theorem decode_encode (ok : TableOK psz sp tbl) (s init : Sim) (fp : Bool) (hwf : WF psz tbl s) :
    decodeFields psz sp tbl (init, []) (encode psz sp tbl s fp) =
      (restore psz tbl init s, if fp then [.pointers] else []) := by
  unfold encode
  rw [decodeFields_append]
  · rw [applyAll_flatMap s (live tbl) init []
      (fun d hd => ⟨lookup_of_mem tbl ok.nodup d hd, hwf d hd⟩)]
    have hfpne : sp.fpIdWritten ≠ sp.endId := by rw [ok.fpEq]; exact ok.fpNotEnd
    simp only [decodeFields, hfpne, if_false, if_true]
    rw [apply_fp ok]
    rw [foldl_writeS]
    simp [restore]
  · intro f hf
    obtain ⟨d, hd, hid⟩ := flatMap_ids s (live tbl) f hf
    rw [hid]
    exact ok.endFresh d hd

/-- the simulation agrees with `init` wherever no live row persists anything: it is its own persisted
    projection over a fresh simulation -/
def Persisted (psz : Nat) (tbl : List Desc) (init s : Sim) : Prop :=
  (∀ m, (live tbl).any (fun d => memWritten psz s d m) = false → s.mem m = init.mem m) ∧
  (∀ m, (live tbl).any (fun d => heapWritten psz s d m) = false → s.heap m = init.heap m)

theorem restore_eq_self (init s : Sim) (h : Persisted psz tbl init s) : restore psz tbl init s = s := by
  apply Sim.ext' <;> intro m <;> simp only [restore] <;> split <;> rename_i hw
  · rfl
  · exact (h.1 m (Bool.eq_false_iff.mpr hw)).symm
  · rfl
  · exact (h.2 m (Bool.eq_false_iff.mpr hw)).symm

/-- a fresh simulation has no array allocated: every counter of a persisted array is 0 and the
    fixed-size pointers are NULL -/
def InitEmpty (tbl : List Desc) (init : Sim) : Prop :=
  ∀ d ∈ live tbl,
    ((d.dtype = .pointer ∨ d.dtype = .pointerAligned ∨ d.dtype = .dp7) → fieldSize init d = 0) ∧
    (d.dtype = .pointerFixed → init.heap d.mem = none)

theorem restore_mem_cases (init s : Sim) (m : Nat) :
    (restore psz tbl init s).mem m = s.mem m ∨ (restore psz tbl init s).mem m = init.mem m := by
  simp only [restore]
  split
  · left; rfl
  · right; rfl

theorem restore_heap_cases (init s : Sim) (m : Nat) :
    (restore psz tbl init s).heap m = s.heap m ∨ (restore psz tbl init s).heap m = init.heap m := by
  simp only [restore]
  split
  · left; rfl
  · right; rfl

theorem restore_mem_written (init s : Sim) (d : Desc) (hd : d ∈ live tbl) (m : Nat)
    (h : memWritten psz s d m = true) : (restore psz tbl init s).mem m = s.mem m := by
  simp only [restore]
  rw [if_pos]
  exact List.any_eq_true.mpr ⟨d, hd, h⟩

theorem restore_heap_written (init s : Sim) (d : Desc) (hd : d ∈ live tbl) (m : Nat)
    (h : heapWritten psz s d m = true) : (restore psz tbl init s).heap m = s.heap m := by
  simp only [restore]
  rw [if_pos]
  exact List.any_eq_true.mpr ⟨d, hd, h⟩

theorem fieldSize_congr (a b : Sim) (d : Desc) (h : a.mem d.nMem = b.mem d.nMem) :
    fieldSize a d = fieldSize b d := by
  simp [fieldSize, counter, h]

theorem heapBytes_congr (a b : Sim) (m : Nat) (h : a.heap m = b.heap m) : heapBytes a m = heapBytes b m := by
  simp [heapBytes, h]

/-- what the writer emits for a row depends only on the locations that rows of its kind read -/
theorem encodeField_congr (a b : Sim) (d : Desc)
    (hm : ∀ sz, simpleSize psz d.dtype = some sz → a.mem d.mem = b.mem d.mem)
    (hn : d.dtype = .pointer ∨ d.dtype = .pointerAligned ∨ d.dtype = .dp7 → a.mem d.nMem = b.mem d.nMem)
    (hh : d.dtype = .pointer ∨ d.dtype = .pointerAligned ∨ d.dtype = .pointerFixed → a.heap d.mem = b.heap d.mem)
    (h7 : d.dtype = .dp7 → ∀ k, k < 7 → a.heap (d.mem + k) = b.heap (d.mem + k)) :
    encodeField psz a d = encodeField psz b d := by
  rcases rowKind psz d.dtype with ⟨sz, hs⟩ | hd | hd | hd | hd
  · rw [encodeField_simple _ d sz hs, encodeField_simple _ d sz hs, hm sz hs]
  · rw [encodeField_pointer _ d hd, encodeField_pointer _ d hd, fieldSize_congr a b d (hn (hd.imp_right .inl)),
      heapBytes_congr a b _ (hh (hd.imp_right .inl))]
  · rw [encodeField_fixed _ d hd, encodeField_fixed _ d hd, hh (.inr (.inr hd))]
  · have h0 : a.heap d.mem = b.heap d.mem := h7 hd 0 (by omega)
    rw [encodeField_dp7 _ d hd, encodeField_dp7 _ d hd, fieldSize_congr a b d (hn (.inr (.inr hd))), dp7Payload, dp7Payload,
      heapBytes_congr _ _ _ h0, heapBytes_congr _ _ _ (h7 hd 1 (by omega)), heapBytes_congr _ _ _ (h7 hd 2 (by omega)),
      heapBytes_congr _ _ _ (h7 hd 3 (by omega)), heapBytes_congr _ _ _ (h7 hd 4 (by omega)),
      heapBytes_congr _ _ _ (h7 hd 5 (by omega)), heapBytes_congr _ _ _ (h7 hd 6 (by omega))]
  · rw [encodeField_none _ d hd, encodeField_none _ d hd]

theorem encodeField_zero (x : Sim) (d : Desc) (hd : d.dtype = .pointer ∨ d.dtype = .pointerAligned ∨ d.dtype = .dp7)
    (hz : fieldSize x d = 0) : encodeField psz x d = [] := by
  rcases hd with h | h | h
  · rw [encodeField_pointer x d (.inl h), if_pos hz]
  · rw [encodeField_pointer x d (.inr h), if_pos hz]
  · rw [encodeField_dp7 x d h, if_pos hz]

/-- the writer emits the same field for the restored simulation as for the source, row by row: an array without
    content is empty in the fresh simulation too; every other row reads only what the reader has written -/
theorem encodeField_restore (init s : Sim) (hie : InitEmpty tbl init) (d : Desc) (hd : d ∈ live tbl) :
    encodeField psz (restore psz tbl init s) d = encodeField psz s d := by
  by_cases hz : (d.dtype = .pointer ∨ d.dtype = .pointerAligned ∨ d.dtype = .dp7) ∧ fieldSize s d = 0
  · have hr : fieldSize (restore psz tbl init s) d = 0 := by
      rcases restore_mem_cases (psz := psz) (tbl := tbl) init s d.nMem with h | h <;> rw [fieldSize_congr _ _ d h]
      · exact hz.2
      · exact (hie d hd).1 hz.1
    rw [encodeField_zero _ d hz.1 hr, encodeField_zero _ d hz.1 hz.2]
  · have hnz : (d.dtype = .pointer ∨ d.dtype = .pointerAligned ∨ d.dtype = .dp7) → fieldSize s d ≠ 0 :=
      fun hk h => hz ⟨hk, h⟩
    apply encodeField_congr
    · exact fun sz hs => restore_mem_written init s d hd _ (by simp [memWritten, hs])
    · intro hk
      have hne := hnz hk
      exact restore_mem_written init s d hd _ (by rcases hk with h | h | h <;> simp [memWritten, h, simpleSize, hne])
    · rintro (h | h | h)
      · exact restore_heap_written init s d hd _ (by simp [heapWritten, h, simpleSize, hnz (.inl h)])
      · exact restore_heap_written init s d hd _ (by simp [heapWritten, h, simpleSize, hnz (.inr (.inl h))])
      · cases hh : s.heap d.mem with
        | some b => rw [restore_heap_written init s d hd _ (by simp [heapWritten, h, simpleSize, hh]), hh]
        | none =>
          rcases restore_heap_cases (psz := psz) (tbl := tbl) init s d.mem with e | e <;> rw [e]
          · exact hh
          · exact (hie d hd).2 h
    · intro h k hk
      apply restore_heap_written init s d hd
      simp [heapWritten, h, simpleSize, hnz (.inr (.inr h))]
      omega

theorem encode_restore (init s : Sim) (fp : Bool) (hie : InitEmpty tbl init) :
    encode psz sp tbl (restore psz tbl init s) fp = encode psz sp tbl s fp := by
  unfold encode
  rw [List.flatMap_congr (encodeField_restore init s hie)]

end RV.Persist
