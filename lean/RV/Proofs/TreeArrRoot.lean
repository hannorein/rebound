import RV.Proofs.TreeArrUpdate
import Mathlib.Tactic.Positivity
/-
  Root boxes: a particle inside the closed simulation box gets a root index that exists and whose root cell
  contains it (`axis_root`, `idx_decomp`, `root_contains`), which discharges the root-index hypothesis of `updateA_spec`.
-/
namespace RV.C15
open RV RV.Tree RV.Boundary RV.TreeArr

variable {K : Type} [Field K] [LinearOrder K] [IsStrictOrderedRing K]

/-- one axis: a coordinate inside the closed box (faces included) gets a root index `< n` whose root cell contains it -/
theorem axis_root (floor : K → Int) (hfl : ∀ x : K, (floor x : K) ≤ x ∧ x < (floor x : K) + 1)
    (rs : K) (hrs : 0 < rs) (n : Nat) (hn : 0 < n) (x : K)
    (h1 : -(boxLen rs n) / 2 ≤ x) (h2 : x ≤ boxLen rs n / 2) :
    axisIdx floor x (boxLen rs n) rs n < n ∧
    |x - axisCentre (boxLen rs n) rs (axisIdx floor x (boxLen rs n) rs n)| ≤ rs / 2 := by
  simp only [boxLen, sc_hmul, sc_ofNat] at h1 h2
  simp only [axisIdx, axisCentre, boxLen, sc_hmul, sc_hadd, sc_hdiv, sc_ofNat, sc_neg, sc_one, Nat.cast_ofNat]
  set y := (x + rs * (n : K) / 2) / rs with hy
  have hxy : x = rs * y - rs * (n : K) / 2 := by
    rw [hy]; field_simp; ring
  have hy0 : 0 ≤ y := by
    rw [hy]; apply div_nonneg _ (le_of_lt hrs); linarith
  have hyn : y ≤ n := by
    rw [hy, div_le_iff₀ hrs]; linarith
  obtain ⟨f1, f2⟩ := hfl y
  have hf0 : (0 : Int) ≤ floor y := by
    by_contra hneg
    have : floor y ≤ -1 := by omega
    have : (floor y : K) ≤ -1 := by exact_mod_cast this
    linarith
  unfold clampIdx
  have hnl : ¬ floor y < 0 := by omega
  simp only [hnl, if_false]
  by_cases hge : floor y ≥ (n : Int)
  · simp only [hge, if_true]
    have hfn : (n : K) ≤ (floor y : K) := by exact_mod_cast hge
    have hyeq : y = n := le_antisymm hyn (le_trans hfn f1)
    have hn1 : ((n - 1 : Nat) : K) = (n : K) - 1 := by
      rw [Nat.cast_sub (by omega)]; simp
    refine ⟨by omega, ?_⟩
    rw [hn1, hxy, hyeq, abs_le]
    constructor <;> linarith
  · simp only [hge, if_false]
    have hlt : floor y < (n : Int) := by omega
    have hcast : ((floor y).toNat : K) = (floor y : K) := by
      have : ((floor y).toNat : Int) = floor y := Int.toNat_of_nonneg hf0
      exact_mod_cast this
    refine ⟨by omega, ?_⟩
    have ha := mul_nonneg hrs.le (sub_nonneg.mpr f1)
    have hb := mul_nonneg hrs.le (sub_nonneg.mpr f2.le)
    rw [hcast, hxy, abs_le]
    constructor <;> linarith


theorem idx_decomp (nx ny nz i j k : Nat) (hi : i < nx) (hj : j < ny) (hk : k < nz) :
    ((k * ny + j) * nx + i) % nx = i ∧ (((k * ny + j) * nx + i) / nx) % ny = j ∧
    ((k * ny + j) * nx + i) / (nx * ny) = k ∧ (k * ny + j) * nx + i < nx * ny * nz := by
  have hnx : 0 < nx := by omega
  have hny : 0 < ny := by omega
  have h1 : ((k * ny + j) * nx + i) % nx = i := by
    rw [Nat.add_comm, Nat.add_mul_mod_self_right, Nat.mod_eq_of_lt hi]
  have h2 : ((k * ny + j) * nx + i) / nx = k * ny + j := by
    rw [Nat.add_comm, Nat.add_mul_div_right _ _ hnx, Nat.div_eq_of_lt hi, Nat.zero_add]
  have h3 : (k * ny + j) % ny = j := by
    rw [Nat.add_comm, Nat.add_mul_mod_self_right, Nat.mod_eq_of_lt hj]
  have h4 : (k * ny + j) / ny = k := by
    rw [Nat.add_comm, Nat.add_mul_div_right _ _ hny, Nat.div_eq_of_lt hj, Nat.zero_add]
  refine ⟨h1, by rw [h2, h3], by rw [← Nat.div_div_eq_div_mul, h2, h4], ?_⟩
  calc (k * ny + j) * nx + i < (k * ny + j) * nx + nx := by omega
    _ = (k * ny + j + 1) * nx := by ring
    _ ≤ (k * ny + ny) * nx := Nat.mul_le_mul_right _ (by omega)
    _ = (k + 1) * ny * nx := by ring
    _ ≤ nz * ny * nx := Nat.mul_le_mul_right _ (Nat.mul_le_mul_right _ (by omega))
    _ = nx * ny * nz := by ring

/-- the six comparisons of `reb_boundary_particle_is_in_box` on a tree particle -/
def inBoxPt (rs : K) (nx ny nz : Nat) (p : Pt K) : Bool :=
  !(outside (boxLen rs nx) (boxLen rs ny) (boxLen rs nz) ⟨p.x, p.y, p.z, 0⟩)

/-- forest level: every particle inside the closed simulation box (faces included) is assigned a root box that
    exists and whose root cell contains it -/
theorem root_contains (floor : K → Int) (hfl : ∀ x : K, (floor x : K) ≤ x ∧ x < (floor x : K) + 1)
    (rs : K) (hrs : 0 < rs) (nx ny nz : Nat) (hx : 0 < nx) (hy : 0 < ny) (hz : 0 < nz) (p : Pt K)
    (hin : inBoxPt rs nx ny nz p = true) :
    rootIdx floor rs nx ny nz p < nx * ny * nz ∧
    In p (rootCellOf rs nx ny nz (rootIdx floor rs nx ny nz p)) := by
  simp only [inBoxPt, outside, Bool.not_eq_true', Bool.or_eq_false_iff, so_lt_false, half_eq, nhalf_eq, not_lt] at hin
  obtain ⟨⟨⟨⟨⟨a1, a2⟩, b1⟩, b2⟩, c1⟩, c2⟩ := hin
  obtain ⟨i1, i2⟩ := axis_root floor hfl rs hrs nx hx p.x a2 a1
  obtain ⟨j1, j2⟩ := axis_root floor hfl rs hrs ny hy p.y b2 b1
  obtain ⟨k1, k2⟩ := axis_root floor hfl rs hrs nz hz p.z c2 c1
  obtain ⟨d1, d2, d3, d4⟩ := idx_decomp nx ny nz _ _ _ i1 j1 k1
  refine ⟨d4, ?_⟩
  simp only [rootIdx, rootCellOf, In, d1, d2, d3]
  exact ⟨i2, j2, k2⟩


end RV.C15
