import RV.Proofs.CollisionPrune
import RV.Proofs.TreeUpdate
/-
  What the completeness of the TREE / LINETREE collision walks (RV/Props/C13.lean) needs besides
  the pruning geometry: the particle array as the oct-tree of C15 sees it (`RV.Tree`,
  `RV.C15.WF`), the bound on a cell's points, `vmax2`, and `reb_collision_update_max_radius`.
-/
set_option linter.unusedSectionVars false
namespace RV.Collision
open RV RV.Tree RV.C15
variable {K : Type} [Field K] [LinearOrder K] [IsStrictOrderedRing K]

/-- the particle array as the tree code sees it (position and mass) -/
def psT (P : Nat → Part K) : Nat → Pt K := fun q => ⟨(P q).x, (P q).y, (P q).z, (P q).m⟩

/-- a point of a cell lies within `(k+ε)·w` of its centre when `k+ε ≥ √3/2` -/
theorem sq_le_of_In {p : Pt K} {c : Cell K} (h : In p c) (k ε : K) (hkε : 3 ≤ 4 * (k + ε)^2) :
    (p.x - c.x)^2 + (p.y - c.y)^2 + (p.z - c.z)^2 ≤ (k*c.w + ε*c.w)^2 := by
  have hx := sq_le_sq' (neg_le_of_abs_le h.1) (le_of_abs_le h.1)
  have hy := sq_le_sq' (neg_le_of_abs_le h.2.1) (le_of_abs_le h.2.1)
  have hz := sq_le_sq' (neg_le_of_abs_le h.2.2) (le_of_abs_le h.2.2)
  have hw := mul_le_mul_of_nonneg_left hkε (sq_nonneg c.w)
  have e : (k*c.w + ε*c.w)^2 = c.w^2 * (k + ε)^2 := by ring
  rw [e]
  linarith

theorem cmax_eq_max (a b : K) : cmax a b = max a b := by
  unfold cmax
  simp only [gt_iff', decide_eq_true_eq]
  split
  · rename_i h; exact (max_eq_left h.le).symm
  · rename_i h; exact (max_eq_right (not_lt.mp h)).symm

theorem le_cmax (a b : K) : a ≤ cmax a b ∧ b ≤ cmax a b :=
  cmax_eq_max a b ▸ ⟨le_max_left a b, le_max_right a b⟩

theorem foldl_max_ge (f : Nat → K) : ∀ (l : List Nat) (init : K),
    init ≤ l.foldl (fun a i => cmax a (f i)) init ∧
    ∀ q ∈ l, f q ≤ l.foldl (fun a i => cmax a (f i)) init := by
  intro l
  induction l with
  | nil => intro init; simp
  | cons x r ih =>
    intro init
    obtain ⟨h1, h2⟩ := ih (cmax init (f x))
    exact ⟨(le_cmax _ _).1.trans h1, List.forall_mem_cons.mpr ⟨(le_cmax _ _).2.trans h1, h2⟩⟩

theorem vmax2_ge (P : Nat → Part K) (n q : Nat) (hq : q < n) :
    (P q).vx^2 + (P q).vy^2 + (P q).vz^2 ≤ vmax2 P n ∧ 0 ≤ vmax2 P n := by
  obtain ⟨h1, h2⟩ := foldl_max_ge
    (fun i => (P i).vx*(P i).vx + (P i).vy*(P i).vy + (P i).vz*(P i).vz) (List.range n) (0 : K)
  simp only [sq]
  exact ⟨h2 q (List.mem_range.mpr hq), h1⟩

/-! ### `reb_collision_update_max_radius` -/

/-- at most one entry of `l` exceeds `m`: of two entries at different positions one is `≤ m` -/
def AtMostOneAbove (m : K) (l : List K) : Prop := l.Pairwise fun a b => a ≤ m ∨ b ≤ m

theorem AtMostOneAbove.mono {m m' : K} {l : List K} (h : AtMostOneAbove m l) (hm : m ≤ m') :
    AtMostOneAbove m' l :=
  h.imp (Or.imp (le_trans · hm) (le_trans · hm))

theorem AtMostOneAbove.snoc {m m' r : K} {l : List K} (h : AtMostOneAbove m l) (hm : m ≤ m')
    (hr : r ≤ m') : AtMostOneAbove m' (l ++ [r]) :=
  List.pairwise_append.mpr ⟨h.mono hm, List.pairwise_singleton _ _,
    fun _ _ _ hb => .inr (List.mem_singleton.mp hb ▸ hr)⟩

theorem AtMostOneAbove.snoc_of_le {m r : K} {l : List K} (h : ∀ x ∈ l, x ≤ m) :
    AtMostOneAbove m (l ++ [r]) :=
  List.pairwise_append.mpr ⟨List.pairwise_of_forall_mem_list fun a ha _ _ => .inl (h a ha),
    List.pairwise_singleton _ _, fun a ha _ _ => .inl (h a ha)⟩

/-- loop invariant of the scan: everything seen is ≤ `m0` and at most one entry seen
    exceeds `m1` -/
theorem scanMaxRadius_spec : ∀ (rest seen : List K) (m : K × K),
    (∀ x ∈ seen, x ≤ m.1) → AtMostOneAbove m.2 seen →
    (∀ x ∈ seen ++ rest, x ≤ (scanMaxRadius m rest).1) ∧
    AtMostOneAbove (scanMaxRadius m rest).2 (seen ++ rest) := by
  intro rest
  induction rest with
  | nil => intro seen m h1 h2; simpa [scanMaxRadius] using ⟨h1, h2⟩
  | cons r rest ih =>
    intro seen ⟨m0, m1⟩ h1 h2
    rw [List.append_cons]
    unfold scanMaxRadius
    simp only [sco_le, decide_eq_true_eq]
    split_ifs with ha hb
    · exact ih _ _ (List.forall_mem_append.mpr ⟨fun x hx => (h1 x hx).trans ha, by simp⟩)
        (.snoc_of_le h1)
    · exact ih _ _ (List.forall_mem_append.mpr ⟨h1, by simpa using (not_le.mp ha).le⟩)
        (h2.snoc hb le_rfl)
    · exact ih _ _ (List.forall_mem_append.mpr ⟨h1, by simpa using (not_le.mp ha).le⟩)
        (h2.snoc le_rfl (not_le.mp hb).le)

/-- after `reb_collision_update_max_radius`: every radius ≤ max_radius0, at most one radius
    exceeds max_radius1, and the stored values did not decrease -/
theorem updateMaxRadius_spec (old0 old1 : K) (radii : List K) :
    (∀ x ∈ radii, x ≤ (updateMaxRadius old0 old1 radii).1) ∧
    AtMostOneAbove (updateMaxRadius old0 old1 radii).2 radii ∧
    old0 ≤ (updateMaxRadius old0 old1 radii).1 ∧ old1 ≤ (updateMaxRadius old0 old1 radii).2 := by
  obtain ⟨a, c⟩ := scanMaxRadius_spec radii [] ((0 : K), (0 : K)) (by simp) List.Pairwise.nil
  exact ⟨fun x hx => (a x hx).trans (le_cmax _ _).2,
    c.mono (le_cmax _ _).2,
    (le_cmax _ _).1, (le_cmax _ _).1⟩

/-- of two different particles at least one has radius `≤ max_radius1` after
    `reb_collision_update_max_radius`: hypothesis H of the walks holds from one end of every pair -/
theorem maxRadius1_pair (old0 old1 : K) (P : Nat → Part K) {n i j : Nat} (hi : i < n) (hj : j < n)
    (hij : i ≠ j) :
    (P i).r ≤ (updateMaxRadius old0 old1 ((List.range n).map fun q => (P q).r)).2 ∨
    (P j).r ≤ (updateMaxRadius old0 old1 ((List.range n).map fun q => (P q).r)).2 := by
  have hp := List.pairwise_iff_getElem.mp
    (updateMaxRadius_spec old0 old1 ((List.range n).map fun q => (P q).r)).2.1
  have hlen : ((List.range n).map fun q => (P q).r).length = n := by simp
  rcases Nat.lt_or_gt_of_ne hij with h | h
  · have := hp i j (by rw [hlen]; exact hi) (by rw [hlen]; exact hj) h
    simpa using this
  · have := hp j i (by rw [hlen]; exact hj) (by rw [hlen]; exact hi) h
    simpa using this.symm

end RV.Collision
