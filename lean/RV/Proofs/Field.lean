import RV.Scalar
import Mathlib.Algebra.Field.Basic
import Mathlib.Tactic.FieldSimp
import Mathlib.Tactic.Ring
import Mathlib.Tactic.LinearCombination
/-
  The exact-arithmetic instance of the operation-only scalar class: any field is a
  `Scalar`.  All theorems in RV/Props that say "in exact arithmetic" are about the very
  same model definitions that the drivers run on `Float`, instantiated here.
-/
namespace RV
variable {K : Type} [Field K]

instance fieldScalar : Scalar K where
  zero := 0
  one := 1
  add := (· + ·)
  sub := (· - ·)
  mul := (· * ·)
  div := (· / ·)
  neg := (- ·)
  ofNat := fun n => (n : K)

@[simp] theorem sc_zero : (Scalar.zero : K) = 0 := rfl
@[simp] theorem sc_one : (Scalar.one : K) = 1 := rfl
@[simp] theorem sc_add (a b : K) : Scalar.add a b = a + b := rfl
@[simp] theorem sc_sub (a b : K) : Scalar.sub a b = a - b := rfl
@[simp] theorem sc_mul (a b : K) : Scalar.mul a b = a * b := rfl
@[simp] theorem sc_div (a b : K) : Scalar.div a b = a / b := rfl
@[simp] theorem sc_neg (a : K) : Scalar.neg a = -a := rfl
@[simp] theorem sc_ofNat (n : Nat) : (Scalar.ofNat n : K) = (n : K) := rfl
/- `Scalar.instAdd` and its like give `K` a second `+`, `-`, `*`, `/`, `-` (definitionally the field's own); terms that come out of
   the models carry those instances, and `ring`, `field_simp`, `rw` with hypotheses stated in the field's notation do not
   look through them: these lemmas move such terms to the field's instances. -/
@[simp] theorem sc_hadd (a b : K) : @HAdd.hAdd K K K (@instHAdd K Scalar.instAdd) a b = a + b := rfl
@[simp] theorem sc_hsub (a b : K) : @HSub.hSub K K K (@instHSub K Scalar.instSub) a b = a - b := rfl
@[simp] theorem sc_hmul (a b : K) : @HMul.hMul K K K (@instHMul K Scalar.instMul) a b = a * b := rfl
@[simp] theorem sc_hdiv (a b : K) : @HDiv.hDiv K K K (@instHDiv K Scalar.instDiv) a b = a / b := rfl
@[simp] theorem sc_hneg (a : K) : @Neg.neg K Scalar.instNeg a = -a := rfl

end RV
