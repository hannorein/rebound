import RV.Proofs.GravityTree
/-
  Monopole data of the tree cells (tree.c:217-283): after one pass of
  `reb_simulation_update_tree_gravity_data_in_cell`, the mass of every cell is the sum of the
  CURRENT masses (read from the particle array) of the particles in its leaves, and
  mass × centre of mass is the sum of their current mass × position.
-/
namespace RV.Gravity
open RV
variable {K : Type} [Field K]

/-- mass the particle array holds NOW for the particle of a leaf (the cached leaf value only for a dangling index) -/
def massNow (ps : Array (Body K)) (l : Leaf K) : K :=
  match ps[l.pt]? with
  | some p => p.m
  | none => l.m
def posNow (ps : Array (Body K)) (l : Leaf K) : V3 K :=
  match ps[l.pt]? with
  | some p => p.p
  | none => l.pos

theorem accumKids_eq : ∀ (ks : List (Cell K)) (m : K) (s : V3 K),
    accumKids m s ks = (m + (ks.map cellM).sum, s + (ks.map fun d => cellM d • cellCom d).sum)
  | [], m, s => by simp [accumKids]
  | d :: r, m, s => by
    simp only [accumKids, sc_hadd, sc_hmul]
    rw [accumKids_eq r]
    simp only [List.map_cons, List.sum_cons, Prod.mk.injEq]
    refine ⟨by ring, ?_⟩
    ext <;> simp <;> ring

mutual
/-- every non-leaf cell of the refreshed tree has passed the `m_tot > 0` test -/
def nodesPos (gt0 : K → Bool) : Cell K → Prop
  | .leaf _ _ _ _ => True
  | .node _ m _ kids => gt0 m = true ∧ nodesPosL gt0 kids
def nodesPosL (gt0 : K → Bool) : List (Cell K) → Prop
  | [] => True
  | c :: cs => nodesPos gt0 c ∧ nodesPosL gt0 cs
end

mutual
theorem refresh_leaves (gt0 : K → Bool) (ps : Array (Body K)) :
    ∀ c : Cell K, (leaves (refreshCell gt0 ps c)).map (fun l => (l.pt, l.remote))
      = (leaves c).map (fun l => (l.pt, l.remote))
  | .leaf p r m com => by
    simp only [refreshCell]
    cases ps[p]? <;> simp [leaves]
  | .node w m com kids => by
    simp only [refreshCell]
    split <;> simp only [leaves] <;> exact refreshL_leaves gt0 ps kids
theorem refreshL_leaves (gt0 : K → Bool) (ps : Array (Body K)) :
    ∀ cs : List (Cell K), (leavesL (refreshCells gt0 ps cs)).map (fun l => (l.pt, l.remote))
      = (leavesL cs).map (fun l => (l.pt, l.remote))
  | [] => by simp [refreshCells, leavesL]
  | c :: cs => by
    simp only [refreshCells, leavesL, List.map_append]
    rw [refresh_leaves gt0 ps c, refreshL_leaves gt0 ps cs]
end

mutual
theorem refresh_mass (gt0 : K → Bool) (ps : Array (Body K)) :
    ∀ c : Cell K, cellM (refreshCell gt0 ps c) = ((leaves c).map (massNow ps)).sum
  | .leaf p r m com => by
    simp only [refreshCell, leaves, List.map_cons, List.map_nil, List.sum_cons, List.sum_nil,
      add_zero, massNow]
    cases ps[p]? <;> simp [cellM]
  | .node w m com kids => by
    simp only [refreshCell, leaves, accumKids_eq, sc_zero, zero_add]
    have := refreshL_mass gt0 ps kids
    split <;> simp only [cellM] <;> exact this
theorem refreshL_mass (gt0 : K → Bool) (ps : Array (Body K)) :
    ∀ cs : List (Cell K), ((refreshCells gt0 ps cs).map cellM).sum = ((leavesL cs).map (massNow ps)).sum
  | [] => by simp [refreshCells, leavesL]
  | c :: cs => by
    simp only [refreshCells, leavesL, List.map_cons, List.sum_cons, List.map_append, List.sum_append]
    rw [refresh_mass gt0 ps c, refreshL_mass gt0 ps cs]
end

mutual
theorem refresh_moment (gt0 : K → Bool) (hgt : ∀ m, gt0 m = true → m ≠ 0) (ps : Array (Body K)) :
    ∀ c : Cell K, nodesPos gt0 (refreshCell gt0 ps c) →
      cellM (refreshCell gt0 ps c) • cellCom (refreshCell gt0 ps c)
        = ((leaves c).map fun l => massNow ps l • posNow ps l).sum
  | .leaf p r m com, _ => by
    simp only [refreshCell, leaves, List.map_cons, List.map_nil, List.sum_cons, List.sum_nil,
      add_zero, massNow, posNow]
    cases ps[p]? <;> simp [cellM, cellCom]
  | .node w m com kids, h => by
    simp only [refreshCell, accumKids_eq, sc_zero, zero_add, V3.model_zero, sc_hdiv] at h ⊢
    split at h
    · rename_i hpos
      simp only [nodesPos] at h
      have hne := hgt _ hpos
      rw [if_pos hpos]
      simp only [leaves]
      rw [← refreshL_moment gt0 hgt ps kids h.2]
      generalize ((refreshCells gt0 ps kids).map fun d => cellM d • cellCom d).sum = S
      generalize ((refreshCells gt0 ps kids).map cellM).sum = M at hne
      show M • (⟨S.x / M, S.y / M, S.z / M⟩ : V3 K) = S
      ext <;> simp <;> field_simp
    · rename_i hneg
      simp only [nodesPos] at h
      exact absurd h.1 hneg
theorem refreshL_moment (gt0 : K → Bool) (hgt : ∀ m, gt0 m = true → m ≠ 0) (ps : Array (Body K)) :
    ∀ cs : List (Cell K), nodesPosL gt0 (refreshCells gt0 ps cs) →
      ((refreshCells gt0 ps cs).map fun d => cellM d • cellCom d).sum
        = ((leavesL cs).map fun l => massNow ps l • posNow ps l).sum
  | [], _ => by simp [refreshCells, leavesL]
  | c :: cs, h => by
    simp only [refreshCells, nodesPosL] at h
    simp only [refreshCells, leavesL, List.map_cons, List.sum_cons, List.map_append, List.sum_append]
    rw [refresh_moment gt0 hgt ps c h.1, refreshL_moment gt0 hgt ps cs h.2]
end

end RV.Gravity
