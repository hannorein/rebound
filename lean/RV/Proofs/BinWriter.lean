/-
  The writer `reb_simulation_save_to_file`: its recovery decision (`recoverOf`: scan of the first blob,
  corruption test, repair walk) on a file that begins with a well-formed first snapshot, and the bytes it writes
  once that decision ends at the last intact trailer (`appendPlan_of_recover`).  On a well-formed archive nothing
  is found corrupt and the write is exactly `pendingData`, hence `appends` builds the archive of a history.
-/
import RV.Proofs.BinFirst
import RV.Proofs.BinRaw
namespace RV.Bin

theorem scanFirst_enc (fs : List Field) (X : Bytes) (h : WFs fs) (fuel pos : Nat) (fld : Bytes)
    (hf : fs.length < fuel) :
    scanFirst fuel pos (encFs fs ++ (endBytes ++ X)) fld = (pos + blobLen fs, true, endBytes) := by
  induction fs generalizing fuel pos fld with
  | nil =>
    cases fuel with
    | zero => omega
    | succ n =>
      simp only [encFs, List.nil_append, scanFirst, readHdr_end, if_true, blobLen, List.length_nil]
      have : (endBytes ++ X).take 16 = endBytes := by
        rw [List.take_append_of_le_length (by simp)]; exact List.take_of_length_le (by simp)
      rw [this]
  | cons f fs ih =>
    cases fuel with
    | zero => omega
    | succ n =>
      obtain ⟨hw, hws⟩ := WFs_cons.mp h
      have hl : fs.length < n := by simp at hf; omega
      simp only [encFs, List.append_assoc, scanFirst]
      rw [readHdr_encF f _ hw]
      simp only [hw.ty_ne_end, if_false, hw.size_eq, List.drop_left]
      rw [ih hws n _ _ hl, blobLen_cons]
      have : pos + 16 + f.data.length + blobLen fs = pos + (16 + f.data.length + blobLen fs) := by omega
      rw [this]

theorem firstFile_eq (hdr : Bytes) (fs0 : List Field) (Z : Bytes) :
    firstFile hdr fs0 Z = (hdr ++ (encFs fs0 ++ endBytes)) ++ Z := by simp [firstFile]

theorem first_length {hdr : Bytes} (hh : HdrOK hdr) (fs0 : List Field) :
    (hdr ++ (encFs fs0 ++ endBytes)).length = 64 + blobLen fs0 := by simp [blobLen, hh.len]

theorem firstFile_take {hdr : Bytes} (hh : HdrOK hdr) (fs0 : List Field) (Z : Bytes) :
    (firstFile hdr fs0 Z).take (64 + blobLen fs0) = hdr ++ (encFs fs0 ++ endBytes) := by
  rw [firstFile_eq, ← first_length hh, List.take_left]

theorem firstFile_drop {hdr : Bytes} (hh : HdrOK hdr) (fs0 : List Field) (Z : Bytes) :
    (firstFile hdr fs0 Z).drop (64 + blobLen fs0) = Z := by
  rw [firstFile_eq, ← first_length hh, List.drop_left]

/-- the scan of the first blob (simulationarchive.c:484-492) finds its END marker -/
theorem scanFirst_first {hdr : Bytes} (hh : HdrOK hdr) {fs0 : List Field} (h0 : WFs fs0) (Z : Bytes) :
    scanFirst ((firstFile hdr fs0 Z).length + 1) 64 ((firstFile hdr fs0 Z).drop 64) (List.replicate 16 0)
      = (64 + blobLen fs0, true, endBytes) := by
  have hl0 := encFs_length_ge fs0
  have hdrop : (firstFile hdr fs0 Z).drop 64 = encFs fs0 ++ (endBytes ++ Z) := by
    rw [firstFile, ← hh.len]; exact List.drop_left
  rw [hdrop]
  exact scanFirst_enc fs0 _ h0 _ 64 _ (by simp [firstFile]; omega)

/-- the recovery decision on such a file: `size_old` is the end of the first blob, `Z` (what follows it) begins
    with the first trailer; the rest is the corruption test and, if it fires, the repair walk -/
theorem recoverOf_first {hdr : Bytes} (hh : HdrOK hdr) {fs0 : List Field} (h0 : WFs fs0) (Z file : Bytes)
    (hfile : file = firstFile hdr fs0 Z) :
    recoverOf file =
      if (Z.take 12).length < 12 then none
      else
        let fc := fileCorrupt file (decide (sgn32 (de (((Z.take 12).drop 8).take 4)) > 0)) endBytes
        let rw := if fc.1 then repairWalk file (file.length + 1) (64 + blobLen fs0) (64 + blobLen fs0 + 12) fc.2
                  else (file.length, fc.2)
        some (64 + blobLen fs0, rw.1, rw.2, fc.1) := by
  subst hfile
  simp only [recoverOf, scanFirst_first hh h0 Z, Bool.not_true, Bool.false_eq_true, if_false, firstFile_drop hh]

theorem appendPlan_recover (v : Variant) (cmp : Nat → Bytes → Bytes → Bool) (file s : Bytes) :
    appendPlan v cmp file s =
      match recoverOf file with
      | none => .refused
      | some (so, last, fld2, corrupt) =>
        match diffRaw v cmp (file.take so) s with
        | none => .undefined
        | some delta =>
          .plan ⟨last - 12,
            trailerBytes (de (((file.drop (last - 12)).take 12).take 4))
                (de ((((file.drop (last - 12)).take 12).drop 4).take 4)) ((delta.length + 16) % 4294967296)
              ++ delta ++ (le32 END ++ (fld2.drop 4).take 4 ++ le64 0)
              ++ trailerBytes ((de (((file.drop (last - 12)).take 12).take 4) + 1) % 4294967296)
                  ((delta.length + 16) % 4294967296) 0,
            corrupt⟩ := by
  unfold appendPlan recoverOf
  rcases hsc : scanFirst (file.length + 1) 64 (file.drop 64) (List.replicate 16 0) with ⟨so, ok, fld0⟩
  simp only
  cases ok
  · simp only [Bool.not_false, if_true]
  · simp only [Bool.not_true, Bool.false_eq_true, if_false]
    by_cases htb : ((file.drop so).take 12).length < 12
    · rw [if_pos htb, if_pos htb]
    · rw [if_neg htb, if_neg htb]
      rcases hfc : fileCorrupt file (decide (sgn32 (de ((((file.drop so).take 12).drop 8).take 4)) > 0)) fld0 with ⟨cor, fld1⟩
      cases hd : diffRaw v cmp (file.take so) s with
      | none => simp [hd]
      | some delta =>
        cases cor
        · simp [hd]
        · simp only [if_true]
          rcases hrw : repairWalk file (file.length + 1) so (so + 12) fld1 with ⟨last, fld2⟩
          simp [hd]

/-- a damaged archive: everything up to the last intact trailer of `archI hdr fs0 ds` is in place, the bytes
    `X` from there on are arbitrary except that the first 8 (index, offset_prev of that trailer) survived -/
def Damaged (hdr : Bytes) (fs0 : List Field) (ds : List (List Field)) (X : Bytes) : Bytes :=
  archPre hdr fs0 ds ++ X

theorem Damaged_eq (hdr : Bytes) (fs0 : List Field) (ds : List (List Field)) (X : Bytes) :
    Damaged hdr fs0 ds X = firstFile hdr fs0 (chainPre 0 0 ds ++ X) := by
  simp [Damaged, archPre, firstFile]

theorem recoverOf_sizeOld (hdr : Bytes) (hh : HdrOK hdr) (fs0 : List Field) (h0 : WFs fs0)
    (ds : List (List Field)) (X : Bytes) (so last : Nat) (fld : Bytes) (c : Bool)
    (h : recoverOf (Damaged hdr fs0 ds X) = some (so, last, fld, c)) : so = 64 + blobLen fs0 := by
  rw [recoverOf_first hh h0 _ _ (Damaged_eq hdr fs0 ds X)] at h
  split at h
  · cases h
  · simp only [Option.some.injEq, Prod.mk.injEq] at h
    exact h.1.symm

/-- **the write after a recovery that ends at the last intact trailer** with a clean END template: at the
    position of that trailer the writer puts the patched trailer, the delta against the first snapshot, END
    and the new trailer -/
theorem appendPlan_of_recover (v : Variant) (cmp : Nat → Bytes → Bytes → Bool) (hdr : Bytes) (fs0 : List Field)
    (ds : List (List Field)) (h : ArchOK hdr fs0 ds) (X : Bytes)
    (hX : X.take 8 = le32 ds.length ++ le32 (lastPrev 0 ds)) (so : Nat) (fld : Bytes) (c : Bool)
    (hro : recoverOf (Damaged hdr fs0 ds X) = some (so, (archPre hdr fs0 ds).length + 12, fld, c))
    (hpad : (fld.drop 4).take 4 = [0, 0, 0, 0])
    (h2 t2 : Bytes) (b : List Field) (hh2 : h2.length = 64) (hb : WFs b)
    (hL : blobLen (diffF v cmp fs0 b) < 2147483648) (hn : ds.length + 1 < 4294967296) :
    appendPlan v cmp (Damaged hdr fs0 ds X) (h2 ++ (encFs b ++ (endBytes ++ t2)))
      = .plan ⟨(archPre hdr fs0 ds).length, pendingData ds (diffF v cmp fs0 b), c⟩ := by
  obtain rfl := recoverOf_sizeOld hdr h.hdr fs0 h.b0.wf ds X so _ fld c hro
  rw [appendPlan_recover, hro]
  simp only
  have htake : (Damaged hdr fs0 ds X).take (64 + blobLen fs0) = hdr ++ (encFs fs0 ++ endBytes) := by
    rw [Damaged_eq, firstFile_take h.hdr]
  rw [htake, diffRaw_enc v cmp hdr h2 t2 fs0 b h.hdr.len hh2 h.b0.wf hb]
  simp only [Nat.add_sub_cancel]
  have hdropX : (Damaged hdr fs0 ds X).drop (archPre hdr fs0 ds).length = X := List.drop_left
  have hp := lastPrev_lt ds h.ds
  have hX4 : (X.take 12).take 4 = le32 ds.length := by
    have e : (X.take 12).take 4 = (X.take 8).take 4 := by
      rw [List.take_take, List.take_take]; rfl
    rw [e, hX]; rfl
  have hX8 : ((X.take 12).drop 4).take 4 = le32 (lastPrev 0 ds) := by
    have e1 : ((X.take 12).drop 4).take 4 = ((X.take 8).drop 4).take 4 := by
      rw [List.drop_take, List.drop_take, List.take_take, List.take_take]; rfl
    rw [e1, hX]; rfl
  rw [hdropX, hX4, hX8, de_le32 _ (by omega), de_le32 _ (by omega), hpad]
  have e1 : ((encFs (diffF v cmp fs0 b)).length + 16) % 4294967296 = blobLen (diffF v cmp fs0 b) := by
    simp only [blobLen] at hL ⊢; exact Nat.mod_eq_of_lt (by omega)
  have e2 : (ds.length + 1) % 4294967296 = ds.length + 1 := Nat.mod_eq_of_lt hn
  have e3 : le32 END ++ [0, 0, 0, 0] ++ le64 0 = endBytes := by decide
  rw [e1, e2, e3]
  simp [pendingData, List.append_assoc]

/-- the corruption test on a file that ends with one trailer and is said to hold a single blob -/
theorem fileCorrupt_single (A : Bytes) (i p : Nat) (fld : Bytes) :
    fileCorrupt (A ++ trailerBytes i p 0) false fld = (false, fld) := by
  have hT : (A ++ trailerBytes i p 0).drop ((A ++ trailerBytes i p 0).length - 12) = trailerBytes i p 0 := by
    rw [List.length_append, trailerBytes_length, Nat.add_sub_cancel, List.drop_left]
  have h12 : ¬ ((A ++ trailerBytes i p 0).length < 12) := by simp
  simp only [fileCorrupt, h12, if_false, hT]
  rw [trailer_next _ _ _ (by omega)]
  simp [sgn32]

/-- the corruption test on a file that ends with a complete blob (`B ++ END`) between two trailers of an
    intact chain: the last trailer says "last", END stands right before it, and the trailer `L` bytes further
    back points forward by `L` -/
theorem fileCorrupt_tail (A B : Bytes) (i p i' L : Nat) (hB : B.length + 16 = L) (hL : L < 2147483648)
    (fld : Bytes) :
    fileCorrupt (A ++ (trailerBytes i p L ++ (B ++ (endBytes ++ trailerBytes i' L 0)))) true fld
      = (false, endBytes) := by
  have hlen : (A ++ (trailerBytes i p L ++ (B ++ (endBytes ++ trailerBytes i' L 0)))).length
      = A.length + 12 + L + 12 := by simp; omega
  have hT : (A ++ (trailerBytes i p L ++ (B ++ (endBytes ++ trailerBytes i' L 0)))).drop (A.length + 12 + L + 12 - 12)
      = trailerBytes i' L 0 := by
    have e : A.length + 12 + L + 12 - 12 = (A ++ (trailerBytes i p L ++ (B ++ endBytes))).length := by simp; omega
    have f : A ++ (trailerBytes i p L ++ (B ++ (endBytes ++ trailerBytes i' L 0)))
        = (A ++ (trailerBytes i p L ++ (B ++ endBytes))) ++ trailerBytes i' L 0 := by simp
    rw [e, f, List.drop_left]
  have hsrc : (A ++ (trailerBytes i p L ++ (B ++ (endBytes ++ trailerBytes i' L 0)))).drop (A.length + 12 + L + 12 - 28)
      = endBytes ++ trailerBytes i' L 0 := by
    have e : A.length + 12 + L + 12 - 28 = (A ++ (trailerBytes i p L ++ B)).length := by simp; omega
    have f : A ++ (trailerBytes i p L ++ (B ++ (endBytes ++ trailerBytes i' L 0)))
        = (A ++ (trailerBytes i p L ++ B)) ++ (endBytes ++ trailerBytes i' L 0) := by simp
    rw [e, f, List.drop_left]
  have htb2 : ((A ++ (trailerBytes i p L ++ (B ++ (endBytes ++ trailerBytes i' L 0)))).drop A.length).take 12
      = trailerBytes i p L := by rw [List.drop_left, trailer_take]
  have hp2 : ((A.length + 12 + L + 12 : Nat) : Int) - 12 - (L : Int) - 12 = (A.length : Int) := by omega
  have h12 : ¬ (A.length + 12 + L + 12 < 12) := by omega
  have h28 : ¬ (A.length + 12 + L + 12 < 28) := by omega
  have hpos : ¬ ((L : Int) ≤ 0) := by omega
  have hnn : ¬ ((A.length : Int) < 0) := by omega
  have htake : (endBytes ++ trailerBytes i' L 0).take 16 = endBytes := by
    rw [List.take_append_of_le_length (by simp)]; exact List.take_of_length_le (by simp)
  unfold fileCorrupt
  simp only [hlen, h12, h28, if_false, hT, hsrc, readHdr_end, htake]
  rw [trailer_prev _ _ _ (by omega), trailer_next _ _ _ (by omega), sgn32_small _ hL, sgn32_small 0 (by omega)]
  simp only [hp2, Int.toNat_natCast, htb2, trailerBytes_length, Nat.lt_irrefl, if_false, hnn, hpos]
  rw [trailer_next _ _ _ (by omega), sgn32_small _ hL]
  simp

theorem fileCorrupt_archI (hdr : Bytes) (fs0 : List Field) (ds : List (List Field)) (hds : ChainOK ds) :
    fileCorrupt (archI hdr fs0 ds) (decide (ds ≠ [])) endBytes = (false, endBytes) := by
  rcases List.eq_nil_or_concat ds with rfl | ⟨l, d, rfl⟩
  · rw [archI, archG_split]
    exact fileCorrupt_single _ _ _ _
  · rw [List.concat_eq_append, archI_concat, decide_eq_true (by simp)]
    exact fileCorrupt_tail _ _ _ _ _ _ rfl (hds d (by simp)).2 _

def firstNext : List (List Field) → Nat
  | [] => 0
  | d :: _ => blobLen d

theorem recoverOf_archI (hdr : Bytes) (fs0 : List Field) (ds : List (List Field)) (h : ArchOK hdr fs0 ds) :
    recoverOf (archI hdr fs0 ds) = some (64 + blobLen fs0, (archI hdr fs0 ds).length, endBytes, false) := by
  -- first trailer: is there more than one blob?
  have hZ : (chainG finIntact 0 0 ds).take 12 = trailerBytes 0 0 (firstNext ds) := by
    cases ds with
    | nil => simp [chainG, finIntact, trailerBytes, le32, firstNext]
    | cons d r => simp only [chainG, trailer_take, firstNext]
  have hmore : decide (sgn32 (de (((trailerBytes 0 0 (firstNext ds)).drop 8).take 4)) > 0)
      = decide (ds ≠ []) := by
    cases ds with
    | nil => rw [trailer_next _ _ _ (by simp [firstNext])]; simp [sgn32, firstNext]
    | cons d r =>
      have hd := h.ds d (List.mem_cons_self ..)
      have := blobLen_ge d
      rw [trailer_next _ _ _ (by simp only [firstNext]; omega), sgn32_small _ (by simp only [firstNext]; exact hd.2)]
      simp only [firstNext]; simp; omega
  rw [recoverOf_first h.hdr h.b0.wf (chainG finIntact 0 0 ds) (archI hdr fs0 ds) rfl, hZ, hmore, fileCorrupt_archI hdr fs0 ds h.ds]
  simp

/-- **the writer on a well-formed archive**: it is not "corrupt", the write starts at the last trailer and
    the bytes written are the patched trailer, the delta, END and the new trailer -/
theorem appendPlan_archI (v : Variant) (cmp : Nat → Bytes → Bytes → Bool) (hdr : Bytes) (fs0 : List Field)
    (ds : List (List Field)) (h : ArchOK hdr fs0 ds) (h2 t2 : Bytes) (b : List Field) (hh2 : h2.length = 64)
    (hb : WFs b) (hL : blobLen (diffF v cmp fs0 b) < 2147483648) (hn : ds.length + 1 < 4294967296) :
    appendPlan v cmp (archI hdr fs0 ds) (h2 ++ (encFs b ++ (endBytes ++ t2)))
      = .plan ⟨(archI hdr fs0 ds).length - 12, pendingData ds (diffF v cmp fs0 b), false⟩ := by
  have hD : archI hdr fs0 ds = Damaged hdr fs0 ds (finIntact ds.length (lastPrev 0 ds)) := archG_split _ _ _ _
  have hro := recoverOf_archI hdr fs0 ds h
  rw [archI_length] at hro ⊢
  rw [hD] at hro ⊢
  rw [Nat.add_sub_cancel]
  exact appendPlan_of_recover v cmp hdr fs0 ds h _ rfl _ _ _ hro rfl h2 t2 b hh2 hb hL hn

theorem append_archI (v : Variant) (cmp : Nat → Bytes → Bytes → Bool) (hdr : Bytes) (fs0 : List Field)
    (ds : List (List Field)) (h : ArchOK hdr fs0 ds) (h2 t2 : Bytes) (b : List Field) (hh2 : h2.length = 64)
    (hb : WFs b) (hL : blobLen (diffF v cmp fs0 b) < 2147483648) (hn : ds.length + 1 < 4294967296) :
    append v cmp (archI hdr fs0 ds) (h2 ++ (encFs b ++ (endBytes ++ t2)))
      = some (archI hdr fs0 (ds ++ [diffF v cmp fs0 b])) := by
  unfold append
  rw [appendPlan_archI v cmp hdr fs0 ds h h2 t2 b hh2 hb hL hn]
  simp only [append_shape]

/-- a serialisation as the writer receives it: 64-byte header, fields, END, trailer bytes -/
def streamOf (s : Bytes × List Field × Bytes) : Bytes := s.1 ++ (encFs s.2.1 ++ (endBytes ++ s.2.2))

theorem appends_archI (v : Variant) (cmp : Nat → Bytes → Bytes → Bool) (hdr : Bytes) (fs0 : List Field)
    (strm : List (Bytes × List Field × Bytes)) (ds : List (List Field)) (h : ArchOK hdr fs0 ds)
    (hs : ∀ s ∈ strm, s.1.length = 64 ∧ WFs s.2.1 ∧ BlobOK (diffF v cmp fs0 s.2.1) ∧
        blobLen (diffF v cmp fs0 s.2.1) < 2147483648)
    (hn : ds.length + strm.length < 4294967296) :
    appends v cmp (archI hdr fs0 ds) (strm.map streamOf)
      = some (archI hdr fs0 (ds ++ strm.map (fun s => diffF v cmp fs0 s.2.1))) := by
  induction strm generalizing ds with
  | nil => simp [appends]
  | cons s r ih =>
    obtain ⟨h64, hwf, hbo, hbl⟩ := hs s (List.mem_cons_self ..)
    simp only [List.map_cons, appends, streamOf]
    rw [append_archI v cmp hdr fs0 ds h s.1 s.2.2 s.2.1 h64 hwf hbl (by simp at hn; omega)]
    simp only
    have := ih (ds ++ [diffF v cmp fs0 s.2.1]) (h.snoc hbo hbl) (fun x hx => hs x (List.mem_cons_of_mem _ hx))
      (by simp at hn ⊢; omega)
    rw [this]
    simp [List.append_assoc]

end RV.Bin
