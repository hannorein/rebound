import RV.Proofs.GravityBase
/-
  The BASIC loop nest (gravity.c:139-247) as an additive step, and its contribution to
  particle `k` rewritten as a sum over the *declarative* source set.
-/
set_option linter.unusedSectionVars false
set_option linter.unusedSimpArgs false
namespace RV.Gravity
open RV
variable {K : Type} [Field K]

/-- `d = (gb + x_i) - x_j` -/
def dvec (x : Nat → V3 K) (gb : V3 K) (i j : Nat) : V3 K := (gb + x i) - x j

/-- `dx*dx + dy*dy + dz*dz + softening2` -/
def s2 (x : Nat → V3 K) (soft2 : K) (gb : V3 K) (i j : Nat) : K :=
  (dvec x gb i j).x * (dvec x gb i j).x + (dvec x gb i j).y * (dvec x gb i j).y
    + (dvec x gb i j).z * (dvec x gb i j).z + soft2

/-- what the loop body for the ordered pair `(i,j)` adds to `a_i` … -/
def roleI (pref : K → Nat → Nat → K) (soft2 : K) (m : Nat → K) (x : Nat → V3 K) (gb : V3 K)
    (i j : Nat) : V3 K := ((-(pref (s2 x soft2 gb i j) i j)) * m j) • dvec x gb i j
/-- … and to `a_j` -/
def roleJ (pref : K → Nat → Nat → K) (soft2 : K) (m : Nat → K) (x : Nat → V3 K) (gb : V3 K)
    (i j : Nat) : V3 K := ((pref (s2 x soft2 gb i j) i j) * m i) • dvec x gb i j

/-- contribution of one execution of the loop body for `(i,j)` to slot `k` -/
def pairC (pref : K → Nat → Nat → K) (soft2 : K) (m : Nat → K) (x : Nat → V3 K) (gb : V3 K)
    (both : Bool) (i j k : Nat) : V3 K :=
  (if i = k then roleI pref soft2 m x gb i j else 0)
    + (if both = true ∧ j = k then roleJ pref soft2 m x gb i j else 0)

theorem additive_pairStep (pref : K → Nat → Nat → K) (soft2 : K) {N : Nat} (m : Nat → K)
    (x : Nat → V3 K) (gb : V3 K) (both : Bool) {i j : Nat} (hi : i < N) (hj : j < N) :
    Additive (fun acc => pairStep pref soft2 (mkPs N m x) gb both acc i j)
      (pairC pref soft2 m x gb both i j) := by
  have e : (⟨gb.x + (x i).x - (x j).x, gb.y + (x i).y - (x j).y, gb.z + (x i).z - (x j).z⟩ : V3 K)
      = dvec x gb i j := by ext <;> simp [dvec]
  have es : (gb.x + (x i).x - (x j).x) * (gb.x + (x i).x - (x j).x)
      + (gb.y + (x i).y - (x j).y) * (gb.y + (x i).y - (x j).y)
      + (gb.z + (x i).z - (x j).z) * (gb.z + (x i).z - (x j).z) + soft2 = s2 x soft2 gb i j := by
    simp [s2, dvec]
  cases both
  · have h := additive_addTo (K := K) i ((-(pref (s2 x soft2 gb i j) i j)) * m j) (dvec x gb i j)
    have hf : (fun acc => pairStep pref soft2 (mkPs N m x) gb false acc i j)
        = (fun acc => addTo acc i ((-(pref (s2 x soft2 gb i j) i j)) * m j) (dvec x gb i j)) := by
      funext acc
      simp only [pairStep, mkPs_get m x hi, mkPs_get m x hj, sc_hadd, sc_hsub, sc_hmul, sc_hneg,
        Bool.false_eq_true, if_false, e, es]
    rw [hf]
    exact additive_congr h (by intro k; simp [pairC, roleI])
  · have h1 := additive_addTo (K := K) i ((-(pref (s2 x soft2 gb i j) i j)) * m j) (dvec x gb i j)
    have h2 := additive_addTo (K := K) j ((pref (s2 x soft2 gb i j) i j) * m i) (dvec x gb i j)
    have h := additive_comp h1 h2
    have hf : (fun acc => pairStep pref soft2 (mkPs N m x) gb true acc i j)
        = (fun acc => addTo (addTo acc i ((-(pref (s2 x soft2 gb i j) i j)) * m j) (dvec x gb i j)) j
            ((pref (s2 x soft2 gb i j) i j) * m i) (dvec x gb i j)) := by
      funext acc
      simp only [pairStep, mkPs_get m x hi, mkPs_get m x hj, sc_hadd, sc_hsub, sc_hmul, sc_hneg,
        if_true, e, es]
    rw [hf]
    exact additive_congr h (by intro k; simp [pairC, roleI, roleJ])

/-- loop start indices of BASIC -/
def startI (ignore : Nat) : Nat := if ignore = 0 then 1 else 2
def startJ (ignore : Nat) : Nat := if ignore = 2 then 1 else 0
theorem startI_0 : startI 0 = 1 := rfl
theorem startI_1 : startI 1 = 2 := rfl
theorem startI_2 : startI 2 = 2 := rfl
theorem startJ_0 : startJ 0 = 0 := rfl
theorem startJ_1 : startJ 1 = 0 := rfl
theorem startJ_2 : startJ 2 = 1 := rfl

/-- contribution of one ghost box of BASIC to slot `k`, as the loops run -/
def boxC (pref : K → Nat → Nat → K) (cfg : Cfg K) (N : Nat) (m : Nat → K) (x : Nat → V3 K)
    (gb : V3 K) (k : Nat) : V3 K :=
  (∑ i ∈ Finset.Ico (startI cfg.ignore) cfg.nActive, ∑ j ∈ Finset.Ico (startJ cfg.ignore) i,
      pairC pref (cfg.soft * cfg.soft) m x gb true i j k)
  + (∑ i ∈ Finset.Ico (max cfg.nActive (startI cfg.ignore)) N,
      ∑ j ∈ Finset.Ico (startJ cfg.ignore) cfg.nActive,
        pairC pref (cfg.soft * cfg.soft) m x gb cfg.tpType i j k)

theorem additive_basicBox (pref : K → Nat → Nat → K) (cfg : Cfg K) {N : Nat} (m : Nat → K)
    (x : Nat → V3 K) (gb : V3 K) (hNa : cfg.nActive ≤ N) :
    Additive (fun acc => basicBox pref cfg (mkPs N m x) acc gb) (boxC pref cfg N m x gb) := by
  have hI : (if (cfg.ignore == 0) = true then 1 else 2) = startI cfg.ignore := by
    simp [startI]
  have hJ : (if (cfg.ignore == 2) = true then 1 else 0) = startJ cfg.ignore := by
    simp [startJ]
  unfold basicBox boxC
  simp only [sc_hmul, mkPs_size, hI, hJ]
  refine additive_comp
    (f := fun acc => forRange (startI cfg.ignore) cfg.nActive acc fun acc i =>
      forRange (startJ cfg.ignore) i acc fun acc j =>
        pairStep pref (cfg.soft * cfg.soft) (mkPs N m x) gb true acc i j)
    (g := fun acc => forRange (max cfg.nActive (startI cfg.ignore)) N acc fun acc i =>
      forRange (startJ cfg.ignore) cfg.nActive acc fun acc j =>
        pairStep pref (cfg.soft * cfg.soft) (mkPs N m x) gb cfg.tpType acc i j) ?_ ?_
  · apply additive_forRange
    intro i hi1 hi2
    apply additive_forRange
    intro j hj1 hj2
    exact additive_pairStep pref _ m x gb true (by omega) (by omega)
  · apply additive_forRange
    intro i hi1 hi2
    apply additive_forRange
    intro j hj1 hj2
    exact additive_pairStep pref _ m x gb cfg.tpType (by omega) (by omega)

/-- the whole routine: slot `k` holds the sum over ghost boxes of the box contributions -/
theorem accBasic_get (pref : K → Nat → Nat → K) (cfg : Cfg K) (ghosts : List (V3 K)) {N : Nat}
    (m : Nat → K) (x : Nat → V3 K) (hNa : cfg.nActive ≤ N) {k : Nat} (hk : k < N) :
    (accBasic pref cfg ghosts (mkPs N m x))[k]?
      = some ((ghosts.map fun gb => boxC pref cfg N m x gb k).sum) := by
  have h := additive_foldl ghosts (fun acc gb => basicBox pref cfg (mkPs N m x) acc gb)
    (fun gb => boxC pref cfg N m x gb) (fun gb _ => additive_basicBox pref cfg m x gb hNa)
  have := additive_from_zero h N k hk
  simpa [accBasic] using this

/-- `k` receives from `j` in the `i`-role (the line `particles[i].ax += prefactj*dx`) -/
def SrcI (cfg : Cfg K) (N k j : Nat) : Prop :=
  (startI cfg.ignore ≤ k ∧ k < cfg.nActive ∧ startJ cfg.ignore ≤ j ∧ j < k) ∨
  (max cfg.nActive (startI cfg.ignore) ≤ k ∧ k < N ∧ startJ cfg.ignore ≤ j ∧ j < cfg.nActive)

/-- `k` receives from `j` in the `j`-role (the line `particles[j].ax += prefacti*dx`) -/
def SrcJ (cfg : Cfg K) (N k j : Nat) : Prop :=
  (startI cfg.ignore ≤ j ∧ j < cfg.nActive ∧ startJ cfg.ignore ≤ k ∧ k < j) ∨
  (cfg.tpType = true ∧ max cfg.nActive (startI cfg.ignore) ≤ j ∧ j < N ∧
    startJ cfg.ignore ≤ k ∧ k < cfg.nActive)

instance (cfg : Cfg K) (N k j : Nat) : Decidable (SrcI cfg N k j) := by unfold SrcI; infer_instance
instance (cfg : Cfg K) (N k j : Nat) : Decidable (SrcJ cfg N k j) := by unfold SrcJ; infer_instance

/-- the declarative source set of the property statement: active `j ≠ k`; test particles
    `j` too when `testparticle_type = 1` and `k` is active; minus the pairs named by
    `gravity_ignore_terms` (1: the pair {0,1}; 2: every pair containing particle 0). -/
def Src (Na : Nat) (tp : Bool) (ignore : Nat) (k j : Nat) : Prop :=
  j ≠ k ∧ (j < Na ∨ (tp = true ∧ k < Na)) ∧
  ¬(ignore = 1 ∧ ((k = 0 ∧ j = 1) ∨ (k = 1 ∧ j = 0))) ∧
  ¬(ignore = 2 ∧ (k = 0 ∨ j = 0))

instance (Na : Nat) (tp : Bool) (ignore k j : Nat) : Decidable (Src Na tp ignore k j) := by
  unfold Src; infer_instance

/-- the start indices of the two loops are how BASIC leaves out the pairs named by
    `gravity_ignore_terms`: for the pair `a < b` -/
theorem start_iff {ig a b : Nat} (hig : ig ≤ 2) (hab : a < b) :
    (startI ig ≤ b ∧ startJ ig ≤ a) ↔ ¬(ig = 1 ∧ a = 0 ∧ b = 1) ∧ ¬(ig = 2 ∧ a = 0) := by
  have : ig = 0 ∨ ig = 1 ∨ ig = 2 := by omega
  rcases this with rfl | rfl | rfl <;>
    simp [startI, startJ] <;> omega

/-- the two loop nests reach exactly the declarative source set, each pair once.
    This is the statement that breaks when a loop bound is off by one. -/
theorem src_iff (cfg : Cfg K) (N k j : Nat) (hNa : cfg.nActive ≤ N) (hig : cfg.ignore ≤ 2)
    (hk : k < N) (hj : j < N) :
    (SrcI cfg N k j ∨ SrcJ cfg N k j ↔ Src cfg.nActive cfg.tpType cfg.ignore k j) ∧
    ¬(SrcI cfg N k j ∧ SrcJ cfg N k j) := by
  rcases cfg with ⟨Na, tp, ig, soft⟩
  -- both loop nests visit `j < k` resp. `k < j` only, so each role is one conjunction
  have hI : SrcI ⟨Na, tp, ig, soft⟩ N k j ↔ (j < k ∧ (startI ig ≤ k ∧ startJ ig ≤ j)) ∧ j < Na := by
    unfold SrcI; dsimp only at hNa ⊢; omega
  have hJ : SrcJ ⟨Na, tp, ig, soft⟩ N k j ↔
      (k < j ∧ (startI ig ≤ j ∧ startJ ig ≤ k)) ∧ k < Na ∧ (j < Na ∨ tp = true) := by
    unfold SrcJ; dsimp only at hNa ⊢
    cases tp <;> simp only [Bool.false_eq_true, true_and, false_and, or_false, or_true, and_true] <;> omega
  have hI' : j < k → ((startI ig ≤ k ∧ startJ ig ≤ j) ↔ _) := start_iff hig
  have hJ' : k < j → ((startI ig ≤ j ∧ startJ ig ≤ k) ↔ _) := start_iff hig
  rw [hI, hJ, and_congr_right hI', and_congr_right hJ']
  unfold Src
  dsimp only
  cases tp <;> simp only [Bool.false_eq_true, true_and, false_and, or_false, or_true, and_true] <;> omega

theorem ite_add_ite_of {M : Type} [AddCommMonoid M] (p q r : Prop) [Decidable p] [Decidable q]
    [Decidable r] (u : M) (h : (p ∨ q ↔ r) ∧ ¬(p ∧ q)) :
    (if p then u else 0) + (if q then u else 0) = if r then u else 0 := by
  by_cases hp : p <;> by_cases hq : q <;> by_cases hr : r <;> simp_all

theorem ite_sum_zero {M : Type} [AddCommMonoid M] (p : Prop) [Decidable p] (s : Finset Nat)
    (f : Nat → M) : (if p then ∑ j ∈ s, f j else 0) = ∑ j ∈ s, if p then f j else 0 := by
  split_ifs <;> simp

theorem boxC_oriented (pref : K → Nat → Nat → K) (cfg : Cfg K) {N : Nat} (m : Nat → K)
    (x : Nat → V3 K) (gb : V3 K) (hNa : cfg.nActive ≤ N) {k : Nat} (hk : k < N) :
    boxC pref cfg N m x gb k = ∑ j ∈ Finset.range N,
      ((if SrcI cfg N k j then roleI pref (cfg.soft * cfg.soft) m x gb k j else 0)
        + (if SrcJ cfg N k j then roleJ pref (cfg.soft * cfg.soft) m x gb j k else 0)) := by
  unfold boxC pairC
  simp only [Finset.sum_add_distrib]
  have c1 : ∀ (a b : Nat) (d : Nat → Nat) (c : Nat) (U : Nat → Nat → V3 K),
      (∑ i ∈ Finset.Ico a b, ∑ j ∈ Finset.Ico c (d i), if i = k then U i j else 0)
        = if a ≤ k ∧ k < b then ∑ j ∈ Finset.Ico c (d k), U k j else 0 := fun a b d c U => by
    simpa only [true_and, if_true] using collapse1 k a b (fun _ => c) d (fun _ _ => True) U
  have c2 : ∀ (a b : Nat) (d : Nat → Nat) (c : Nat) (p : Prop) [Decidable p] (V : Nat → Nat → V3 K),
      (∑ i ∈ Finset.Ico a b, ∑ j ∈ Finset.Ico c (d i), if p ∧ j = k then V i j else 0)
        = ∑ i ∈ Finset.Ico a b, if p ∧ c ≤ k ∧ k < d i then V i k else 0 := fun a b d c p _ V =>
    collapse2 k a b (fun _ => c) d (fun _ _ => p) V
  rw [c1, c1, c2, c2]
  rw [ite_sum_zero, ite_sum_zero]
  rw [sum_Ico_ind _ _ N (Nat.le_of_lt hk), sum_Ico_ind _ _ N hNa, sum_Ico_ind _ _ N hNa,
    sum_Ico_ind _ _ N (le_refl N)]
  simp only [← Finset.sum_add_distrib]
  apply Finset.sum_congr rfl
  intro j hj
  have hj' : j < N := Finset.mem_range.mp hj
  unfold SrcI SrcJ
  rcases cfg with ⟨Na, tp, ig, soft⟩
  simp only at hNa ⊢
  simp only [← ite_and]
  rw [add_add_add_comm]
  congr 1
  · apply ite_add_ite_of
    omega
  · apply ite_add_ite_of
    cases tp
    · simp only [Bool.false_eq_true, eq_self_iff_true, true_and, false_and, and_false, or_false,
        not_false_eq_true, and_true]
      omega
    · simp only [eq_self_iff_true, true_and]
      omega

end RV.Gravity
