import RV.Model.Integrate
import RV.Proofs.Field
import Mathlib.Algebra.Order.Field.Basic
import Mathlib.Algebra.Order.AbsoluteValue.Basic
import Mathlib.Tactic.Linarith
import Mathlib.Tactic.NormNum
import Mathlib.Algebra.Order.Floor.Ring
/-
  Exact-arithmetic instance of RV/Model/Integrate.lean (any linearly ordered field) and the
  lemmas behind RV/Props/C08.lean.
-/
set_option linter.unusedSectionVars false
namespace RV.Integrate
open RV

/-- no exit condition at this boundary and at least one particle (the seven conditions the heartbeat and
    `reb_check_exit` test, then the error a step can raise by itself) -/
def Flags.Clear (f : Flags) : Prop :=
  (f.collision = false ∧ f.user = false ∧ f.escape = false ∧ f.encounter = false ∧
   f.sigint = false ∧ f.errMsg = false ∧ f.n ≠ 0) ∧ f.stepError = false

theorem Flags.Clear.errMsg {f : Flags} (h : f.Clear) : f.errMsg = false := h.1.2.2.2.2.2.1
theorem Flags.Clear.n_ne {f : Flags} (h : f.Clear) : f.n ≠ 0 := h.1.2.2.2.2.2.2

/-- status left by the step and the heartbeat of a boundary (rebound.c:857-861, 741-775,
    collision.c:761): last write wins, i.e. SIGINT > ENCOUNTER > ESCAPE > USER > COLLISION > error raised inside the step -/
def Flags.stepCode (f : Flags) : Option Int :=
  if f.sigint then some 6 else if f.encounter then some 3 else if f.escape then some 4
  else if f.user then some 5 else if f.collision then some 7 else if f.stepError then some 1 else none

/-- a property of both branches is a property of the `if`; with `c` abstract, no attempt is made to decide it -/
theorem ite_of {α : Sort _} {P : α → Prop} {c : Prop} [Decidable c] {a b : α} (ha : P a) (hb : P b) :
    P (if c then a else b) := by
  split <;> assumption

theorem ite_some_pos {c : Prop} [Decidable c] {a x : Int} {o : Option Int} (ha : 1 ≤ a)
    (ho : o = some x → 1 ≤ x) (h : (if c then some a else o) = some x) : 1 ≤ x := by
  split at h
  · cases h; exact ha
  · exact ho h

theorem stepCode_pos (f : Flags) (x : Int) (h : f.stepCode = some x) : 1 ≤ x := by
  unfold Flags.stepCode at h
  refine ite_some_pos (h := h) ?_ (ite_some_pos ?_ (ite_some_pos ?_ (ite_some_pos ?_ (ite_some_pos ?_
    (ite_some_pos ?_ ?_))))) <;> first | decide | exact nofun

theorem stepCode_none_of_clear (f : Flags) (h : f.Clear) : f.stepCode = none := by
  obtain ⟨⟨h1, h2, h3, h4, h5, h6, h7⟩, h8⟩ := h
  simp [Flags.stepCode, h1, h2, h3, h4, h5, h8]

/-! ### what each part of the loop body writes

Structural facts that hold over any scalar type; stated there, the terms stay free of the ordered-field
instances. Case splits over `exitTime` are avoided: where every branch gives the same answer the
projection is pushed through the `if`s (`apply_ite`) instead. -/

section frame
variable {K : Type} [ScalarS K]

theorem runHeartbeat_eq (s : Sim K) (f : Flags) :
    runHeartbeat s f =
      { s with status := if f.encounter then 3 else if f.escape then 4 else if f.user then 5 else s.status } := by
  unfold runHeartbeat
  cases f.encounter <;> cases f.escape <;> cases f.user <;> rfl

theorem stepAndBeat_eq (step : StepFn K) (k : Nat) (s : Sim K) (f : Flags) :
    stepAndBeat step k s f =
      { s with
          t := (step k s.t s.dt s.dtLastDone).t, dt := (step k s.t s.dt s.dtLastDone).dt,
          dtLastDone := (step k s.t s.dt s.dtLastDone).dld, stepsDone := s.stepsDone + 1,
          status := f.stepCode.getD s.status,
          hist := ⟨s.t, s.dt, (step k s.t s.dt s.dtLastDone).t, (step k s.t s.dt s.dtLastDone).dt,
                   (step k s.t s.dt s.dtLastDone).dld,
                   if f.collision then 7 else if f.stepError then 1 else s.status⟩ :: s.hist } := by
  unfold stepAndBeat Flags.stepCode
  simp only [runHeartbeat_eq, apply_ite (Option.getD · s.status), Option.getD_some, Option.getD_none]
  cases f.sigint <;> rfl

theorem stepAndBeat_status (step : StepFn K) (k : Nat) (s : Sim K) (f : Flags) :
    (stepAndBeat step k s f).status = f.stepCode.getD s.status := by
  rw [stepAndBeat_eq]

theorem stepAndBeat_fields (step : StepFn K) (k : Nat) (s : Sim K) (f : Flags) :
    (stepAndBeat step k s f).stepsDone = s.stepsDone + 1 ∧
    (stepAndBeat step k s f).nOdes = s.nOdes ∧ (stepAndBeat step k s f).isBS = s.isBS ∧
    (stepAndBeat step k s f).t = (step k s.t s.dt s.dtLastDone).t := by
  rw [stepAndBeat_eq]; exact ⟨rfl, rfl, rfl, rfl⟩

theorem stepAndBeat_time (step : StepFn K) (k : Nat) (s : Sim K) (f : Flags) :
    (stepAndBeat step k s f).t = (step k s.t s.dt s.dtLastDone).t ∧
    (stepAndBeat step k s f).dt = (step k s.t s.dt s.dtLastDone).dt ∧
    (stepAndBeat step k s f).dtLastDone = (step k s.t s.dt s.dtLastDone).dld ∧
    (stepAndBeat step k s f).exactFinish = s.exactFinish := by
  rw [stepAndBeat_eq]; exact ⟨rfl, rfl, rfl, rfl⟩

theorem exitTime_of_nonneg (s : Sim K) (tmax lf sg : K) (inf : Bool) (h : 0 ≤ s.status) :
    exitTime s tmax inf lf sg = (s, lf) := by
  simp only [exitTime, ge_iff_le, h, if_true]

theorem exitTime_frame (s : Sim K) (tmax lf sg : K) (inf : Bool) :
    (exitTime s tmax inf lf sg).1.t = s.t ∧ (exitTime s tmax inf lf sg).1.dtLastDone = s.dtLastDone ∧
    (exitTime s tmax inf lf sg).1.exactFinish = s.exactFinish ∧
    (exitTime s tmax inf lf sg).1.stepsDone = s.stepsDone ∧ (exitTime s tmax inf lf sg).1.nOdes = s.nOdes ∧
    (exitTime s tmax inf lf sg).1.isBS = s.isBS ∧ (exitTime s tmax inf lf sg).1.hist = s.hist ∧
    s.syncs ≤ (exitTime s tmax inf lf sg).1.syncs := by
  simp only [exitTime, apply_ite Prod.fst, apply_ite Sim.t, apply_ite Sim.dtLastDone, apply_ite Sim.exactFinish,
    apply_ite Sim.stepsDone, apply_ite Sim.nOdes, apply_ite Sim.isBS, apply_ite Sim.hist, apply_ite Sim.syncs,
    ite_self, Nat.le_refl, Nat.le_succ, apply_ite (s.syncs ≤ ·), and_self]

theorem exitTime_hist (s : Sim K) (h : List (Beat K)) (tmax lf sg : K) (inf : Bool) :
    exitTime { s with hist := h } tmax inf lf sg =
      ({ (exitTime s tmax inf lf sg).1 with hist := h }, (exitTime s tmax inf lf sg).2) := by
  show _ = (fun p : Sim K × K => (({ p.1 with hist := h } : Sim K), p.2)) (exitTime s tmax inf lf sg)
  simp only [exitTime, apply_ite (fun p : Sim K × K => (({ p.1 with hist := h } : Sim K), p.2))]

theorem exitNoParticles_eq (s : Sim K) (f : Flags) :
    exitNoParticles s f =
      { s with status := if f.n = 0 ∧ (s.nOdes = 0 ∨ s.isBS = false) then 2 else s.status } := by
  cases s
  simp only [exitNoParticles]
  split_ifs <;> simp_all [Status.code]

theorem finish_eq (s : Sim K) (lf : K) :
    finish s lf = { s with syncs := s.syncs + 1, dt := if s.exactFinish = 1 then lf else s.dt } := by
  by_cases h : s.exactFinish = 1 <;> simp only [finish, h, if_true, if_false]

theorem exitNoParticles_of_ne (s : Sim K) (f : Flags) (hn : f.n ≠ 0) : exitNoParticles s f = s := by
  simp only [exitNoParticles, hn, if_false]

end frame

variable {K : Type} [Field K] [LinearOrder K] [IsStrictOrderedRing K]

instance fieldScalarO : ScalarO K :=
  { toScalar := fieldScalar, lt := fun a b => decide (a < b), le := fun a b => decide (a ≤ b) }

/-- in a field there is no negative zero: `signbit x ↔ x < 0`; `fabs` is `|·|`; the two literals
    are the rationals they denote -/
instance fieldScalarS : ScalarS K :=
  { toScalarO := fieldScalarO, signbit := fun x => decide (x < 0), fabs := fun x => |x|,
    c1em12 := 1 / 10 ^ 12, c1em200 := 1 / 10 ^ 200 }

@[simp] theorem feq_iff (a b : K) : feq a b = decide (a = b) := by
  simp only [feq, ScalarO.le]
  by_cases h : a = b
  · simp [h]
  · simp [h]
    intro h1
    exact lt_of_le_of_ne h1 h
@[simp] theorem fne_iff (a b : K) : fne a b = decide (a ≠ b) := by simp [fne]
@[simp] theorem fge_iff (a b : K) : fge a b = decide (b ≤ a) := rfl
@[simp] theorem fgt_iff (a b : K) : fgt a b = decide (b < a) := rfl
@[simp] theorem slt_iff (a b : K) : ScalarO.lt a b = decide (a < b) := rfl
@[simp] theorem sle_iff (a b : K) : ScalarO.le a b = decide (a ≤ b) := rfl
@[simp] theorem sfabs (a : K) : ScalarS.fabs a = |a| := rfl
@[simp] theorem sc12 : (ScalarS.c1em12 : K) = 1 / 10 ^ 12 := rfl
@[simp] theorem sc200 : (ScalarS.c1em200 : K) = 1 / 10 ^ 200 := rfl

theorem copysign_def (a b : K) : copysign a b = if (a < 0 ↔ b < 0) then a else -a := by
  simp only [copysign, ScalarS.signbit]
  by_cases ha : a < 0 <;> by_cases hb : b < 0 <;> simp [ha, hb]

theorem copysign_pos (a : K) : copysign a 1 = |a| := by
  rw [copysign_def]
  by_cases ha : a < 0
  · simp [ha, abs_of_neg ha]
  · simp [ha, abs_of_nonneg (not_lt.mp ha)]

theorem copysign_neg (a : K) : copysign a (-1) = -|a| := by
  rw [copysign_def]
  by_cases ha : a < 0
  · simp [ha, abs_of_neg ha]
  · simp [ha, abs_of_nonneg (not_lt.mp ha)]

theorem copysign_one_dir {d sg : K} (hsg : sg = 1 ∨ sg = -1) (hd : 0 < d * sg) :
    copysign 1 d = sg := by
  rw [copysign_def]
  rcases hsg with rfl | rfl
  · have : 0 < d := by simpa using hd
    simp [not_lt.mpr this.le]
  · have : d < 0 := by linarith
    simp [this]

/-- direction of integration as a number: `+1` forward, `-1` backward -/
def dirOf (t tmax : K) : K := if t < tmax then 1 else -1

theorem dirOf_cases (t tmax : K) : dirOf t tmax = 1 ∨ dirOf t tmax = -1 := by
  unfold dirOf; split_ifs <;> simp

theorem dirOf_mul_self (t tmax : K) : dirOf t tmax * dirOf t tmax = 1 := by
  rcases dirOf_cases t tmax with h | h <;> simp [h]

theorem dirOf_mul_mul (t tmax a : K) : dirOf t tmax * a * dirOf t tmax = a := by
  rw [mul_right_comm, dirOf_mul_self, one_mul]

theorem dirOf_mul_pos {t tmax : K} (h : tmax ≠ t) : 0 < (tmax - t) * dirOf t tmax := by
  unfold dirOf
  split_ifs with h1
  · linarith
  · have : tmax < t := lt_of_le_of_ne (not_lt.mp h1) h
    linarith

theorem dirOf_abs {t tmax : K} (h : tmax ≠ t) : (tmax - t) * dirOf t tmax = |tmax - t| := by
  unfold dirOf
  split_ifs with h1
  · rw [abs_of_pos (by linarith)]; ring
  · have : tmax < t := lt_of_le_of_ne (not_lt.mp h1) h
    rw [abs_of_neg (by linarith)]; ring

/-- the threshold of rebound.c:685-688 -/
def tscale (tmax : K) : K :=
  if 1 / 10 ^ 12 * |tmax| < 1 / 10 ^ 200 then 1 / 10 ^ 12 else 1 / 10 ^ 12 * |tmax|

/-- one step whose boundary has no exit condition -/
def stepped (step : StepFn K) (k : Nat) (s : Sim K) : Sim K :=
  { s with t := (step k s.t s.dt s.dtLastDone).t, dt := (step k s.t s.dt s.dtLastDone).dt,
           dtLastDone := (step k s.t s.dt s.dtLastDone).dld, stepsDone := s.stepsDone + 1,
           hist := ⟨s.t, s.dt, (step k s.t s.dt s.dtLastDone).t, (step k s.t s.dt s.dtLastDone).dt,
                    (step k s.t s.dt s.dtLastDone).dld, s.status⟩ :: s.hist }

@[simp] theorem stepped_t (step : StepFn K) (k : Nat) (s : Sim K) :
    (stepped step k s).t = (step k s.t s.dt s.dtLastDone).t := rfl
@[simp] theorem stepped_dt (step : StepFn K) (k : Nat) (s : Sim K) :
    (stepped step k s).dt = (step k s.t s.dt s.dtLastDone).dt := rfl
@[simp] theorem stepped_dld (step : StepFn K) (k : Nat) (s : Sim K) :
    (stepped step k s).dtLastDone = (step k s.t s.dt s.dtLastDone).dld := rfl
@[simp] theorem stepped_status (step : StepFn K) (k : Nat) (s : Sim K) :
    (stepped step k s).status = s.status := rfl
@[simp] theorem stepped_exact (step : StepFn K) (k : Nat) (s : Sim K) :
    (stepped step k s).exactFinish = s.exactFinish := rfl
@[simp] theorem stepped_steps (step : StepFn K) (k : Nat) (s : Sim K) :
    (stepped step k s).stepsDone = s.stepsDone + 1 := rfl
@[simp] theorem stepped_syncs (step : StepFn K) (k : Nat) (s : Sim K) :
    (stepped step k s).syncs = s.syncs := rfl
@[simp] theorem stepped_nOdes (step : StepFn K) (k : Nat) (s : Sim K) :
    (stepped step k s).nOdes = s.nOdes := rfl
@[simp] theorem stepped_isBS (step : StepFn K) (k : Nat) (s : Sim K) :
    (stepped step k s).isBS = s.isBS := rfl
@[simp] theorem stepped_hist (step : StepFn K) (k : Nat) (s : Sim K) :
    (stepped step k s).hist =
      ⟨s.t, s.dt, (step k s.t s.dt s.dtLastDone).t, (step k s.t s.dt s.dtLastDone).dt,
        (step k s.t s.dt s.dtLastDone).dld, s.status⟩ :: s.hist := rfl

theorem stepAndBeat_clear (step : StepFn K) (k : Nat) (s : Sim K) (f : Flags) (h : f.Clear) :
    stepAndBeat step k s f = stepped step k s := by
  obtain ⟨⟨h1, h2, h3, h4, h5, h6, h7⟩, h8⟩ := h
  simp [stepAndBeat, runHeartbeat, h1, h2, h3, h4, h5, h8, stepped]

/-- `reb_check_exit` entered with a status that is RUNNING, LAST_STEP or an exit code ≥ 1:
    no countdown, no wait loop; what comes out is the time logic followed by the NO_PARTICLES test -/
theorem checkExit_form (s : Sim K) (tmax lf : K) (inf : Bool) (f : Flags)
    (hs : s.status = -1 ∨ s.status = -2 ∨ 1 ≤ s.status) :
    checkExit s tmax inf lf f =
      .ret (exitNoParticles
              (exitTime (if f.errMsg then { s with status := 1 } else s) tmax inf lf (copysign 1 s.dt)).1 f)
           (exitTime (if f.errMsg then { s with status := 1 } else s) tmax inf lf (copysign 1 s.dt)).2 := by
  have h10 : ¬ s.status ≤ -10 := by omega
  have h3 : ¬ s.status = -3 := by omega
  have h4 : ¬ s.status = -4 := by omega
  unfold checkExit checkExitCore exitCountdown
  simp only [Status.code, h10, h3, h4, if_false, false_or, false_and]
  cases f.errMsg <;> simp

theorem exitTime_run (s : Sim K) (tmax lf sg' : K) (hs : s.status = -1 ∨ s.status = -2) :
    exitTime s tmax false lf sg' =
      (if s.exactFinish = 1 then
        if tmax * sg' ≤ (s.t + s.dt) * sg' then
          if s.t = tmax then ({ s with status := 0 }, lf)
          else if s.status = -2 then
            if |s.t - tmax| < tscale tmax then ({ s with status := 0 }, lf)
            else ({ s with syncs := s.syncs + 1, dt := tmax - s.t }, lf)
          else ({ s with status := -2, syncs := s.syncs + 1, dt := tmax - s.t },
                 (if s.dtLastDone ≠ 0 then s.dtLastDone else lf))
        else if s.status = -2 then ({ s with status := -1 }, lf) else (s, lf)
      else if tmax * sg' ≤ s.t * sg' then ({ s with status := 0 }, lf) else (s, lf)) := by
  have hneg : ¬ s.status ≥ 0 := by omega
  simp only [exitTime, hneg, if_false, Bool.false_eq_true, fge_iff, feq_iff, fne_iff, slt_iff, sfabs, sc12, sc200,
    decide_eq_true_eq, Status.code, tscale]
  rfl

theorem checkExit_run (s : Sim K) (tmax lf : K) (f : Flags)
    (hs : s.status = -1 ∨ s.status = -2) (he : f.errMsg = false) (hn : f.n ≠ 0) :
    checkExit s tmax false lf f =
      (if s.exactFinish = 1 then
        if tmax * copysign 1 s.dt ≤ (s.t + s.dt) * copysign 1 s.dt then
          if s.t = tmax then CE.ret { s with status := 0 } lf
          else if s.status = -2 then
            if |s.t - tmax| < tscale tmax then CE.ret { s with status := 0 } lf
            else CE.ret { s with syncs := s.syncs + 1, dt := tmax - s.t } lf
          else CE.ret { s with status := -2, syncs := s.syncs + 1, dt := tmax - s.t }
                 (if s.dtLastDone ≠ 0 then s.dtLastDone else lf)
        else if s.status = -2 then CE.ret { s with status := -1 } lf else CE.ret s lf
      else if tmax * copysign 1 s.dt ≤ s.t * copysign 1 s.dt then CE.ret { s with status := 0 } lf
        else CE.ret s lf) := by
  rw [checkExit_form s tmax lf false f (by omega)]
  simp only [he, Bool.false_eq_true, if_false, exitNoParticles_of_ne _ f hn]
  show (fun p : Sim K × K => CE.ret p.1 p.2) (exitTime s tmax false lf (copysign 1 s.dt)) = _
  rw [exitTime_run s tmax lf _ hs]
  simp only [apply_ite (fun p : Sim K × K => CE.ret p.1 p.2)]

/-- what the state machine needs to know about a fixed-step integrator: time advances by `dt`,
    `dt` is not touched, `dt_last_done` is set to `dt` or not written at all (JANUS) -/
def IsFixed (step : StepFn K) : Prop :=
  ∀ k t dt dld, (step k t dt dld).t = t + dt ∧ (step k t dt dld).dt = dt ∧
    ((step k t dt dld).dld = dt ∨ (step k t dt dld).dld = dld)

theorem isFixed_once : IsFixed (stepOnce : StepFn K) := by
  intro k t dt dld; simp [stepOnce]

theorem isFixed_halves : IsFixed (stepHalves : StepFn K) := by
  intro k t dt dld
  refine ⟨?_, rfl, Or.inl rfl⟩
  simp only [stepHalves, sc_hadd, sc_hdiv, sc_ofNat]
  push_cast
  linarith [add_halves dt]

theorem isFixed_janus : IsFixed (stepJanus : StepFn K) := by
  intro k t dt dld; simp [stepJanus]

/-- the sequence of step calls recorded in the ghost history: (time before, dt used, time after),
    newest first -/
def stepSeq (s : Sim K) : List (K × K × K) := s.hist.map (fun b => (b.t0, b.dt0, b.t1))

/-- `n` consecutive steps of size `d` starting at `t`, newest first -/
def seqOf (t d : K) : Nat → List (K × K × K)
  | 0 => []
  | n + 1 => seqOf (t + d) d n ++ [(t, d, t + d)]

theorem seqOf_length (t d : K) (n : Nat) : (seqOf t d n).length = n := by
  induction n generalizing t with
  | zero => rfl
  | succ n ih => simp [seqOf, ih]

theorem seqOf_add (t d : K) (a b : Nat) :
    seqOf t d (a + b) = seqOf (t + a * d) d b ++ seqOf t d a := by
  induction a generalizing t with
  | zero => simp [seqOf]
  | succ a ih =>
    have : a + 1 + b = (a + b) + 1 := by omega
    have e : t + d + (a : K) * d = t + ((a + 1 : ℕ) : K) * d := by push_cast; ring
    rw [this, seqOf, ih (t + d), seqOf, ← List.append_assoc, e]

theorem seqOf_mem (t d : K) (n : Nat) (e : K × K × K) (h : e ∈ seqOf t d n) :
    e.2.1 = d ∧ e.2.2 = e.1 + d := by
  induction n generalizing t with
  | zero => simp [seqOf] at h
  | succ n ih =>
    simp only [seqOf, List.mem_append, List.mem_singleton] at h
    rcases h with h | h
    · exact ih _ h
    · subst h; simp

theorem loop_succ (step : StepFn K) (env : Nat → Flags) (tmax : K) (inf : Bool) (fuel k : Nat)
    (s : Sim K) (lf : K) :
    loop step env tmax inf (fuel + 1) k s lf =
      match checkExit s tmax inf lf (env k) with
      | .blocked s' => (.blocked s', lf)
      | .ret s' lf' =>
        if s'.status < 0 then
          loop step env tmax inf fuel (k + 1) (stepAndBeat step k s' (env (k + 1))) lf'
        else (.done s', lf') := rfl

theorem loop_of_ret_neg (step : StepFn K) (env : Nat → Flags) (tmax : K) (inf : Bool) (fuel k : Nat)
    (s s' : Sim K) (lf lf' : K) (h : checkExit s tmax inf lf (env k) = .ret s' lf')
    (hneg : s'.status < 0) :
    loop step env tmax inf (fuel + 1) k s lf =
      loop step env tmax inf fuel (k + 1) (stepAndBeat step k s' (env (k + 1))) lf' := by
  rw [loop_succ, h]; simp [hneg]

theorem loop_of_ret_done (step : StepFn K) (env : Nat → Flags) (tmax : K) (inf : Bool) (fuel k : Nat)
    (s s' : Sim K) (lf lf' : K) (h : checkExit s tmax inf lf (env k) = .ret s' lf')
    (hpos : ¬ s'.status < 0) :
    loop step env tmax inf (fuel + 1) k s lf = (.done s', lf') := by
  rw [loop_succ, h]; simp [hpos]

/-- exact_finish_time ≠ 1, fixed step: the loop stops at the first boundary at or past `tmax` -/
theorem loop_nonexact (step : StepFn K) (hfix : IsFixed step) (env : Nat → Flags)
    (henv : ∀ k, (env k).Clear) (tmax d sg : K) (hsg : sg = 1 ∨ sg = -1) (hd : 0 < d * sg) :
    ∀ (n : Nat) (s : Sim K) (k : Nat) (lf : K), s.status = -1 → s.exactFinish ≠ 1 → s.dt = d →
      (∀ j : Nat, j < n → (s.t + j * d) * sg < tmax * sg) → tmax * sg ≤ (s.t + n * d) * sg →
      ∀ fuel, n + 1 ≤ fuel → ∃ s', loop step env tmax false fuel k s lf = (.done s', lf) ∧
        s'.t = s.t + n * d ∧ s'.dt = d ∧ s'.status = 0 ∧ s'.stepsDone = s.stepsDone + n ∧
        s'.exactFinish = s.exactFinish ∧ s'.syncs = s.syncs ∧
        stepSeq s' = seqOf s.t d n ++ stepSeq s := by
  intro n
  induction n with
  | zero =>
    intro s k lf hst hex hdt hfirst hpast fuel hfuel
    obtain ⟨f, rfl⟩ : ∃ f, fuel = f + 1 := ⟨fuel - 1, by omega⟩
    have hc := copysign_one_dir hsg (by rw [← hdt] at hd; exact hd)
    have hp : tmax * sg ≤ s.t * sg := by simpa using hpast
    rw [loop_succ, checkExit_run s tmax lf (env k) (Or.inl hst) (henv k).errMsg (henv k).n_ne]
    simp [hex, hc, hp]
    simp [seqOf, hdt, stepSeq]
  | succ n ih =>
    intro s k lf hst hex hdt hfirst hpast fuel hfuel
    obtain ⟨f, rfl⟩ : ∃ f, fuel = f + 1 := ⟨fuel - 1, by omega⟩
    have hc := copysign_one_dir hsg (by rw [← hdt] at hd; exact hd)
    have h0 : ¬ (tmax * sg ≤ s.t * sg) := by
      have := hfirst 0 (by omega)
      simp at this
      exact not_le.mpr this
    rw [loop_succ, checkExit_run s tmax lf (env k) (Or.inl hst) (henv k).errMsg (henv k).n_ne]
    simp only [hex, if_false, hc, h0]
    simp only [hst]
    rw [if_pos (by norm_num)]
    obtain ⟨e1, e2, e3⟩ := hfix k s.t s.dt s.dtLastDone
    rw [stepAndBeat_clear step k s (env (k + 1)) (henv (k + 1))]
    have t1 : (stepped step k s).t = s.t + d := by rw [stepped_t, e1, hdt]
    have d1 : (stepped step k s).dt = d := by rw [stepped_dt, e2, hdt]
    have := ih (stepped step k s) (k + 1) lf hst hex d1
               (by
                 intro j hj
                 have := hfirst (j + 1) (by omega)
                 push_cast at this
                 have e : s.t + d + (j : K) * d = s.t + ((j : K) + 1) * d := by ring
                 rw [t1, e]; exact this)
               (by
                 push_cast at hpast
                 have e : s.t + d + (n : K) * d = s.t + ((n : K) + 1) * d := by ring
                 rw [t1, e]; exact hpast)
               f (by omega)
    obtain ⟨s', h1, h2, h3, h4, h5, h6, h7, h8⟩ := this
    refine ⟨s', h1, ?_, h3, h4, ?_, h6, h7, ?_⟩
    · rw [h2, t1]; push_cast; ring
    · rw [h5, stepped_steps]; omega
    · rw [h8, t1]
      have e1' := e1
      rw [hdt] at e1'
      simp only [stepSeq, seqOf, stepped_hist, List.map_cons, List.append_assoc, List.singleton_append,
        hdt, e1']

/-- what a step recorded in the ghost history must look like in a well-behaved run towards `tmax`
    in direction `sg` with user step `d`: it advances time by the step size it was called with, in
    the direction of integration, by no more than `|d|`, and does not pass `tmax` -/
def GoodBeat (tmax d sg : K) (b : Beat K) : Prop :=
  b.t1 = b.t0 + b.dt0 ∧ 0 < b.dt0 * sg ∧ b.dt0 * sg ≤ d * sg ∧ b.t1 * sg ≤ tmax * sg

/-- exact_finish_time = 1, fixed step, `n·|d| < |tmax − t| ≤ (n+1)·|d|`: exactly `n+1` more steps,
    the last one shrunk to `tmax − t`, ending at `t = tmax` exactly with status SUCCESS and
    `last_full_dt = d` -/
theorem loop_exact (step : StepFn K) (hfix : IsFixed step) (env : Nat → Flags)
    (henv : ∀ k, (env k).Clear) (tmax d sg : K) (hsg : sg = 1 ∨ sg = -1) (hd : 0 < d * sg) :
    ∀ (n : Nat) (s : Sim K) (k : Nat), s.status = -1 → s.exactFinish = 1 → s.dt = d →
      (s.dtLastDone = 0 ∨ s.dtLastDone = d) →
      (n : K) * (d * sg) < (tmax - s.t) * sg → (tmax - s.t) * sg ≤ ((n : K) + 1) * (d * sg) →
      ∀ fuel, n + 2 ≤ fuel → ∃ s', loop step env tmax false fuel k s d = (.done s', d) ∧
        s'.t = tmax ∧ s'.status = 0 ∧ s'.stepsDone = s.stepsDone + (n + 1) ∧ s'.exactFinish = 1 ∧
        s'.hist.length = s.hist.length + (n + 1) ∧
        (∀ b ∈ s'.hist, b ∈ s.hist ∨ GoodBeat tmax d sg b) := by
  intro n
  induction n with
  | zero =>
    intro s k hst hex hdt hdld hlo hhi fuel hfuel
    obtain ⟨f, rfl⟩ : ∃ f, fuel = f + 2 := ⟨fuel - 2, by omega⟩
    have hc := copysign_one_dir hsg (by rw [← hdt] at hd; exact hd)
    simp only [Nat.cast_zero, zero_mul, zero_add, one_mul] at hlo hhi
    have hne : s.t ≠ tmax := by
      intro h; rw [h] at hlo; simp at hlo
    have hnear : tmax * sg ≤ (s.t + s.dt) * sg := by rw [hdt]; linarith
    have hlf : (if s.dtLastDone ≠ 0 then s.dtLastDone else d) = d := by
      rcases hdld with h | h <;> simp [h]
    have hce : checkExit s tmax false d (env k) =
        .ret { s with status := -2, syncs := s.syncs + 1, dt := tmax - s.t } d := by
      rw [checkExit_run s tmax d (env k) (Or.inl hst) (henv k).errMsg (henv k).n_ne]
      simp only [hex, if_true, hc, hnear, hne, if_false, hst, hlf]
      simp
    rw [loop_of_ret_neg step env tmax false (f + 1) k s _ d d hce (by norm_num)]
    rw [stepAndBeat_clear step k _ (env (k + 1)) (henv (k + 1))]
    obtain ⟨e1, e2, e3⟩ := hfix k s.t (tmax - s.t) s.dtLastDone
    have t2 : (step k s.t (tmax - s.t) s.dtLastDone).t = tmax := by rw [e1]; ring
    have hc2 : copysign 1 (tmax - s.t) = sg := copysign_one_dir hsg hlo
    have hnear2 : tmax * sg ≤ (tmax + (tmax - s.t)) * sg := by linarith
    have hce2 : checkExit (stepped step k { s with status := -2, syncs := s.syncs + 1, dt := tmax - s.t })
        tmax false d (env (k + 1)) =
        .ret { stepped step k { s with status := -2, syncs := s.syncs + 1, dt := tmax - s.t } with status := 0 } d := by
      rw [checkExit_run _ tmax d (env (k + 1)) (Or.inr (by simp)) (henv (k + 1)).errMsg
        (henv (k + 1)).n_ne]
      simp only [stepped_exact, stepped_t, stepped_dt, stepped_status, hex, if_true, e2, hc2, t2, hnear2]
    rw [loop_of_ret_done step env tmax false f (k + 1) _ _ d d hce2 (by norm_num)]
    refine ⟨_, rfl, t2, rfl, rfl, hex, rfl, ?_⟩
    · intro b hb
      simp only [stepped_hist, List.mem_cons] at hb
      rcases hb with hb | hb
      · right
        subst hb
        refine ⟨?_, ?_, ?_, ?_⟩
        · simp [t2]
        · simpa using hlo
        · simpa using hhi
        · simp [t2]
      · left; exact hb
  | succ n ih =>
    intro s k hst hex hdt hdld hlo hhi fuel hfuel
    obtain ⟨f, rfl⟩ : ∃ f, fuel = f + 1 := ⟨fuel - 1, by omega⟩
    have hc := copysign_one_dir hsg (by rw [← hdt] at hd; exact hd)
    have hn0 : (0 : K) ≤ n := Nat.cast_nonneg n
    push_cast at hlo hhi
    have hfar : ¬ (tmax * sg ≤ (s.t + s.dt) * sg) := by
      rw [hdt, not_le]; linarith [mul_nonneg hn0 hd.le]
    have hce : checkExit s tmax false d (env k) = .ret s d := by
      rw [checkExit_run s tmax d (env k) (Or.inl hst) (henv k).errMsg (henv k).n_ne]
      simp only [hex, if_true, hc, hfar, if_false, hst]
      simp
    rw [loop_of_ret_neg step env tmax false f k s s d d hce (by rw [hst]; norm_num)]
    rw [stepAndBeat_clear step k s (env (k + 1)) (henv (k + 1))]
    obtain ⟨e1, e2, e3⟩ := hfix k s.t s.dt s.dtLastDone
    have t1 : (stepped step k s).t = s.t + d := by rw [stepped_t, e1, hdt]
    have d1 : (stepped step k s).dt = d := by rw [stepped_dt, e2, hdt]
    have l1 : (stepped step k s).dtLastDone = 0 ∨ (stepped step k s).dtLastDone = d := by
      rw [stepped_dld]
      rcases e3 with h | h
      · right; rw [h, hdt]
      · rw [h]; exact hdld
    have := ih (stepped step k s) (k + 1) hst hex d1 l1
      (by rw [t1]; linarith) (by rw [t1]; linarith) f (by omega)
    obtain ⟨s', h1, h2, h3, h4, h5, h6, h7⟩ := this
    refine ⟨s', h1, h2, h3, ?_, h5, ?_, ?_⟩
    · rw [h4, stepped_steps]; omega
    · rw [h6, stepped_hist, List.length_cons]; omega
    · intro b hb
      rcases h7 b hb with hb | hb
      · simp only [stepped_hist, List.mem_cons] at hb
        rcases hb with hb | hb
        · right
          subst hb
          have e1' := e1
          rw [hdt] at e1'
          refine ⟨?_, ?_, ?_, ?_⟩
          · simp [hdt, e1']
          · simpa [hdt] using hd
          · simp [hdt]
          · simp only [hdt, e1']; linarith [mul_nonneg hn0 hd.le]
        · left; exact hb
      · right; exact hb

/-- the prologue, entered neither PAUSED nor with a SCREENSHOT pending: `dt` gets the sign of the direction
    (and is `last_full_dt`), `dt_last_done` is reset, the status is RUNNING unless the first heartbeat
    (user stop, escape, encounter) says otherwise -/
theorem start_form (s : Sim K) (tmax : K) (f0 : Flags) (hst : s.status ≠ -3 ∧ s.status ≠ -4) :
    start s tmax f0 =
      ({ s with dt := if tmax = s.t then s.dt else dirOf s.t tmax * |s.dt|, dtLastDone := 0,
                status := if f0.encounter then 3 else if f0.escape then 4 else if f0.user then 5 else -1 },
       if tmax = s.t then s.dt else dirOf s.t tmax * |s.dt|) := by
  have hcs : copysign s.dt (if s.t < tmax then (1 : K) else -1) = dirOf s.t tmax * |s.dt| := by
    by_cases h : s.t < tmax
    · rw [dirOf, if_pos h, copysign_pos, one_mul]
    · rw [dirOf, if_neg h, copysign_neg, neg_one_mul]
  by_cases hne : tmax = s.t
  · simp only [start, runHeartbeat_eq, fne_iff, hne, ne_eq, not_true_eq_false, decide_false, Bool.false_eq_true,
      if_false, if_true, Status.code, hst.1, hst.2, not_false_eq_true, and_self, sc_zero]
  · simp only [start, runHeartbeat_eq, fne_iff, fgt_iff, hne, ne_eq, not_false_eq_true, decide_true, if_true, if_false,
      Status.code, hst.1, hst.2, and_self, decide_eq_true_eq, hcs, sc_zero, sc_one]

theorem start_ne (s : Sim K) (tmax : K) (f0 : Flags) (h0 : f0.Clear)
    (hst : s.status ≠ -3 ∧ s.status ≠ -4) (hne : tmax ≠ s.t) :
    start s tmax f0 =
      ({ s with dt := dirOf s.t tmax * |s.dt|, dtLastDone := 0, status := -1 },
       dirOf s.t tmax * |s.dt|) := by
  obtain ⟨⟨-, hu, he, hn, -⟩, -⟩ := h0
  rw [start_form s tmax f0 hst, if_neg hne, hu, he, hn]; rfl

theorem start_eq (s : Sim K) (tmax : K) (f0 : Flags) (h0 : f0.Clear)
    (hst : s.status ≠ -3 ∧ s.status ≠ -4) (heq : tmax = s.t) :
    start s tmax f0 = ({ s with dtLastDone := 0, status := -1 }, s.dt) := by
  obtain ⟨⟨-, hu, he, hn, -⟩, -⟩ := h0
  rw [start_form s tmax f0 hst, if_pos heq, hu, he, hn]; rfl

theorem integrate_of_loop_done (step : StepFn K) (env : Nat → Flags) (fuel : Nat) (s s1 s' : Sim K)
    (tmax lf lf' : K) (inf : Bool) (hs : start s tmax (env 0) = (s1, lf))
    (hl : loop step env tmax inf fuel 0 s1 lf = (.done s', lf')) :
    integrate step env fuel s tmax inf = .done (finish s' lf') := by
  unfold integrate
  rw [hs]
  simp only [hl]

end RV.Integrate
