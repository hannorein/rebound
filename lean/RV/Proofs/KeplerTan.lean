import RV.Proofs.Kepler
import RV.Model.Dual
/- the tangent map of reb_whfast_kepler_solver is the derivative of the model's Kepler step:
   derivative rules of the Stumpff / Stiefel functions as carried by the code (helper lemmas for
   RV/Props/C03Tan.lean).  Dual numbers `a + ε b` from RV/Model/Dual.lean: running the model's own
   functions on duals gives, in the ε-part, the derivative. -/
namespace RV
variable {K : Type} [Field K]

/-- ε-part of one Horner step `a − z c` with a constant `a`: how every linear relation
    `c_k = 1/k! − z c_{k+2}` of the Stumpff functions differentiates -/
theorem Dual.horner_eps (a z c : Dual K) (ha : a.eps = 0) :
    (a - z * c).eps = -(z.eps * c.re + z.re * c.eps) := by
  dsimp only [Dual.sub_eps, Dual.mul_eps]; rw [ha]; ring

namespace Kepler

theorem lit_eps (p q : Nat) : (lit p q : Dual K).eps = 0 := by
  dsimp only [lit, Dual.div_eps, Dual.ofNat_re, Dual.ofNat_eps, sc_zero]; ring

theorem invfact_re (i : Fin 35) : (invfact i : Dual K).re = (invfact i : K) := rfl

theorem invfact_eps (i : Fin 35) : (invfact i : Dual K).eps = 0 := lit_eps _ _

variable [CharZero K]

/-- the three linear relations of `Stumpff6Rel` plus `c2² + z c3² = 2(c3 − c4)`
    (it implies the quadratic relation of `Stumpff6Rel` (`Stumpff6S.toRel`), is implied by it when
    `z ≠ 0` (not proved here), and — unlike it — makes the derivative rules below close under
    duplication). -/
structure Stumpff6S (s : Cs5 K) : Prop where
  h1 : s.c1 = 1 - s.z * s.c3
  h2 : s.c2 = 1 / 2 - s.z * s.c4
  h3 : s.c3 = 1 / 6 - s.z * s.c5
  q2 : s.c2 ^ 2 + s.z * s.c3 ^ 2 = 2 * (s.c3 - s.c4)

theorem Stumpff6S.toRel {s : Cs5 K} (h : Stumpff6S s) : Stumpff6Rel s := by
  obtain ⟨h1, h2, h3, q2⟩ := h
  refine ⟨h1, h2, h3, ?_⟩
  rw [h1]
  linear_combination s.z * q2 - 2 * h2

theorem cs6DupStep_relS {s : Cs5 K} (h : Stumpff6S s) : Stumpff6S (cs6DupStep s) := by
  obtain ⟨z, c1, c2, c3, c4, c5⟩ := s
  obtain ⟨h1, h2, h3, q2⟩ := h
  dsimp only at h1 h2 h3 q2
  refine ⟨rfl, ?_, ?_, ?_⟩ <;>
    dsimp only [cs6DupStep, half, lit, n4, eighth, sixteenth, sc_one, sc_ofNat]
  · ring
  · ring
  · subst h1 h2 h3
    -- the multiplier is `z·c1²/4`, with `c1 = 1 − z c3` written out because `h1`, `h3` were substituted
    linear_combination (z * (6 * c5 * z ^ 2 - z + 6) ^ 2 / 144) * q2

/-- an invariant of the loop body is an invariant of the `for(;n>0;n--)` loop of stumpff_cs -/
theorem cs6Dup_invariant {F : Type} [Scalar F] {P : Cs5 F → Prop} (hP : ∀ s, P s → P (cs6DupStep s))
    (n : Nat) {s : Cs5 F} (h : P s) : P (cs6Dup n s) := by
  induction n generalizing s with
  | zero => exact h
  | succ n ih => exact ih (hP s h)

def re5 (s : Cs5 (Dual K)) : Cs5 K := ⟨s.z.re, s.c1.re, s.c2.re, s.c3.re, s.c4.re, s.c5.re⟩

/-- `s` = values of the Stumpff functions c1..c5 at `z + ε dz` to first order: the real parts satisfy
    the relations, the linear relations also hold in the ε-parts, and
      c2' = (2 c4 − c3)/2,   c3' = (3 c5 − c4)/2      (c_k' = (k c_{k+2} − c_{k+1})/2)
    — the rules the tangent map of the C code hard-wires as `G1beta, G2beta, G3beta`. -/
structure StumpffD (s : Cs5 (Dual K)) : Prop where
  rel : Stumpff6S (re5 s)
  l1 : s.c1.eps = -(s.z.eps * s.c3.re + s.z.re * s.c3.eps)
  l2 : s.c2.eps = -(s.z.eps * s.c4.re + s.z.re * s.c4.eps)
  l3 : s.c3.eps = -(s.z.eps * s.c5.re + s.z.re * s.c5.eps)
  d2 : s.c2.eps = (2 * s.c4.re - s.c3.re) / 2 * s.z.eps
  d3 : s.c3.eps = (3 * s.c5.re - s.c4.re) / 2 * s.z.eps

theorem StumpffD.d1 {s : Cs5 (Dual K)} (h : StumpffD s) :
    s.c1.eps = (s.c3.re - s.c2.re) / 2 * s.z.eps := by
  obtain ⟨⟨-, h2, h3, -⟩, l1, -, -, -, d3⟩ := h
  dsimp only [re5] at h2 h3
  rw [l1, d3]
  linear_combination (s.z.eps / 2) * h2 + (-3 * s.z.eps / 2) * h3

/-- ε-part of `c0 = 1 − z c2`: `c0' = −c1/2` -/
theorem StumpffD.d0 {s : Cs5 (Dual K)} (h : StumpffD s) :
    -(s.z.eps * s.c2.re + s.z.re * s.c2.eps) = -s.c1.re / 2 * s.z.eps := by
  obtain ⟨⟨h1, h2, -, -⟩, -, -, -, d2, -⟩ := h
  dsimp only [re5] at h1 h2
  rw [d2]
  linear_combination (s.z.eps / 2) * h1 + (-s.z.eps) * h2

/-- **the duplication step of stumpff_cs maps first-order data at z to first-order data at 4z**:
    the derivative rules are preserved exactly. -/
theorem cs6DupStep_D {s : Cs5 (Dual K)} (h : StumpffD s) : StumpffD (cs6DupStep s) := by
  have hr : Stumpff6S (re5 (cs6DupStep s)) := cs6DupStep_relS h.rel
  obtain ⟨⟨h1, h2, h3, q2⟩, l1, l2, l3, d2, d3⟩ := h
  obtain ⟨⟨z, dz⟩, ⟨c1, e1⟩, ⟨c2, e2⟩, ⟨c3, e3⟩, ⟨c4, e4⟩, ⟨c5, e5⟩⟩ := s
  dsimp only [re5] at h1 h2 h3 q2 l1 l2 l3 d2 d3
  refine ⟨hr, Dual.horner_eps _ _ _ rfl, Dual.horner_eps _ _ _ (lit_eps 1 2),
    Dual.horner_eps _ _ _ (lit_eps 1 6), ?_, ?_⟩ <;>
    dsimp only [cs6DupStep, n4, sixteenth, eighth, half, lit, Dual.add_re, Dual.add_eps, Dual.sub_re,
      Dual.sub_eps, Dual.mul_re, Dual.mul_eps, Dual.div_re, Dual.div_eps, Dual.one_re, Dual.one_eps,
      Dual.ofNat_re, Dual.ofNat_eps, sc_zero, sc_one, sc_ofNat] <;>
    subst h1 l1 d2 d3 h2 h3
  · ring
  · linear_combination (-1/4 : K) * l2 + (-1/4 : K) * l3 + (-dz / 8) * q2

/-- scaling by powers of `X` (stiefel_Gs) turns first-order Stumpff data at `β X²` into the
    derivative rules of the G functions,
       dG_k = G_{k-1} dX + ½ (k G_{k+2} − X G_{k+1}) dβ ,     k = 1, 2, 3
    which are literally the lines `dG1, dG2, dG3` (with `G1beta, G2beta, G3beta`) of the C code. -/
theorem scaleGs6_D {s : Cs5 (Dual K)} (h : StumpffD s) (β X : Dual K) (hz : s.z = β * (X * X)) :
    let g := scaleGs6 X (cs6Finish s)
    g.c1.eps = g.c0.re * X.eps + 1 / 2 * (g.c3.re - X.re * g.c2.re) * β.eps ∧
    g.c2.eps = g.c1.re * X.eps + 1 / 2 * (2 * g.c4.re - X.re * g.c3.re) * β.eps ∧
    g.c3.eps = g.c2.re * X.eps + 1 / 2 * (3 * g.c5.re - X.re * g.c4.re) * β.eps ∧
    g.c0.re = 1 - β.re * g.c2.re ∧ g.c1.re = X.re - β.re * g.c3.re := by
  have hd1 := h.d1
  obtain ⟨⟨h1, h2, h3, -⟩, -, -, -, d2, d3⟩ := h
  obtain ⟨⟨z, dz⟩, ⟨c1, e1⟩, ⟨c2, e2⟩, ⟨c3, e3⟩, ⟨c4, e4⟩, ⟨c5, e5⟩⟩ := s
  obtain ⟨b, db⟩ := β
  obtain ⟨x, dx⟩ := X
  obtain ⟨hz1, hz2⟩ : z = b * (x * x) ∧ dz = b * (x * dx + dx * x) + db * (x * x) := Dual.mk.inj hz
  dsimp only [re5] at h1 h2 h3 d2 d3 hd1
  dsimp only [scaleGs6, cs6Finish, Dual.sub_re, Dual.mul_re, Dual.mul_eps, invfact_re]
  rw [invfact_vals.1]
  subst hz1 hz2 hd1 d2 d3
  refine ⟨?_, ?_, ?_, ?_, ?_⟩
  · linear_combination dx * h1
  · linear_combination (-(x * dx)) * h1 + (2 * x * dx) * h2
  · linear_combination (-(x * x * dx)) * h2 + (3 * x * x * dx) * h3
  · ring
  · linear_combination x * h1

end Kepler
end RV
