import RV.Proofs.Tree
/-
  Termination of the insertion (`add_terminates`): two particles separated by more than `w / 2^k` in some
  coordinate (`Sep`) end up in different cells after at most `k` further refinements; fuel `depth t + k + 1` suffices.
-/
set_option linter.unusedSectionVars false
set_option linter.unusedSimpArgs false
namespace RV.C15
open RV RV.Tree

variable {K : Type} [Field K] [LinearOrder K] [IsStrictOrderedRing K]

def Sep (p q : Pt K) (w : K) (k : Nat) : Prop :=
  w < 2 ^ k * |p.x - q.x| ∨ w < 2 ^ k * |p.y - q.y| ∨ w < 2 ^ k * |p.z - q.z|

theorem axis_close (a b c w : K) (ha : |a - c| ≤ w / 2) (hb : |b - c| ≤ w / 2) : |a - b| ≤ w := by
  have h1 := abs_le.mp ha
  have h2 := abs_le.mp hb
  rw [abs_le]; constructor <;> linarith

theorem w_nonneg_of_In (p : Pt K) (c : Cell K) (h : In p c) : 0 ≤ c.w := by
  have := abs_nonneg (p.x - c.x)
  have := h.1
  linarith

theorem not_Sep_zero (p q : Pt K) (c : Cell K) (hp : In p c) (hq : In q c) : ¬ Sep p q c.w 0 := by
  intro h
  have hx := axis_close _ _ _ _ hp.1 hq.1
  have hy := axis_close _ _ _ _ hp.2.1 hq.2.1
  have hz := axis_close _ _ _ _ hp.2.2 hq.2.2
  rcases h with h | h | h <;> simp at h <;> linarith

theorem Sep_of_samePos (p q : Pt K) (w : K) (k : Nat) (hw : 0 ≤ w) (hs : samePos p q = true) : ¬ Sep p q w k := by
  simp only [samePos, Bool.and_eq_true, so_le] at hs
  obtain ⟨⟨⟨h1, h2⟩, ⟨h3, h4⟩⟩, ⟨h5, h6⟩⟩ := hs
  have ex : p.x = q.x := le_antisymm h1 h2
  have ey : p.y = q.y := le_antisymm h3 h4
  have ez : p.z = q.z := le_antisymm h5 h6
  intro h
  rcases h with h | h | h <;> simp [ex, ey, ez] at h <;> linarith

theorem childCell_w (c : Cell K) (o : Fin 8) : (childCell c o).w = c.w / 2 := by
  simp [childCell]

theorem add_leaf_terminates (ps : Nat → Pt K) (pt q : Nat) : ∀ (k : Nat) (c cnew : Cell K) (g : Grav K),
    In (ps q) c → In (ps pt) c → Sep (ps pt) (ps q) c.w k →
    ∃ t', add ps (k + 1) (.leaf c g q) cnew pt = .ok t' := by
  intro k
  induction k with
  | zero => intro c cnew g hq hp hs; exact absurd hs (not_Sep_zero _ _ c hp hq)
  | succ k ih =>
    intro c cnew g hq hp hs
    have hw := w_nonneg_of_In _ _ hp
    simp only [add]
    split
    · rename_i hco
      exact absurd hs (Sep_of_samePos _ _ _ _ hw hco.2)
    · simp only [add_nil, bind, Except.bind]
      by_cases e : octant (ps pt) c = octant (ps q) c
      · rw [e, setCh_same]
        have hq' : In (ps q) (childCell c (octant (ps q) c)) := In_child _ _ hq
        have hp' : In (ps pt) (childCell c (octant (ps q) c)) := by rw [← e]; exact In_child _ _ hp
        have hs' : Sep (ps pt) (ps q) (childCell c (octant (ps q) c)).w k := by
          rw [childCell_w]
          rcases hs with h | h | h
          · left; rw [pow_succ] at h; linarith
          · right; left; rw [pow_succ] at h; linarith
          · right; right; rw [pow_succ] at h; linarith
        obtain ⟨t2, h2⟩ := ih _ (childCell c (octant (ps q) c)) zeroGrav hq' hp' hs'
        rw [h2]
        exact ⟨_, rfl⟩
      · rw [setCh_other _ _ _ _ e, add_nil]
        exact ⟨_, rfl⟩

theorem add_mono (ps : Nat → Pt K) : ∀ (f : Nat) (t : T K) (c : Cell K) (pt : Nat) (t' : T K),
    add ps f t c pt = .ok t' → add ps (f + 1) t c pt = .ok t' := by
  intro f
  induction f with
  | zero =>
    intro t c pt t' h
    cases t with
    | nil => rw [add_nil] at h ⊢; exact h
    | leaf _ _ _ => simp [add] at h
    | node _ _ _ _ => simp [add] at h
  | succ f ih =>
    intro t c pt t' h
    cases t with
    | nil => rw [add_nil] at h ⊢; exact h
    | leaf c0 g q =>
      simp only [add] at h ⊢
      split at h
      · simp at h
      · rename_i hco
        rw [if_neg hco]
        simp only [add_nil, bind, Except.bind] at h ⊢
        cases h2 : add ps f (setCh (fun _ => T.nil) (octant (ps q) c0) (T.leaf (childCell c0 (octant (ps q) c0)) zeroGrav q)
            (octant (ps pt) c0)) (childCell c0 (octant (ps pt) c0)) pt with
        | error e => simp [h2] at h
        | ok t2 =>
          rw [ih _ _ _ _ h2]
          simp only [h2] at h
          exact h
    | node c0 g n ch =>
      simp only [add, bind, Except.bind] at h ⊢
      cases h1 : add ps f (ch (octant (ps pt) c0)) (childCell c0 (octant (ps pt) c0)) pt with
      | error e => simp [h1] at h
      | ok t1 =>
        rw [ih _ _ _ _ h1]
        simp only [h1] at h
        exact h

theorem add_mono_le (ps : Nat → Pt K) (f f' : Nat) (hf : f ≤ f') (t : T K) (c : Cell K) (pt : Nat) (t' : T K)
    (h : add ps f t c pt = .ok t') : add ps f' t c pt = .ok t' := by
  induction f' with
  | zero => have : f = 0 := by omega
            subst this; exact h
  | succ n ih =>
    by_cases e : f = n + 1
    · subst e; exact h
    · exact add_mono ps n t c pt t' (ih (by omega))

/-- height of a tree (number of inner-node levels) -/
def depth : T K → Nat
  | .nil => 0
  | .leaf _ _ _ => 0
  | .node _ _ _ ch => 1 + (List.finRange 8).foldl (fun a o => max a (depth (ch o))) 0

theorem le_foldl_max (f : Fin 8 → Nat) : ∀ (l : List (Fin 8)) (a : Nat) (o : Fin 8), o ∈ l →
    f o ≤ l.foldl (fun a o => max a (f o)) a := by
  intro l
  induction l with
  | nil => intro a o h; simp at h
  | cons x l ih =>
    intro a o h
    simp only [List.foldl_cons]
    have hmono : ∀ (l : List (Fin 8)) (a : Nat), a ≤ l.foldl (fun a o => max a (f o)) a := by
      intro l
      induction l with
      | nil => intro a; simp
      | cons y l ih2 => intro a; simp only [List.foldl_cons]; exact le_trans (le_max_left _ _) (ih2 _)
    rcases List.mem_cons.mp h with h | h
    · subst h; exact le_trans (le_max_right _ _) (hmono l _)
    · exact ih _ o h

theorem depth_child (c : Cell K) (g : Grav K) (n : Int) (ch : Fin 8 → T K) (o : Fin 8) :
    depth (ch o) + 1 ≤ depth (.node c g n ch) := by
  have := le_foldl_max (fun o => depth (ch o)) (List.finRange 8) 0 o (List.mem_finRange o)
  simp only [depth]
  omega

theorem Sep_half (p q : Pt K) (w : K) (k : Nat) (hw : 0 ≤ w) (h : Sep p q w k) : Sep p q (w / 2) k := by
  rcases h with h | h | h
  · left; linarith
  · right; left; linarith
  · right; right; linarith

/-- insertion terminates: if the new particle lies in the root cell and differs from every particle in the
    tree by more than `w / 2^k` on some axis, fuel `depth t + k + 1` suffices -/
theorem add_terminates (ps : Nat → Pt K) (tie : Bool) (pt k : Nat) : ∀ (t : T K) (c : Cell K),
    WF ps tie c t → In (ps pt) c → (∀ q ∈ leaves t, Sep (ps pt) (ps q) c.w k) →
    ∃ t', add ps (depth t + k + 1) t c pt = .ok t' := by
  intro t
  induction t with
  | nil => intro c _ _ _; exact ⟨_, add_nil ps _ c pt⟩
  | leaf c0 g q =>
    intro c hwf hp hs
    obtain ⟨hc, hq⟩ := hwf
    subst hc
    have := add_leaf_terminates ps pt q k c0 c0 g hq hp (hs q (by simp [leaves]))
    simpa [depth] using this
  | node c0 g n ch ih =>
    intro c hwf hp hs
    obtain ⟨hc, hch, _, _, _⟩ := hwf
    subst hc
    have hw := w_nonneg_of_In _ _ hp
    set o := octant (ps pt) c0 with ho
    have hs' : ∀ q ∈ leaves (ch o), Sep (ps pt) (ps q) (childCell c0 o).w k := by
      intro q hq
      rw [childCell_w]
      apply Sep_half _ _ _ _ hw
      apply hs
      simp only [leaves, List.mem_flatMap]
      exact ⟨o, List.mem_finRange o, hq⟩
    obtain ⟨t1, h1⟩ := ih o (childCell c0 o) (hch o) (In_child _ _ hp) hs'
    have hd := depth_child c0 g n ch o
    have h1' := add_mono_le ps _ (depth (T.node c0 g n ch) + k) (by omega) _ _ _ _ h1
    refine ⟨.node c0 g (n - 1) (setCh ch o t1), ?_⟩
    show add ps ((depth (T.node c0 g n ch) + k) + 1) (T.node c0 g n ch) c0 pt = _
    simp only [add, bind, Except.bind]
    rw [← ho, h1']

end RV.C15
