import RV.Model.Particles
/-
  Lemmas about RV/Model/Particles.lean (property C14): storage growth, the shift loop,
  binary search (soundness, absence of out-of-bounds reads, completeness on a sorted table),
  the rebuild loop with its zero-hash special case, lookup by hash for an arbitrary stale
  table, and the list identities the refinement proof needs.  Core Lean only (no Mathlib).
-/
namespace RV.Particles

theorem grow_spec (mem : List P) (na n : Nat) (h : mem.length = na) :
    ∃ k, grow mem na n = (mem ++ List.replicate k P.zero, na + k) ∧ n < na + k := by
  fun_induction grow mem na n with
  | case1 mem na hle na' ih =>
    have hna : na ≤ na' := by simp only [na']; split <;> omega
    have hl : (mem ++ List.replicate (na' - na) P.zero).length = na' := by
      simp [List.length_append, List.length_replicate]; omega
    obtain ⟨k, hk, hlt⟩ := ih hl
    refine ⟨(na' - na) + k, ?_, ?_⟩
    · rw [hk]; simp [List.append_assoc, List.replicate_append_replicate]; omega
    · omega
  | case2 mem na hgt => exact ⟨0, by simp, by omega⟩

theorem dropLast_take_succ {α : Type} (l : List α) (n : Nat) (h : n + 1 ≤ l.length) :
    (l.take (n + 1)).dropLast = l.take n := by
  rw [List.dropLast_eq_take, List.length_take_of_le h, List.take_take]; simp

theorem shiftLoop_eq {α : Type} : ∀ (cnt : Nat) (mem : List α) (j m : Nat), j + cnt + 1 = m → m ≤ mem.length →
    shiftLoop mem j cnt = some ((mem.take m).eraseIdx j ++ mem.drop (m - 1))
  | 0, mem, j, m, h, hm => by
    subst h
    rw [List.eraseIdx_eq_dropLast (by rw [List.length_take_of_le hm]), dropLast_take_succ _ _ hm]
    simp [shiftLoop]
  | cnt + 1, mem, j, m, h, hm => by
    have h1 : j + 1 < mem.length := by omega
    rw [shiftLoop, List.getElem?_eq_getElem h1]
    simp only []
    rw [if_pos (by omega), shiftLoop_eq cnt _ (j + 1) m (by omega) (by simpa using hm),
      List.drop_set_of_lt (by omega), List.take_set, List.eraseIdx_set_gt (by omega)]
    have h2 : j + 1 < (mem.take m).length := by rw [List.length_take]; omega
    rw [← List.set_getElem_succ_eraseIdx_succ h2, List.getElem_take]

theorem bsearch_hit (t : List Entry) (h N : Nat) (l r : Int) (i : Nat)
    (hb : bsearch t h N l r = .hit i) : ∃ e ∈ t, e.hash = h ∧ e.index = i ∧ i < N := by
  fun_induction bsearch t h N l r with
  | case1 => simp at hb
  | case2 => simp at hb
  | case3 l r _ m _ e _ _ ih => exact ih hb
  | case4 l r _ m _ e _ _ _ ih => exact ih hb
  | case5 l r _ m _ e he h1 h2 h3 =>
    simp at hb
    exact ⟨e, List.mem_of_getElem? he, by omega, hb, by omega⟩
  | case6 => simp at hb
  | case7 => simp at hb

theorem bsearch_no_fault (t : List Entry) (h N : Nat) (l r : Int)
    (hl : 0 ≤ l) (hr : r < t.length) : bsearch t h N l r ≠ .fault := by
  fun_induction bsearch t h N l r with
  | case1 l r hlr m hm => omega
  | case2 l r hlr m hm hnone =>
    rw [List.getElem?_eq_none_iff] at hnone; omega
  | case3 l r hlr m _ e _ _ ih => exact ih (by omega) hr
  | case4 l r hlr m _ e _ _ _ ih => exact ih hl (by omega)
  | case5 => simp
  | case6 => simp
  | case7 => simp

def SortedH (t : List Entry) : Prop := t.Pairwise (fun a b => a.hash ≤ b.hash)

theorem sortedH_get {t : List Entry} (hs : SortedH t) {i j : Nat} {a b : Entry}
    (ha : t[i]? = some a) (hb : t[j]? = some b) (hij : i ≤ j) : a.hash ≤ b.hash := by
  obtain ⟨hi, rfl⟩ := List.getElem?_eq_some_iff.mp ha
  obtain ⟨hj, rfl⟩ := List.getElem?_eq_some_iff.mp hb
  by_cases h : i = j
  · subst h; omega
  · exact (List.pairwise_iff_getElem.mp hs) i j hi hj (by omega)

theorem bsearch_complete (t : List Entry) (h N : Nat) (l r : Int) (hs : SortedH t)
    (hidx : ∀ e ∈ t, e.hash = h → e.index < N)
    (hl : 0 ≤ l) (hr : r < t.length)
    (hin : ∀ (k : Nat) e, t[k]? = some e → e.hash = h → l ≤ k ∧ (k : Int) ≤ r)
    (hex : ∃ e ∈ t, e.hash = h) : ∃ i, bsearch t h N l r = .hit i := by
  fun_induction bsearch t h N l r with
  | case1 l r hlr m hm => omega
  | case2 l r hlr m hm hnone => rw [List.getElem?_eq_none_iff] at hnone; omega
  | case3 l r hlr m hm e he hlt ih =>
    apply ih (by omega) hr
    intro k e' hk hh
    have := hin k e' hk hh
    refine ⟨?_, this.2⟩
    by_cases hkm : k ≤ m.toNat
    · have := sortedH_get hs hk he hkm; omega
    · omega
  | case4 l r hlr m hm e he _ hgt ih =>
    apply ih hl (by omega)
    intro k e' hk hh
    have := hin k e' hk hh
    refine ⟨this.1, ?_⟩
    by_cases hkm : m.toNat ≤ k
    · have := sortedH_get hs he hk hkm; omega
    · omega
  | case5 l r _ m _ e he h1 h2 h3 => exact ⟨_, rfl⟩
  | case6 l r _ m _ e he h1 h2 h3 =>
    exact absurd (hidx e (List.mem_of_getElem? he) (by omega)) h3
  | case7 l r hlr =>
    obtain ⟨e, hm, hh⟩ := hex
    obtain ⟨k, hk⟩ := List.getElem?_of_mem hm
    have := hin k e hk hh
    omega

/-- invariant of `rebuildLoop` after the particles `pre` have been visited -/
structure LoopInv (pre : List P) (t : List Entry) (zh : Option Nat) : Prop where
  sound : ∀ (k : Nat) (e : Entry), t[k]? = some e → ∃ p : P, pre[e.index]? = some p ∧ p.hash = e.hash
  complete : ∀ (j : Nat) (p : P), pre[j]? = some p → ∃ (k : Nat) (e : Entry), t[k]? = some e ∧ e.hash = p.hash
  zero_some : ∀ z : Nat, zh = some z → ∃ e : Entry, t[z]? = some e ∧ e.hash = 0
  zero_none : zh = none → t.length = pre.length
  len : t.length ≤ pre.length
  zero_unique : ∀ (k : Nat) (e : Entry), t[k]? = some e → e.hash = 0 → zh = some k
  zero_last : ∀ z : Nat, zh = some z → ∃ e : Entry, t[z]? = some e ∧
    ∀ (j : Nat) (p : P), pre[j]? = some p → p.hash = 0 → j ≤ e.index

theorem LoopInv.init : LoopInv [] [] none :=
  ⟨by simp, by simp, by simp, by simp, by simp, by simp, by simp⟩

theorem getElem?_snoc_cases {α} (l : List α) (a : α) (k : Nat) (x : α)
    (h : (l ++ [a])[k]? = some x) : (k < l.length ∧ l[k]? = some x) ∨ (k = l.length ∧ x = a) := by
  rw [List.getElem?_append] at h
  split at h
  · exact Or.inl ⟨‹_›, h⟩
  · rw [List.getElem?_singleton] at h
    split at h
    · exact Or.inr ⟨by omega, (Option.some.inj h).symm⟩
    · cases h

theorem getElem?_snoc_left {α} (l : List α) (a : α) (k : Nat) (x : α) (h : l[k]? = some x) :
    (l ++ [a])[k]? = some x := by
  have hk := (List.getElem?_eq_some_iff.mp h).1
  rw [List.getElem?_append, if_pos hk]; exact h

/-- the table after a particle that gets an entry of its own: any non-zero hash, and the first zero hash -/
theorem LoopInv.snoc {pre : List P} {t : List Entry} {zh : Option Nat} (h : LoopInv pre t zh) (p : P)
    (hz : p.hash = 0 → zh = none) :
    LoopInv (pre ++ [p]) (t ++ [⟨p.hash, pre.length⟩]) (if p.hash = 0 then some t.length else zh) where
  sound := by
    intro k e hk
    rcases getElem?_snoc_cases _ _ _ _ hk with ⟨_, hk'⟩ | ⟨_, rfl⟩
    · obtain ⟨q, hq, hh⟩ := h.sound k e hk'
      exact ⟨q, getElem?_snoc_left _ _ _ _ hq, hh⟩
    · exact ⟨p, by simp, rfl⟩
  complete := by
    intro j q hj
    rcases getElem?_snoc_cases _ _ _ _ hj with ⟨_, hj'⟩ | ⟨_, rfl⟩
    · obtain ⟨k, e, hk, hh⟩ := h.complete j q hj'
      exact ⟨k, e, getElem?_snoc_left _ _ _ _ hk, hh⟩
    · exact ⟨t.length, _, List.getElem?_concat_length, rfl⟩
  zero_some := by
    intro z hzz
    by_cases hp : p.hash = 0
    · rw [if_pos hp] at hzz; cases hzz
      exact ⟨_, List.getElem?_concat_length, hp⟩
    · rw [if_neg hp] at hzz
      obtain ⟨e, he, he0⟩ := h.zero_some z hzz
      exact ⟨e, getElem?_snoc_left _ _ _ _ he, he0⟩
  zero_none := by
    intro hn
    by_cases hp : p.hash = 0
    · rw [if_pos hp] at hn; cases hn
    · rw [if_neg hp] at hn; simp [h.zero_none hn]
  len := by simp; exact h.len
  zero_unique := by
    intro k e hk he0
    rcases getElem?_snoc_cases _ _ _ _ hk with ⟨_, hk'⟩ | ⟨rfl, rfl⟩
    · have hu := h.zero_unique k e hk' he0
      by_cases hp : p.hash = 0
      · rw [hz hp] at hu; cases hu
      · rw [if_neg hp]; exact hu
    · rw [if_pos he0]
  zero_last := by
    intro z hzz
    by_cases hp : p.hash = 0
    · rw [if_pos hp] at hzz; cases hzz
      refine ⟨_, List.getElem?_concat_length, fun j q hj _ => ?_⟩
      have := (List.getElem?_eq_some_iff.mp hj).1
      simp at this; simp; omega
    · rw [if_neg hp] at hzz
      obtain ⟨e, he, hlast⟩ := h.zero_last z hzz
      refine ⟨e, getElem?_snoc_left _ _ _ _ he, fun j q hj hq0 => ?_⟩
      rcases getElem?_snoc_cases _ _ _ _ hj with ⟨_, hj'⟩ | ⟨_, rfl⟩
      · exact hlast j q hj' hq0
      · exact absurd hq0 hp

theorem rebuildLoop_spec : ∀ (ps pre : List P) (t : List Entry) (zh : Option Nat),
    LoopInv pre t zh →
    ∃ t' zh', rebuildLoop ps pre.length t zh = some t' ∧ LoopInv (pre ++ ps) t' zh' := by
  intro ps
  induction ps with
  | nil => intro pre t zh h; exact ⟨t, zh, rfl, by simpa using h⟩
  | cons p ps ih =>
    intro pre t zh h
    have hlen : (pre ++ [p]).length = pre.length + 1 := by simp
    have happ : pre ++ p :: ps = (pre ++ [p]) ++ ps := by simp
    -- the table after visiting `p`, in each of the three branches
    suffices hstep : ∃ t1 zh1, LoopInv (pre ++ [p]) t1 zh1 ∧
        rebuildLoop (p :: ps) pre.length t zh = rebuildLoop ps (pre.length + 1) t1 zh1 by
      obtain ⟨t1, zh1, hinv, heq⟩ := hstep
      obtain ⟨t', zh', e1, e2⟩ := ih (pre ++ [p]) t1 zh1 hinv
      rw [hlen] at e1
      exact ⟨t', zh', by rw [heq, e1], by rw [happ]; exact e2⟩
    by_cases hz : p.hash = 0
    · cases zh with
      | none =>
        have htl : t.length = pre.length := h.zero_none rfl
        refine ⟨t ++ [⟨p.hash, pre.length⟩], some pre.length, ?_, ?_⟩
        · have := h.snoc p fun _ => rfl
          rwa [if_pos hz, htl] at this
        · simp only [rebuildLoop, if_pos hz, tblWrite]
          rw [← htl, if_neg (Nat.lt_irrefl _), if_pos rfl]
          simp
      | some z =>
        obtain ⟨e, he, he0⟩ := h.zero_some z rfl
        have hzl : z < t.length := (List.getElem?_eq_some_iff.mp he).1
        have hset : (t.set z ⟨e.hash, pre.length⟩)[z]? = some ⟨e.hash, pre.length⟩ := by
          rw [List.getElem?_set, if_pos rfl, if_pos hzl]
        refine ⟨t.set z ⟨e.hash, pre.length⟩, some z, ?_, ?_⟩
        · refine ⟨?_, ?_, ?_, by simp, by simp; have := h.len; omega, ?_, ?_⟩
          · intro k e' hk
            by_cases hzk : z = k
            · subst hzk; rw [hset] at hk; cases hk
              exact ⟨p, by simp, by simp [hz, he0]⟩
            · rw [List.getElem?_set, if_neg hzk] at hk
              obtain ⟨q, hq, hh⟩ := h.sound k e' hk
              exact ⟨q, getElem?_snoc_left _ _ _ _ hq, hh⟩
          · intro j q hj
            rcases getElem?_snoc_cases _ _ _ _ hj with ⟨_, hj'⟩ | ⟨_, rfl⟩
            · obtain ⟨k, e', hk, hh⟩ := h.complete j q hj'
              by_cases hzk : z = k
              · subst hzk; rw [he] at hk; cases hk; exact ⟨z, _, hset, hh⟩
              · exact ⟨k, e', by rw [List.getElem?_set, if_neg hzk]; exact hk, hh⟩
            · exact ⟨z, _, hset, by rw [he0, hz]⟩
          · intro z' hzz
            cases hzz
            exact ⟨_, hset, he0⟩
          · intro k e' hk he0'
            by_cases hzk : z = k
            · rw [hzk]
            · rw [List.getElem?_set, if_neg hzk] at hk
              exact h.zero_unique k e' hk he0'
          · intro z' hzz
            cases hzz
            refine ⟨_, hset, fun j q hj _ => ?_⟩
            have := (List.getElem?_eq_some_iff.mp hj).1
            simp at this; simp; omega
        · simp only [rebuildLoop, if_pos hz, he]
    · refine ⟨t ++ [⟨p.hash, pre.length⟩], zh, ?_, ?_⟩
      · have := h.snoc p fun h0 => absurd h0 hz
        rwa [if_neg hz] at this
      · simp only [rebuildLoop, if_neg hz]

/-- the contract of C's `qsort` with `compare_hash` -/
def Sorter.Valid (s : Sorter) : Prop := ∀ l, (s.f l).Perm l ∧ SortedH (s.f l)

/-- what a freshly rebuilt table knows about the live particles -/
structure Fresh (c : State) (t : List Entry) : Prop where
  sorted : SortedH t
  sound : ∀ e ∈ t, ∃ p : P, (c.mem.take c.N)[e.index]? = some p ∧ p.hash = e.hash
  complete : ∀ (j : Nat) (p : P), (c.mem.take c.N)[j]? = some p → ∃ e ∈ t, e.hash = p.hash
  zero_last : ∀ e ∈ t, e.hash = 0 → ∀ (j : Nat) (p : P), (c.mem.take c.N)[j]? = some p → p.hash = 0 → j ≤ e.index

theorem rebuild_spec (srt : Sorter) (hv : srt.Valid) (c : State) :
    ∃ t, rebuild srt c = some { c with lookup := t } ∧ Fresh c t := by
  obtain ⟨t', zh', e1, inv⟩ := rebuildLoop_spec (c.mem.take c.N) [] [] none LoopInv.init
  simp only [List.length_nil, List.nil_append] at e1 inv
  obtain ⟨hp, hs⟩ := hv t'
  refine ⟨srt.f t', by simp [rebuild, e1], hs, ?_, ?_, ?_⟩
  · intro e he
    obtain ⟨k, hk⟩ := List.getElem?_of_mem (hp.mem_iff.mp he)
    exact inv.sound k e hk
  · intro j p hj
    obtain ⟨k, e, hk, hh⟩ := inv.complete j p hj
    exact ⟨e, hp.mem_iff.mpr (List.mem_of_getElem? hk), hh⟩
  · intro e he he0 j p hj hp0
    obtain ⟨k, hk⟩ := List.getElem?_of_mem (hp.mem_iff.mp he)
    have hz := inv.zero_unique k e hk he0
    obtain ⟨e', he', hl⟩ := inv.zero_last k hz
    rw [hk] at he'; simp at he'; subst he'
    exact hl j p hj hp0

theorem search_no_fault (t : List Entry) (h N : Nat) : search t h N ≠ .fault :=
  bsearch_no_fault t h N 0 _ (by omega) (by omega)

/-- the answer of a lookup, judged against the live particles only -/
def LookupRes (c : State) (h : Nat) : Out → Prop
  | .found i => i < c.N ∧ ∃ p : P, c.mem[i]? = some p ∧ p.hash = h
  | .notFound => ∀ (i : Nat) (p : P), i < c.N → c.mem[i]? = some p → p.hash ≠ h
  | _ => False

theorem LookupRes.cases {c : State} {h : Nat} {o : Out} (hr : LookupRes c h o) :
    (∃ i, o = .found i ∧ i < c.N ∧ ∃ p : P, c.mem[i]? = some p ∧ p.hash = h) ∨
    (o = .notFound ∧ ∀ (i : Nat) (p : P), i < c.N → c.mem[i]? = some p → p.hash ≠ h) := by
  cases o <;> simp only [LookupRes] at hr <;> try exact hr.elim
  · exact .inl ⟨_, rfl, hr⟩
  · exact .inr ⟨rfl, hr⟩

theorem take_get {c : State} {i : Nat} {p : P} (h : (c.mem.take c.N)[i]? = some p) :
    i < c.N ∧ c.mem[i]? = some p := by
  rw [List.getElem?_take] at h
  by_cases hi : i < c.N
  · rw [if_pos hi] at h; exact ⟨hi, h⟩
  · rw [if_neg hi] at h; simp at h

theorem lookupAgain_spec (srt : Sorter) (hv : srt.Valid) (c : State) (h : Nat) :
    (∃ t, (lookupAgain srt c h).1 = { c with lookup := t }) ∧ LookupRes c h (lookupAgain srt c h).2 := by
  obtain ⟨t, e1, fr⟩ := rebuild_spec srt hv c
  simp only [lookupAgain, e1]
  cases hs : search t h c.N with
  | fault => exact absurd hs (search_no_fault _ _ _)
  | hit i =>
    refine ⟨⟨t, rfl⟩, ?_⟩
    obtain ⟨e, hm, hh, hi, hlt⟩ := bsearch_hit _ _ _ _ _ _ hs
    obtain ⟨p, hp, hph⟩ := fr.sound e hm
    have := take_get hp
    exact ⟨hlt, p, by rw [← hi]; exact this.2, by omega⟩
  | miss =>
    refine ⟨⟨t, rfl⟩, ?_⟩
    intro i p hi hp heq
    have hp' : (c.mem.take c.N)[i]? = some p := by rw [List.getElem?_take, if_pos hi]; exact hp
    obtain ⟨e, hm, hh⟩ := fr.complete i p hp'
    have : ∃ j, bsearch t h c.N 0 ((t.length : Int) - 1) = .hit j := by
      apply bsearch_complete t h c.N 0 _ fr.sorted
      · intro e' hm' _
        obtain ⟨q, hq, _⟩ := fr.sound e' hm'
        exact (take_get hq).1
      · omega
      · omega
      · intro k e' hk _
        have := (List.getElem?_eq_some_iff.mp hk).1
        omega
      · exact ⟨e, hm, by omega⟩
    obtain ⟨j, hj⟩ := this
    unfold search at hs
    rw [hs] at hj; simp at hj

theorem particleByHash_spec (srt : Sorter) (hv : srt.Valid) (c : State) (hN : c.N ≤ c.mem.length) (h : Nat) :
    ((particleByHash srt c h).1 = c ∨ ∃ t, (particleByHash srt c h).1 = { c with lookup := t }) ∧
    LookupRes c h (particleByHash srt c h).2 := by
  have ha := lookupAgain_spec srt hv c h
  unfold particleByHash
  cases hs : search c.lookup h c.N with
  | fault => exact absurd hs (search_no_fault _ _ _)
  | miss => exact ⟨Or.inr ha.1, ha.2⟩
  | hit i =>
    obtain ⟨e, hm, hh, hi, hlt⟩ := bsearch_hit _ _ _ _ _ _ hs
    have hil : i < c.mem.length := by omega
    simp only [List.getElem?_eq_getElem hil]
    by_cases hp : c.mem[i].hash = h
    · rw [if_pos hp]
      exact ⟨Or.inl rfl, hlt, c.mem[i], List.getElem?_eq_getElem hil, hp⟩
    · rw [if_neg hp]
      exact ⟨Or.inr ha.1, ha.2⟩

theorem take_moveLast (mem : List P) (n q : Nat) (hn : n ≤ mem.length) (hq : q < n) :
    ∃ last, mem[n - 1]? = some last ∧ (mem.take n).getLast? = some last ∧
      (mem.set q last).take (n - 1) = ((mem.take n).set q last).dropLast := by
  obtain ⟨k, rfl⟩ : ∃ k, n = k + 1 := ⟨n - 1, by omega⟩
  refine ⟨mem[k], List.getElem?_eq_getElem hn, ?_, ?_⟩
  · rw [List.getLast?_eq_getElem?, List.length_take_of_le hn, List.getElem?_take_of_lt (by omega)]
    exact List.getElem?_eq_getElem hn
  · rw [← List.take_set, dropLast_take_succ _ _ (by simpa using hn)]; rfl

theorem take_flag (mem : List P) (n idx : Nat) (f : P → P) (h : idx < mem.length) :
    (mem.set idx (f mem[idx])).take n = (mem.take n).modify idx f := by
  rw [← List.take_modify, List.modify_eq_set, List.getElem?_eq_getElem h]; rfl

end RV.Particles
