import RV.Proofs.Boundary
import RV.Model.Tree
import Mathlib.Order.Interval.Set.Basic
/-
  The oct-tree of tree.c over an ordered field (C15): containment `In`, the invariant `WF` of a subtree in its
  cell, insertion (`add_spec`), fresh construction (`build_spec`), the mass / centre-of-mass pass (`GravOK`,
  `updGrav_ok`) and the walk at opening angle 0 (`walk_zero`).
-/
set_option linter.unusedSectionVars false
set_option linter.unusedSimpArgs false
namespace RV.C15
open RV RV.Tree

variable {K : Type} [Field K] [LinearOrder K] [IsStrictOrderedRing K]

/-- geometric containment in the closed cell -/
def In (p : Pt K) (c : Cell K) : Prop :=
  |p.x - c.x| ≤ c.w / 2 ∧ |p.y - c.y| ≤ c.w / 2 ∧ |p.z - c.z| ≤ c.w / 2

theorem absO_eq (a : K) : absO a = |a| := by
  unfold absO
  by_cases h : a < 0
  · simp [h, abs_of_neg h]
  · simp [h, abs_of_nonneg (not_lt.mp h)]

theorem inside_iff (p : Pt K) (c : Cell K) : inside p c = true ↔ In p c := by
  simp [inside, In, absO_eq, not_lt, and_assoc]

theorem bitClear_octOf0 (a b c : Bool) : bitClear (octOf a b c) 0 = !a := by
  cases a <;> cases b <;> cases c <;> rfl
theorem bitClear_octOf1 (a b c : Bool) : bitClear (octOf a b c) 1 = !b := by
  cases a <;> cases b <;> cases c <;> rfl
theorem bitClear_octOf2 (a b c : Bool) : bitClear (octOf a b c) 2 = !c := by
  cases a <;> cases b <;> cases c <;> rfl

theorem axis_child (px cx w : K) (h : |px - cx| ≤ w / 2) :
    |px - (cx + w / 2 / 2 * (if (!decide (px < cx)) = true then 1 else -1))| ≤ w / 2 / 2 := by
  rw [← add_halves (w / 2)] at h
  generalize w / 2 / 2 = q at h ⊢
  obtain ⟨h1, h2⟩ := abs_le.mp h
  rw [abs_le]
  by_cases hx : px < cx
  · rw [if_neg (by simpa using hx)]; constructor <;> linarith
  · rw [if_pos (by simpa using hx)]; constructor <;> linarith

theorem In_child (p : Pt K) (c : Cell K) (h : In p c) : In p (childCell c (octant p c)) := by
  obtain ⟨hx, hy, hz⟩ := h
  unfold octant childCell In
  simp only [bitClear_octOf0, bitClear_octOf1, bitClear_octOf2]
  refine ⟨?_, ?_, ?_⟩
  · simpa [ScalarO.lt] using axis_child p.x c.x c.w hx
  · simpa [ScalarO.lt] using axis_child p.y c.y c.w hy
  · simpa [ScalarO.lt] using axis_child p.z c.z c.w hz

theorem flatMap_ite_notMem {ι β : Type} [DecidableEq ι] (f : ι → List β) (o : ι) :
    ∀ (l : List ι), o ∉ l → l.flatMap (fun i => if i = o then [] else f i) = l.flatMap f := by
  intro l
  induction l with
  | nil => intro _; rfl
  | cons a l ih =>
    intro h
    simp only [List.mem_cons, not_or] at h
    have ha : a ≠ o := fun e => h.1 e.symm
    simp [List.flatMap_cons, ha, ih h.2]

theorem flatMap_split {ι β : Type} [DecidableEq ι] (f : ι → List β) (o : ι) :
    ∀ (l : List ι), l.Nodup → o ∈ l →
      List.Perm (l.flatMap f) (f o ++ l.flatMap (fun i => if i = o then [] else f i)) := by
  intro l
  induction l with
  | nil => intro _ h; simp at h
  | cons a l ih =>
    intro hn hm
    rw [List.nodup_cons] at hn
    by_cases ha : a = o
    · subst ha
      simp only [List.flatMap_cons, if_true, List.nil_append]
      rw [flatMap_ite_notMem f a l hn.1]
    · have hm' : o ∈ l := by
        rcases List.mem_cons.mp hm with h | h
        · exact absurd h.symm ha
        · exact h
      simp only [List.flatMap_cons, ha, if_false]
      have := ih hn.2 hm'
      refine (List.Perm.append_left (f a) this).trans ?_
      rw [← List.append_assoc, ← List.append_assoc]
      exact List.Perm.append_right _ List.perm_append_comm

theorem fin8_split {β : Type} (f : Fin 8 → List β) (o : Fin 8) :
    List.Perm ((List.finRange 8).flatMap f)
      (f o ++ (List.finRange 8).flatMap (fun i => if i = o then [] else f i)) :=
  flatMap_split f o _ (List.nodup_finRange 8) (List.mem_finRange o)

theorem fin8_replace {β : Type} (f : Fin 8 → List β) (o : Fin 8) (new : List β) :
    List.Perm ((List.finRange 8).flatMap (fun i => if i = o then new else f i))
      (new ++ (List.finRange 8).flatMap (fun i => if i = o then [] else f i)) := by
  have := fin8_split (fun i => if i = o then new else f i) o
  simp only [if_true] at this
  refine this.trans (List.Perm.append_left _ ?_)
  apply List.Perm.of_eq
  congr 1
  funext i
  by_cases h : i = o <;> simp [h]

@[simp] theorem setCh_same {α : Type} (ch : Fin 8 → α) (o : Fin 8) (t : α) : setCh ch o t o = t := by
  simp [setCh]
theorem setCh_other {α : Type} (ch : Fin 8 → α) (o i : Fin 8) (t : α) (h : i ≠ o) : setCh ch o t i = ch i := by
  simp [setCh, h]
theorem setCh_eq {α : Type} (ch : Fin 8 → α) (o : Fin 8) (t : α) :
    setCh ch o t = fun i => if i = o then t else ch i := by
  simp [setCh]

/-- invariant of a subtree that occupies cell `c`:
    leaf: its cell is `c` and contains its particle;
    inner node: its cell is `c`, child `o` occupies `childCell c o`, `pt = -(particles below)`,
    at least two particles below, and — when `tie` is set — every particle below child `o` has octant `o`
    (the code's tie rule `p.x < node->x`; holds after insertion, not after a particle moved onto a face). -/
def WF (ps : Nat → Pt K) (tie : Bool) : Cell K → T K → Prop
  | _, .nil => True
  | c, .leaf c' _ q => c' = c ∧ In (ps q) c
  | c, .node c' _ n ch =>
      c' = c ∧ (∀ o, WF ps tie (childCell c o) (ch o)) ∧
      n = -(((List.finRange 8).flatMap fun o => leaves (ch o)).length : Int) ∧
      2 ≤ ((List.finRange 8).flatMap fun o => leaves (ch o)).length ∧
      (tie = true → ∀ o, ∀ q ∈ leaves (ch o), octant (ps q) c = o)

theorem add_nil (ps : Nat → Pt K) (f : Nat) (c : Cell K) (pt : Nat) :
    add ps f .nil c pt = .ok (.leaf c zeroGrav pt) := by
  cases f <;> rfl

theorem leaves_node (c : Cell K) (g : Grav K) (n : Int) (ch : Fin 8 → T K) :
    leaves (.node c g n ch) = (List.finRange 8).flatMap fun o => leaves (ch o) := rfl

theorem leaves_setCh (ch : Fin 8 → T K) (o : Fin 8) (t : T K) :
    List.Perm ((List.finRange 8).flatMap fun i => leaves (setCh ch o t i))
      (leaves t ++ (List.finRange 8).flatMap (fun i => if i = o then [] else leaves (ch i))) := by
  rw [setCh_eq]
  have := fin8_replace (fun i => leaves (ch i)) o (leaves t)
  refine (List.Perm.of_eq ?_).trans this
  congr 1
  funext i
  by_cases h : i = o <;> simp [h]

theorem add_spec (ps : Nat → Pt K) (tie : Bool) : ∀ (f : Nat) (t : T K) (c : Cell K) (pt : Nat) (t' : T K),
    WF ps tie c t → In (ps pt) c → add ps f t c pt = .ok t' →
    WF ps tie c t' ∧ List.Perm (leaves t') (pt :: leaves t) := by
  intro f
  induction f with
  | zero =>
    intro t c pt t' hwf hin h
    cases t with
    | nil => simp [add] at h; subst h; exact ⟨⟨rfl, hin⟩, by simp [leaves]⟩
    | leaf c0 g q => simp [add] at h
    | node c0 g n ch => simp [add] at h
  | succ f ih =>
    intro t c pt t' hwf hin h
    cases t with
    | nil => simp [add] at h; subst h; exact ⟨⟨rfl, hin⟩, by simp [leaves]⟩
    | leaf c0 g q =>
      obtain ⟨hc, hq⟩ := hwf
      subst hc
      simp only [add] at h
      split at h
      · simp at h
      · simp only [bind, Except.bind] at h   -- t1 is the new leaf for q
        set o1 := octant (ps q) c0 with ho1
        set o2 := octant (ps pt) c0 with ho2
        set t1 : T K := .leaf (childCell c0 o1) zeroGrav q with ht1
        set ch1 := setCh (fun _ => (T.nil : T K)) o1 t1 with hch1
        cases h2 : add ps f (ch1 o2) (childCell c0 o2) pt with
        | error e => simp [h2, bind, Except.bind] at h
        | ok t2 =>
          simp only [h2, bind, Except.bind, Except.ok.injEq] at h
          subst h
          have hq1 : In (ps q) (childCell c0 o1) := In_child _ _ hq
          have hp2 : In (ps pt) (childCell c0 o2) := In_child _ _ hin
          have hwf1 : WF ps tie (childCell c0 o2) (ch1 o2) := by
            by_cases e : o2 = o1
            · rw [e, hch1, setCh_same]; exact ⟨rfl, hq1⟩
            · rw [hch1, setCh_other _ _ _ _ e]; trivial
          obtain ⟨hwf2, hperm2⟩ := ih _ _ _ _ hwf1 hp2 h2
          have hl1 : List.Perm ((List.finRange 8).flatMap fun i => leaves (ch1 i)) [q] := by
            have := leaves_setCh (fun _ => (T.nil : T K)) o1 t1
            refine this.trans ?_
            simp [leaves, ht1]
          have hsplit := fin8_split (fun i => leaves (ch1 i)) o2
          have hl2 := leaves_setCh ch1 o2 t2
          have hfinal : List.Perm ((List.finRange 8).flatMap fun i => leaves (setCh ch1 o2 t2 i)) [pt, q] := by
            refine hl2.trans ?_
            refine (List.Perm.append_right _ hperm2).trans ?_
            simp only [List.cons_append]
            exact List.Perm.cons pt (hsplit.symm.trans hl1)
          refine ⟨⟨rfl, ?_, ?_, ?_, ?_⟩, ?_⟩
          · intro o
            by_cases e : o = o2
            · subst e; rw [setCh_same]; exact hwf2
            · rw [setCh_other _ _ _ _ e]
              by_cases e1 : o = o1
              · subst e1; rw [hch1, setCh_same]; exact ⟨rfl, hq1⟩
              · rw [hch1, setCh_other _ _ _ _ e1]; trivial
          · rw [hfinal.length_eq]; rfl
          · rw [hfinal.length_eq]; simp
          · intro htie o r hr
            by_cases e : o = o2
            · subst e
              rw [setCh_same] at hr
              have := hperm2.mem_iff.mp hr
              rcases List.mem_cons.mp this with h1 | h1
              · subst h1; rfl
              · by_cases e1 : o2 = o1
                · rw [e1, hch1, setCh_same] at h1
                  simp [leaves, ht1] at h1
                  subst h1; rw [e1]
                · rw [hch1, setCh_other _ _ _ _ e1] at h1
                  simp [leaves] at h1
            · rw [setCh_other _ _ _ _ e] at hr
              by_cases e1 : o = o1
              · subst e1
                rw [hch1, setCh_same] at hr
                simp [leaves, ht1] at hr
                subst hr; rfl
              · rw [hch1, setCh_other _ _ _ _ e1] at hr
                simp [leaves] at hr
          · rw [leaves_node]
            refine hfinal.trans ?_
            simp [leaves]
    | node c0 g n ch =>
      obtain ⟨hc, hch, hn, h2, hoct⟩ := hwf
      subst hc
      simp only [add] at h
      set o := octant (ps pt) c0 with ho
      cases h1 : add ps f (ch o) (childCell c0 o) pt with
      | error e => simp [h1, bind, Except.bind] at h
      | ok t1 =>
        simp only [h1, bind, Except.bind, Except.ok.injEq] at h
        subst h
        obtain ⟨hwf1, hperm1⟩ := ih _ _ _ _ (hch o) (In_child _ _ hin) h1
        have hl := leaves_setCh ch o t1
        have hsplit := fin8_split (fun i => leaves (ch i)) o
        have hfinal : List.Perm ((List.finRange 8).flatMap fun i => leaves (setCh ch o t1 i))
            (pt :: (List.finRange 8).flatMap fun i => leaves (ch i)) := by
          refine hl.trans ?_
          refine (List.Perm.append_right _ hperm1).trans ?_
          simp only [List.cons_append]
          exact List.Perm.cons pt hsplit.symm
        refine ⟨⟨rfl, ?_, ?_, ?_, ?_⟩, ?_⟩
        · intro i
          by_cases e : i = o
          · subst e; rw [setCh_same]; exact hwf1
          · rw [setCh_other _ _ _ _ e]; exact hch i
        · rw [hfinal.length_eq, hn]; simp; ring
        · rw [hfinal.length_eq, List.length_cons]; omega
        · intro htie i r hr
          by_cases e : i = o
          · subst e
            rw [setCh_same] at hr
            rcases List.mem_cons.mp (hperm1.mem_iff.mp hr) with h1 | h1
            · subst h1; rfl
            · exact hoct htie _ _ h1
          · rw [setCh_other _ _ _ _ e] at hr
            exact hoct htie _ _ hr
        · rw [leaves_node]; exact hfinal

theorem build_spec (ps : Nat → Pt K) (tie : Bool) (f : Nat) (c : Cell K) : ∀ (n : Nat) (t : T K),
    (∀ i, i < n → In (ps i) c) → build ps f c n = .ok t →
    WF ps tie c t ∧ List.Perm (leaves t) (List.range n) := by
  intro n
  induction n with
  | zero =>
    intro t _ h
    simp [build, pure, Except.pure] at h
    subst h
    exact ⟨trivial, by simp [leaves]⟩
  | succ n ih =>
    intro t hin h
    unfold build at h
    rw [List.range_succ, List.foldlM_append] at h
    cases h1 : (List.range n).foldlM (fun t pt => add ps f t c pt) T.nil with
    | error e => simp [h1, bind, Except.bind] at h
    | ok t0 =>
      simp only [h1, bind, Except.bind, List.foldlM_cons, List.foldlM_nil] at h
      cases h2 : add ps f t0 c n with
      | error e => simp [h2] at h
      | ok t1 =>
        simp [h2, pure, Except.pure] at h
        subst h
        obtain ⟨hwf0, hp0⟩ := ih t0 (fun i hi => hin i (by omega)) h1
        obtain ⟨hwf1, hp1⟩ := add_spec ps tie f t0 c n t1 hwf0 (hin n (by omega)) h2
        refine ⟨hwf1, hp1.trans ?_⟩
        rw [List.range_succ]
        exact ((List.Perm.cons n hp0).trans (List.perm_append_singleton n _).symm)

def massOf (ps : Nat → Pt K) (l : List Nat) : K := (l.map fun q => (ps q).m).sum
def momOf (ps : Nat → Pt K) (sel : Pt K → K) (l : List Nat) : K := (l.map fun q => (ps q).m * sel (ps q)).sum

theorem massOf_append (ps : Nat → Pt K) (a b : List Nat) : massOf ps (a ++ b) = massOf ps a + massOf ps b := by
  simp [massOf]
theorem momOf_append (ps : Nat → Pt K) (sel) (a b : List Nat) : momOf ps sel (a ++ b) = momOf ps sel a + momOf ps sel b := by
  simp [momOf]

theorem massOf_nonneg (ps : Nat → Pt K) : ∀ (l : List Nat), (∀ q ∈ l, 0 ≤ (ps q).m) → 0 ≤ massOf ps l := by
  intro l
  induction l with
  | nil => intro _; simp [massOf]
  | cons a l ih =>
    intro h
    have ha := h a (by simp)
    have hl := ih (fun q hq => h q (by simp [hq]))
    simp only [massOf, List.map_cons, List.sum_cons] at hl ⊢
    linarith

theorem mom_zero_of_mass_zero (ps : Nat → Pt K) (sel : Pt K → K) : ∀ (l : List Nat),
    (∀ q ∈ l, 0 ≤ (ps q).m) → massOf ps l = 0 → momOf ps sel l = 0 := by
  intro l
  induction l with
  | nil => intro _ _; simp [momOf]
  | cons a l ih =>
    intro hnn h0
    have ha := hnn a (by simp)
    have hl : ∀ q ∈ l, 0 ≤ (ps q).m := fun q hq => hnn q (by simp [hq])
    have hs := massOf_nonneg ps l hl
    simp only [massOf, List.map_cons, List.sum_cons] at h0
    have h1 : (ps a).m = 0 := by unfold massOf at hs; linarith
    have h2 : massOf ps l = 0 := by unfold massOf at hs ⊢; linarith
    have := ih hl h2
    simp only [momOf, List.map_cons, List.sum_cons, h1, zero_mul, zero_add] at this ⊢
    exact this

/-- every cell carries the total mass of its contents and `m * (mx,my,mz)` is the mass-weighted sum -/
def GravOK (ps : Nat → Pt K) : T K → Prop
  | .nil => True
  | .leaf _ g q => g.m = (ps q).m ∧ g.mx = (ps q).x ∧ g.my = (ps q).y ∧ g.mz = (ps q).z
  | .node c g n ch =>
      g.m = massOf ps (leaves (.node c g n ch)) ∧
      g.m * g.mx = momOf ps Pt.x (leaves (.node c g n ch)) ∧
      g.m * g.my = momOf ps Pt.y (leaves (.node c g n ch)) ∧
      g.m * g.mz = momOf ps Pt.z (leaves (.node c g n ch)) ∧
      ∀ o, GravOK ps (ch o)

/-- the four sums of a cell in terms of `grav` (also true of `nil` and of leaves) -/
def GravSum (ps : Nat → Pt K) (t : T K) : Prop :=
  (grav t).m = massOf ps (leaves t) ∧
  (grav t).mx * (grav t).m = momOf ps Pt.x (leaves t) ∧
  (grav t).my * (grav t).m = momOf ps Pt.y (leaves t) ∧
  (grav t).mz * (grav t).m = momOf ps Pt.z (leaves t)

theorem GravSum_of_GravOK (ps : Nat → Pt K) (t : T K) (h : GravOK ps t) : GravSum ps t := by
  cases t with
  | nil => simp [GravSum, grav, leaves, massOf, momOf, zeroGrav]
  | leaf c g q =>
    obtain ⟨h1, h2, h3, h4⟩ := h
    simp [GravSum, grav, leaves, massOf, momOf, h1, h2, h3, h4, mul_comm]
  | node c g n ch =>
    obtain ⟨h1, h2, h3, h4, _⟩ := h
    refine ⟨h1, ?_, ?_, ?_⟩
    · simp only [grav]; rw [mul_comm]; exact h2
    · simp only [grav]; rw [mul_comm]; exact h3
    · simp only [grav]; rw [mul_comm]; exact h4

/-- accumulation loop over the octants -/
theorem grav_fold (ps : Nat → Pt K) (ch : Fin 8 → T K) (hch : ∀ o, GravSum ps (ch o)) :
    ∀ (l : List (Fin 8)) (a : Grav K),
      let r := l.foldl (fun (a : Grav K) o =>
        if isNil (ch o) then a else
          let d := grav (ch o)
          ({ mx := a.mx + d.mx * d.m, my := a.my + d.my * d.m, mz := a.mz + d.mz * d.m, m := a.m + d.m } : Grav K)) a
      r.m = a.m + massOf ps (l.flatMap fun o => leaves (ch o)) ∧
      r.mx = a.mx + momOf ps Pt.x (l.flatMap fun o => leaves (ch o)) ∧
      r.my = a.my + momOf ps Pt.y (l.flatMap fun o => leaves (ch o)) ∧
      r.mz = a.mz + momOf ps Pt.z (l.flatMap fun o => leaves (ch o)) := by
  intro l
  induction l with
  | nil => intro a; simp [massOf, momOf]
  | cons o l ih =>
    intro a
    simp only [List.foldl_cons, List.flatMap_cons, massOf_append, momOf_append]
    obtain ⟨g1, g2, g3, g4⟩ := hch o
    by_cases hn : isNil (ch o) = true
    · have : ch o = .nil := by
        cases h : ch o <;> simp [h, isNil] at hn ⊢
      simp only [hn, if_true]
      obtain ⟨i1, i2, i3, i4⟩ := ih a
      simp only [this, leaves, massOf, momOf, List.map_nil, List.sum_nil, zero_add]
      exact ⟨i1, i2, i3, i4⟩
    · simp only [if_neg hn]
      obtain ⟨i1, i2, i3, i4⟩ := ih ({ mx := a.mx + (grav (ch o)).mx * (grav (ch o)).m, my := a.my + (grav (ch o)).my * (grav (ch o)).m, mz := a.mz + (grav (ch o)).mz * (grav (ch o)).m, m := a.m + (grav (ch o)).m } : Grav K)
      simp only [sc_hadd, sc_hmul] at i1 i2 i3 i4 ⊢
      refine ⟨?_, ?_, ?_, ?_⟩
      · rw [i1, g1]; ring
      · rw [i2, g2]; ring
      · rw [i3, g3]; ring
      · rw [i4, g4]; ring

theorem leaves_updGrav (ps : Nat → Pt K) : ∀ t : T K, leaves (updGrav ps t) = leaves t := by
  intro t
  induction t with
  | nil => rfl
  | leaf c g q => rfl
  | node c g n ch ih =>
    simp only [updGrav, leaves, memo_eq]
    congr 1
    funext o
    exact ih o

theorem isNil_iff (t : T K) : isNil t = true ↔ t = .nil := by
  cases t <;> simp [isNil]

/-- `reb_simulation_update_tree_gravity_data`: with non-negative masses every cell ends up with the
    total mass and the mass-weighted position sums of the particles below it -/
theorem updGrav_ok (ps : Nat → Pt K) : ∀ t : T K, (∀ q ∈ leaves t, 0 ≤ (ps q).m) → GravOK ps (updGrav ps t) := by
  intro t
  induction t with
  | nil => intro _; trivial
  | leaf c g q => intro _; exact ⟨rfl, rfl, rfl, rfl⟩
  | node c g n ch ih =>
    intro hnn
    have hnn' : ∀ o, ∀ q ∈ leaves (ch o), 0 ≤ (ps q).m := by
      intro o q hq
      apply hnn
      simp only [leaves, List.mem_flatMap]
      exact ⟨o, List.mem_finRange o, hq⟩
    have hch : ∀ o, GravOK ps (updGrav ps (ch o)) := fun o => ih o (hnn' o)
    have hsum : ∀ o, GravSum ps (updGrav ps (ch o)) := fun o => GravSum_of_GravOK ps _ (hch o)
    have hfold := grav_fold ps (fun o => updGrav ps (ch o)) hsum (List.finRange 8) zeroGrav
    simp only [updGrav, memo_eq, Fin.foldl_eq_finRange_foldl]
    set acc := (List.finRange 8).foldl (fun (a : Grav K) o =>
        if isNil (updGrav ps (ch o)) then a else
          let d := grav (updGrav ps (ch o))
          ({ mx := a.mx + d.mx * d.m, my := a.my + d.my * d.m, mz := a.mz + d.mz * d.m, m := a.m + d.m } : Grav K)) zeroGrav with hacc
    obtain ⟨f1, f2, f3, f4⟩ := hfold
    simp only [zeroGrav, sc_zero, zero_add] at f1 f2 f3 f4
    have hl : ((List.finRange 8).flatMap fun o => leaves (updGrav ps (ch o))) = leaves (.node c g n ch) := by
      simp only [leaves]
      congr 1
      funext o
      exact leaves_updGrav ps (ch o)
    rw [hl] at f1 f2 f3 f4
    have hlv : ∀ g' n', leaves (T.node c g' n' fun o => updGrav ps (ch o)) = leaves (.node c g n ch) := by
      intro g' n'
      simp only [leaves]
      congr 1
      funext o
      exact leaves_updGrav ps (ch o)
    have hmass := massOf_nonneg ps _ hnn
    by_cases hpos : (0 : K) < acc.m
    · have hne : acc.m ≠ 0 := ne_of_gt hpos
      simp only [so_lt, sc_zero, hpos, if_true, GravOK, hlv, sc_hdiv]
      refine ⟨f1, ?_, ?_, ?_, hch⟩
      · rw [← f2]; field_simp
      · rw [← f3]; field_simp
      · rw [← f4]; field_simp
    · have h0 : acc.m = 0 := by
        have : 0 ≤ acc.m := by rw [f1]; exact hmass
        exact le_antisymm (not_lt.mp hpos) this
      have hm0 : massOf ps (leaves (.node c g n ch)) = 0 := by rw [← f1]; exact h0
      simp only [so_lt, sc_zero, hpos, if_false, GravOK, hlv]
      refine ⟨f1, ?_, ?_, ?_, hch⟩
      · rw [h0, zero_mul, mom_zero_of_mass_zero ps Pt.x _ hnn hm0]
      · rw [h0, zero_mul, mom_zero_of_mass_zero ps Pt.y _ hnn hm0]
      · rw [h0, zero_mul, mom_zero_of_mass_zero ps Pt.z _ hnn hm0]

theorem WF_updGrav (ps : Nat → Pt K) (tie : Bool) : ∀ (t : T K) (c : Cell K), WF ps tie c t → WF ps tie c (updGrav ps t) := by
  intro t
  induction t with
  | nil => intro c _; trivial
  | leaf c0 g q => intro c h; exact h
  | node c0 g n ch ih =>
    intro c h
    obtain ⟨h1, h2, h3, h4, h5⟩ := h
    have hl : ((List.finRange 8).flatMap fun o => leaves (updGrav ps (ch o))) =
        ((List.finRange 8).flatMap fun o => leaves (ch o)) := by
      congr 1; funext o; exact leaves_updGrav ps (ch o)
    simp only [updGrav, memo_eq, WF, hl]
    refine ⟨h1, fun o => ih o _ (h2 o), h3, h4, ?_⟩
    intro htie o q hq
    rw [leaves_updGrav] at hq
    exact h5 htie o q hq

def visitPt : Visit K → Option Nat
  | .leaf q _ => some q
  | .cell _ => none

def WidthNZ : T K → Prop
  | .nil => True
  | .leaf _ _ _ => True
  | .node c _ _ ch => c.w ≠ 0 ∧ ∀ o, WidthNZ (ch o)

theorem WidthNZ_of_WF (ps : Nat → Pt K) (tie : Bool) : ∀ (t : T K) (c : Cell K), c.w ≠ 0 → WF ps tie c t → WidthNZ t := by
  intro t
  induction t with
  | nil => intro _ _ _; trivial
  | leaf c0 g q => intro _ _ _; trivial
  | node c0 g n ch ih =>
    intro c hw h
    obtain ⟨h1, h2, _⟩ := h
    subst h1
    refine ⟨hw, fun o => ih o (childCell c0 o) ?_ (h2 o)⟩
    simp [childCell, hw]

theorem flatMap_filter_map {α β γ : Type} (l : List α) (f : α → List β) (p : β → Bool) (g : β → γ) :
    (l.flatMap fun a => ((f a).filter p).map g) = ((l.flatMap f).filter p).map g := by
  induction l with
  | nil => rfl
  | cons a l ih => simp [List.flatMap_cons, ih]

/-- with `opening_angle2 = 0` the walk for particle `pt` opens every cell and interacts with every leaf
    other than `pt`'s own, each exactly once, in tree order -/
theorem walk_zero (gx gy gz : K) (pt : Nat) : ∀ t : T K, WidthNZ t →
    (walk (0 : K) gx gy gz pt t).map visitPt = ((leaves t).filter (fun q => q ≠ pt)).map some := by
  intro t
  induction t with
  | nil => intro _; rfl
  | leaf c g q =>
    intro _
    by_cases h : q = pt
    · simp [walk, leaves, h]
    · simp [walk, leaves, h, visitPt]
  | node c g n ch ih =>
    intro h
    obtain ⟨hw, hch⟩ := h
    have hpos : (0 : K) < c.w * c.w := mul_self_pos.mpr hw
    simp only [walk, sc_hmul, zero_mul, so_lt, hpos, if_true, leaves, List.map_flatMap]
    rw [← flatMap_filter_map]
    congr 1
    funext o
    exact ih o (hch o)

end RV.C15
