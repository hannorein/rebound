import RV.Proofs.GravityEnc
import RV.Model.Diag
/-
  Helper lemmas for RV/Props/C04.lean: accessor functions on particle arrays, the
  defining sums (momentum, angular momentum, mass-weighted position), how the LEAPFROG
  primitives act on them, and loop-to-sum lemmas for the diagnostics.
-/
namespace RV.Diag
open RV RV.Gravity
variable {K : Type} [Field K]

/-! mass / position / velocity of particle `i` (zero outside the array) -/
def mOf (ps : Array (Part K)) (i : Nat) : K := (ps[i]?.map (·.m)).getD 0
def xOf (ps : Array (Part K)) (i : Nat) : V3 K := (ps[i]?.map (·.x)).getD 0
def vOf (ps : Array (Part K)) (i : Nat) : V3 K := (ps[i]?.map (·.v)).getD 0

def mass (ps : Array (Part K)) : K := ∑ i ∈ Finset.range ps.size, mOf ps i
def momentum (ps : Array (Part K)) : V3 K := ∑ i ∈ Finset.range ps.size, mOf ps i • vOf ps i
def angmom (ps : Array (Part K)) : V3 K :=
  ∑ i ∈ Finset.range ps.size, mOf ps i • V3.cross (xOf ps i) (vOf ps i)
def mxsum (ps : Array (Part K)) : V3 K := ∑ i ∈ Finset.range ps.size, mOf ps i • xOf ps i

/-! `V3.cross` in its left argument (the right-argument lemmas are in RV/Proofs/GravityBase.lean) -/

theorem V3.cross_self (a : V3 K) : V3.cross a a = 0 := by
  ext <;> dsimp only [V3.cross_x, V3.cross_y, V3.cross_z, V3.zero_x, V3.zero_y, V3.zero_z] <;> ring
theorem V3.add_cross (a b c : V3 K) : V3.cross (a + b) c = V3.cross a c + V3.cross b c := by
  ext <;> dsimp only [V3.cross_x, V3.cross_y, V3.cross_z, V3.add_x, V3.add_y, V3.add_z] <;> ring
theorem V3.smul_cross (s : K) (a b : V3 K) : V3.cross (s • a) b = s • V3.cross a b := by
  ext <;> dsimp only [V3.cross_x, V3.cross_y, V3.cross_z, V3.smul_x, V3.smul_y, V3.smul_z] <;> ring

theorem V3.sum_cross {ι : Type} (s : Finset ι) (f : ι → V3 K) (b : V3 K) :
    V3.cross (∑ i ∈ s, f i) b = ∑ i ∈ s, V3.cross (f i) b := by
  classical
  induction s using Finset.induction_on with
  | empty => ext <;> simp
  | insert a s ha ih => simp [Finset.sum_insert ha, ih, V3.add_cross]

theorem foldl_add {M : Type} [AddCommMonoid M] (l : List Nat) (g : M → Nat → M) (f : Nat → M)
    (h : ∀ L i, i ∈ l → g L i = L + f i) (L : M) : l.foldl g L = L + (l.map f).sum := by
  induction l generalizing L with
  | nil => simp
  | cons a r ih =>
    simp only [List.foldl_cons, List.map_cons, List.sum_cons]
    rw [ih (fun L i hi => h L i (List.mem_cons_of_mem _ hi)), h L a List.mem_cons_self, add_assoc]

theorem forRange_add {M : Type} [AddCommMonoid M] (a b : Nat) (g : M → Nat → M) (f : Nat → M)
    (h : ∀ L i, a ≤ i → i < b → g L i = L + f i) (L : M) :
    forRange a b L g = L + ∑ i ∈ Finset.Ico a b, f i := by
  have := foldl_add (List.range' a (b - a)) g f (by
    intro L i hi
    have := List.mem_range'_1.mp hi
    exact h L i this.1 (by omega)) L
  exact this

theorem forRange_sum {M : Type} [AddCommMonoid M] (a b : Nat) (g : M → Nat → M) (f : Nat → M)
    (h : ∀ L i, a ≤ i → i < b → g L i = L + f i) : forRange a b 0 g = ∑ i ∈ Finset.Ico a b, f i := by
  rw [forRange_add a b g f h, zero_add]

theorem getElem?_parts (ps : Array (Part K)) {i : Nat} (hi : i < ps.size) :
    ps[i]? = some ⟨mOf ps i, xOf ps i, vOf ps i⟩ := by
  simp [mOf, xOf, vOf, hi]

theorem bodies_eq (ps : Array (Part K)) : bodies ps = mkPs ps.size (mOf ps) (xOf ps) := by
  apply Array.ext
  · simp [bodies]
  · intro i h1 h2
    simp [bodies, mkPs, mOf, xOf]

theorem lfDrift_size (dt : K) (ps : Array (Part K)) : (lfDrift dt ps).size = ps.size := by
  simp [lfDrift]

theorem lfDrift_m (dt : K) (ps : Array (Part K)) (i : Nat) : mOf (lfDrift dt ps) i = mOf ps i := by
  simp only [mOf, lfDrift, Array.getElem?_map]; cases ps[i]? <;> simp
theorem lfDrift_v (dt : K) (ps : Array (Part K)) (i : Nat) : vOf (lfDrift dt ps) i = vOf ps i := by
  simp only [vOf, lfDrift, Array.getElem?_map]; cases ps[i]? <;> simp
theorem lfDrift_x (dt : K) (ps : Array (Part K)) (i : Nat) :
    xOf (lfDrift dt ps) i = xOf ps i + ((1 / 2 : K) * dt) • vOf ps i := by
  simp only [xOf, vOf, lfDrift, Array.getElem?_map]
  cases ps[i]? with
  | none => simp
  | some p =>
    ext <;> simp only [Option.map_some, Option.getD_some, half, sc_one, sc_ofNat, Nat.cast_ofNat, V3.add_x, V3.add_y,
      V3.add_z, V3.smul_x, V3.smul_y, V3.smul_z]

theorem lfKickDrift_size (dt : K) (ps : Array (Part K)) (acc : Acc K) (h : acc.size = ps.size) :
    (lfKickDrift dt ps acc).size = ps.size := by
  simp [lfKickDrift, h]

/-- acceleration stored in slot `i` (zero outside) -/
def aOf (acc : Acc K) (i : Nat) : V3 K := (acc[i]?).getD 0

theorem lfKickDrift_get (dt : K) (ps : Array (Part K)) (acc : Acc K) (h : acc.size = ps.size) (i : Nat) :
    mOf (lfKickDrift dt ps acc) i = mOf ps i ∧
    vOf (lfKickDrift dt ps acc) i = vOf ps i + dt • aOf acc i ∧
    xOf (lfKickDrift dt ps acc) i = xOf ps i + ((1 / 2 : K) * dt) • (vOf ps i + dt • aOf acc i) := by
  by_cases hi : i < ps.size
  · have ha : acc[i]? = some (aOf acc i) := by simp [aOf, h ▸ hi]
    have hq : (lfKickDrift dt ps acc)[i]? = some ⟨mOf ps i,
        xOf ps i + ((1 / 2 : K) * dt) • (vOf ps i + dt • aOf acc i), vOf ps i + dt • aOf acc i⟩ := by
      rw [lfKickDrift, Array.getElem?_zipWith, getElem?_parts ps hi, ha]; rfl
    exact ⟨by rw [mOf, hq]; rfl, by rw [vOf, hq]; rfl, by rw [xOf, hq]; rfl⟩
  · have h1 : ps[i]? = none := by simp; omega
    have h2 : acc[i]? = none := by simp; omega
    simp [mOf, vOf, xOf, aOf, lfKickDrift, Array.getElem?_zipWith, h1, h2]

theorem momentum_drift (dt : K) (ps : Array (Part K)) : momentum (lfDrift dt ps) = momentum ps := by
  simp only [momentum, lfDrift_size, lfDrift_m, lfDrift_v]

theorem angmom_drift (dt : K) (ps : Array (Part K)) : angmom (lfDrift dt ps) = angmom ps := by
  simp only [angmom, lfDrift_size, lfDrift_m, lfDrift_v, lfDrift_x]
  apply Finset.sum_congr rfl
  intro i _
  rw [V3.add_cross, V3.smul_cross, V3.cross_self]; simp

theorem mxsum_drift (dt : K) (ps : Array (Part K)) :
    mxsum (lfDrift dt ps) = mxsum ps + ((1 / 2 : K) * dt) • momentum ps := by
  simp only [mxsum, momentum, lfDrift_size, lfDrift_m, lfDrift_x, smul_add, Finset.sum_add_distrib,
    Finset.smul_sum]
  congr 1
  apply Finset.sum_congr rfl
  intro i _
  rw [smul_comm]

theorem mass_drift (dt : K) (ps : Array (Part K)) : mass (lfDrift dt ps) = mass ps := by
  simp only [mass, lfDrift_size, lfDrift_m]

theorem momentum_kick (dt : K) (ps : Array (Part K)) (acc : Acc K) (h : acc.size = ps.size) :
    momentum (lfKickDrift dt ps acc)
      = momentum ps + dt • ∑ i ∈ Finset.range ps.size, mOf ps i • aOf acc i := by
  simp only [momentum, lfKickDrift_size dt ps acc h]
  rw [Finset.smul_sum, ← Finset.sum_add_distrib]
  apply Finset.sum_congr rfl
  intro i _
  obtain ⟨e1, e2, _⟩ := lfKickDrift_get dt ps acc h i
  rw [e1, e2, smul_add, smul_comm]

theorem angmom_kick (dt : K) (ps : Array (Part K)) (acc : Acc K) (h : acc.size = ps.size) :
    angmom (lfKickDrift dt ps acc)
      = angmom ps + dt • ∑ i ∈ Finset.range ps.size, mOf ps i • V3.cross (xOf ps i) (aOf acc i) := by
  simp only [angmom, lfKickDrift_size dt ps acc h]
  rw [Finset.smul_sum, ← Finset.sum_add_distrib]
  apply Finset.sum_congr rfl
  intro i _
  obtain ⟨e1, e2, e3⟩ := lfKickDrift_get dt ps acc h i
  rw [e1, e2, e3, V3.add_cross, V3.smul_cross, V3.cross_self, smul_zero, add_zero, V3.cross_add,
    V3.cross_smul, smul_add, smul_comm]

theorem mxsum_kick (dt : K) (ps : Array (Part K)) (acc : Acc K) (h : acc.size = ps.size) :
    mxsum (lfKickDrift dt ps acc)
      = mxsum ps + ((1 / 2 : K) * dt) • momentum (lfKickDrift dt ps acc) := by
  simp only [mxsum, momentum, lfKickDrift_size dt ps acc h]
  rw [Finset.smul_sum, ← Finset.sum_add_distrib]
  apply Finset.sum_congr rfl
  intro i _
  obtain ⟨e1, e2, e3⟩ := lfKickDrift_get dt ps acc h i
  rw [e1, e2, e3, smul_add, smul_comm (mOf ps i)]

theorem mass_kick (dt : K) (ps : Array (Part K)) (acc : Acc K) (h : acc.size = ps.size) :
    mass (lfKickDrift dt ps acc) = mass ps := by
  simp only [mass, lfKickDrift_size dt ps acc h]
  apply Finset.sum_congr rfl
  intro i _
  exact (lfKickDrift_get dt ps acc h i).1

/-- `reb_particle_com_of_pair` adds masses and mass-weighted positions and velocities, when its
    `m > 0` test succeeds on a non-zero total mass or fails with both masses zero -/
theorem comOfPair_spec (gt0 : K → Bool) (c p : Part K)
    (h : (gt0 (c.m + p.m) = true ∧ c.m + p.m ≠ 0) ∨ (gt0 (c.m + p.m) = false ∧ c.m = 0 ∧ p.m = 0)) :
    (comOfPair gt0 c p).m = c.m + p.m ∧
    (comOfPair gt0 c p).m • (comOfPair gt0 c p).x = c.m • c.x + p.m • p.x ∧
    (comOfPair gt0 c p).m • (comOfPair gt0 c p).v = c.m • c.v + p.m • p.v := by
  obtain ⟨hg, hne⟩ | ⟨hg, hc, hp⟩ := h <;> dsimp only [comOfPair, sc_hadd, sc_hmul, sc_hdiv] <;>
    simp only [hg, ↓reduceIte, Bool.false_eq_true]
  · refine ⟨trivial, ?_, ?_⟩ <;> ext <;> dsimp only [V3.smul_x, V3.smul_y, V3.smul_z, V3.add_x, V3.add_y, V3.add_z] <;>
      rw [mul_div_cancel₀ _ hne] <;> ring
  · refine ⟨trivial, ?_, ?_⟩ <;> ext <;> dsimp only [V3.smul_x, V3.smul_y, V3.smul_z, V3.add_x, V3.add_y, V3.add_z] <;>
      rw [hc, hp] <;> ring

theorem accBasic_size (pref : K → Nat → Nat → K) (cfg : Cfg K) (ghosts : List (V3 K))
    (ps : Array (Body K)) : (accBasic pref cfg ghosts ps).size = ps.size := by
  have hpair : ∀ soft2 gb both (acc : Acc K) i j, (pairStep pref soft2 ps gb both acc i j).size = acc.size := by
    intro soft2 gb both acc i j
    unfold pairStep
    cases ps[i]? <;> cases ps[j]? <;> try rfl
    cases both <;> simp [addTo]
  have hbox : ∀ (acc : Acc K) gb, (basicBox pref cfg ps acc gb).size = acc.size := fun acc gb => by
    unfold basicBox forRange
    dsimp only
    rw [foldl_size_eq _ _ fun acc i => foldl_size_eq _ _ (fun acc j => hpair ..) acc,
      foldl_size_eq _ _ fun acc i => foldl_size_eq _ _ (fun acc j => hpair ..) acc]
  rw [accBasic, foldl_size_eq _ _ hbox, Array.size_replicate]

end RV.Diag

/-! the subtraction forms, under the names the Wisdom–Holman files use -/
namespace RV.WH
open RV RV.Gravity
variable {K : Type} [Field K]

theorem V3.cross_sub (a b c : V3 K) : V3.cross a (b - c) = V3.cross a b - V3.cross a c := by
  ext <;> dsimp only [V3.cross_x, V3.cross_y, V3.cross_z, V3.add_x, V3.add_y, V3.add_z, V3.sub_x, V3.sub_y, V3.sub_z,
      V3.smul_x, V3.smul_y, V3.smul_z] <;> ring
theorem V3.sub_cross (a b c : V3 K) : V3.cross (a - b) c = V3.cross a c - V3.cross b c := by
  ext <;> dsimp only [V3.cross_x, V3.cross_y, V3.cross_z, V3.add_x, V3.add_y, V3.add_z, V3.sub_x, V3.sub_y, V3.sub_z,
      V3.smul_x, V3.smul_y, V3.smul_z] <;> ring

end RV.WH
