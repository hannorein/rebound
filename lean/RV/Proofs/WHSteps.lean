import RV.Proofs.WHJacobi
import RV.Model.Sched
/-
  The primitives of the Wisdom–Holman family in Jacobi coordinates, acting on a Jacobi state
  (slot 0 = centre of mass, slot i ≥ 1 = Jacobi body i), and what each of them does to
      P_J = M V_0 ,    L_J = Σ_i μ_i X_i × V_i   (slot 0:  M R × V)
  which by `angmom_jacobi` / `momentum_jacobi` are the inertial P and L.
-/
namespace RV.WH
open RV RV.Diag
variable {K : Type} [Field K]

/-- Jacobi state: positions and velocities of the `N` Jacobi slots -/
structure JS (K : Type) where
  X : Nat → V3 K
  V : Nat → V3 K

def LJ (N : Nat) (m : Nat → K) (s : JS K) : V3 K :=
  ∑ i ∈ Finset.range N, muJ N m i • V3.cross (s.X i) (s.V i)
def PJ (N : Nat) (m : Nat → K) (s : JS K) : V3 K := muJ N m 0 • s.V 0

/-- `reb_whfast_com_step`: `p_j[0].x += dt * p_j[0].v` -/
def comStep (τ : K) (s : JS K) : JS K :=
  { X := fun i => if i = 0 then s.X 0 + τ • s.V 0 else s.X i, V := s.V }

/-- what the Kepler step is allowed to do: slot 0 untouched, every Jacobi body keeps its own
    `x × v` (the f-g Wronskian, C03) -/
def KeplerLike (N : Nat) (s s' : JS K) : Prop :=
  s'.X 0 = s.X 0 ∧ s'.V 0 = s.V 0 ∧
  ∀ i, 1 ≤ i → i < N → V3.cross (s'.X i) (s'.V i) = V3.cross (s.X i) (s.V i)

/-- `reb_whfast_interaction_step` in Jacobi coordinates: `p_j[i].v += dt * a'_i` for `i ≥ 1`, where
    `a' = inertial_to_jacobi_acc(a)`, plus the radial Jacobi term `c_i · x'_i`; positions and
    slot 0 are not touched.  `x`, `a` = the inertial positions the forces were evaluated at. -/
def InteractionLike (N : Nat) (m : Nat → K) (τ : K) (x a : Nat → V3 K) (c : Nat → K) (s s' : JS K) : Prop :=
  s.X = jacV N m x ∧ s'.X = s.X ∧ s'.V 0 = s.V 0 ∧
  ∀ i, 1 ≤ i → i < N → s'.V i = s.V i + τ • (jacV N m a i + c i • s.X i)

theorem com_conserves (N : Nat) (hN : 1 ≤ N) (m : Nat → K) (τ : K) (s : JS K) :
    LJ N m (comStep τ s) = LJ N m s ∧ PJ N m (comStep τ s) = PJ N m s ∧
    (comStep τ s).X 0 = s.X 0 + τ • s.V 0 := by
  refine ⟨?_, rfl, by simp [comStep]⟩
  unfold LJ
  rw [range_split N hN, range_split N hN]
  congr 1
  · simp only [comStep, if_true]
    rw [V3.add_cross, V3.smul_cross, V3.cross_self]; simp
  · apply Finset.sum_congr rfl
    intro i hi
    have : i ≠ 0 := by have := Finset.mem_Ico.mp hi; omega
    simp [comStep, this]

theorem kepler_conserves (N : Nat) (hN : 1 ≤ N) (m : Nat → K) (s s' : JS K) (h : KeplerLike N s s') :
    LJ N m s' = LJ N m s ∧ PJ N m s' = PJ N m s ∧ s'.X 0 = s.X 0 := by
  obtain ⟨h0, h1, h2⟩ := h
  refine ⟨?_, by simp [PJ, h1], h0⟩
  unfold LJ
  rw [range_split N hN, range_split N hN, h0, h1]
  congr 1
  apply Finset.sum_congr rfl
  intro i hi
  have := Finset.mem_Ico.mp hi
  rw [h2 i this.1 this.2]

/-- the interaction step conserves `L_J` and `P_J` whenever the inertial accelerations satisfy
    Newton's third law and carry no net torque (C02: BASIC / COMPENSATED with every particle
    active, any `gravity_ignore_terms`) -/
theorem interaction_conserves (N : Nat) (hN : 1 ≤ N) (m : Nat → K) (heta : ∀ i, i < N → eta m i ≠ 0)
    (τ : K) (x a : Nat → V3 K) (c : Nat → K) (s s' : JS K)
    (h3 : ∑ i ∈ Finset.range N, m i • a i = 0)
    (ht : ∑ i ∈ Finset.range N, m i • V3.cross (x i) (a i) = 0)
    (h : InteractionLike N m τ x a c s s') :
    LJ N m s' = LJ N m s ∧ PJ N m s' = PJ N m s ∧ s'.X 0 = s.X 0 := by
  obtain ⟨hX, hX', hV0, hV⟩ := h
  refine ⟨?_, by simp [PJ, hV0], by rw [hX']⟩
  -- Σ_{i≥1} μ_i X_i × A_i = 0
  have hA0 : jacV N m a 0 = 0 := by
    have := momentum_jacobi N hN m a (heta (N - 1) (by omega))
    rw [h3] at this
    simp only [muJ, if_true] at this
    have hne := heta (N - 1) (by omega)
    have h2 := congrArg (fun v => (1 / eta m (N - 1)) • v) this
    simp only [smul_zero, smul_smul] at h2
    rw [one_div_mul_cancel hne, one_smul] at h2
    exact h2.symm
  have hsum := angmom_jacobi N hN m x a heta
  rw [ht, range_split N hN, hA0, V3.cross_zero, smul_zero, zero_add] at hsum
  unfold LJ
  rw [range_split N hN, range_split N hN, hX', hV0]
  congr 1
  have e : ∀ i ∈ Finset.Ico 1 N, muJ N m i • V3.cross (s.X i) (s'.V i)
      = muJ N m i • V3.cross (s.X i) (s.V i) + τ • (muJ N m i • V3.cross (jacV N m x i) (jacV N m a i)) := by
    intro i hi
    have := Finset.mem_Ico.mp hi
    rw [hV i this.1 this.2, V3.cross_add, V3.cross_smul, V3.cross_add, V3.cross_smul, V3.cross_self, hX]
    simp only [smul_zero, add_zero, smul_add]
    rw [smul_comm]
  rw [Finset.sum_congr rfl e, Finset.sum_add_distrib, ← Finset.smul_sum, ← hsum]
  simp

/-- one primitive of a Wisdom–Holman type schedule in Jacobi coordinates -/
inductive Prim (K : Type) where
  | kepler (τ : K) (withCom : Bool)    -- C01 `kind 0`; `withCom` = the `b = 1` flag
  | kick (τ : K)                       -- `kind 1` / `kind 4` (interaction step)
  | force                              -- `kind 2` (force evaluation: does not move the state)

/-- the schedule letters of RV/Model/Sched.lean (C01/C09) read as primitives; `dt` scales the
    rational coefficients.  Jump steps (`kind 3`) do not occur in Jacobi coordinates. -/
def ofOp [CharZero K] (dt : K) (o : RV.C01.Op) : Prim K :=
  if o.kind == 0 then .kepler ((o.a : K) * dt) (o.b == 1)
  else if o.kind == 1 || o.kind == 4 then .kick ((o.a : K) * dt)
  else .force

/-- `s'` is reachable from `s` by executing the schedule, where every Kepler step is *some*
    `KeplerLike` map and every kick is an `InteractionLike` map with conservative forces -/
inductive Runs (N : Nat) (m : Nat → K) : List (Prim K) → JS K → JS K → Prop where
  | nil (s : JS K) : Runs N m [] s s
  | kepler (τ : K) (wc : Bool) (ps : List (Prim K)) (s s1 s' : JS K) :
      KeplerLike N s s1 → Runs N m ps (if wc then comStep τ s1 else s1) s' →
      Runs N m (.kepler τ wc :: ps) s s'
  | kick (τ : K) (ps : List (Prim K)) (x a : Nat → V3 K) (c : Nat → K) (s s1 s' : JS K) :
      (∑ i ∈ Finset.range N, m i • a i = 0) →
      (∑ i ∈ Finset.range N, m i • V3.cross (x i) (a i) = 0) →
      InteractionLike N m τ x a c s s1 → Runs N m ps s1 s' →
      Runs N m (.kick τ :: ps) s s'
  | force (ps : List (Prim K)) (s s' : JS K) : Runs N m ps s s' → Runs N m (.force :: ps) s s'

/-- total centre-of-mass drift time of a schedule -/
def comTime : List (Prim K) → K
  | [] => 0
  | .kepler τ true :: ps => τ + comTime ps
  | _ :: ps => comTime ps

end RV.WH
