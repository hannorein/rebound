import RV.Proofs.GravityLaws
/-
  The ghost list of REB_BOUNDARY_SHEAR (boundary.c:161-184) is point symmetric — column `-i`
  mirrors column `+i` — provided C `fmod` is odd in its first argument (it keeps the sign of
  the dividend) and `fmod(0, b) = 0`.  This is what makes the pairwise update
  `a_i += …; a_j -= …` of BASIC legitimate for sheared images, and what the three separate
  wrap formulas (`i==0`, `i>0`, `i<0`) have to guarantee.
-/
namespace RV.Gravity
open RV
variable {K : Type} [Field K]

theorem ghostboxShear_neg (fmod : K → K → K) (hodd : ∀ a b, fmod (-a) b = -fmod a b)
    (h0 : ∀ b, fmod 0 b = 0) (bs : V3 K) (omega t : K) (i j k : Int) :
    -(ghostboxShear fmod bs omega t i j k) = ghostboxShear fmod bs omega t (-i) (-j) (-k) := by
  -- the column `i > 0` is the column `-i < 0` read backwards
  have key : ∀ i j k : Int, i < 0 →
      -(ghostboxShear fmod bs omega t i j k) = ghostboxShear fmod bs omega t (-i) (-j) (-k) := by
    intro i j k hi
    have h1 : ¬ (i == 0) = true := by simp; omega
    have h2 : ¬ i > 0 := by omega
    have h3 : ¬ ((-i) == 0) = true := by simp; omega
    have h4 : -i > 0 := by omega
    ext <;> simp only [ghostboxShear, h1, h2, h3, h4, if_true, if_false, ofInt_cast, sc_hmul, sc_hsub, sc_hadd,
      sc_hdiv, sc_hneg, sc_ofNat, V3.neg_x, V3.neg_y, V3.neg_z, Int.cast_neg]
    · ring
    · have e : -(3 / 2 : K) * -(i : K) * omega * bs.x * t - bs.y / 2
          = -(-(3 / 2 : K) * (i : K) * omega * bs.x * t + bs.y / 2) := by ring
      push_cast
      rw [e, hodd]; ring
    · ring
  rcases lt_trichotomy i 0 with hi | hi | hi
  · exact key i j k hi
  · subst hi
    ext <;> simp [ghostboxShear, ofInt_cast, h0]
  · have := key (-i) (-j) (-k) (by omega)
    simp only [neg_neg] at this
    rw [← this, neg_neg]

theorem ghostListShear_symm (fmod : K → K → K) (hodd : ∀ a b, fmod (-a) b = -fmod a b)
    (h0 : ∀ b, fmod 0 b = 0) (bs : V3 K) (omega t : K) (nx ny nz : Nat) :
    GhostSymm (ghostListShear fmod bs omega t nx ny nz) :=
  ghostSymm_of_neg _ (ghostboxShear_neg fmod hodd h0 bs omega t) nx ny nz

end RV.Gravity
