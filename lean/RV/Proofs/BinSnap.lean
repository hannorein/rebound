/-
  Loading snapshot k of a well-formed archive: blob 0 overlaid with delta k; with the delta-codec law
  this is the state whose serialisation was appended.  Second half: the delta of a history step is a walkable
  blob (`diffF_BlobOK`) and carries the time of the new state (`tOf_eq_get`, `tOf_diff`).
-/
import RV.Proofs.BinCrash
namespace RV.Bin

theorem inputFields_hdr (hdr Y : Bytes) (h : HdrOK hdr) (fuel : Nat) (st : State) :
    inputFields (fuel + 1) (hdr ++ Y) st = inputFields fuel Y st := by
  obtain ⟨sz, hr⟩ := readHdr_hdr64 hdr Y h
  rw [inputFields, hr]
  have h1 : ¬ HEADER = END := by decide
  simp only [h1, if_false, if_true, drop64 hdr Y h]

theorem applyB_first (init : State) (hdr : Bytes) (hh : HdrOK hdr) (fs0 : List Field) (h0 : BlobOK fs0) (X : Bytes) :
    applyB init (hdr ++ (encFs fs0 ++ (endBytes ++ X))) = applyF init fs0 := by
  have hl := encFs_length_ge fs0
  unfold applyB
  -- 79 = 64 (header) + 16 (END) − 1
  have : (hdr ++ (encFs fs0 ++ (endBytes ++ X))).length + 1 = ((encFs fs0).length + 79 + X.length) + 1 + 1 := by
    simp [hh.len]; omega
  rw [this, inputFields_hdr hdr _ hh]
  exact inputFields_enc fs0 X init h0.wf h0.noHeader _ (by omega)

/-- delta `j` of a trailer chain that begins right behind `A`: its index entry, and what the file holds
    from that offset on -/
theorem chain_get (fin : Nat → Nat → Bytes) (ds : List (List Field)) (j : Nat) (d : List Field)
    (hj : ds[j]? = some d) (A : Bytes) (idx prev : Nat) :
    ∃ off rest, (chainEntries (A.length + 12) ds)[j]? = some ⟨off, tOf d none⟩ ∧
      (A ++ chainG fin idx prev ds).drop off = encFs d ++ (endBytes ++ rest) := by
  induction ds generalizing j A idx prev with
  | nil => simp at hj
  | cons d0 r ih =>
    cases j with
    | zero =>
      obtain rfl : d0 = d := by simpa using hj
      refine ⟨A.length + 12, chainG fin (idx + 1) (blobLen d0) r, by simp [chainEntries], ?_⟩
      rw [chainG, ← List.drop_drop, List.drop_left, trailer_drop]
    | succ j' =>
      simp only [List.getElem?_cons_succ] at hj
      obtain ⟨off, rest, h1, h2⟩ := ih j' hj (A ++ (trailerBytes idx prev (blobLen d0) ++ (encFs d0 ++ endBytes)))
        (idx + 1) (blobLen d0)
      have e : (A ++ (trailerBytes idx prev (blobLen d0) ++ (encFs d0 ++ endBytes))).length + 12
          = A.length + 12 + blobLen d0 + 12 := by simp [blobLen]; omega
      rw [e] at h1
      refine ⟨off, rest, by simpa [chainEntries] using h1, ?_⟩
      rw [← h2]; simp [chainG, List.append_assoc]

/-- **snapshot k of an archive** (any final segment): the first snapshot overlaid with delta k (payload level) -/
theorem snapshot_archG (fin : Nat → Nat → Bytes) (init : State) (hdr : Bytes) (fs0 : List Field)
    (ds : List (List Field)) (h : ArchOK hdr fs0 ds) (j : Nat) (d : List Field) (hj : ds[j]? = some d) :
    snapshot init (archG fin hdr fs0 ds) ((archEntries fs0 ds).map (·.off)) (j + 1)
      = some (applyF (applyF init fs0) d) := by
  have hfirst : applyB init (archG fin hdr fs0 ds) = applyF init fs0 := applyB_first init hdr h.hdr fs0 h.b0 _
  obtain ⟨hd, _⟩ := h.ds d (List.mem_of_getElem? hj)
  obtain ⟨off, rest, h1, h2⟩ := chain_get fin ds j d hj (hdr ++ (encFs fs0 ++ endBytes)) 0 0
  have e : (hdr ++ (encFs fs0 ++ endBytes)).length + 12 = off1 fs0 := by simp [off1, blobLen, h.hdr.len]
  have e2 : archG fin hdr fs0 ds = (hdr ++ (encFs fs0 ++ endBytes)) ++ chainG fin 0 0 ds := by simp [archG]
  rw [e] at h1
  unfold snapshot
  simp only [archEntries, List.map_cons, List.getElem?_cons_succ, List.getElem?_map, h1, Option.map_some,
    Nat.add_one_ne_zero, if_false, hfirst]
  rw [e2, h2, applyB_enc d rest _ hd.wf hd.noHeader]

theorem snapshot0_archG (fin : Nat → Nat → Bytes) (init : State) (hdr : Bytes) (fs0 : List Field)
    (ds : List (List Field)) (h : ArchOK hdr fs0 ds) :
    snapshot init (archG fin hdr fs0 ds) ((archEntries fs0 ds).map (·.off)) 0 = some (applyF init fs0) := by
  have hfirst : applyB init (archG fin hdr fs0 ds) = applyF init fs0 := applyB_first init hdr h.hdr fs0 h.b0 _
  unfold snapshot
  simp [archEntries, hfirst]

theorem snapshot_arch (init : State) (hdr : Bytes) (fs0 : List Field) (ds : List (List Field))
    (h : ArchOK hdr fs0 ds) (j : Nat) (d : List Field) (hj : ds[j]? = some d) :
    snapshot init (archI hdr fs0 ds) ((archEntries fs0 ds).map (·.off)) (j + 1)
      = some (applyF (applyF init fs0) d) ∧
    snapshot init (archI hdr fs0 ds) ((archEntries fs0 ds).map (·.off)) 0 = some (applyF init fs0) :=
  ⟨snapshot_archG finIntact init hdr fs0 ds h j d hj, snapshot0_archG finIntact init hdr fs0 ds h⟩

theorem diffF_BlobOK (v : Variant) (cmp : Nat → Bytes → Bytes → Bool) (a b : List Field)
    (ha : BlobOK a) (hb : BlobOK b) (ub : (ids b).Nodup) (hv : v.f1 = true ∨ ¬ Vanishes a b)
    (ht : ∀ f ∈ a, f.ty = T_ID → ∃ g ∈ b, g.ty = f.ty) : BlobOK (diffF v cmp a b) := by
  rw [diffF_eq_spec v cmp a b ub]
  refine ⟨diffSpec_WF v cmp a b ha.wf hb.wf hv, diffSpec_NoHeader v cmp a b ha.noHeader hb.noHeader, ?_⟩
  intro e he hty
  rcases mem_diffSpec_cases v cmp a b e he with ⟨f, hf, rfl, hno⟩ | ⟨f, hf, heb, _, _⟩ | ⟨heb, _⟩
  · obtain ⟨g, hg, hgt⟩ := ht f hf hty
    exact absurd hgt (hno g hg)
  · exact hb.tsize e heb hty
  · exact hb.tsize e heb hty

/-- the time the walk records is what the payload-level reader holds for the id of `t` -/
theorem tOf_eq_get (l : List Field) (st : State) : tOf l (st.get T_ID) = (applyF st l).get T_ID := by
  induction l generalizing st with
  | nil => rfl
  | cons f r ih =>
    simp only [tOf, applyF]
    rw [← ih, get_cons]
    by_cases h : f.ty = T_ID
    · rw [if_pos h, if_pos h.symm]
    · rw [if_neg h, if_neg fun e => h e.symm]

theorem tOf_none (l : List Field) : tOf l none = (applyF [] l).get T_ID := tOf_eq_get l []

/-- **time field of a delta**: present (with the new time) iff the encoder saw the time change -/
theorem tOf_diff (v : Variant) (cmp : Nat → Bytes → Bytes → Bool) (a b : List Field)
    (ua : (ids a).Nodup) (ub : (ids b).Nodup) (f g : Field) (hf : f ∈ a) (hg : g ∈ b)
    (hft : f.ty = T_ID) (hgt : g.ty = T_ID) :
    tOf (diffF v cmp a b) none = if sameF cmp f g then none else some g.data := by
  rw [diffF_eq_spec v cmp a b ub, tOf_none]
  cases hs : sameF cmp f g with
  | true =>
    have hno := diffSpec_same v cmp a b ua ub f g hf hg (hft.trans hgt.symm) hs
    rw [hgt] at hno
    exact get_applyF_not_mem [] _ _ hno
  | false =>
    exact get_applyF_mem [] _ _ g.data ⟨g, changed_mem v cmp a b ub f g hf hg (hgt.trans hft.symm) hs, hgt⟩
      (fun e he hty => by rw [diffSpec_eq_of_ty v cmp a b ub e g he hg (hty.trans hgt.symm)])

end RV.Bin
