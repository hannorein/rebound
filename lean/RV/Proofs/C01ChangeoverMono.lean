import RV.Proofs.C01ChangeoverAll
import Mathlib.Analysis.Calculus.Deriv.Pow
import Mathlib.Analysis.Calculus.Deriv.MeanValue
import Mathlib.Data.Rat.Cast.Order
/-
  C01 — monotonicity of the changeover polynomials `pMercury`, `pC4`, `pC5` (integrator_mercurius.c) on all of [0,1]:
  over ℝ the derivatives are `30 y²(1−y)²`, `630 y⁴(1−y)⁴`, `2772 y⁵(1−y)⁵`, positive on (0,1); the mean-value theorem
  gives strict monotonicity on [0,1], and the cast ℚ → ℝ is an order embedding commuting with the polynomial.
-/
namespace RV.C01.ChangeoverMono
open RV.C01.Changeover RV.C01.ChangeoverAll

def c4R (y : ℝ) : ℝ := 70*y^9 - 315*y^8 + 540*y^7 - 420*y^6 + 126*y^5
def c5R (y : ℝ) : ℝ := -252*y^11 + 1386*y^10 - 3080*y^9 + 3465*y^8 - 1980*y^7 + 462*y^6

theorem c4_cast (a : Rat) : ((pC4 a : Rat) : ℝ) = c4R (a : ℝ) := by unfold pC4 c4R; push_cast; ring
theorem c5_cast (a : Rat) : ((pC5 a : Rat) : ℝ) = c5R (a : ℝ) := by unfold pC5 c5R; push_cast; ring

theorem c4_hasDeriv (x : ℝ) : HasDerivAt c4R (630 * x^4 * (1-x)^4) x := by
  have h := (((((hasDerivAt_pow 9 x).const_mul 70).sub ((hasDerivAt_pow 8 x).const_mul 315)).add
    ((hasDerivAt_pow 7 x).const_mul 540)).sub ((hasDerivAt_pow 6 x).const_mul 420)).add ((hasDerivAt_pow 5 x).const_mul 126)
  exact h.congr_deriv (by norm_num; ring)
theorem c5_hasDeriv (x : ℝ) : HasDerivAt c5R (2772 * x^5 * (1-x)^5) x := by
  have h := ((((((hasDerivAt_pow 11 x).const_mul (-252)).add ((hasDerivAt_pow 10 x).const_mul 1386)).sub
    ((hasDerivAt_pow 9 x).const_mul 3080)).add ((hasDerivAt_pow 8 x).const_mul 3465)).sub ((hasDerivAt_pow 7 x).const_mul 1980)).add
    ((hasDerivAt_pow 6 x).const_mul 462)
  exact h.congr_deriv (by norm_num; ring)

def mR (y : ℝ) : ℝ := 10*y^3 - 15*y^4 + 6*y^5
theorem m_cast (a : Rat) : ((pMercury a : Rat) : ℝ) = mR (a : ℝ) := by unfold pMercury mR; push_cast; ring
theorem m_hasDeriv (x : ℝ) : HasDerivAt mR (30 * x^2 * (1-x)^2) x := by
  have h := (((hasDerivAt_pow 3 x).const_mul 10).sub ((hasDerivAt_pow 4 x).const_mul 15)).add ((hasDerivAt_pow 5 x).const_mul 6)
  exact h.congr_deriv (by norm_num; ring)

theorem strict_of_deriv (p : Rat → Rat) (f : ℝ → ℝ) (c : ℝ) (n : ℕ) (hc : 0 < c) (hp : ∀ a : Rat, ((p a : Rat) : ℝ) = f (a : ℝ))
    (hd : ∀ x, HasDerivAt f (c * x^n * (1-x)^n) x) (a b : Rat) (h0 : 0 ≤ a) (hab : a < b) (h1 : b ≤ 1) : p a < p b := by
  have hf : StrictMonoOn f (Set.Icc 0 1) := by
    apply strictMonoOn_of_deriv_pos (convex_Icc 0 1)
    · exact fun x _ => (hd x).continuousAt.continuousWithinAt
    · intro x hx; rw [interior_Icc] at hx; rw [(hd x).deriv]
      have h0 : 0 < x := hx.1
      have h1 : 0 < 1 - x := sub_pos.mpr hx.2
      positivity
  have ha : (a : ℝ) ∈ Set.Icc (0 : ℝ) 1 := ⟨by exact_mod_cast h0, by exact_mod_cast le_trans (le_of_lt hab) h1⟩
  have hb : (b : ℝ) ∈ Set.Icc (0 : ℝ) 1 := ⟨by exact_mod_cast le_trans h0 (le_of_lt hab), by exact_mod_cast h1⟩
  have := hf ha hb (by exact_mod_cast hab)
  rw [← hp, ← hp] at this; exact_mod_cast this

theorem m_strict : ∀ a b : Rat, 0 ≤ a → a < b → b ≤ 1 → pMercury a < pMercury b :=
  strict_of_deriv pMercury mR 30 2 (by norm_num) m_cast m_hasDeriv
theorem c4_strict : ∀ a b : Rat, 0 ≤ a → a < b → b ≤ 1 → pC4 a < pC4 b :=
  strict_of_deriv pC4 c4R 630 4 (by norm_num) c4_cast c4_hasDeriv
theorem c5_strict : ∀ a b : Rat, 0 ≤ a → a < b → b ≤ 1 → pC5 a < pC5 b :=
  strict_of_deriv pC5 c5R 2772 5 (by norm_num) c5_cast c5_hasDeriv

theorem changeover_mono_of_strict (p : Rat → Rat) (hp : SmoothStep p) (hm : ∀ a b, 0 ≤ a → a < b → b ≤ 1 → p a < p b)
    (d d' dcrit : Rat) (hc : 0 < dcrit) (h : d ≤ d') : changeover p d dcrit ≤ changeover p d' dcrit :=
  changeover_mono p hp (fun a b h0 hab h1 => hab.eq_or_lt.elim (fun e => e ▸ le_rfl) fun hlt => (hm a b h0 hlt h1).le) d d' dcrit hc h

theorem mercury_changeover_mono (d d' dcrit : Rat) (hc : 0 < dcrit) (h : d ≤ d') : Lmercury d dcrit ≤ Lmercury d' dcrit :=
  changeover_mono_of_strict pMercury ss_mercury m_strict d d' dcrit hc h
theorem c4_changeover_mono (d d' dcrit : Rat) (hc : 0 < dcrit) (h : d ≤ d') : LC4 d dcrit ≤ LC4 d' dcrit :=
  changeover_mono_of_strict pC4 ss_c4 c4_strict d d' dcrit hc h
theorem c5_changeover_mono (d d' dcrit : Rat) (hc : 0 < dcrit) (h : d ≤ d') : LC5 d dcrit ≤ LC5 d' dcrit :=
  changeover_mono_of_strict pC5 ss_c5 c5_strict d d' dcrit hc h

theorem changeover_strict (p : Rat → Rat) (hm : ∀ a b, 0 ≤ a → a < b → b ≤ 1 → p a < p b)
    (d d' dcrit : Rat) (hc : 0 < dcrit) (hlo : dcrit / 10 ≤ d) (h : d < d') (hhi : d' ≤ dcrit) :
    changeover p d dcrit < changeover p d' dcrit := by
  have h9 : (0 : Rat) < 9 / 10 * dcrit := by positivity
  have hy : yOf d dcrit < yOf d' dcrit := by unfold yOf; exact div_lt_div_of_pos_right (by linarith) h9
  have a0 : ¬ yOf d dcrit < 0 := fun hh => absurd ((y_neg_iff d dcrit hc).mp hh) (not_lt.mpr hlo)
  have b1 : ¬ yOf d' dcrit > 1 := fun hh => absurd ((y_gt_one_iff d' dcrit hc).mp hh) (not_lt.mpr hhi)
  have a1 : ¬ yOf d dcrit > 1 := fun hh => b1 (lt_trans hh hy)
  have b0 : ¬ yOf d' dcrit < 0 := fun hh => a0 (lt_trans hy hh)
  unfold changeover
  simp only [a0, a1, b0, b1, if_false]
  exact hm _ _ (le_of_not_gt a0) hy (le_of_not_gt b1)

theorem all_strict (d d' dcrit : Rat) (hc : 0 < dcrit) (hlo : dcrit / 10 ≤ d) (h : d < d') (hhi : d' ≤ dcrit) :
    Lmercury d dcrit < Lmercury d' dcrit ∧ LC4 d dcrit < LC4 d' dcrit ∧ LC5 d dcrit < LC5 d' dcrit :=
  ⟨changeover_strict pMercury m_strict d d' dcrit hc hlo h hhi, changeover_strict pC4 c4_strict d d' dcrit hc hlo h hhi,
   changeover_strict pC5 c5_strict d d' dcrit hc hlo h hhi⟩
end RV.C01.ChangeoverMono
