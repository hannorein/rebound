import RV.Proofs.SyncPhys
/-
  C09 / A7: the first symplectic corrector with inv = 1 undoes the one with inv = -1,
  from the group laws of its factors and the palindromic structure of its table.
-/
set_option linter.unusedSectionVars false
namespace RV.Sync
variable {T PJ X V A : Type} [AddCommGroup T]

/-- laws of the factors of `reb_whfast_corrector_Z` -/
structure CorrLaws (S : Sem T PJ X V A) : Prop where
  kepler_add : ∀ a b p, S.kepler a (S.kepler b p) = S.kepler (a + b) p
  kepler_zero : ∀ p, S.kepler 0 p = p
  /-- a kick adds to the velocities linearly in its coefficient, at fixed accelerations -/
  inter_add : ∀ a b acc p, S.inter a acc (S.inter b acc p) = S.inter (a + b) acc p
  inter_zero : ∀ acc p, S.inter 0 acc p = p
  /-- a kick does not move the positions the accelerations are computed from -/
  posJ_inter : ∀ b acc p, S.posJ (S.inter b acc p) = S.posJ p
  posB_inter : ∀ b acc p, S.posB (S.inter b acc p) = S.posB p
  ev_corrA_neg : ∀ i m, S.ev (.corrA i (-m)) = -S.ev (.corrA i m)
  ev_corrA_double : ∀ i m, S.ev (.corrA i (-2 * m)) = -(S.ev (.corrA i m) + S.ev (.corrA i m))
  ev_corrB_neg : ∀ n s, S.ev (.corrB n (-s)) = -S.ev (.corrB n s)

theorem zOps_inverse {S : Sem T PJ X V A} (L : CorrLaws S) (co : Coord) (ai : Nat) (am : Int)
    (bn : Nat) (bs : Int) (s : St PJ X V A) :
    (exec S (zOps co ai am bn bs ++ zOps co ai (-am) bn bs) s).pj = s.pj := by
  cases co <;>
    simp only [zOps, exec, denote, List.cons_append, List.nil_append,
      L.ev_corrA_neg, L.ev_corrA_double, L.ev_corrB_neg, L.kepler_add, L.inter_add,
      L.posJ_inter, L.posB_inter, neg_add_cancel, add_neg_cancel, L.kepler_zero, L.inter_zero,
      neg_neg, neg_add_rev, add_assoc, add_neg_cancel_left]

/-- the table entry whose `inv = 1` operator is the inverse of this entry's `inv = -1` operator -/
def entryInv (e : Nat × Int × Nat × Int) : Nat × Int × Nat × Int := (e.1, -e.2.1, e.2.2.1, -e.2.2.2)

theorem zList_append (co : Coord) (inv : Int) (a b : List (Nat × Int × Nat × Int)) :
    zList co inv (a ++ b) = zList co inv a ++ zList co inv b := by
  induction a with
  | nil => rfl
  | cons x r ih =>
    obtain ⟨ai, as, bn, bs⟩ := x
    simp [zList, ih, List.append_assoc]

theorem exec_cut_pj (S : Sem T PJ X V A) {x m y : List Prim} (hy : Closed y)
    (hm : ∀ s : St PJ X V A, (exec S m s).pj = s.pj) (s : St PJ X V A) :
    (exec S (x ++ (m ++ y)) s).pj = (exec S (x ++ y) s).pj := by
  rw [exec_append, exec_append, exec_append, closed_pj_congr S hy (hm _)]

theorem zList_inverse {S : Sem T PJ X V A} (L : CorrLaws S) (co : Coord)
    (l : List (Nat × Int × Nat × Int)) (s : St PJ X V A) :
    (exec S (zList co (-1) l ++ zList co 1 (l.reverse.map entryInv)) s).pj = s.pj := by
  induction l generalizing s with
  | nil => rfl
  | cons x r ih =>
    obtain ⟨ai, as, bn, bs⟩ := x
    have e : zList co 1 ((((ai, as, bn, bs) :: r).reverse).map entryInv) =
        zList co 1 (r.reverse.map entryInv) ++ zOps co ai (-as) bn (-bs) := by
      rw [List.reverse_cons, List.map_append, zList_append]
      simp [zList, entryInv]
    rw [e]
    show (exec S ((zOps co ai as bn (bs * -1) ++ zList co (-1) r) ++
      (zList co 1 (r.reverse.map entryInv) ++ zOps co ai (-as) bn (-bs))) s).pj = s.pj
    have hb : bs * -1 = -bs := by omega
    rw [hb]
    have e2 : (zOps co ai as bn (-bs) ++ zList co (-1) r) ++
        (zList co 1 (r.reverse.map entryInv) ++ zOps co ai (-as) bn (-bs)) =
        zOps co ai as bn (-bs) ++ ((zList co (-1) r ++ zList co 1 (r.reverse.map entryInv)) ++
        zOps co ai (-as) bn (-bs)) := by simp [List.append_assoc]
    rw [e2, exec_cut_pj S (closed_zOps co ai (-as) bn (-bs)) ih]
    exact zOps_inverse L co ai as bn (-bs) s

theorem corrTable_palindrome (order : Nat) :
    (corrTable order).reverse.map entryInv = corrTable order := by
  unfold corrTable
  split <;> decide

/-- **A7**: `reb_whfast_apply_corrector(r, 1, order)` undoes `reb_whfast_apply_corrector(r, -1, order)`
    on the internal coordinates, for every order and both supported coordinate systems -/
theorem corrector_inverse {S : Sem T PJ X V A} (L : CorrLaws S) (c : Config) :
    InverseOn S (corrBlk c) := by
  intro s
  unfold corrBlk
  split
  · unfold correctorOps
    have := zList_inverse L c.coord (corrTable c.corrector) s
    rw [corrTable_palindrome] at this
    exact this
  · rfl

/-! ### the repaired second corrector (fixes/F18.diff) is an inverse -/

structure C2Laws (S : Sem T PJ X V A) : Prop where
  ev_half_neg : S.ev (.frac (-1) 2) = -S.ev (.frac 1 2)
  ev_c2b_neg : S.ev (.c2b (-1)) = -S.ev (.c2b 1)

/-- `Uinv(a,b)` followed by `U(a,b)` is the identity on the internal coordinates, for coefficients
    whose syntactic negations evaluate to the negatives -/
theorem opUinv_opU {S : Sem T PJ X V A} (L : CorrLaws S) (a an b bn : Coef)
    (h1 : a.neg = an) (h2 : an.neg = a) (h3 : b.neg = bn) (h4 : bn.neg = b)
    (ea : S.ev an = -S.ev a) (eb : S.ev bn = -S.ev b) (s : St PJ X V A) :
    (exec S (opUinv a b ++ opU a b) s).pj = s.pj := by
  simp only [opUinv, opU, opY, opC, h1, h2, h3, h4, ea, eb, exec, denote, List.cons_append,
    List.nil_append, L.kepler_add, L.inter_add, L.posJ_inter, neg_add_cancel, add_neg_cancel, L.kepler_zero,
    L.inter_zero, neg_add_cancel_left, add_neg_cancel_left]

/-- with the repaired source (`c2fixed`), `apply_corrector2(1)` undoes `apply_corrector2(-1)` -/
theorem corrector2_inverse_fixed {S : Sem T PJ X V A} (L : CorrLaws S) (L2 : C2Laws S) (c : Config)
    (hf : c.c2fixed = true) : InverseOn S (c2Blk c) := by
  intro s
  unfold c2Blk
  split
  · simp only [corrector2Ops, hf, if_true]
    have e : (if (-1 : Int) > 0 then opU (.frac 1 2) (.c2b 1) ++ opU (.frac (-1) 2) (.c2b 1)
        else opUinv (.frac (-1) 2) (.c2b 1) ++ opUinv (.frac 1 2) (.c2b 1)) ++
        (if (1 : Int) > 0 then opU (.frac 1 2) (.c2b 1) ++ opU (.frac (-1) 2) (.c2b 1)
        else opUinv (.frac (-1) 2) (.c2b 1) ++ opUinv (.frac 1 2) (.c2b 1)) =
        opUinv (.frac (-1) 2) (.c2b 1) ++ ((opUinv (.frac 1 2) (.c2b 1) ++ opU (.frac 1 2) (.c2b 1)) ++
        opU (.frac (-1) 2) (.c2b 1)) := by
      simp [List.append_assoc]
    rw [e, exec_cut_pj S (closed_opU _ _) (opUinv_opU L (.frac 1 2) (.frac (-1) 2) (.c2b 1) (.c2b (-1))
      rfl rfl rfl rfl L2.ev_half_neg L2.ev_c2b_neg)]
    exact opUinv_opU L (.frac (-1) 2) (.frac 1 2) (.c2b 1) (.c2b (-1)) rfl rfl rfl rfl
      (by rw [L2.ev_half_neg, neg_neg]) L2.ev_c2b_neg s
  · rfl

end RV.Sync
