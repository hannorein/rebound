import RV.Proofs.IntegrateRestore
/-
  C08, PAUSED / SINGLE_STEP machinery: key presses delivered by another thread (space = pause / resume,
  arrow-down = one step, page-down = 50 steps) do not change what is integrated.  Valid for every step
  function, every tmax (also INFINITY), either value of exact_finish_time and every exit-condition
  schedule without SIGINT.
-/
set_option linter.unusedSectionVars false
namespace RV.Integrate
open RV
variable {K : Type} [Field K] [LinearOrder K] [IsStrictOrderedRing K]

/-- statuses the time logic of `reb_check_exit` treats exactly like RUNNING: negative, not LAST_STEP,
    not one of the two waiting states (the SINGLE_STEP countdown values are of this kind) -/
def RunLike (σ : Int) : Prop := σ < 0 ∧ σ ≠ -2 ∧ σ ≠ -3 ∧ σ ≠ -4

/-- status of the run with key presses (`σ`) versus status of the undisturbed run (`τ`) -/
def SRel (σ τ : Int) : Prop := (τ = -1 ∧ RunLike σ) ∨ (σ = τ ∧ (τ = -2 ∨ 0 ≤ τ))

/-- same simulation up to the status bookkeeping of the pause machinery -/
def Rel (s s0 : Sim K) : Prop :=
  s.t = s0.t ∧ s.dt = s0.dt ∧ s.dtLastDone = s0.dtLastDone ∧ s.exactFinish = s0.exactFinish ∧
  s.stepsDone = s0.stepsDone ∧ s.nOdes = s0.nOdes ∧ s.isBS = s0.isBS ∧ s.syncs = s0.syncs ∧
  stepSeq s = stepSeq s0 ∧ SRel s.status s0.status

theorem Rel.srel {s s0 : Sim K} (h : Rel s s0) : SRel s.status s0.status := h.2.2.2.2.2.2.2.2.2

theorem rel_eq (s s0 : Sim K) (h : Rel s s0) :
    s = { s0 with status := s.status, hist := s.hist } := by
  obtain ⟨h1, h2, h3, h4, h5, h6, h7, h8, _, _⟩ := h
  cases s; cases s0; simp_all

/-- the countdown on the status alone -/
def cdStatus (σ : Int) : Int := if σ ≤ -10 then (if σ = -10 then -3 else σ + 1) else σ

theorem exitCountdown_eq (s : Sim K) : exitCountdown s = { s with status := cdStatus s.status } := by
  unfold exitCountdown cdStatus
  simp only [Status.code]
  split_ifs <;> rfl

def PauseLike (σ : Int) : Prop := RunLike σ ∨ σ = -3

theorem pauseLike_cd (σ : Int) (h : PauseLike σ) : PauseLike (cdStatus σ) := by
  unfold cdStatus PauseLike RunLike at *
  split_ifs <;> omega

theorem pauseLike_apply (e : Ctl) (σ : Int) (h : PauseLike σ) : PauseLike (e.apply σ) := by
  unfold PauseLike RunLike at *
  cases e <;> simp only [Ctl.apply, Status.code] <;> split_ifs <;> omega

theorem pauseLike_applyCtl (evs : List Ctl) (σ : Int) (h : PauseLike σ) : PauseLike (applyCtl evs σ) := by
  unfold applyCtl
  induction evs generalizing σ with
  | nil => exact h
  | cons e es ih => exact ih _ (pauseLike_apply e σ h)

theorem apply_fixed (e : Ctl) (τ : Int) (h : τ = -2 ∨ 0 ≤ τ) : e.apply τ = τ := by
  cases e <;> simp only [Ctl.apply, Status.code] <;> split_ifs <;> omega

theorem applyCtl_fixed (evs : List Ctl) (τ : Int) (h : τ = -2 ∨ 0 ≤ τ) : applyCtl evs τ = τ := by
  unfold applyCtl
  induction evs with
  | nil => rfl
  | cons e es ih => simp only [List.foldl_cons, apply_fixed e τ h]; exact ih

/-- key presses and countdown keep the two runs related, as long as the integrator is let go again -/
theorem ctl_srel (pre evs : List Ctl) (σ τ : Int) (h : SRel σ τ)
    (hgo : applyCtl evs (cdStatus (applyCtl pre σ)) ≠ -3 ∧ applyCtl evs (cdStatus (applyCtl pre σ)) ≠ -4) :
    SRel (applyCtl evs (cdStatus (applyCtl pre σ))) τ := by
  rcases h with ⟨hτ, hσ⟩ | ⟨heq, hτ⟩
  · left
    refine ⟨hτ, ?_⟩
    rcases pauseLike_applyCtl evs _ (pauseLike_cd _ (pauseLike_applyCtl pre σ (Or.inl hσ))) with h | h
    · exact h
    · exact absurd h hgo.1
  · right
    have hpre : applyCtl pre σ = τ := by rw [heq]; exact applyCtl_fixed pre τ hτ
    have hcd : cdStatus τ = τ := by unfold cdStatus; split_ifs <;> omega
    rw [hpre, hcd, applyCtl_fixed evs τ hτ]
    exact ⟨rfl, hτ⟩

theorem exitNoParticles_hist (s : Sim K) (h : List (Beat K)) (f : Flags) :
    exitNoParticles { s with hist := h } f = { exitNoParticles s f with hist := h } := by
  rw [exitNoParticles_eq, exitNoParticles_eq]

/-- the time logic does not distinguish a RUNNING-like status from RUNNING -/
theorem exitTime_runlike (s0 : Sim K) (σ : Int) (tmax lf sg : K) (inf : Bool)
    (hτ : s0.status = -1) (hσ : RunLike σ) :
    exitTime { s0 with status := σ } tmax inf lf sg =
      ({ (exitTime s0 tmax inf lf sg).1 with
           status := if (exitTime s0 tmax inf lf sg).1.status = -1 then σ
                     else (exitTime s0 tmax inf lf sg).1.status },
       (exitTime s0 tmax inf lf sg).2) := by
  obtain ⟨h1, h2, h3, h4⟩ := hσ
  have hn : ¬ (0 ≤ σ) := by omega
  -- every branch of the time logic is the branch of the RUNNING run with `σ` put back where RUNNING was left
  show _ = (fun p : Sim K × K => (({ p.1 with status := if p.1.status = -1 then σ else p.1.status } : Sim K), p.2))
    (exitTime s0 tmax inf lf sg)
  simp only [exitTime, apply_ite (fun p : Sim K × K =>
    (({ p.1 with status := if p.1.status = -1 then σ else p.1.status } : Sim K), p.2)),
    Status.code, hτ, ge_iff_le, hn, if_false, h2, Int.reduceNeg, Int.reduceLE, Int.reduceEq, if_true]

def CE.map (g : Sim K → Sim K) : CE K → CE K
  | .ret a lf => .ret (g a) lf
  | .blocked a => .blocked (g a)

theorem checkExitCore_hist (s : Sim K) (h : List (Beat K)) (tmax lf : K) (inf : Bool) (f : Flags) :
    checkExitCore { s with hist := h } tmax inf lf f =
      (checkExitCore s tmax inf lf f).map (fun a => { a with hist := h }) := by
  unfold checkExitCore
  simp only []
  by_cases hp : (s.status = stPAUSED ∨ s.status = stSCREENSHOT) ∧ f.sigint = false
  · simp only [hp, and_self, if_true, CE.map]
  · simp only [hp, if_false, CE.map]
    by_cases h1 : s.status = stPAUSED ∨ s.status = stSCREENSHOT <;> cases h2 : f.errMsg <;>
      simp only [h1, Bool.false_eq_true, if_true, if_false]
    · rw [exitTime_hist { s with status := stSIGINT } h, exitNoParticles_hist]
    · rw [exitTime_hist { s with status := stGENERIC_ERROR } h, exitNoParticles_hist]
    · rw [exitTime_hist s h, exitNoParticles_hist]
    · rw [exitTime_hist { s with status := stGENERIC_ERROR } h, exitNoParticles_hist]

theorem checkExitCore_runlike (s0 : Sim K) (σ : Int) (tmax lf : K) (inf : Bool) (f : Flags)
    (hτ : s0.status = -1) (hσ : RunLike σ) :
    checkExitCore { s0 with status := σ } tmax inf lf f =
      (checkExitCore s0 tmax inf lf f).map
        (fun a => { a with status := if a.status = -1 then σ else a.status }) := by
  obtain ⟨g1, g2, g3, g4⟩ := hσ
  unfold checkExitCore
  simp only [Status.code, hτ, g3, g4, or_self, false_and, if_false, CE.map]
  have n3 : ¬ ((-1 : Int) = -3) := by norm_num
  have n4 : ¬ ((-1 : Int) = -4) := by norm_num
  simp only [n3, n4, or_self, false_and, if_false]
  cases he : f.errMsg
  · simp only [Bool.false_eq_true, if_false]
    rw [exitTime_runlike s0 σ tmax lf _ inf hτ ⟨g1, g2, g3, g4⟩]
    generalize (exitTime s0 tmax inf lf (copysign 1 s0.dt)).1 = r
    simp only [CE.ret.injEq, and_true, exitNoParticles_eq]
    by_cases hc : f.n = 0 ∧ (r.nOdes = 0 ∨ r.isBS = false) <;> simp [hc]
  · simp only [if_true]
    rw [exitTime_of_nonneg _ _ _ _ _ (by norm_num)]
    simp only [CE.ret.injEq, and_true, exitNoParticles_eq]
    by_cases hc : f.n = 0 ∧ (s0.nOdes = 0 ∨ s0.isBS = false) <;> simp [hc]

theorem exitCountdown_id (s : Sim K) (h : s.status = -1 ∨ s.status = -2 ∨ 1 ≤ s.status) :
    exitCountdown s = s := by
  unfold exitCountdown
  simp only [Status.code]
  split_ifs <;> first | omega | rfl

theorem checkExit_facts (s0 : Sim K) (tmax lf : K) (inf : Bool) (f : Flags)
    (hτ : s0.status = -1 ∨ s0.status = -2 ∨ 1 ≤ s0.status) :
    ∃ a lf1, checkExitCore s0 tmax inf lf f = .ret a lf1 ∧ checkExit s0 tmax inf lf f = .ret a lf1 ∧
      a.hist = s0.hist ∧ (a.status = -1 ∨ a.status = -2 ∨ 0 ≤ a.status) := by
  obtain ⟨a, lf1, hform, hst, -, -, -, -, hh⟩ := checkExit_ret s0 tmax lf inf f hτ
  have hcore : checkExitCore s0 tmax inf lf f = checkExit s0 tmax inf lf f := by
    unfold checkExit; rw [exitCountdown_id s0 hτ]
  refine ⟨a, lf1, hcore.trans hform, hform, hh, ?_⟩
  rw [hst]
  refine ite_of (P := fun x : Int => x = -1 ∨ x = -2 ∨ 0 ≤ x) (by decide) ?_
  cases f.errMsg
  · rcases hτ with h | h | h
    · rcases exitTime_status s0 tmax lf (copysign 1 s0.dt) inf (Or.inl h) with g | g | g
      exacts [Or.inl g, Or.inr (Or.inl g), Or.inr (Or.inr g.ge)]
    · rcases exitTime_status s0 tmax lf (copysign 1 s0.dt) inf (Or.inr h) with g | g | g
      exacts [Or.inl g, Or.inr (Or.inl g), Or.inr (Or.inr g.ge)]
    · rw [exitTime_of_nonneg _ _ _ _ _ (by show 0 ≤ s0.status; omega)]
      exact Or.inr (Or.inr (by show 0 ≤ s0.status; omega))
  · rw [exitTime_of_nonneg _ _ _ _ _ (by show (0 : Int) ≤ 1; decide)]
    exact Or.inr (Or.inr (by show (0 : Int) ≤ 1; decide))

theorem stepAndBeat_seq (step : StepFn K) (k : Nat) (s : Sim K) (f : Flags) :
    (stepAndBeat step k s f).syncs = s.syncs ∧
    stepSeq (stepAndBeat step k s f) = (s.t, s.dt, (step k s.t s.dt s.dtLastDone).t) :: stepSeq s := by
  rw [stepAndBeat_eq]; exact ⟨rfl, rfl⟩

theorem checkExitCore_ret_not_paused (s a : Sim K) (tmax lf l : K) (inf : Bool) (f : Flags)
    (h : checkExitCore s tmax inf lf f = .ret a l) (hsig : f.sigint = false) :
    s.status ≠ -3 ∧ s.status ≠ -4 := by
  unfold checkExitCore at h
  simp only [Status.code, hsig, and_true] at h
  by_cases hp : s.status = -3 ∨ s.status = -4
  · simp [hp] at h
  · exact ⟨fun h3 => hp (Or.inl h3), fun h4 => hp (Or.inr h4)⟩

theorem runLike_neg_one : RunLike (-1) := by unfold RunLike; omega

theorem srel_self (τ : Int) (h : τ = -1 ∨ τ = -2 ∨ 0 ≤ τ) : SRel τ τ := by
  rcases h with h | h | h
  · left; rw [h]; exact ⟨rfl, runLike_neg_one⟩
  · right; exact ⟨rfl, Or.inl h⟩
  · right; exact ⟨rfl, Or.inr h⟩

theorem checkExitP_eq (s s0 : Sim K) (tmax lf : K) (inf : Bool) (f : Flags) (pre evs : List Ctl)
    (hs : s = { s0 with status := s.status, hist := s.hist }) :
    checkExitP s tmax inf lf f pre evs =
      checkExitCore { ({ s0 with status := applyCtl evs (cdStatus (applyCtl pre s.status)) } : Sim K) with hist := s.hist }
        tmax inf lf f := by
  unfold checkExitP
  rw [exitCountdown_eq]
  simp only []
  congr 1
  cases s; cases s0; simp_all

theorem checkExitP_rel (s s0 : Sim K) (tmax lf : K) (inf : Bool) (f : Flags) (pre evs : List Ctl)
    (hr : Rel s s0) (hτ : s0.status = -1 ∨ s0.status = -2 ∨ 1 ≤ s0.status) (hsig : f.sigint = false)
    (s1 : Sim K) (lf1 : K) (hce : checkExitP s tmax inf lf f pre evs = .ret s1 lf1) :
    ∃ a, checkExit s0 tmax inf lf f = .ret a lf1 ∧ Rel s1 a ∧
      (a.status = -1 ∨ a.status = -2 ∨ 0 ≤ a.status) := by
  have hs := rel_eq s s0 hr
  obtain ⟨_, _, _, _, _, _, _, _, hseq, hsr⟩ := hr
  obtain ⟨a, la, hcore, hchk, hah, hast⟩ := checkExit_facts s0 tmax lf inf f hτ
  rw [checkExitP_eq s s0 tmax lf inf f pre evs hs] at hce
  have hgo := checkExitCore_ret_not_paused _ _ _ _ _ _ _ hce hsig
  have hgo' : applyCtl evs (cdStatus (applyCtl pre s.status)) ≠ -3 ∧
      applyCtl evs (cdStatus (applyCtl pre s.status)) ≠ -4 := hgo
  have hsr' := ctl_srel pre evs s.status s0.status hsr hgo'
  rw [checkExitCore_hist] at hce
  rcases hsr' with ⟨hτ1, hrun⟩ | ⟨heq, hτ2⟩
  · rw [checkExitCore_runlike s0 _ tmax lf inf f hτ1 hrun, hcore] at hce
    simp only [CE.map, CE.ret.injEq] at hce
    obtain ⟨e1, e2⟩ := hce
    refine ⟨a, by rw [hchk, e2], ?_, hast⟩
    rw [← e1]
    refine ⟨rfl, rfl, rfl, rfl, rfl, rfl, rfl, rfl, ?_, ?_⟩
    · simp only [stepSeq] at hseq ⊢; rw [hah]; exact hseq
    · show SRel (if a.status = -1 then applyCtl evs (cdStatus (applyCtl pre s.status)) else a.status) a.status
      split_ifs with h1
      · left; exact ⟨h1, hrun⟩
      · right; refine ⟨rfl, ?_⟩; omega
  · have hid : ({ s0 with status := applyCtl evs (cdStatus (applyCtl pre s.status)) } : Sim K) = s0 := by
      rw [heq]
    rw [hid, hcore] at hce
    simp only [CE.map, CE.ret.injEq] at hce
    obtain ⟨e1, e2⟩ := hce
    refine ⟨a, by rw [hchk, e2], ?_, hast⟩
    rw [← e1]
    refine ⟨rfl, rfl, rfl, rfl, rfl, rfl, rfl, rfl, ?_, srel_self _ hast⟩
    simp only [stepSeq] at hseq ⊢; rw [hah]; exact hseq

theorem stepAndBeat_rel (step : StepFn K) (k : Nat) (s1 a : Sim K) (f : Flags) (hr : Rel s1 a)
    (ha : a.status = -1 ∨ a.status = -2) :
    Rel (stepAndBeat step k s1 f) (stepAndBeat step k a f) ∧
    ((stepAndBeat step k a f).status = -1 ∨ (stepAndBeat step k a f).status = -2 ∨
      1 ≤ (stepAndBeat step k a f).status) := by
  obtain ⟨r1, r2, r3, r4, r5, r6, r7, r8, r9, r10⟩ := hr
  obtain ⟨p1, p2, p3, p4⟩ := stepAndBeat_time step k s1 f
  obtain ⟨q1, q2, q3, q4⟩ := stepAndBeat_time step k a f
  obtain ⟨u1, u2, u3, _⟩ := stepAndBeat_fields step k s1 f
  obtain ⟨v1, v2, v3, _⟩ := stepAndBeat_fields step k a f
  obtain ⟨w1, w2⟩ := stepAndBeat_seq step k s1 f
  obtain ⟨x1, x2⟩ := stepAndBeat_seq step k a f
  have st1 := stepAndBeat_status step k s1 f
  have st2 := stepAndBeat_status step k a f
  constructor
  · refine ⟨?_, ?_, ?_, ?_, ?_, ?_, ?_, ?_, ?_, ?_⟩
    · rw [p1, q1, r1, r2, r3]
    · rw [p2, q2, r1, r2, r3]
    · rw [p3, q3, r1, r2, r3]
    · rw [p4, q4, r4]
    · rw [u1, v1, r5]
    · rw [u2, v2, r6]
    · rw [u3, v3, r7]
    · rw [w1, x1, r8]
    · rw [w2, x2, r1, r2, r3, r9]
    · rw [st1, st2]
      cases hsc : f.stepCode with
      | some x =>
        simp only [Option.getD_some]
        right; exact ⟨rfl, Or.inr (by have := stepCode_pos f x hsc; omega)⟩
      | none => simpa using r10
  · rw [st2]
    cases hsc : f.stepCode with
    | some x => simp only [Option.getD_some]; right; right; exact stepCode_pos f x hsc
    | none => simp only [Option.getD_none]; omega

/-- a pass of the loop with key presses that ends in a return: `reb_check_exit` returned, and either the
    loop went on from the stepped state or this was the return -/
theorem loopP_done {step : StepFn K} {env : Nat → Flags} {ctl : Nat → List Ctl × List Ctl} {tmax : K} {inf : Bool}
    {fuel k : Nat} {s sP : Sim K} {lf lfP : K}
    (h : loopP step env ctl tmax inf (fuel + 1) k s lf = (.done sP, lfP)) :
    ∃ s1 lf1, checkExitP s tmax inf lf (env k) (ctl k).1 (ctl k).2 = .ret s1 lf1 ∧
      if s1.status < 0 then
        loopP step env ctl tmax inf fuel (k + 1) (stepAndBeat step k s1 (env (k + 1))) lf1 = (.done sP, lfP)
      else s1 = sP ∧ lf1 = lfP := by
  unfold loopP at h
  cases hce : checkExitP s tmax inf lf (env k) (ctl k).1 (ctl k).2 with
  | blocked b => rw [hce] at h; simp at h
  | ret s1 lf1 =>
    rw [hce] at h
    refine ⟨s1, lf1, rfl, ?_⟩
    split
    · next hneg => simpa only [if_pos hneg] using h
    · next hneg => simpa only [if_neg hneg, Prod.mk.injEq, Outcome.done.injEq] using h

/-- the loop with key presses, if it returns, returns what the loop without them returns -/
theorem loopP_rel (step : StepFn K) (env : Nat → Flags) (ctl : Nat → List Ctl × List Ctl) (tmax : K) (inf : Bool)
    (hsig : ∀ k, (env k).sigint = false) :
    ∀ (fuel k : Nat) (s s0 : Sim K) (lf : K), Rel s s0 →
      (s0.status = -1 ∨ s0.status = -2 ∨ 1 ≤ s0.status) →
      ∀ sP lfP, loopP step env ctl tmax inf fuel k s lf = (.done sP, lfP) →
      ∃ s', loop step env tmax inf fuel k s0 lf = (.done s', lfP) ∧ Rel sP s' := by
  intro fuel
  induction fuel with
  | zero => intro k s s0 lf _ _ sP lfP h; simp [loopP] at h
  | succ fuel ih =>
    intro k s s0 lf hr hτ sP lfP h
    obtain ⟨s1, lf1, hce, h⟩ := loopP_done h
    · obtain ⟨a, hchk, hrel, hast⟩ := checkExitP_rel s s0 tmax lf inf (env k) (ctl k).1 (ctl k).2 hr hτ (hsig k) s1 lf1 hce
      have hsr := hrel.srel
      by_cases hneg : s1.status < 0
      · rw [if_pos hneg] at h
        have ha : a.status = -1 ∨ a.status = -2 := by
          rcases hsr with ⟨h1, _⟩ | ⟨h1, h2⟩
          · exact Or.inl h1
          · rcases h2 with h2 | h2
            · exact Or.inr h2
            · omega
        have haneg : a.status < 0 := by omega
        obtain ⟨hr2, hτ2⟩ := stepAndBeat_rel step k s1 a (env (k + 1)) hrel ha
        obtain ⟨s', hl, hfin⟩ := ih (k + 1) _ _ lf1 hr2 hτ2 sP lfP h
        exact ⟨s', by rw [loop_of_ret_neg step env tmax inf fuel k s0 a lf lf1 hchk haneg]; exact hl, hfin⟩
      · rw [if_neg hneg] at h
        obtain ⟨h1, h2⟩ := h
        have hanon : ¬ a.status < 0 := by
          rcases hsr with ⟨_, hrun⟩ | ⟨h3, _⟩
          · exact absurd hrun.1 hneg
          · omega
        exact ⟨a, by rw [loop_of_ret_done step env tmax inf fuel k s0 a lf lf1 hchk hanon, h2], h1 ▸ hrel⟩

theorem loopP_done_nonneg (step : StepFn K) (env : Nat → Flags) (ctl : Nat → List Ctl × List Ctl) (tmax : K) (inf : Bool) :
    ∀ (fuel k : Nat) (s : Sim K) (lf : K) (sP : Sim K) (lfP : K),
      loopP step env ctl tmax inf fuel k s lf = (.done sP, lfP) → ¬ sP.status < 0 := by
  intro fuel
  induction fuel with
  | zero => intro k s lf sP lfP h; simp [loopP] at h
  | succ fuel ih =>
    intro k s lf sP lfP h
    obtain ⟨s1, lf1, -, h⟩ := loopP_done h
    by_cases hneg : s1.status < 0
    · rw [if_pos hneg] at h; exact ih _ _ _ _ _ h
    · rw [if_neg hneg] at h
      rw [← h.1]; exact hneg

end RV.Integrate
