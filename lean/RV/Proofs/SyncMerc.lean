import RV.Proofs.Sync
import Mathlib.Algebra.Group.Basic
/-
  C09 for MERCURIUS (kick first: the merged operator is the interaction kick) and for the outer
  scheme of EOS.
-/
set_option linter.unusedSectionVars false
namespace RV.Sync

/-- `p` = `r->particles` (heliocentric while unsynchronised), `c` = `com_pos/com_vel`,
    `acc` = accelerations, `d` = `dcrit` -/
structure MSt (P C A Dc : Type) where
  p : P
  c : C
  acc : A
  d : Dc

structure MSem (T P C A Dc : Type) where
  ev : Coef → T
  toDhP : P → P                 -- inertial_to_dh: new particle coordinates …
  toDhC : P → C                 -- … and centre of mass
  toI : P → C → P
  upd : P → A
  inter : T → A → P → P
  jump : T → P → P
  com : T → C → C
  kepEnc : T → Dc → P → P       -- Kepler step + encounter prediction + encounter step
  dcrit : P → Dc

variable {T P C A Dc : Type}

def mDenote (S : MSem T P C A Dc) : MPrim → MSt P C A Dc → MSt P C A Dc
  | .allocDcrit, s | .allocTmp, s | .warn, s | .setup, s | .advT _, s => s
  | .part2 _, s => s   -- coarse replay marker only; no theorem mentions it
  | .toDh, s => { s with p := S.toDhP s.p, c := S.toDhC s.p }
  | .toInertial, s => { s with p := S.toI s.p s.c }
  | .dcrit, s => { s with d := S.dcrit s.p }
  | .updateAcc, s => { s with acc := S.upd s.p }
  | .interaction τ, s => { s with p := S.inter (S.ev τ) s.acc s.p }
  | .jump τ, s => { s with p := S.jump (S.ev τ) s.p }
  | .com τ, s => { s with c := S.com (S.ev τ) s.c }
  | .keplerEncounter τ, s => { s with p := S.kepEnc (S.ev τ) s.d s.p }

def mExec (S : MSem T P C A Dc) : List MPrim → MSt P C A Dc → MSt P C A Dc
  | [], s => s
  | p :: ps, s => mExec S ps (mDenote S p s)

def mApply (S : MSem T P C A Dc) (safe : Bool) (o : Op P) (x : MFlags × MSt P C A Dc) :
    MFlags × MSt P C A Dc :=
  let r := mOpOps safe x.1 o
  let s := mExec S r.1 x.2
  (r.2, match o with | .poke v => { s with p := v } | _ => s)

def mRun (S : MSem T P C A Dc) (safe : Bool) :
    List (Op P) → MFlags × MSt P C A Dc → MFlags × MSt P C A Dc
  | [], x => x
  | o :: os, x => mRun S safe os (mApply S safe o x)

/-- laws of the MERCURIUS primitives (exact arithmetic) -/
structure MLaws [AddCommGroup T] (S : MSem T P C A Dc) : Prop where
  /-- the kick is additive in its coefficient at fixed accelerations -/
  inter_add : ∀ a b acc p, S.inter a acc (S.inter b acc p) = S.inter (a + b) acc p
  /-- the kick does not move the positions the accelerations are computed from -/
  upd_inter : ∀ b acc p, S.upd (S.inter b acc p) = S.upd p
  /-- `inertial_to_dh ∘ dh_to_inertial = id` -/
  dh_to : ∀ p c, S.toDhP (S.toI p c) = p ∧ S.toDhC (S.toI p c) = c
  ev_half : S.ev (.frac 1 2) + S.ev (.frac 1 2) = S.ev (.frac 1 1)

/-- what `synchronize` makes of an unsynchronised state -/
def mSynced (S : MSem T P C A Dc) (s : MSt P C A Dc) : P :=
  S.toI (S.inter (S.ev (.frac 1 2)) (S.upd s.p) s.p) s.c

/-- the part of a step after the first kick -/
def mTail : List MPrim :=
  [.jump (.frac 1 2), .com (.frac 1 1), .keplerEncounter (.frac 1 1), .jump (.frac 1 2)]

inductive MInv (S : MSem T P C A Dc) : MFlags × MSt P C A Dc → MFlags × MSt P C A Dc → Prop
  | fresh (u v) : u = v → u.1.isSync = true → u.1.allocD = false → MInv S u v
  | unsync (u v) : u.1 = ⟨false, false, false, true, true⟩ → v.1 = ⟨true, true, false, true, true⟩ →
      v.2.p = mSynced S u.2 → v.2.d = u.2.d → MInv S u v
  | synced (u v) : u.1 = ⟨true, true, false, true, true⟩ → v.1 = ⟨true, true, false, true, true⟩ →
      v.2.p = u.2.p → v.2.d = u.2.d → MInv S u v

theorem mExec_append (S : MSem T P C A Dc) (a b : List MPrim) (s : MSt P C A Dc) :
    mExec S (a ++ b) s = mExec S b (mExec S a s) := by
  induction a generalizing s with
  | nil => rfl
  | cons p ps ih => exact ih _

/-- a step from a new simulation: allocation, transformation, critical radii, first half kick -/
theorem mStepOps_fresh (safe r rr aT : Bool) : mStepOps safe ⟨true, r, rr, false, aT⟩ =
    ([.allocDcrit] ++ (if aT then [] else [.allocTmp]) ++
        [.toDh, .dcrit, .setup, .updateAcc, .interaction (.frac 1 2)] ++ mTail ++
        (if safe then [.setup, .updateAcc, .interaction (.frac 1 2), .toInertial] else []) ++ [.advT (.frac 1 1)],
     if safe then ⟨true, true, false, true, true⟩ else ⟨false, false, false, true, true⟩) := by
  cases safe <;> cases aT <;> rfl

/-- a step after a synchronize: transformation, first half kick -/
theorem mStepOps_synced (safe : Bool) : mStepOps safe ⟨true, true, false, true, true⟩ =
    ([.toDh, .setup, .updateAcc, .interaction (.frac 1 2)] ++ mTail ++
        (if safe then [.setup, .updateAcc, .interaction (.frac 1 2), .toInertial] else []) ++ [.advT (.frac 1 1)],
     if safe then ⟨true, true, false, true, true⟩ else ⟨false, false, false, true, true⟩) := by
  cases safe <;> rfl

/-- an unsafe step from an unsynchronised state: the merged kick -/
theorem mStepOps_unsync : mStepOps false ⟨false, false, false, true, true⟩ =
    ([.setup, .updateAcc, .interaction (.frac 1 1)] ++ mTail ++ [] ++ [.advT (.frac 1 1)],
     ⟨false, false, false, true, true⟩) := rfl

/-- the common end of every step case: once particles, centre of mass and critical radii agree after
    the first kick, the safe run ends one synchronize ahead of the unsafe one -/
theorem m_step_join (S : MSem T P C A Dc) (hu hv : List MPrim) (u v : MSt P C A Dc)
    (hp : (mExec S hu u).p = (mExec S hv v).p) (hc : (mExec S hu u).c = (mExec S hv v).c)
    (hd : (mExec S hu u).d = (mExec S hv v).d) :
    MInv S (⟨false, false, false, true, true⟩, mExec S (hu ++ mTail ++ [] ++ [.advT (.frac 1 1)]) u)
      (⟨true, true, false, true, true⟩, mExec S (hv ++ mTail ++
        [.setup, .updateAcc, .interaction (.frac 1 2), .toInertial] ++ [.advT (.frac 1 1)]) v) := by
  simp only [mExec_append]
  generalize mExec S hu u = a at *
  generalize mExec S hv v = b at *
  obtain ⟨p, c, acc, d⟩ := a
  subst hp hc hd
  exact MInv.unsync _ _ rfl rfl rfl rfl

variable [AddCommGroup T]

theorem mInv_step {S : MSem T P C A Dc} (L : MLaws S) {u v : MFlags × MSt P C A Dc}
    (h : MInv S u v) : MInv S (mApply S false .step u) (mApply S true .step v) := by
  show MInv S ((mStepOps false u.1).2, mExec S (mStepOps false u.1).1 u.2)
    ((mStepOps true v.1).2, mExec S (mStepOps true v.1).1 v.2)
  cases h with
  | fresh h1 h2 h3 =>
    subst h1
    obtain ⟨⟨isSync, recalc, recalcR, allocD, allocT⟩, s⟩ := u
    simp only at h2 h3; subst h2 h3
    rw [mStepOps_fresh, mStepOps_fresh]
    exact m_step_join S _ _ s s rfl rfl rfl
  | unsync h1 h2 h3 h4 =>
    rw [h1, h2, mStepOps_unsync, mStepOps_synced]
    refine m_step_join S _ _ u.2 v.2 ?_ ?_ ?_ <;>
      simp only [mExec, mDenote, h3, h4, mSynced, (L.dh_to _ _).1, (L.dh_to _ _).2, L.upd_inter, L.inter_add,
        L.ev_half]
  | synced h1 h2 h3 h4 =>
    rw [h1, h2, mStepOps_synced, mStepOps_synced]
    refine m_step_join S _ _ u.2 v.2 ?_ ?_ ?_ <;> simp only [mExec, mDenote, h3, h4]

theorem mInv_sync (S : MSem T P C A Dc) {u v : MFlags × MSt P C A Dc} (h : MInv S u v) :
    MInv S (mApply S false .synchronize u) v := by
  cases h with
  | fresh h1 h2 h3 =>
    subst h1
    obtain ⟨⟨isSync, recalc, recalcR, allocD, allocT⟩, s⟩ := u
    simp only at h2 h3; subst h2 h3
    exact MInv.fresh _ _ rfl rfl rfl
  | unsync h1 h2 h3 h4 =>
    obtain ⟨fu, su⟩ := u
    simp only at h1 h3 h4; subst h1
    refine MInv.synced _ _ ?_ h2 ?_ ?_ <;>
      simp [mApply, mOpOps, mSyncOps, mExec, mDenote, h3, h4, mSynced]
  | synced h1 h2 h3 h4 =>
    obtain ⟨fu, su⟩ := u
    simp only at h1 h3 h4; subst h1
    exact MInv.synced _ _ rfl h2 h3 h4

theorem mInv_run {S : MSem T P C A Dc} (L : MLaws S) (σ : List (Op P))
    (hσ : ∀ o ∈ σ, o.benign = true) (u v : MFlags × MSt P C A Dc) (h : MInv S u v) :
    MInv S (mRun S false σ u) (mRun S true (σ.filter Op.isStep) v) :=
  run_filter_sim (mApply S false) (mApply S true) (fun o u v ho h => by
    cases o with
    | step => exact mInv_step L h
    | synchronize => exact mInv_sync S h
    | read => exact h
    | setRecalc | poke _ => cases ho) σ hσ u v h

theorem mSyncOps_isSync (f : MFlags) : (mSyncOps f).2.isSync = true := by
  unfold mSyncOps; cases hf : f.isSync <;> simp [hf]

theorem mInv_final (S : MSem T P C A Dc) {u v : MFlags × MSt P C A Dc} (h : MInv S u v) :
    (mApply S false .synchronize u).2.p = v.2.p := by
  have := mInv_sync S h
  cases this with
  | fresh h1 h2 h3 => rw [h1]
  | unsync h1 h2 h3 h4 =>
    have : (mApply S false .synchronize u).1.isSync = true := mSyncOps_isSync u.1
    rw [h1] at this; cases this
  | synced h1 h2 h3 h4 => exact h3.symm

structure ESem (E : Type) where
  pre : E → E
  post : E → E
  drift : Nat → E → E
  body : E → E

def eDenote {E : Type} (S : ESem E) : EPrim → E → E
  | .pre, s => S.pre s | .post, s => S.post s | .drift k, s => S.drift k s | .body, s => S.body s

def eExec {E : Type} (S : ESem E) : List EPrim → E → E
  | [], s => s
  | p :: ps, s => eExec S ps (eDenote S p s)

/-- one API operation on (is_synchronized, state) -/
def eApply {E : Type} (S : ESem E) (safe : Bool) (o : Op E) (x : Bool × E) : Bool × E :=
  match o with
  | .step => ((eStepOps safe x.1).2, eExec S (eStepOps safe x.1).1 x.2)
  | .synchronize => ((eSyncOps x.1).2, eExec S (eSyncOps x.1).1 x.2)
  | .read | .setRecalc => x
  | .poke v => (x.1, v)

def eRun {E : Type} (S : ESem E) (safe : Bool) : List (Op E) → Bool × E → Bool × E
  | [], x => x
  | o :: os, x => eRun S safe os (eApply S safe o x)

theorem eSyncOps_isSync (b : Bool) : (eSyncOps b).2 = true := by cases b <;> rfl

/-- what would make deferred synchronisation exact for EOS: the outer drift is a flow and the
    pre-processor undoes the post-processor.  In the code the drift is itself a splitting
    scheme (`phi1`, `n` sub-steps), so `drift_merge` only holds up to that scheme's truncation
    error: this is why the property allows EOS a truncation-level difference. -/
structure ELaws {E : Type} (S : ESem E) : Prop where
  drift_merge : ∀ s, S.drift 1 (S.drift 1 s) = S.drift 2 s
  pre_post : ∀ s, S.pre (S.post s) = s

theorem eos_run {E : Type} {S : ESem E} (L : ELaws S) (σ : List (Op E))
    (hσ : ∀ o ∈ σ, o.benign = true) (u v : Bool × E)
    (h : (u.1 = true ∧ v.1 = true ∧ u.2 = v.2) ∨
         (u.1 = false ∧ v.1 = true ∧ v.2 = S.post (S.drift 1 u.2))) :
    let u' := eRun S false σ u
    let v' := eRun S true (σ.filter Op.isStep) v
    (u'.1 = true ∧ v'.1 = true ∧ u'.2 = v'.2) ∨
    (u'.1 = false ∧ v'.1 = true ∧ v'.2 = S.post (S.drift 1 u'.2)) :=
  run_filter_sim (R := fun u v : Bool × E => (u.1 = true ∧ v.1 = true ∧ u.2 = v.2) ∨
      (u.1 = false ∧ v.1 = true ∧ v.2 = S.post (S.drift 1 u.2)))
    (eApply S false) (eApply S true) (fun o u v ho h => by
    obtain ⟨fu, su⟩ := u
    obtain ⟨fv, sv⟩ := v
    cases o with
    | step =>
      rcases h with ⟨h1, h2, h3⟩ | ⟨h1, h2, h3⟩ <;> simp only at h1 h2 h3 <;> subst h1 h2 h3
      · right; simp [Op.isStep, eApply, eStepOps, eSyncOps, eExec, eDenote]
      · right; simp [Op.isStep, eApply, eStepOps, eSyncOps, eExec, eDenote, L.pre_post, L.drift_merge]
    | synchronize =>
      rcases h with ⟨h1, h2, h3⟩ | ⟨h1, h2, h3⟩ <;> simp only at h1 h2 h3 <;> subst h1 h2 h3
      · left; simp [Op.isStep, eApply, eSyncOps, eExec]
      · left; simp [Op.isStep, eApply, eSyncOps, eExec, eDenote]
    | read => exact h
    | setRecalc | poke _ => cases ho) σ hσ u v h

end RV.Sync
