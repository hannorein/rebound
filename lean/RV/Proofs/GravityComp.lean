import RV.Proofs.GravityLaws
/-
  COMPENSATED (gravity.c:248-488): in exact arithmetic every Kahan correction term is
  identically zero, so the routine adds the plain pair terms; its loop nests (upper
  triangle + `continue` tests instead of start indices) reach the same declarative
  source set as BASIC.
-/
set_option linter.unusedSimpArgs false
namespace RV.Gravity
open RV
variable {K : Type} [Field K]

abbrev CSt (K : Type) := Array (V3 K × V3 K)

def CsZero (st : CSt K) : Prop := ∀ (k : Nat) (v : V3 K × V3 K), st[k]? = some v → v.2 = 0

/-- `step` adds `c k` to the acceleration in slot `k` and leaves every compensation term zero -/
def AdditiveC (step : CSt K → CSt K) (c : Nat → V3 K) : Prop :=
  ∀ (st : CSt K), CsZero st → ∀ k, (step st)[k]? = (st[k]?).map (fun v => (v.1 + c k, (0 : V3 K)))

theorem additiveC_cs {step : CSt K → CSt K} {c : Nat → V3 K} (h : AdditiveC step c) (st : CSt K)
    (hz : CsZero st) : CsZero (step st) := by
  intro k v hv
  rw [h st hz k] at hv
  cases hs : st[k]? with
  | none => simp [hs] at hv
  | some w => simp [hs] at hv; rw [← hv]

theorem additiveC_id : AdditiveC (K := K) (fun st => st) (fun _ => 0) := by
  intro st hz k
  cases hs : st[k]? with
  | none => simp
  | some w =>
    have := hz k w hs
    simp
    exact Prod.ext (by simp) (by simp [this])

theorem additiveC_congr {step : CSt K → CSt K} {c d : Nat → V3 K} (h : AdditiveC step c)
    (hcd : ∀ k, c k = d k) : AdditiveC step d := by
  intro st hz k; rw [h st hz k, hcd k]

theorem additiveC_comp {f g : CSt K → CSt K} {c d : Nat → V3 K} (hf : AdditiveC f c)
    (hg : AdditiveC g d) : AdditiveC (fun st => g (f st)) (fun k => c k + d k) := by
  intro st hz k
  rw [hg (f st) (additiveC_cs hf st hz) k, hf st hz k]
  cases st[k]? <;> simp [add_assoc]

theorem additiveC_forRange (a b : Nat) (step : CSt K → Nat → CSt K) (c : Nat → Nat → V3 K)
    (h : ∀ i, a ≤ i → i < b → AdditiveC (fun st => step st i) (c i)) :
    AdditiveC (fun st => forRange a b st step) (fun k => ∑ i ∈ Finset.Ico a b, c i k) :=
  closed_forRange additiveC_id additiveC_comp a b step c h

/-- the 5-line Kahan block adds exactly `f·d` and recomputes a zero compensation term -/
theorem additiveC_kahanTo (i : Nat) (f : K) (d : V3 K) :
    AdditiveC (fun st => kahanTo st i f d) (fun k => if i = k then f • d else 0) := by
  intro st hz k
  simp only [kahanTo, Array.getElem?_modify]
  by_cases h : i = k
  · subst h
    cases hs : st[i]? with
    | none => simp
    | some w =>
      have hw := hz i w hs
      obtain ⟨a, cc⟩ := w
      simp only at hw
      subst hw
      simp only [if_true, Option.map_some, sc_hadd, sc_hsub, sc_hmul, Option.some.injEq]
      refine Prod.ext ?_ ?_
      · ext <;> simp
      · ext <;> simp
  · cases hs : st[k]? with
    | none => simp [h]
    | some w =>
      have hw := hz k w hs
      simp [h]
      exact Prod.ext (by simp) (by simp [hw])

/-- contribution of one COMPENSATED loop-body execution to slot `k` -/
def compC (kern : K → K) (soft2 : K) (m : Nat → K) (x : Nat → V3 K) (doI doJ : Bool)
    (i j k : Nat) : V3 K :=
  (if doI = true ∧ i = k then roleI (fun s _ _ => kern s) soft2 m x 0 i j else 0)
    + (if doJ = true ∧ j = k then roleJ (fun s _ _ => kern s) soft2 m x 0 i j else 0)

theorem additiveC_pairComp (kern : K → K) (soft2 : K) {N : Nat} (m : Nat → K) (x : Nat → V3 K)
    (doI doJ : Bool) {i j : Nat} (hi : i < N) (hj : j < N) :
    AdditiveC (fun st => pairComp kern soft2 (mkPs N m x) doI doJ st i j)
      (compC kern soft2 m x doI doJ i j) := by
  have e : (⟨(x i).x - (x j).x, (x i).y - (x j).y, (x i).z - (x j).z⟩ : V3 K) = dvec x 0 i j := by
    ext <;> simp [dvec]
  have es : ((x i).x - (x j).x) * ((x i).x - (x j).x) + ((x i).y - (x j).y) * ((x i).y - (x j).y)
      + ((x i).z - (x j).z) * ((x i).z - (x j).z) + soft2 = s2 x soft2 0 i j := by
    simp [s2, dvec]
  have hf : (fun st => pairComp kern soft2 (mkPs N m x) doI doJ st i j)
      = (fun st =>
          (fun st => if doJ = true then kahanTo st j (kern (s2 x soft2 0 i j) * m i) (dvec x 0 i j) else st)
          ((fun st => if doI = true then kahanTo st i ((-(kern (s2 x soft2 0 i j))) * m j) (dvec x 0 i j) else st) st)) := by
    funext st
    simp only [pairComp, mkPs_get m x hi, mkPs_get m x hj, sc_hadd, sc_hsub, sc_hmul, sc_hneg, e, es]
  rw [hf]
  have h1 : AdditiveC (fun st => if doI = true then kahanTo st i ((-(kern (s2 x soft2 0 i j))) * m j) (dvec x 0 i j) else st)
      (fun k => if doI = true ∧ i = k then ((-(kern (s2 x soft2 0 i j))) * m j) • dvec x 0 i j else 0) := by
    cases doI
    · simpa using additiveC_id (K := K)
    · have := additiveC_kahanTo (K := K) i ((-(kern (s2 x soft2 0 i j))) * m j) (dvec x 0 i j)
      simpa only [if_true, true_and, eq_self_iff_true] using this
  have h2 : AdditiveC (fun st => if doJ = true then kahanTo st j (kern (s2 x soft2 0 i j) * m i) (dvec x 0 i j) else st)
      (fun k => if doJ = true ∧ j = k then (kern (s2 x soft2 0 i j) * m i) • dvec x 0 i j else 0) := by
    cases doJ
    · simpa using additiveC_id (K := K)
    · have := additiveC_kahanTo (K := K) j (kern (s2 x soft2 0 i j) * m i) (dvec x 0 i j)
      simpa only [if_true, true_and, eq_self_iff_true] using this
  exact additiveC_congr (additiveC_comp h1 h2) (by intro k; simp [compC, roleI, roleJ])

theorem compSkip_iff (ig i j : Nat) : compSkip ig i j = true ↔
    (ig = 1 ∧ ((j = 1 ∧ i = 0) ∨ (i = 1 ∧ j = 0))) ∨ (ig = 2 ∧ (j = 0 ∨ i = 0)) := by
  simp [compSkip]

theorem compSkip_comm (ig i j : Nat) : compSkip ig i j = compSkip ig j i := by
  simp only [compSkip, Bool.or_comm]

/-- the declarative source set: the pairs the two loop nests can reach, minus those the
    `continue` tests skip -/
theorem Src_iff_compSkip (Na : Nat) (tp : Bool) (ig k j : Nat) :
    Src Na tp ig k j ↔ (j ≠ k ∧ (j < Na ∨ (tp = true ∧ k < Na))) ∧ ¬ compSkip ig k j = true := by
  unfold Src
  rw [compSkip_iff, not_or, and_assoc, and_comm (a := k = 0) (b := j = 1),
    or_comm (a := k = 0) (b := j = 0)]

/-- contribution of COMPENSATED to slot `k`, as the loops run -/
def compTot (kern : K → K) (cfg : Cfg K) (N : Nat) (m : Nat → K) (x : Nat → V3 K) (k : Nat) : V3 K :=
  (∑ i ∈ Finset.Ico 0 cfg.nActive, ∑ j ∈ Finset.Ico (i + 1) cfg.nActive,
      if compSkip cfg.ignore i j = true then 0 else compC kern (cfg.soft * cfg.soft) m x true true i j k)
  + (∑ i ∈ Finset.Ico cfg.nActive N, ∑ j ∈ Finset.Ico 0 cfg.nActive,
      if compSkip cfg.ignore i j = true then 0 else compC kern (cfg.soft * cfg.soft) m x true cfg.tpType i j k)

theorem accCompSt_additive (kern : K → K) (cfg : Cfg K) {N : Nat} (m : Nat → K) (x : Nat → V3 K)
    (hNa : cfg.nActive ≤ N) :
    AdditiveC (fun st =>
      forRange cfg.nActive N
        (forRange 0 cfg.nActive st fun st i =>
          forRange (i + 1) cfg.nActive st fun st j =>
            if compSkip cfg.ignore i j then st
            else pairComp kern (cfg.soft * cfg.soft) (mkPs N m x) true true st i j)
        fun st i =>
          forRange 0 cfg.nActive st fun st j =>
            if compSkip cfg.ignore i j then st
            else pairComp kern (cfg.soft * cfg.soft) (mkPs N m x) true cfg.tpType st i j)
      (compTot kern cfg N m x) := by
  unfold compTot
  refine additiveC_comp
    (f := fun st => forRange 0 cfg.nActive st fun st i =>
      forRange (i + 1) cfg.nActive st fun st j =>
        if compSkip cfg.ignore i j then st
        else pairComp kern (cfg.soft * cfg.soft) (mkPs N m x) true true st i j)
    (g := fun st => forRange cfg.nActive N st fun st i =>
      forRange 0 cfg.nActive st fun st j =>
        if compSkip cfg.ignore i j then st
        else pairComp kern (cfg.soft * cfg.soft) (mkPs N m x) true cfg.tpType st i j) ?_ ?_
  · apply additiveC_forRange
    intro i hi1 hi2
    apply additiveC_forRange
    intro j hj1 hj2
    by_cases hs : compSkip cfg.ignore i j = true
    · simpa [hs] using additiveC_id (K := K)
    · simpa [hs] using additiveC_pairComp kern (cfg.soft * cfg.soft) m x true true
        (show i < N by omega) (show j < N by omega)
  · apply additiveC_forRange
    intro i hi1 hi2
    apply additiveC_forRange
    intro j hj1 hj2
    by_cases hs : compSkip cfg.ignore i j = true
    · simpa [hs] using additiveC_id (K := K)
    · simpa [hs] using additiveC_pairComp kern (cfg.soft * cfg.soft) m x true cfg.tpType
        (show i < N by omega) (show j < N by omega)

theorem accComp_get (kern : K → K) (cfg : Cfg K) {N : Nat} (m : Nat → K) (x : Nat → V3 K)
    (hNa : cfg.nActive ≤ N) {k : Nat} (hk : k < N) :
    (accComp kern cfg (mkPs N m x))[k]? = some (compTot kern cfg N m x k) := by
  have h := accCompSt_additive kern cfg m x hNa
  have hz : CsZero (Array.replicate N ((V3.zero : V3 K), (V3.zero : V3 K))) := by
    intro k v hv
    simp [Array.getElem?_replicate] at hv
    rw [← hv.2]
  have := h _ hz k
  simp only [accComp, accCompSt, mkPs_size, sc_hmul, Array.getElem?_map]
  rw [this]
  simp [Array.getElem?_replicate, hk]

theorem ite_add4_of {M : Type} [AddCommMonoid M] (p q r s t : Prop) [Decidable p] [Decidable q]
    [Decidable r] [Decidable s] [Decidable t] (u : M)
    (h : (p ∨ q ∨ r ∨ s ↔ t) ∧ ¬(p ∧ q) ∧ ¬(p ∧ r) ∧ ¬(p ∧ s) ∧ ¬(q ∧ r) ∧ ¬(q ∧ s) ∧ ¬(r ∧ s)) :
    ((if p then u else 0) + (if q then u else 0)) + ((if r then u else 0) + (if s then u else 0))
      = if t then u else 0 := by
  by_cases hp : p <;> by_cases hq : q <;> by_cases hr : r <;> by_cases hs : s <;> by_cases ht : t <;>
    simp_all

theorem compTot_declarative (kern : K → K) (cfg : Cfg K) {N : Nat} (m : Nat → K) (x : Nat → V3 K)
    (hNa : cfg.nActive ≤ N) (hig : cfg.ignore ≤ 2) {k : Nat} (hk : k < N) :
    compTot kern cfg N m x k = ∑ j ∈ Finset.range N,
      if Src cfg.nActive cfg.tpType cfg.ignore k j
      then force (fun s _ _ => kern s) (cfg.soft * cfg.soft) m x 0 k j else 0 := by
  unfold compTot compC
  have split : ∀ (sk : Prop) [Decidable sk] (p q : Prop) [Decidable p] [Decidable q] (A B : V3 K),
      (if sk then 0 else ((if p then A else 0) + (if q then B else 0)))
        = (if ¬sk ∧ p then A else 0) + (if ¬sk ∧ q then B else 0) := by
    intro sk _ p _ q _ A B
    by_cases h : sk <;> simp [h]
  simp only [split, Finset.sum_add_distrib, true_and]
  simp only [← and_assoc]
  rw [collapse1 k, collapse1 k, collapse2 k, collapse2 k]
  rw [ite_sum_zero, ite_sum_zero]
  rw [sum_Ico_ind _ _ N hNa, sum_Ico_ind _ _ N hNa, sum_Ico_ind _ _ N hNa, sum_Ico_ind _ _ N (le_refl N)]
  simp only [← Finset.sum_add_distrib]
  apply Finset.sum_congr rfl
  intro j hj
  have hj' : j < N := Finset.mem_range.mp hj
  have hr : roleJ (fun s _ _ => kern s) (cfg.soft * cfg.soft) m x 0 j k
      = force (fun s _ _ => kern s) (cfg.soft * cfg.soft) m x 0 k j := by
    have := roleJ_eq_roleI (fun s _ _ => kern s) (fun _ _ _ => rfl) (cfg.soft * cfg.soft) m x 0 k j
    simpa using this
  simp only [hr, ← ite_and, compSkip_comm cfg.ignore j k, Src_iff_compSkip]
  by_cases hs : compSkip cfg.ignore k j = true
  · simp [hs]
  · simp only [hs, Bool.false_eq_true, not_false_eq_true, and_true, true_and]
    apply ite_add4_of
    rcases cfg with ⟨Na, tp, ig, soft⟩
    dsimp only at hNa ⊢
    cases tp <;> simp only [Bool.false_eq_true, eq_self_iff_true, true_and, false_and, and_false,
      or_false, and_true, not_false_eq_true] <;> omega

end RV.Gravity
