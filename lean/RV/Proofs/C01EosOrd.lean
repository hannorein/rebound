import RV.Proofs.C01WordInt
import RV.Model.Advertised
import RV.Gen.C01Eos
/- C01 / EOS: advertised orders in the free algebra on two letters, and as compositions of leapfrog (both decided on the
   integer tries of `C01WordInt`) -/
namespace RV.C01.Eos
open RV.C01 RV.C01.Gen RV.C01.Adv
/-- advertised (generalised) orders of all nine types; jerk terms enter as `exp(b·B + κ·v·[B,[B,A]])`, κ = −1 -/
theorem order : ∀ ty ∈ [0, 1, 2, 3, 4, 5, 6, 7, 8], ∀ s ∈ eosOuter.lookup ty, ∀ lim ∈ eos.lookup ty, WordOrder s lim κEOS tolEOS := by
  decide +kernel
/-- LF, LF4, LF6, LF8 are symmetric compositions of leapfrog maps satisfying all order conditions up to 2, 4, 6, 8 -/
theorem composition_order : ∀ tp ∈ eosComposition, ∀ s ∈ eosOuter.lookup tp.1,
    IsLeapfrogComposition s ∧ CompositionOrder (kicks s) tp.2 tolEOS := by decide +kernel
end RV.C01.Eos
