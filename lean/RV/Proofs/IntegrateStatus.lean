import RV.Proofs.Integrate
/-
  C08, status clause: the code returned by the loop is that of the first boundary at which an
  exit condition holds, in the evaluation order of the C code.  Valid for every step function.
-/
set_option linter.unusedSectionVars false
namespace RV.Integrate
open RV
variable {K : Type} [Field K] [LinearOrder K] [IsStrictOrderedRing K]

/-- status forced by `reb_check_exit` itself (rebound.c:674-676, 718-728):
    NO_PARTICLES > GENERIC_ERROR -/
def Flags.checkCode (f : Flags) (nOdes : Nat) (isBS : Bool) : Option Int :=
  if f.n = 0 ∧ (nOdes = 0 ∨ isBS = false) then some 2 else if f.errMsg then some 1 else none

theorem exitTime_status (s : Sim K) (tmax lf sg : K) (inf : Bool)
    (h : s.status = -1 ∨ s.status = -2) :
    (exitTime s tmax inf lf sg).1.status = -1 ∨ (exitTime s tmax inf lf sg).1.status = -2 ∨
    (exitTime s tmax inf lf sg).1.status = 0 := by
  cases inf
  · rw [exitTime_run s tmax lf sg h]
    simp only [apply_ite Prod.fst, apply_ite Sim.status]
    repeat' apply ite_of (P := fun x : Int => x = -1 ∨ x = -2 ∨ x = 0)
    all_goals omega
  · have : ¬ s.status ≥ 0 := by omega
    simp only [exitTime, this, if_false, if_true]
    omega

/-- `reb_check_exit` entered with RUNNING, LAST_STEP or an exit code: it returns, the status is that of
    the time logic unless NO_PARTICLES overrides it, and nothing else of what the loop looks at moves -/
theorem checkExit_ret (s : Sim K) (tmax lf : K) (inf : Bool) (f : Flags)
    (hs : s.status = -1 ∨ s.status = -2 ∨ 1 ≤ s.status) :
    ∃ s' lf', checkExit s tmax inf lf f = .ret s' lf' ∧
      s'.status = (if f.n = 0 ∧ (s.nOdes = 0 ∨ s.isBS = false) then 2
        else (exitTime (if f.errMsg then { s with status := 1 } else s) tmax inf lf (copysign 1 s.dt)).1.status) ∧
      s'.stepsDone = s.stepsDone ∧ s'.t = s.t ∧ s'.nOdes = s.nOdes ∧ s'.isBS = s.isBS ∧ s'.hist = s.hist := by
  obtain ⟨e1, -, -, e2, e3, e4, e5, -⟩ :=
    exitTime_frame (if f.errMsg then { s with status := 1 } else s) tmax lf (copysign 1 s.dt) inf
  refine ⟨_, _, checkExit_form s tmax lf inf f hs, ?_, ?_, ?_, ?_, ?_, ?_⟩ <;> rw [exitNoParticles_eq]
  · show (if f.n = 0 ∧ (_ = 0 ∨ _ = false) then (2 : Int) else _) = _
    rw [e3, e4]; cases f.errMsg <;> rfl
  · exact e2.trans (by cases f.errMsg <;> rfl)
  · exact e1.trans (by cases f.errMsg <;> rfl)
  · exact e3.trans (by cases f.errMsg <;> rfl)
  · exact e4.trans (by cases f.errMsg <;> rfl)
  · exact e5.trans (by cases f.errMsg <;> rfl)

/-- a boundary at which an exit condition holds: `reb_check_exit` returns its code, whatever the
    time logic would have said; no step is taken any more -/
theorem checkExit_fires (s : Sim K) (tmax lf : K) (inf : Bool) (f : Flags) (c : Int)
    (hs : s.status = -1 ∨ s.status = -2 ∨ 1 ≤ s.status)
    (hc : c = (f.checkCode s.nOdes s.isBS).getD s.status) (h1 : 1 ≤ c) :
    ∃ s' lf', checkExit s tmax inf lf f = .ret s' lf' ∧ s'.status = c ∧
      s'.stepsDone = s.stepsDone ∧ s'.t = s.t := by
  obtain ⟨s', lf', h, hst, hsd, ht, -⟩ := checkExit_ret s tmax lf inf f hs
  refine ⟨s', lf', h, ?_, hsd, ht⟩
  rw [hst, hc]
  unfold Flags.checkCode at hc ⊢
  by_cases hn : f.n = 0 ∧ (s.nOdes = 0 ∨ s.isBS = false)
  · rw [if_pos hn, if_pos hn]; rfl
  · rw [if_neg hn] at hc ⊢
    rw [if_neg hn]
    cases he : f.errMsg
    · rw [he] at hc
      rw [exitTime_of_nonneg _ _ _ _ _ (by show 0 ≤ s.status; rw [← show c = s.status from hc]; omega)]; rfl
    · rw [exitTime_of_nonneg _ _ _ _ _ (by show (0 : Int) ≤ 1; decide)]; rfl

/-- a boundary without exit condition: the loop goes on (RUNNING / LAST_STEP) or ends with SUCCESS -/
theorem checkExit_clear (s : Sim K) (tmax lf : K) (inf : Bool) (f : Flags)
    (hs : s.status = -1 ∨ s.status = -2) (he : f.errMsg = false) (hn : f.n ≠ 0) :
    ∃ s' lf', checkExit s tmax inf lf f = .ret s' lf' ∧
      (s'.status = -1 ∨ s'.status = -2 ∨ s'.status = 0) ∧
      s'.stepsDone = s.stepsDone ∧ s'.nOdes = s.nOdes ∧ s'.isBS = s.isBS := by
  obtain ⟨s', lf', h, hst, hsd, -, hno, hbs, -⟩ := checkExit_ret s tmax lf inf f (by omega)
  refine ⟨s', lf', h, ?_, hsd, hno, hbs⟩
  rw [hst, if_neg (fun h => hn h.1), he]
  exact exitTime_status s tmax lf _ inf hs

/-- boundaries `b … b+k` carry no exit condition, boundary `b+k+1` does (code `c`): the loop returns
    `c` after exactly `k+1` further steps — unless the time logic ended it earlier with SUCCESS -/
theorem loop_first_firing (step : StepFn K) (env : Nat → Flags) (tmax : K) (inf : Bool) (c : Int) :
    ∀ (k b : Nat) (s : Sim K) (lf : K), (s.status = -1 ∨ s.status = -2) →
      (∀ j, j ≤ k → (env (b + j)).errMsg = false ∧ (env (b + j)).n ≠ 0) →
      (∀ j, 1 ≤ j → j ≤ k → (env (b + j)).stepCode = none) →
      c = ((env (b + k + 1)).checkCode s.nOdes s.isBS).getD (((env (b + k + 1)).stepCode).getD (-1)) →
      1 ≤ c →
      ∀ fuel, k + 2 ≤ fuel → ∃ s' lf', loop step env tmax inf fuel b s lf = (.done s', lf') ∧
        ((s'.stepsDone = s.stepsDone + (k + 1) ∧ s'.status = c) ∨
         (s'.stepsDone ≤ s.stepsDone + k ∧ s'.status = 0)) := by
  intro k
  induction k with
  | zero =>
    intro b s lf hs hclr hstep hc h1 fuel hfuel
    obtain ⟨f, rfl⟩ : ∃ f, fuel = f + 2 := ⟨fuel - 2, by omega⟩
    obtain ⟨s1, lf1, hce, hst1, hsd1, hno1, hbs1⟩ :=
      checkExit_clear s tmax lf inf (env b) hs (by simpa using (hclr 0 (by omega)).1)
        (by simpa using (hclr 0 (by omega)).2)
    rcases hst1 with hneg | hneg | hzero
    on_goal 3 =>
      refine ⟨s1, lf1, loop_of_ret_done step env tmax inf (f + 1) b s s1 lf lf1 hce (by omega), Or.inr ⟨by omega, hzero⟩⟩
    all_goals
      rw [loop_of_ret_neg step env tmax inf (f + 1) b s s1 lf lf1 hce (by omega)]
      obtain ⟨g1, g2, g3, g4⟩ := stepAndBeat_fields step b s1 (env (b + 1))
      have gst := stepAndBeat_status step b s1 (env (b + 1))
      have hs2 : (stepAndBeat step b s1 (env (b + 1))).status = -1 ∨
          (stepAndBeat step b s1 (env (b + 1))).status = -2 ∨
          1 ≤ (stepAndBeat step b s1 (env (b + 1))).status := by
        rw [gst]
        cases hsc : (env (b + 1)).stepCode with
        | none => simp; omega
        | some x => simp; right; right; exact stepCode_pos _ _ hsc
      have hc2 : c = ((env (b + 1)).checkCode (stepAndBeat step b s1 (env (b + 1))).nOdes
          (stepAndBeat step b s1 (env (b + 1))).isBS).getD (stepAndBeat step b s1 (env (b + 1))).status := by
        rw [g2, g3, hno1, hbs1, gst]
        simp only [Nat.add_zero] at hc
        cases hsc : (env (b + 1)).stepCode with
        | some x => rw [hsc] at hc; simpa using hc
        | none =>
          rw [hsc] at hc
          cases hcc : (env (b + 1)).checkCode s.nOdes s.isBS with
          | some y => rw [hcc] at hc; simpa using hc
          | none => rw [hcc] at hc; simp at hc; omega
      obtain ⟨s', lf', hce2, hst2, hsd2, _⟩ :=
        checkExit_fires (stepAndBeat step b s1 (env (b + 1))) tmax lf1 inf (env (b + 1)) c hs2 hc2 h1
      refine ⟨s', lf', loop_of_ret_done step env tmax inf f (b + 1) _ s' lf1 lf' hce2 (by omega), Or.inl ⟨by omega, hst2⟩⟩
  | succ k ih =>
    intro b s lf hs hclr hstep hc h1 fuel hfuel
    obtain ⟨f, rfl⟩ : ∃ f, fuel = f + 1 := ⟨fuel - 1, by omega⟩
    obtain ⟨s1, lf1, hce, hst1, hsd1, hno1, hbs1⟩ :=
      checkExit_clear s tmax lf inf (env b) hs (by simpa using (hclr 0 (by omega)).1)
        (by simpa using (hclr 0 (by omega)).2)
    have hnone : (env (b + 1)).stepCode = none := hstep 1 (by omega) (by omega)
    have gst := stepAndBeat_status step b s1 (env (b + 1))
    rw [hnone] at gst
    simp only [Option.getD_none] at gst
    obtain ⟨g1, g2, g3, g4⟩ := stepAndBeat_fields step b s1 (env (b + 1))
    have hrec : ∀ (hneg : s1.status = -1 ∨ s1.status = -2),
        ∃ s' lf', loop step env tmax inf f (b + 1) (stepAndBeat step b s1 (env (b + 1))) lf1 = (.done s', lf') ∧
        ((s'.stepsDone = (stepAndBeat step b s1 (env (b + 1))).stepsDone + (k + 1) ∧ s'.status = c) ∨
         (s'.stepsDone ≤ (stepAndBeat step b s1 (env (b + 1))).stepsDone + k ∧ s'.status = 0)) := by
      intro hneg
      apply ih (b + 1) (stepAndBeat step b s1 (env (b + 1))) lf1 (by rw [gst]; exact hneg)
      · intro j hj
        have e : b + 1 + j = b + (j + 1) := by omega
        rw [e]; exact hclr (j + 1) (by omega)
      · intro j hj1 hj
        have e : b + 1 + j = b + (j + 1) := by omega
        rw [e]; exact hstep (j + 1) (by omega) (by omega)
      · have e : b + 1 + k + 1 = b + (k + 1) + 1 := by omega
        rw [e, g2, g3, hno1, hbs1]; exact hc
      · exact h1
      · omega
    by_cases hzero : s1.status = 0
    · exact ⟨s1, lf1, loop_of_ret_done step env tmax inf f b s s1 lf lf1 hce (by rw [hzero]; norm_num), Or.inr ⟨by rw [hsd1]; omega, hzero⟩⟩
    · have hneg : s1.status = -1 ∨ s1.status = -2 := by
        rcases hst1 with h | h | h
        · exact Or.inl h
        · exact Or.inr h
        · exact absurd h hzero
      have hlt : s1.status < 0 := by rcases hneg with h | h <;> rw [h] <;> norm_num
      rw [loop_of_ret_neg step env tmax inf f b s s1 lf lf1 hce hlt]
      obtain ⟨s', lf', hl, hres⟩ := hrec hneg
      refine ⟨s', lf', hl, ?_⟩
      rcases hres with ⟨h, h'⟩ | ⟨h, h'⟩
      · left; exact ⟨by omega, h'⟩
      · right; exact ⟨by omega, h'⟩

/-- the exit code of a boundary in the evaluation order of the C code:
    NO_PARTICLES > GENERIC_ERROR > SIGINT > ENCOUNTER > ESCAPE > USER > COLLISION; `none` = go on -/
def Flags.exitCode (f : Flags) (nOdes : Nat) (isBS : Bool) : Option Int :=
  match f.checkCode nOdes isBS with
  | some c => some c
  | none => f.stepCode

theorem exitCode_some (f : Flags) (nOdes : Nat) (isBS : Bool) (c : Int)
    (h : f.exitCode nOdes isBS = some c) :
    c = (f.checkCode nOdes isBS).getD (f.stepCode.getD (-1)) ∧ 1 ≤ c := by
  unfold Flags.exitCode at h
  cases hcc : f.checkCode nOdes isBS with
  | some y =>
    rw [hcc] at h; simp at h; subst h
    refine ⟨by simp, ?_⟩
    unfold Flags.checkCode at hcc
    split_ifs at hcc <;> simp at hcc <;> omega
  | none =>
    rw [hcc] at h; simp at h
    rw [h]; exact ⟨by simp, stepCode_pos f c h⟩

/-- the first heartbeat (before any step) only evaluates user / escape / encounter -/
def Flags.first (f : Flags) : Flags := { f with collision := false, sigint := false, stepError := false }

theorem start_status (s : Sim K) (tmax : K) (f0 : Flags) (hst : s.status ≠ -3 ∧ s.status ≠ -4) :
    (start s tmax f0).1.status = f0.first.stepCode.getD (-1) ∧
    (start s tmax f0).1.stepsDone = s.stepsDone ∧ (start s tmax f0).1.nOdes = s.nOdes ∧
    (start s tmax f0).1.isBS = s.isBS ∧ (start s tmax f0).1.t = s.t := by
  rw [start_form s tmax f0 hst]
  refine ⟨?_, rfl, rfl, rfl, rfl⟩
  simp only [Flags.first, Flags.stepCode, Bool.false_eq_true, if_false,
    apply_ite (Option.getD · (-1 : Int)), Option.getD_some, Option.getD_none]

theorem start_status_cases (s : Sim K) (tmax : K) (f0 : Flags) (hst : s.status ≠ -3 ∧ s.status ≠ -4) :
    (start s tmax f0).1.status = -1 ∨ (start s tmax f0).1.status = -2 ∨ 1 ≤ (start s tmax f0).1.status := by
  rw [(start_status s tmax f0 hst).1]
  cases hsc : f0.first.stepCode with
  | none => exact Or.inl rfl
  | some x => exact Or.inr (Or.inr (stepCode_pos _ _ hsc))

theorem finish_fields (s : Sim K) (lf : K) :
    (finish s lf).status = s.status ∧ (finish s lf).stepsDone = s.stepsDone ∧ (finish s lf).t = s.t := by
  rw [finish_eq]; exact ⟨rfl, rfl, rfl⟩

end RV.Integrate
