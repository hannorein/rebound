import RV.Proofs.Compare
/-
  Whole-stream statements about `compare`: its exact characterisation, and from a row-by-row relation between
  two encoded simulations to `compare = false`.
-/
namespace RV.Persist

def wallOf (tbl : List Desc) (id : Nat) : Bool :=
  match descForType tbl id with
  | some d => d.wall
  | none => false

theorem fieldDiffers_false_iff (specs : List CmpSpec) (tbl : List Desc) (fs2 : List Field) (f : Field) :
    fieldDiffers specs tbl fs2 f = false ↔ ∃ p, findField fs2 f.1 = some p ∧
      (payloadDiffer specs (descForType tbl f.1) f.2 p = false ∨ wallOf tbl f.1 = true) := by
  unfold fieldDiffers
  cases findField fs2 f.1 with
  | none => simp
  | some p =>
    show (payloadDiffer specs (descForType tbl f.1) f.2 p && !wallOf tbl f.1) = false ↔ _
    cases h : payloadDiffer specs (descForType tbl f.1) f.2 p <;> simp [h]

/-- exact characterisation of the return value of reb_binary_diff at field level -/
theorem compare_false_iff (sp : Special) (specs : List CmpSpec) (tbl : List Desc) (fs1 fs2 : List Field) :
    compare sp specs tbl fs1 fs2 = false ↔
      (∀ f ∈ body sp fs1, ∃ p, findField (body sp fs2) f.1 = some p ∧
          (payloadDiffer specs (descForType tbl f.1) f.2 p = false ∨ wallOf tbl f.1 = true)) ∧
      (∀ f ∈ body sp fs2, (findField (body sp fs1) f.1).isSome = true) := by
  simp only [compare, Bool.or_eq_false_iff, List.any_eq_false, Bool.not_eq_true, fieldDiffers_false_iff,
    Option.isNone_eq_false_iff]

/-- row `d` emits nothing in both streams, or one field with its own id in each and the payloads do not differ -/
def RowRel (specs : List CmpSpec) (tbl : List Desc) (g1 g2 : Desc → List Field) (d : Desc) : Prop :=
  (g1 d = [] ∧ g2 d = []) ∨
  ∃ p q, g1 d = [(d.id, p)] ∧ g2 d = [(d.id, q)] ∧
    (payloadDiffer specs (descForType tbl d.id) p q = false ∨ wallOf tbl d.id = true)

theorem findField_flatMap (ds : List Desc) (g : Desc → List Field) (hn : (ds.map (·.id)).Nodup)
    (hg : ∀ d ∈ ds, g d = [] ∨ ∃ p, g d = [(d.id, p)]) (d : Desc) (hd : d ∈ ds) (q : Bytes) (hq : g d = [(d.id, q)]) :
    findField (ds.flatMap g) d.id = some q := by
  induction ds with
  | nil => simp at hd
  | cons a r ih =>
    rw [List.map_cons, List.nodup_cons] at hn
    rw [List.flatMap_cons, findField_append]
    rcases List.mem_cons.mp hd with rfl | h
    · simp [hq, findField_cons]
    · have hne : a.id ≠ d.id := fun e => hn.1 (e ▸ List.mem_map_of_mem h)
      have := ih hn.2 (fun x hx => hg x (List.mem_cons_of_mem _ hx)) h
      rcases hg a (by simp) with e | ⟨p, e⟩ <;> simp [e, findField_cons, findField_nil, hne, this]

theorem body_append (sp : Special) (l t : List Field) (h : ∀ f ∈ l, f.1 ≠ sp.endId) :
    body sp (l ++ t) = l ++ body sp t := by
  induction l with
  | nil => rfl
  | cons a r ih =>
    have ha : a.1 ≠ sp.endId := h a (by simp)
    simp only [List.cons_append, body, ha, if_false]
    rw [ih (fun f hf => h f (List.mem_cons_of_mem _ hf))]

theorem row_of_mem {ds : List Desc} {g : Desc → List Field} (hg : ∀ d ∈ ds, g d = [] ∨ ∃ p, g d = [(d.id, p)])
    {f : Field} (hf : f ∈ ds.flatMap g) : ∃ d ∈ ds, g d = [(d.id, f.2)] ∧ f.1 = d.id := by
  obtain ⟨d, hd, hfd⟩ := List.mem_flatMap.mp hf
  rcases hg d hd with h | ⟨p, h⟩ <;> rw [h] at hfd
  · cases hfd
  · obtain rfl := List.mem_singleton.mp hfd
    exact ⟨d, hd, h, rfl⟩

/-- two streams built row by row from the same table, related row-wise, with the same tail
    (function-pointer flag, END) compare equal -/
theorem compare_of_rows (sp : Special) (specs : List CmpSpec) (tbl : List Desc) (ds : List Desc)
    (g1 g2 : Desc → List Field) (fpf : Field)
    (hn : (ds.map (·.id)).Nodup)
    (hend : ∀ d ∈ ds, d.id ≠ sp.endId) (hfpend : fpf.1 ≠ sp.endId)
    (hfpfresh : ∀ d ∈ ds, d.id = fpf.1 → g1 d = [] ∧ g2 d = [])
    (hfpok : payloadDiffer specs (descForType tbl fpf.1) fpf.2 fpf.2 = false ∨ wallOf tbl fpf.1 = true)
    (hrel : ∀ d ∈ ds, RowRel specs tbl g1 g2 d) :
    compare sp specs tbl (ds.flatMap g1 ++ [fpf, (sp.endId, [])]) (ds.flatMap g2 ++ [fpf, (sp.endId, [])]) = false := by
  have hg1 : ∀ d ∈ ds, g1 d = [] ∨ ∃ p, g1 d = [(d.id, p)] := fun d hd =>
    (hrel d hd).elim (fun h => .inl h.1) fun ⟨p, _, h, _⟩ => .inr ⟨p, h⟩
  have hg2 : ∀ d ∈ ds, g2 d = [] ∨ ∃ p, g2 d = [(d.id, p)] := fun d hd =>
    (hrel d hd).elim (fun h => .inl h.2) fun ⟨_, q, _, h, _⟩ => .inr ⟨q, h⟩
  -- in either stream the rows' fields are neither END nor the function-pointer flag
  have hrows : ∀ g : Desc → List Field, (∀ d ∈ ds, g d = [] ∨ ∃ p, g d = [(d.id, p)]) →
      (∀ d ∈ ds, d.id = fpf.1 → g d = []) → ∀ f ∈ ds.flatMap g, f.1 ≠ sp.endId ∧ f.1 ≠ fpf.1 := by
    intro g hg hfresh f hf
    obtain ⟨d, hd, hgd, hid⟩ := row_of_mem hg hf
    exact ⟨hid ▸ hend d hd, fun e => by simp [hfresh d hd (hid ▸ e)] at hgd⟩
  have hr1 := hrows g1 hg1 fun d hd e => (hfpfresh d hd e).1
  have hr2 := hrows g2 hg2 fun d hd e => (hfpfresh d hd e).2
  have htail : body sp [fpf, (sp.endId, [])] = [fpf] := by simp [body, hfpend]
  rw [compare_false_iff, body_append sp _ _ fun f hf => (hr1 f hf).1, body_append sp _ _ fun f hf => (hr2 f hf).1, htail]
  refine ⟨fun f hf => ?_, fun f hf => ?_⟩
  · rw [findField_append]
    rcases List.mem_append.mp hf with h | h
    · obtain ⟨d, hd, hgd, hfd⟩ := row_of_mem hg1 h
      rcases hrel d hd with ⟨h1, _⟩ | ⟨p, q, h1, h2, hok⟩
      · simp [h1] at hgd
      · obtain rfl : p = f.2 := by simpa [h1] using hgd
        exact ⟨q, by rw [hfd, findField_flatMap ds g2 hn hg2 d hd q h2], hfd ▸ hok⟩
    · obtain rfl := List.mem_singleton.mp h
      exact ⟨f.2, by simp [(findField_eq_none_iff _ _).mpr fun x hx => (hr2 x hx).2, findField_cons], hfpok⟩
  · rw [findField_append]
    rcases List.mem_append.mp hf with h | h
    · obtain ⟨d, hd, hgd, hfd⟩ := row_of_mem hg2 h
      rcases hrel d hd with ⟨_, h2⟩ | ⟨p, q, h1, h2, hok⟩
      · simp [h2] at hgd
      · rw [hfd, findField_flatMap ds g1 hn hg1 d hd p h1]
        rfl
    · obtain rfl := List.mem_singleton.mp h
      simp [(findField_eq_none_iff _ _).mpr fun x hx => (hr1 x hx).2, findField_cons]

end RV.Persist
