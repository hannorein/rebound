import RV.Proofs.VarAux
import RV.Model.Kepler
/- the tangent map of reb_whfast_kepler_solver, for RV/Props/C16.lean and RV/Proofs/KeplerTan2.lean.
   `Kepler.tangentUpdate` (RV/Model/Kepler.lean, tied bitwise to the compiled solver by C03's check) is the
   Float-faithful model of integrator_whfast.c:311-342. -/
namespace RV.Var
open RV RV.Kepler
variable {K : Type} [Field K] [CharZero K]

/- the Kepler model writes `Scalar.neg a`, not `-a`: `Dual.neg_re` / `neg_eps` do not match it -/
omit [CharZero K] in
theorem dneg_re (a : Dual K) : (Scalar.neg a).re = -a.re := rfl
omit [CharZero K] in
theorem dneg_eps (a : Dual K) : (Scalar.neg a).eps = -a.eps := rfl

def dP6 (p dp : Kepler.P6 K) : Kepler.P6 (Dual K) :=
  ⟨⟨p.x, dp.x⟩, ⟨p.y, dp.y⟩, ⟨p.z, dp.z⟩, ⟨p.vx, dp.vx⟩, ⟨p.vy, dp.vy⟩, ⟨p.vz, dp.vz⟩⟩
def epsP6 (p : Kepler.P6 (Dual K)) : Kepler.P6 K := ⟨p.x.eps, p.y.eps, p.z.eps, p.vx.eps, p.vy.eps, p.vz.eps⟩

/-- `dr0`, the variation of the initial radius, which the tangent map computes before the f-g lines -/
def tanDr0 (r0i : K) (p dp : Kepler.P6 K) : K := (dp.x * p.x + dp.y * p.y + dp.z * p.z) * r0i

omit [CharZero K] in
theorem kepler_invariants_tangent (M r0 r0i : K) (p dp : Kepler.P6 K) :
    let dr0 := tanDr0 r0i p dp
    let I := invariants (Dual.const M) (⟨r0, dr0⟩ : Dual K) ⟨r0i, -(dr0 * r0i * r0i)⟩ (dP6 p dp)
    let i0 := invariants M r0 r0i p
    I.beta.eps = (-2) * M * dr0 * r0i * r0i - 2 * (dp.vx * p.vx + dp.vy * p.vy + dp.vz * p.vz) ∧
    I.eta0.eps = dp.x * p.vx + dp.y * p.vy + dp.z * p.vz + p.x * dp.vx + p.y * dp.vy + p.z * dp.vz ∧
    I.zeta0.eps = (-i0.beta) * dr0 - r0 * I.beta.eps ∧
    I.beta.re = i0.beta ∧ I.eta0.re = i0.eta0 ∧ I.zeta0.re = i0.zeta0 := by
  simp only [invariants, dP6, tanDr0, n2, Dual.add_re, Dual.add_eps, Dual.sub_re, Dual.sub_eps, Dual.mul_re, Dual.mul_eps,
    Dual.const_re, Dual.const_eps, Dual.ofNat_re, Dual.ofNat_eps, sc_zero, sc_hadd, sc_hsub, sc_hmul, sc_ofNat]
  push_cast
  refine ⟨?_, ?_, ?_, ?_, ?_, ?_⟩ <;> first | trivial | rfl | ring

/-- the intermediate quantities of the tangent map (integrator_whfast.c:315-334) -/
structure TanMid (K : Type) where
  dr0 : K
  dG1 : K
  dG2 : K
  dG3 : K
  dr : K

section mid
variable {F : Type} [Scalar F]
/-- lines 315-331 of `Kepler.tangentUpdate` on their own (`tangentUpdate_split : … := rfl` below checks the split) -/
def tanMid (M r0 r0i ri X beta eta0 zeta0 : F) (gs : Cs6 F) (p dp : Kepler.P6 F) : TanMid F :=
  let dr0 := (dp.x * p.x + dp.y * p.y + dp.z * p.z) * r0i
  let dbeta := (Scalar.neg n2) * M * dr0 * r0i * r0i - n2 * (dp.vx * p.vx + dp.vy * p.vy + dp.vz * p.vz)
  let deta0 := dp.x * p.vx + dp.y * p.vy + dp.z * p.vz + p.x * dp.vx + p.y * dp.vy + p.z * dp.vz
  let dzeta0 := (Scalar.neg beta) * dr0 - r0 * dbeta
  let G3beta := half * (Scalar.ofNat 3 * gs.c5 - X * gs.c4)
  let G2beta := half * (n2 * gs.c4 - X * gs.c3)
  let G1beta := half * (gs.c3 - X * gs.c2)
  let tbeta := eta0 * G2beta + zeta0 * G3beta
  let dX := (Scalar.neg Scalar.one) * ri * (X * dr0 + gs.c2 * deta0 + gs.c3 * dzeta0 + tbeta * dbeta)
  let dG1 := gs.c0 * dX + G1beta * dbeta
  let dG2 := gs.c1 * dX + G2beta * dbeta
  let dG3 := gs.c2 * dX + G3beta * dbeta
  { dr0 := dr0, dG1 := dG1, dG2 := dG2, dG3 := dG3,
    dr := dr0 + gs.c1 * deta0 + gs.c2 * dzeta0 + eta0 * dG1 + zeta0 * dG2 }

/-- lines 332-342 given the intermediate quantities -/
def tanLines (M r0i ri : F) (c : FG F) (gs : Cs6 F) (p dp : Kepler.P6 F) (m : TanMid F) : Kepler.P6 F :=
  let nM := Scalar.neg M
  let df := M * gs.c2 * m.dr0 * r0i * r0i - M * m.dG2 * r0i
  let dg := nM * m.dG3
  let dfd := nM * m.dG1 * r0i * ri + M * gs.c1 * (m.dr0 * r0i + m.dr * ri) * r0i * ri
  let dgd := nM * m.dG2 * ri + M * gs.c2 * m.dr * ri * ri
  { x  := dp.x + (c.f * dp.x + c.g * dp.vx + df * p.x + dg * p.vx)
    y  := dp.y + (c.f * dp.y + c.g * dp.vy + df * p.y + dg * p.vy)
    z  := dp.z + (c.f * dp.z + c.g * dp.vz + df * p.z + dg * p.vz)
    vx := dp.vx + (c.fd * dp.x + c.gd * dp.vx + dfd * p.x + dgd * p.vx)
    vy := dp.vy + (c.fd * dp.y + c.gd * dp.vy + dfd * p.y + dgd * p.vy)
    vz := dp.vz + (c.fd * dp.z + c.gd * dp.vz + dfd * p.z + dgd * p.vz) }

theorem tangentUpdate_split (M r0 r0i ri X beta eta0 zeta0 : F) (c : FG F) (gs : Cs6 F) (p dp : Kepler.P6 F) :
    tangentUpdate M r0 r0i ri X beta eta0 zeta0 c gs p dp
      = tanLines M r0i ri c gs p dp (tanMid M r0 r0i ri X beta eta0 zeta0 gs p dp) := rfl
end mid

omit [CharZero K] in
theorem tanLines_is_eps (M r0i ri dt : K) (gs : Cs6 K) (p dp : Kepler.P6 K) (m : TanMid K) :
    tanLines M r0i ri (fgCoeffs M r0i ri dt gs.c1 gs.c2 gs.c3) gs p dp m
      = epsP6 (fgUpdate (Dual.const M) ⟨r0i, -(m.dr0 * r0i * r0i)⟩ ⟨ri, -(m.dr * ri * ri)⟩ (Dual.const dt)
          ⟨gs.c1, m.dG1⟩ ⟨gs.c2, m.dG2⟩ ⟨gs.c3, m.dG3⟩ (dP6 p dp)) := by
  obtain ⟨dr0, dG1, dG2, dG3, dr⟩ := m
  simp only [tanLines, fgUpdate, fgApply, fgCoeffs, epsP6, dP6, dneg_re, dneg_eps, neg_zero,
    Dual.add_eps, Dual.sub_re, Dual.sub_eps, Dual.mul_re, Dual.mul_eps,
    Dual.const_re, Dual.const_eps, sc_zero, sc_hadd, sc_hsub, sc_hmul, sc_neg,
    Kepler.P6.mk.injEq]
  refine ⟨?_, ?_, ?_, ?_, ?_, ?_⟩ <;> ring1
end RV.Var
