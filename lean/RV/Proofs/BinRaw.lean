/-
  The byte-level delta encoder `diffRaw` (positions pos1/pos2 in two buffers) computes,
  on encodings of well-formed field lists, the encoding of the field-level `diffF`:
  every position the C code uses is a field boundary.
-/
import RV.Proofs.Bin
set_option linter.unusedSimpArgs false
namespace RV.Bin

theorem WFs_suffix {r b : List Field} (hs : r <:+ b) (hb : WFs b) : WFs r :=
  fun f hf => hb f (hs.subset hf)

theorem searchRaw_enc (ty : Nat) (b : List Field) (t : Bytes) (hb : WFs b) (fuel : Nat)
    (hf : b.length < fuel) :
    searchRaw ty fuel (encFs b ++ (endBytes ++ t)) =
      (findF ty b).map (fun p => (p.1.size, p.1.data ++ (encFs p.2 ++ (endBytes ++ t)))) := by
  induction b generalizing fuel with
  | nil =>
    cases fuel with
    | zero => omega
    | succ n => simp [searchRaw, encFs, readHdr_end, findF]
  | cons g r ih =>
    cases fuel with
    | zero => omega
    | succ n =>
      obtain ⟨hw, hws⟩ := WFs_cons.mp hb
      have hl : r.length < n := by simp at hf; omega
      simp only [encFs, List.append_assoc, searchRaw, findF]
      rw [readHdr_encF g _ hw]
      simp only [hw.ty_ne_end, if_false]
      by_cases hty : g.ty = ty
      · simp [hty]
      · simp only [hty, if_false, hw.size_eq, List.drop_left]
        exact ih hws n hl

/-- the search from the start of a body, with the fuel the encoder gives it -/
theorem searchRaw_body (ty : Nat) (b : List Field) (t : Bytes) (hb : WFs b) :
    searchRaw ty ((encFs b ++ (endBytes ++ t)).length + 1) (encFs b ++ (endBytes ++ t)) =
      (findF ty b).map (fun p => (p.1.size, p.1.data ++ (encFs p.2 ++ (endBytes ++ t)))) :=
  searchRaw_enc ty b t hb _ (by have := encFs_length_ge b; simp; omega)

theorem enc_len16 (fs : List Field) (t : Bytes) : ¬ ((encFs fs ++ (endBytes ++ t)).length < 16) := by
  simp; omega

/-- what the C code picks as `field2` for a field of type `ty` -/
theorem target_enc (ty : Nat) (b r2 : List Field) (t2 : Bytes) (hb : WFs b) (hr2 : WFs r2)
    (hne : ty ≠ END) :
    (match readHdr (encFs r2 ++ (endBytes ++ t2)) with
     | none => none
     | some (ty2, sz2, p2) =>
        some (if ty = ty2 then some (sz2, p2)
              else searchRaw ty ((encFs b ++ (endBytes ++ t2)).length + 1) (encFs b ++ (endBytes ++ t2))))
    = some ((locate ty b r2).map
        (fun p => (p.1.size, p.1.data ++ (encFs p.2 ++ (endBytes ++ t2))))) := by
  cases r2 with
  | nil =>
    simp only [encFs, List.nil_append, readHdr_end, locate]
    simp only [hne, if_false, searchRaw_body _ b t2 hb]
  | cons g r2' =>
    obtain ⟨hw, hws⟩ := WFs_cons.mp hr2
    simp only [encFs, List.append_assoc, locate]
    rw [readHdr_encF g _ hw]
    simp only
    by_cases hty : g.ty = ty
    · simp [hty]
    · have : ¬ ty = g.ty := fun e => hty e.symm
      simp only [this, hty, if_false, searchRaw_body _ b t2 hb]

theorem loop1Raw_enc (v : Variant) (cmp : Nat → Bytes → Bytes → Bool) (b : List Field)
    (t1 t2 : Bytes) (hb : WFs b) (a r2 : List Field) (ha : WFs a) (hs : r2 <:+ b)
    (fuel : Nat) (hf : a.length < fuel) :
    loop1Raw v cmp (encFs b ++ (endBytes ++ t2)) fuel (encFs a ++ (endBytes ++ t1))
        (encFs r2 ++ (endBytes ++ t2)) = some (encFs (loop1F v cmp b a r2)) := by
  induction a generalizing r2 fuel with
  | nil =>
    cases fuel with
    | zero => omega
    | succ n => simp [loop1Raw, encFs, readHdr_end, loop1F]
  | cons f a' ih =>
    cases fuel with
    | zero => omega
    | succ n =>
      obtain ⟨hw, hws⟩ := WFs_cons.mp ha
      have hl : a'.length < n := by simp at hf; omega
      have hr2 : WFs r2 := WFs_suffix hs hb
      have htgt := target_enc f.ty b r2 t2 hb hr2 hw.ty_ne_end
      simp only [encFs, List.append_assoc, loop1Raw, loop1F]
      rw [readHdr_encF f _ hw]
      simp only [hw.ty_ne_end, if_false, shorter_eq, enc_len16 r2 t2, decide_false,
        Bool.false_eq_true]
      cases hrd : readHdr (encFs r2 ++ (endBytes ++ t2)) with
      | none => rw [hrd] at htgt; simp at htgt
      | some q =>
        obtain ⟨ty2, sz2, p2⟩ := q
        rw [hrd] at htgt
        simp only [Option.some.injEq] at htgt
        simp only [List.append_assoc] at htgt ⊢
        rw [htgt]
        cases hloc : locate f.ty b r2 with
        | none =>
          simp only [Option.map_none, hw.size_eq, List.drop_left]
          rw [ih b hws (List.suffix_refl b) n hl]
          simp [encFs, encF, vanished, hw.size_eq]
        | some q =>
          obtain ⟨g, r2'⟩ := q
          obtain ⟨hgb, hgty, hsuf⟩ := locate_props f.ty b r2 hs g r2' hloc
          have hgw : g.WF := hb g hgb
          simp only [Option.map_some, hw.size_eq, hgw.size_eq, List.drop_left, List.take_left]
          have h1 : ¬ ((f.data ++ (encFs a' ++ (endBytes ++ t1))).length < f.data.length) := by simp
          have h2 : ¬ ((g.data ++ (encFs r2' ++ (endBytes ++ t2))).length < g.data.length) := by simp
          simp only [h1, h2, decide_false, Bool.false_eq_true, or_self, if_false]
          rw [ih r2' hws hsuf n hl]
          simp only [Option.map_some, encFs_append, sameF, hw.size_eq, hgw.size_eq]
          congr 1
          by_cases hsm : (f.data.length == g.data.length && cmp f.ty f.data g.data) = true
          · simp [hsm, encFs]
          · simp only [← hgty]
            simp only [Bool.and_eq_true, beq_iff_eq, ← hgty] at hsm
            simp [hsm, encFs, encF, hgw.size_eq]

theorem aligned_enc (ty : Nat) (r1 : List Field) (hr1 : WFs r1) (t1 : Bytes) (hne : ty ≠ END) :
    (match readHdr (encFs r1 ++ (endBytes ++ t1)) with
     | none => none
     | some (ty1, sz1, p1) => some (if ty1 = ty then some (p1.drop sz1) else none))
    = some ((aligned ty r1).map (fun r => encFs r ++ (endBytes ++ t1))) := by
  cases r1 with
  | nil =>
    simp only [encFs, List.nil_append, readHdr_end, aligned]
    have : ¬ END = ty := fun e => hne e.symm
    simp [this]
  | cons f r1' =>
    obtain ⟨hw, hws⟩ := WFs_cons.mp hr1
    simp only [encFs, List.append_assoc, aligned]
    rw [readHdr_encF f _ hw]
    by_cases hty : f.ty = ty
    · simp [hty, hw.size_eq]
    · simp [hty]

theorem loop2Raw_enc (a : List Field) (t1 t2 : Bytes) (ha : WFs a) (b r1 : List Field)
    (hb : WFs b) (hs : r1 <:+ a) (fuel : Nat) (hf : b.length < fuel) :
    loop2Raw (encFs a ++ (endBytes ++ t1)) fuel (encFs b ++ (endBytes ++ t2))
        (encFs r1 ++ (endBytes ++ t1)) = some (encFs (loop2F a b r1)) := by
  induction b generalizing r1 fuel with
  | nil =>
    cases fuel with
    | zero => omega
    | succ n => simp [loop2Raw, encFs, readHdr_end, loop2F]
  | cons g b' ih =>
    cases fuel with
    | zero => omega
    | succ n =>
      obtain ⟨hw, hws⟩ := WFs_cons.mp hb
      have hl : b'.length < n := by simp at hf; omega
      have hr1 : WFs r1 := WFs_suffix hs ha
      have hal := aligned_enc g.ty r1 hr1 t1 hw.ty_ne_end
      simp only [encFs, List.append_assoc, loop2Raw, loop2F]
      rw [readHdr_encF g _ hw]
      simp only [hw.ty_ne_end, if_false, shorter_eq, enc_len16 r1 t1, decide_false,
        Bool.false_eq_true]
      cases hrd : readHdr (encFs r1 ++ (endBytes ++ t1)) with
      | none => rw [hrd] at hal; simp at hal
      | some q =>
        obtain ⟨ty1, sz1, p1⟩ := q
        rw [hrd] at hal
        simp only [Option.some.injEq] at hal
        simp only [hw.size_eq, List.drop_left, List.take_left]
        by_cases hty : ty1 = g.ty
        · simp only [hty, if_true] at hal ⊢
          cases hali : aligned g.ty r1 with
          | none => rw [hali] at hal; simp at hal
          | some r1' =>
            rw [hali] at hal
            simp only [Option.map_some, Option.some.injEq] at hal
            rw [hal]
            have hsuf : r1' <:+ a := by
              cases r1 with
              | nil => simp [aligned] at hali
              | cons x xs =>
                simp only [aligned] at hali
                by_cases hx : x.ty = g.ty
                · simp [hx] at hali; rw [← hali]; exact (List.suffix_cons x xs).trans hs
                · simp [hx] at hali
            exact ih r1' hws hsuf n hl
        · simp only [hty, if_false] at hal ⊢
          cases hali : aligned g.ty r1 with
          | some r1' => rw [hali] at hal; simp at hal
          | none =>
            have hsr := searchRaw_body g.ty a t1 ha
            simp only [List.append_assoc] at hsr ⊢
            rw [hsr]
            cases hfa : findF g.ty a with
            | some q =>
              simp only [Option.map_some, Option.isSome_some, if_true, List.nil_append]
              exact ih a hws (List.suffix_refl a) n hl
            | none =>
              have h2 : ¬ ((g.data ++ (encFs b' ++ (endBytes ++ t2))).length < g.data.length) := by simp
              simp only [Option.map_none, Option.isSome_none, Bool.false_eq_true, if_false, h2,
                decide_false]
              rw [ih a hws (List.suffix_refl a) n hl]
              simp [encFs, encF, hw.size_eq]

/-- **raw/field link**: on encodings of well-formed field lists the byte-level encoder with its
    pos1/pos2 logic produces exactly the encoding of the field-level delta. `h1`,`h2` are the two
    64-byte headers; the old buffer ends with its END field, the new one carries its trailer. -/
theorem diffRaw_enc (v : Variant) (cmp : Nat → Bytes → Bytes → Bool) (h1 h2 t2 : Bytes)
    (a b : List Field) (hh1 : h1.length = 64) (hh2 : h2.length = 64) (ha : WFs a) (hb : WFs b) :
    diffRaw v cmp (h1 ++ (encFs a ++ endBytes)) (h2 ++ (encFs b ++ (endBytes ++ t2)))
      = some (encFs (diffF v cmp a b)) := by
  unfold diffRaw
  have e1 : (h1 ++ (encFs a ++ endBytes)).drop 64 = encFs a ++ (endBytes ++ []) := by
    rw [← hh1]; simp
  have e2 : (h2 ++ (encFs b ++ (endBytes ++ t2))).drop 64 = encFs b ++ (endBytes ++ t2) := by
    rw [← hh2]; simp
  have l1 : ¬ ((h1 ++ (encFs a ++ endBytes)).length < 64) := by simp [hh1]
  have l2 : ¬ ((h2 ++ (encFs b ++ (endBytes ++ t2))).length < 64) := by simp [hh2]
  simp only [l1, l2, or_self, if_false, e1, e2]
  rw [loop1Raw_enc v cmp b [] t2 hb a b ha (List.suffix_refl b) _
        (by have := encFs_length_ge a; simp; omega),
      loop2Raw_enc a [] t2 ha b a hb (List.suffix_refl a) _
        (by have := encFs_length_ge b; simp; omega)]
  simp [diffF, encFs_append]

/-- Full statement of the delta-codec law for source variant `v`: for all well-formed
    serialisations `a`, `b` (unique ids, fields that may be absent are empty in a fresh
    simulation) the encoder produces a delta, and loading `a` then the delta gives, id by id,
    what loading `b` gives. -/
def DeltaLaw (v : Variant) : Prop :=
  ∀ (cmp : Nat → Bytes → Bytes → Bool), CmpExact cmp →
  ∀ (init : State) (h1 h2 t1 t2 rest : Bytes) (a b : List Field),
    h1.length = 64 → h2.length = 64 → WFs a → WFs b → NoHeader a → NoHeader b →
    (ids a).Nodup → (ids b).Nodup →
    (∀ f ∈ a, (∀ g ∈ b, g.ty ≠ f.ty) → init.val f.ty = []) →
    ∃ delta, diffRaw v cmp (h1 ++ (encFs a ++ endBytes)) (h2 ++ (encFs b ++ (endBytes ++ t2))) = some delta ∧
      ∀ k, (applyB (applyB init (encFs a ++ (endBytes ++ t1))) (delta ++ (endBytes ++ rest))).val k
            = (applyB init (encFs b ++ (endBytes ++ t2))).val k

theorem delta_law_bytes (v : Variant) (cmp : Nat → Bytes → Bytes → Bool) (hc : CmpExact cmp)
    (init : State) (h1 h2 t1 t2 rest : Bytes) (a b : List Field)
    (hh1 : h1.length = 64) (hh2 : h2.length = 64) (ha : WFs a) (hb : WFs b)
    (hna : NoHeader a) (hnb : NoHeader b) (ua : (ids a).Nodup) (ub : (ids b).Nodup)
    (hinit : ∀ f ∈ a, (∀ g ∈ b, g.ty ≠ f.ty) → init.val f.ty = [])
    (hv : v.f1 = true ∨ ¬ Vanishes a b) :
    ∃ delta, diffRaw v cmp (h1 ++ (encFs a ++ endBytes)) (h2 ++ (encFs b ++ (endBytes ++ t2))) = some delta ∧
      ∀ k, (applyB (applyB init (encFs a ++ (endBytes ++ t1))) (delta ++ (endBytes ++ rest))).val k
            = (applyB init (encFs b ++ (endBytes ++ t2))).val k := by
  refine ⟨_, diffRaw_enc v cmp h1 h2 t2 a b hh1 hh2 ha hb, ?_⟩
  intro k
  have hD : WFs (diffF v cmp a b) := by
    rw [diffF_eq_spec v cmp a b ub]; exact diffSpec_WF v cmp a b ha hb hv
  have hDn : NoHeader (diffF v cmp a b) := by
    rw [diffF_eq_spec v cmp a b ub]; exact diffSpec_NoHeader v cmp a b hna hnb
  rw [applyB_enc a t1 init ha hna, applyB_enc b t2 init hb hnb, applyB_enc _ rest _ hD hDn]
  exact delta_law_fields v cmp hc init a b ua ub hinit k

end RV.Bin
