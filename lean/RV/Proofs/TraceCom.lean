import RV.Proofs.Diag
import RV.Model.TraceCom
/-
  One TRACE step moves the centre of mass by dt × its velocity, whether or not the step was
  rejected and redone, and whatever `ri_trace.com_pos` held before the step.
-/
namespace RV.TraceCom
open RV RV.Gravity RV.Diag
variable {K : Type} [Field K]

theorem part2Com_eq (dt : K) (nAct : Nat) (rejected : Bool) (stale : V3 K) (ps : Array (Part K)) :
    part2Com dt nAct rejected stale ps = comStep dt (dhCom nAct ps) := by
  cases rejected <;> rfl

theorem dhSums_eq (nAct : Nat) (ps : Array (Part K)) :
    dhSums nAct ps = (∑ i ∈ Finset.Ico 0 nAct, mOf ps i • xOf ps i,
      ∑ i ∈ Finset.Ico 0 nAct, mOf ps i • vOf ps i, ∑ i ∈ Finset.Ico 0 nAct, mOf ps i) := by
  refine (forRange_sum 0 nAct _ (fun i => (mOf ps i • xOf ps i, mOf ps i • vOf ps i, mOf ps i)) ?_).trans ?_
  · intro L i _ _
    dsimp only [mOf, xOf, vOf]
    cases ps[i]? with
    | none => simp
    | some p => rfl
  · simp only [Prod.ext_iff, Prod.fst_sum, Prod.snd_sum, and_self]

end RV.TraceCom
