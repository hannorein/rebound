import RV.Model.Changeover
import RV.Gen.C01Mercurius
/- C01 / MERCURIUS changeover functions: the hand model equals the source executed at 61 exact rational points per function
   (namespace `ChangeoverT`: facts about the translator's tables `changeover_*`) -/
namespace RV.C01.ChangeoverT
open RV.C01 RV.C01.Gen RV.C01.Changeover

theorem model_is_source : changeover_mercury.length = 61 ∧ changeover_C4.length = 61 ∧ changeover_C5.length = 61 ∧
    (∀ e ∈ changeover_mercury, Lmercury e.1.1 e.1.2 = e.2) ∧ (∀ e ∈ changeover_C4, LC4 e.1.1 e.1.2 = e.2) ∧
    (∀ e ∈ changeover_C5, LC5 e.1.1 e.1.2 = e.2) := by decide +kernel
end RV.C01.ChangeoverT
