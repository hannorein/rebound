import RV.Proofs.OrbitRoundTrip
/-
  C11 (ii), angles: `acos2` returns the representative in (-π, π] of the angle whose cosine
  and sine (up to positive factors) it is given; from this the reader recovers inc, Ω, ω, f
  of the particle the constructor built.
-/
set_option linter.unusedSectionVars false
namespace RV.Orbit
variable {K : Type} [Field K] [LinearOrder K] [IsStrictOrderedRing K]

/-- what is assumed of the abstract `cos`, `sin`, `acos`, `pi` (all true of the real functions) -/
structure TrigSpec (L : Libm K) : Prop where
  pi_pos : 0 < L.pi
  sq : ∀ x, L.cos x ^ 2 + L.sin x ^ 2 = 1
  cos_zero : L.cos 0 = 1
  cos_pi : L.cos L.pi = -1
  acos_cos : ∀ t, 0 ≤ t → t ≤ L.pi → L.acos (L.cos t) = t
  sin_pos : ∀ t, 0 < t → t < L.pi → 0 < L.sin t
  cos_neg : ∀ t, L.cos (-t) = L.cos t
  sin_neg : ∀ t, L.sin (-t) = -L.sin t
  cos_add : ∀ a b, L.cos (a + b) = L.cos a * L.cos b - L.sin a * L.sin b
  sin_add : ∀ a b, L.sin (a + b) = L.sin a * L.cos b + L.cos a * L.sin b

variable {L : Libm K}

theorem TrigSpec.sin_zero (T : TrigSpec L) : L.sin 0 = 0 := by
  have := T.sq 0; rw [T.cos_zero] at this
  have h : L.sin 0 ^ 2 = 0 := by linear_combination this
  exact pow_eq_zero_iff (by norm_num) |>.mp h

theorem TrigSpec.sin_pi (T : TrigSpec L) : L.sin L.pi = 0 := by
  have := T.sq L.pi; rw [T.cos_pi] at this
  have h : L.sin L.pi ^ 2 = 0 := by linear_combination this
  exact pow_eq_zero_iff (by norm_num) |>.mp h

theorem TrigSpec.cos_sub_two_pi (T : TrigSpec L) (x : K) :
    L.cos (x - 2 * L.pi) = L.cos x ∧ L.sin (x - 2 * L.pi) = L.sin x := by
  have e : x - 2 * L.pi = x + (-(L.pi + L.pi)) := by ring
  rw [e, T.cos_add, T.sin_add, T.cos_neg, T.sin_neg, T.cos_add, T.sin_add, T.cos_pi, T.sin_pi]
  constructor <;> ring

theorem TrigSpec.cos_lt_one (T : TrigSpec L) (t : K) (h0 : 0 < t) (h1 : t < L.pi) :
    -1 < L.cos t ∧ L.cos t < 1 := by
  have hs := T.sin_pos t h0 h1
  have := T.sq t
  constructor <;> nlinarith

theorem acos2_of_pos (rho c dis : K) (hr : 0 < rho) :
    @acos2 K L.orbitK (rho * c) rho dis =
      if -1 < c ∧ c < 1 then (if dis < 0 then -L.acos c else L.acos c) else if c ≤ -1 then L.pi else 0 := by
  have hc : rho * c / rho = c := by field_simp
  have hden : (@eqB K orderedScalarO rho (0:K) && @eqB K orderedScalarO (rho * c) (0:K)) = false := by
    have : @eqB K orderedScalarO rho (0:K) = false := by
      rw [Bool.eq_false_iff]; exact fun h => hr.ne' ((so_eqB rho 0).mp h)
    rw [this, Bool.false_and]
  simp only [acos2, sc_zero, sc_hdiv, sc_one, sc_neg, hden, hc, Bool.false_eq_true, if_false, libm_acos, libm_pi,
    so_lt, so_le, Bool.and_eq_true]

/-- the quadrant logic: `acos2(ρ cos t, ρ, dis) = t` for t ∈ (-π, π], ρ > 0 and a disambiguator with the
    sign of `sin t` -/
theorem acos2_angle' (T : TrigSpec L) (t rho dis : K) (hr : 0 < rho)
    (h0 : -L.pi < t) (h1 : t ≤ L.pi)
    (hd1 : L.sin t < 0 → dis < 0) (hd2 : 0 < L.sin t → 0 ≤ dis) :
    @acos2 K L.orbitK (rho * L.cos t) rho dis = t := by
  rw [acos2_of_pos _ _ _ hr]
  rcases lt_trichotomy t 0 with hneg | rfl | hpos
  · have hp0 : 0 < -t := neg_pos.mpr hneg
    have hp1 : -t < L.pi := by linarith
    obtain ⟨c1, c2⟩ := T.cos_lt_one (-t) hp0 hp1
    rw [T.cos_neg] at c1 c2
    have hs : L.sin t < 0 := by
      have := T.sin_pos (-t) hp0 hp1; rw [T.sin_neg] at this; linarith
    have ha : L.acos (L.cos t) = -t := by
      rw [← T.cos_neg]; exact T.acos_cos (-t) hp0.le hp1.le
    rw [if_pos ⟨c1, c2⟩, if_pos (hd1 hs), ha, neg_neg]
  · rw [T.cos_zero, if_neg (by norm_num), if_neg (by norm_num)]
  · rcases lt_or_eq_of_le h1 with hlt | rfl
    · obtain ⟨c1, c2⟩ := T.cos_lt_one t hpos hlt
      rw [if_pos ⟨c1, c2⟩, if_neg (not_lt.mpr (hd2 (T.sin_pos t hpos hlt))), T.acos_cos t hpos.le h1]
    · rw [T.cos_pi, if_neg (by norm_num), if_pos le_rfl]

theorem acos2_angle (T : TrigSpec L) (t rho kappa : K) (hr : 0 < rho) (hk : 0 < kappa)
    (h0 : -L.pi < t) (h1 : t ≤ L.pi) :
    @acos2 K L.orbitK (rho * L.cos t) rho (kappa * L.sin t) = t :=
  acos2_angle' T t rho _ hr h0 h1 (fun h => mul_neg_of_pos_of_neg hk h) (fun h => (mul_pos hk h).le)

/-- every angle in [0, 4π) has a representative in (-π, π] with the same cosine and sine -/
theorem TrigSpec.reduce (T : TrigSpec L) (u : K) (h0 : 0 ≤ u) (h1 : u < 4 * L.pi) :
    ∃ (t : K) (j : ℤ), -L.pi < t ∧ t ≤ L.pi ∧ t = u - j * (2 * L.pi) ∧ L.cos t = L.cos u ∧ L.sin t = L.sin u := by
  have hp := T.pi_pos
  by_cases c1 : u ≤ L.pi
  · exact ⟨u, 0, by linarith, c1, by simp, rfl, rfl⟩
  · by_cases c2 : u ≤ 3 * L.pi
    · obtain ⟨e1, e2⟩ := T.cos_sub_two_pi u
      exact ⟨u - 2 * L.pi, 1, by linarith, by linarith, by simp, e1, e2⟩
    · obtain ⟨e1, e2⟩ := T.cos_sub_two_pi u
      obtain ⟨e3, e4⟩ := T.cos_sub_two_pi (u - 2 * L.pi)
      refine ⟨u - 2 * L.pi - 2 * L.pi, 2, by linarith, by linarith, by push_cast; ring, e3.trans e1, e4.trans e2⟩

theorem TrigSpec.reduce₁ (T : TrigSpec L) (u : K) (h : 0 ≤ u ∧ u < 2 * L.pi) :
    ∃ (t : K) (j : ℤ), -L.pi < t ∧ t ≤ L.pi ∧ t = u - j * (2 * L.pi) ∧ L.cos t = L.cos u ∧ L.sin t = L.sin u :=
  T.reduce u h.1 (by linarith [h.2, T.pi_pos])

theorem TrigSpec.reduce_add (T : TrigSpec L) (u w : K) (hu : 0 ≤ u ∧ u < 2 * L.pi) (hw : 0 ≤ w ∧ w < 2 * L.pi) :
    ∃ (t : K) (j : ℤ), -L.pi < t ∧ t ≤ L.pi ∧ t = u + w - j * (2 * L.pi) ∧ L.cos t = L.cos (u + w) ∧
      L.sin t = L.sin (u + w) :=
  T.reduce (u + w) (add_nonneg hu.1 hw.1) (by linarith [hu.2, hw.2])

/-- `mod2pi` returns the representative in [0, 2π) -/
theorem mod2pi_unique (hf : FmodSpec L.fmod) (hpi : 0 < L.pi) (x f : K) (j : ℤ)
    (hf0 : 0 ≤ f) (hf1 : f < 2 * L.pi) (hx : x = f + j * (2 * L.pi)) :
    @mod2pi K L.orbitK x = f := by
  obtain ⟨r0, r1⟩ := mod2pi_range L hf hpi x
  obtain ⟨n, hn⟩ := mod2piCore_congr L.fmod hf L.pi hpi x
  have hn' : @mod2pi K L.orbitK x = x - n * (2 * L.pi) := hn
  have hp : (0 : K) < 2 * L.pi := by linarith
  have key : @mod2pi K L.orbitK x - f = ((j - n : ℤ) : K) * (2 * L.pi) := by
    rw [hn', hx]; push_cast; ring
  have hlt : ((j - n : ℤ) : K) * (2 * L.pi) < 1 * (2 * L.pi) := by rw [← key]; linarith
  have hgt : (-1 : K) * (2 * L.pi) < ((j - n : ℤ) : K) * (2 * L.pi) := by rw [← key]; linarith
  have h1 : ((j - n : ℤ) : K) < 1 := lt_of_mul_lt_mul_right hlt (le_of_lt hp)
  have h2 : (-1 : K) < ((j - n : ℤ) : K) := lt_of_mul_lt_mul_right hgt (le_of_lt hp)
  have h1' : (j - n : ℤ) < 1 := by exact_mod_cast h1
  have h2' : (-1 : ℤ) < (j - n : ℤ) := by exact_mod_cast h2
  have hz : (j - n : ℤ) = 0 := by omega
  rw [hz] at key
  have : @mod2pi K L.orbitK x - f = 0 := by rw [key]; simp
  linarith

/-! projections of `orbitBody` (definitional) -/
theorem orbitBody_inc (v : Variant) (i : Inv K) (t0 : K) :
    (@orbitBody K L.orbitK v i t0).inc = @acos2 K L.orbitK i.hz i.h 1 := rfl

theorem orbitBody_Omega (v : Variant) (i : Inv K) (t0 : K) :
    (@orbitBody K L.orbitK v i t0).Omega =
      @acos2 K L.orbitK (-i.hy) (L.sqrt ((-i.hy) * (-i.hy) + i.hx * i.hx)) i.hx := rfl

/-- geometry of the constructed particle: `r > 0`, `H = |h| > 0`, positions and `h` vector -/
theorem constructor_geometry (L : Libm K)
    (htrig : ∀ x, L.cos x ^ 2 + L.sin x ^ 2 = 1)
    (hsqrt : ∀ x, 0 ≤ x → 0 ≤ L.sqrt x ∧ L.sqrt x ^ 2 = x)
    (v : Variant) (G : K) (pr : Part K) (m a e inc Om om f : K) (P : Part K)
    (hP : @fromOrbit K L.orbitK v G pr m a e inc Om om f = .ok P)
    (hmu : 0 < G * (m + pr.m)) (ha : a ≠ 0) (hasym : v.asymLe = false → e * L.cos f ≠ -1) :
    ∃ r H : K, 0 < r ∧ 0 < H ∧ 0 ≤ e ∧ r = a * (1 - e * e) / (1 + e * L.cos f) ∧
      P.x - pr.x = r * (L.cos Om * (L.cos om * L.cos f - L.sin om * L.sin f) -
        L.sin Om * (L.sin om * L.cos f + L.cos om * L.sin f) * L.cos inc) ∧
      P.y - pr.y = r * (L.sin Om * (L.cos om * L.cos f - L.sin om * L.sin f) +
        L.cos Om * (L.sin om * L.cos f + L.cos om * L.sin f) * L.cos inc) ∧
      P.z - pr.z = r * (L.sin om * L.cos f + L.cos om * L.sin f) * L.sin inc ∧
      (P.y - pr.y) * (P.vz - pr.vz) - (P.z - pr.z) * (P.vy - pr.vy) = H * L.sin inc * L.sin Om ∧
      (P.z - pr.z) * (P.vx - pr.vx) - (P.x - pr.x) * (P.vz - pr.vz) = -(H * L.sin inc * L.cos Om) ∧
      (P.x - pr.x) * (P.vy - pr.vy) - (P.y - pr.y) * (P.vx - pr.vx) = H * L.cos inc := by
  obtain ⟨hchk, hPc⟩ := fromOrbit_ok L v G pr m a e inc Om om f P hP
  obtain ⟨he, hd, hpos, hdpos⟩ := guard_denoms _ _ _ _ _ _ hchk (fun _ => ha) hasym
  have he0 : 0 ≤ e := ((check_none_iff _ _ _ _ _ _).mp hchk).2.1
  have hv0 : 0 ≤ v0sq G pr.m m a e := by
    rw [v0sq_eq, div_div]; exact div_nonneg (le_of_lt hmu) (le_of_lt hpos)
  obtain ⟨hs0, hs2⟩ := hsqrt _ hv0
  have R := core_relations G pr m a e (L.cos Om) (L.sin Om) (L.cos om) (L.sin om) (L.cos f) (L.sin f)
    (L.cos inc) (L.sin inc) (L.sqrt (v0sq G pr.m m a e)) (htrig _) (htrig _) (htrig _) (htrig _) ha he hd (by rw [← v0sq_eq]; exact hs2)
  obtain ⟨e1, e2, e3, e4, e5, e6, e7⟩ := core_rel pr m a e (L.cos Om) (L.sin Om) (L.cos om) (L.sin om)
    (L.cos f) (L.sin f) (L.cos inc) (L.sin inc) (L.sqrt (v0sq G pr.m m a e))
  rw [← hPc] at R e1 e2 e3
  rw [radius_eq] at e1 e2 e3
  obtain ⟨R1, R2, R3, ⟨R4, Rz, Rx, Ry⟩, R5⟩ := R
  have hv0pos : 0 < L.sqrt (v0sq G pr.m m a e) :=
    sqrt_pos_of_pos hsqrt (by rw [v0sq_eq, div_div]; exact div_pos hmu hpos)
  exact ⟨_, a * (1 - e * e) * L.sqrt (v0sq G pr.m m a e), div_pos hpos hdpos, mul_pos hpos hv0pos, he0, rfl,
    e1, e2, e3, Rx, Ry, Rz⟩

/-- the generic (non-planar) branch of the angle switch -/
theorem readerAngles_generic (inc Omega e M d dx dy dz ex ey ez nx ny nn : K)
    (h1 : ¬ inc < 1 / 100000000) (h2 : ¬ L.pi - 1 / 100000000 < inc) :
    let A := @readerAngles K L.orbitK inc Omega e M d dx dy dz ex ey ez nx ny nn
    let w := @acos2 K L.orbitK (nx * ex + ny * ey) (nn * e) ez
    let wpf := @acos2 K L.orbitK (nx * dx + ny * dy) (nn * d) dz
    A.omega = w ∧ A.f = wpf - w ∧
    (inc < L.pi / 2 → A.pomega = Omega + w ∧ A.theta = Omega + wpf) ∧
    (¬ inc < L.pi / 2 → A.pomega = Omega - w ∧ A.theta = Omega - wpf) := by
  intro A w wpf
  have hc : (@ScalarO.lt K orderedScalarO inc c1em8 || @ScalarO.lt K orderedScalarO (L.pi - c1em8) inc) = false := by
    simp only [c1em8, sc_hdiv, sc_one, sc_ofNat, Nat.cast_ofNat, ScalarO.lt]
    have h1' : (100000000 : K)⁻¹ ≤ inc := by rw [← one_div]; exact not_lt.mp h1
    have h2' : inc ≤ L.pi - (100000000 : K)⁻¹ := by rw [← one_div]; exact not_lt.mp h2
    simp [h1', h2']
  simp only [A, w, wpf, readerAngles, libm_pi, sc_hsub, sc_hadd, sc_hmul, sc_hdiv, hc, Bool.false_eq_true, if_false,
    two, sc_ofNat, Nat.cast_ofNat]
  by_cases hp : inc < L.pi / 2
  · simp [ScalarO.lt, hp]
  · simp [ScalarO.lt, hp]

theorem orbitBody_angles (v : Variant) (i : Inv K) (t0 : K) :
    ∃ M : K,
    let o := @orbitBody K L.orbitK v i t0
    let A := @readerAngles K L.orbitK o.inc o.Omega o.e M o.d i.dx i.dy i.dz o.ex o.ey o.ez (-i.hy) i.hx
      (L.sqrt ((-i.hy) * (-i.hy) + i.hx * i.hx))
    o.omega = @mod2pi K L.orbitK A.omega ∧ o.f = @mod2pi K L.orbitK A.f ∧
    o.theta = @mod2pi K L.orbitK A.theta ∧ o.pomega = A.pomega ∧ o.d = i.d :=
  ⟨_, rfl, rfl, rfl, rfl, rfl⟩

theorem invariants_rel (G : K) (P pr : Part K) :
    let i := @invariants K L.orbitK G P pr
    i.dx = P.x - pr.x ∧ i.dy = P.y - pr.y ∧ i.dz = P.z - pr.z ∧
    i.hx = (P.y - pr.y) * (P.vz - pr.vz) - (P.z - pr.z) * (P.vy - pr.vy) ∧
    i.hy = (P.z - pr.z) * (P.vx - pr.vx) - (P.x - pr.x) * (P.vz - pr.vz) ∧
    i.hz = (P.x - pr.x) * (P.vy - pr.vy) - (P.y - pr.y) * (P.vx - pr.vx) ∧
    i.h = L.sqrt (i.hx * i.hx + i.hy * i.hy + i.hz * i.hz) :=
  ⟨rfl, rfl, rfl, rfl, rfl, rfl, rfl⟩

/-- for 0 < inc < π the reader returns a, e, inc, Ω, and calls the angle switch with the node vector
    `H sin i (cos Ω, sin Ω)`, the eccentricity vector and the position of the particle it was given -/
theorem reader_inverse_core (T : TrigSpec L)
    (hsqrt : ∀ x, 0 ≤ x → 0 ≤ L.sqrt x ∧ L.sqrt x ^ 2 = x)
    (v : Variant) (G : K) (pr : Part K) (m a e inc Om om f t0 : K) (P : Part K) (o : Orb K)
    (hP : @fromOrbit K L.orbitK v G pr m a e inc Om om f = .ok P)
    (ho : @orbitFromParticle K L.orbitK v G P pr t0 = .ok o)
    (hmu : 0 < G * (m + pr.m)) (ha : a ≠ 0) (hasym : v.asymLe = false → e * L.cos f ≠ -1)
    (hinc0 : 0 < inc) (hinc1 : inc < L.pi) (hO : -L.pi < Om ∧ Om ≤ L.pi) :
    ∃ M r H : K, 0 < r ∧ 0 < H ∧ 0 ≤ e ∧
      P.x - pr.x = r * (L.cos Om * (L.cos om * L.cos f - L.sin om * L.sin f) -
        L.sin Om * (L.sin om * L.cos f + L.cos om * L.sin f) * L.cos inc) ∧
      P.y - pr.y = r * (L.sin Om * (L.cos om * L.cos f - L.sin om * L.sin f) +
        L.cos Om * (L.sin om * L.cos f + L.cos om * L.sin f) * L.cos inc) ∧
      P.z - pr.z = r * (L.sin om * L.cos f + L.cos om * L.sin f) * L.sin inc ∧
      o.a = a ∧ o.e = e ∧ o.inc = inc ∧ o.Omega = Om ∧
      let A := @readerAngles K L.orbitK inc Om e M r (P.x - pr.x) (P.y - pr.y) (P.z - pr.z)
        (e * (L.cos Om * L.cos om - L.sin Om * L.sin om * L.cos inc))
        (e * (L.sin Om * L.cos om + L.cos Om * L.sin om * L.cos inc)) (e * (L.sin om * L.sin inc))
        (H * L.sin inc * L.cos Om) (H * L.sin inc * L.sin Om) (H * L.sin inc)
      o.omega = @mod2pi K L.orbitK A.omega ∧ o.f = @mod2pi K L.orbitK A.f ∧
      o.theta = @mod2pi K L.orbitK A.theta ∧ o.pomega = A.pomega := by
  obtain ⟨hd, hA, hex, hey, hez, hE⟩ := reader_of_constructor L T.sq hsqrt v G pr m a e inc Om om f t0 P o hP ho hmu ha hasym
  obtain ⟨r, H, hr, hH, he0, hrv, ex1, ex2, ex3, hhx, hhy, hhz⟩ := constructor_geometry L T.sq hsqrt v G pr m a e inc Om om f P hP hmu ha hasym
  have hsi : 0 < L.sin inc := T.sin_pos inc hinc0 hinc1
  replace ho := orbitFromParticle_ok L _ _ _ _ _ _ ho
  obtain ⟨i1, i2, i3, i4, i5, i6, i7⟩ := @invariants_rel K _ _ _ L G P pr
  obtain ⟨M, a1, a2, a3, a4, a5⟩ := @orbitBody_angles K _ _ _ L v (@invariants K L.orbitK G P pr) t0
  have oinc := @orbitBody_inc K _ _ _ L v (@invariants K L.orbitK G P pr) t0
  have oOm := @orbitBody_Omega K _ _ _ L v (@invariants K L.orbitK G P pr) t0
  rw [ho] at a1 a2 a3 a4 a5 oinc oOm
  generalize @invariants K L.orbitK G P pr = I at *
  rw [hhx] at i4; rw [hhy] at i5; rw [hhz] at i6
  have hh : I.h = H := by
    rw [i7]; apply sqrt_eq_of_mul_self hsqrt hH.le
    rw [i4, i5, i6]
    linear_combination (H * H * L.sin inc ^ 2) * T.sq Om + (H * H) * T.sq inc
  have Hinc : o.inc = inc := by
    rw [oinc, i6, hh]
    exact acos2_angle' T inc H 1 hH (neg_lt_zero.mpr T.pi_pos |>.trans hinc0) hinc1.le
      (fun h => absurd hsi h.not_gt) (fun _ => zero_le_one)
  have hrho : 0 < H * L.sin inc := mul_pos hH hsi
  have hnn : L.sqrt ((-I.hy) * (-I.hy) + I.hx * I.hx) = H * L.sin inc := by
    apply sqrt_eq_of_mul_self hsqrt hrho.le
    rw [i4, i5]; linear_combination ((H * L.sin inc) ^ 2) * T.sq Om
  have hnx : -I.hy = (H * L.sin inc) * L.cos Om := by rw [i5]; ring
  have HOm : o.Omega = Om := by
    rw [oOm, hnn, hnx, i4]
    exact acos2_angle' T Om _ _ hrho hO.1 hO.2
      (fun h => mul_neg_of_pos_of_neg hrho h) (fun h => (mul_pos hrho h).le)
  rw [Hinc, HOm, hE, hnn, hnx, hex, hey, hez, i1, i2, i3, i4, hd.trans hrv.symm] at a1 a2 a3 a4
  exact ⟨M, r, H, hr, hH, he0, ex1, ex2, ex3, hA, hE, Hinc, HOm, a1, a2, a3, a4⟩

/-- on the generic branch the true longitude is recovered from the position: `acos2` of its projection
    on the node line returns `ω + f` reduced to (-π, π] -/
theorem acos2_wpf (T : TrigSpec L) (r H inc Om u tu X Y Z : K) (hr : 0 < r) (hH : 0 < H)
    (hsi : 0 < L.sin inc) (tu0 : -L.pi < tu) (tu1 : tu ≤ L.pi) (tuc : L.cos tu = L.cos u) (tus : L.sin tu = L.sin u)
    (ex1 : X = r * (L.cos Om * L.cos u - L.sin Om * L.sin u * L.cos inc))
    (ex2 : Y = r * (L.sin Om * L.cos u + L.cos Om * L.sin u * L.cos inc))
    (ex3 : Z = r * L.sin u * L.sin inc) :
    @acos2 K L.orbitK (H * L.sin inc * L.cos Om * X + H * L.sin inc * L.sin Om * Y) (H * L.sin inc * r) Z = tu := by
  have e1 : H * L.sin inc * L.cos Om * X + H * L.sin inc * L.sin Om * Y = (H * L.sin inc * r) * L.cos tu := by
    rw [tuc, ex1, ex2]
    linear_combination (H * L.sin inc * r * L.cos u) * T.sq Om
  have hk : 0 < r * L.sin inc := mul_pos hr hsi
  have hz : Z = (r * L.sin inc) * L.sin tu := by rw [tus, ex3]; ring
  rw [e1, hz]
  exact acos2_angle' T tu _ _ (mul_pos (mul_pos hH hsi) hr) tu0 tu1
    (fun h => mul_neg_of_pos_of_neg hk h) (fun h => (mul_pos hk h).le)

theorem acos2_zero_zero (dis : K) : @acos2 K L.orbitK 0 0 dis = 0 := by
  simp [acos2, eqB, ScalarO.le]

/-- the near-planar branch of the angle switch (`inc < MIN_INC || inc > M_PI - MIN_INC`) -/
theorem readerAngles_planar (inc Omega e M d dx dy dz ex ey ez nx ny nn : K)
    (h : inc < 1 / 100000000 ∨ L.pi - 1 / 100000000 < inc) :
    let A := @readerAngles K L.orbitK inc Omega e M d dx dy dz ex ey ez nx ny nn
    let th := @acos2 K L.orbitK dx d dy
    let pw := @acos2 K L.orbitK ex e ey
    A.theta = th ∧ A.pomega = pw ∧
    (inc < L.pi / 2 → A.omega = pw - Omega ∧ A.f = th - pw) ∧
    (¬ inc < L.pi / 2 → A.omega = Omega - pw ∧ A.f = pw - th) := by
  intro A th pw
  have hc : (@ScalarO.lt K orderedScalarO inc c1em8 || @ScalarO.lt K orderedScalarO (L.pi - c1em8) inc) = true := by
    simp only [c1em8, sc_hdiv, sc_one, sc_ofNat, Nat.cast_ofNat, ScalarO.lt]
    rcases h with h | h
    · have : inc < (100000000 : K)⁻¹ := by rw [← one_div]; exact h
      simp [this]
    · have : L.pi - (100000000 : K)⁻¹ < inc := by rw [← one_div]; exact h
      simp [this]
  simp only [A, th, pw, readerAngles, libm_pi, sc_hsub, sc_hadd, sc_hmul, sc_hdiv, hc, if_true,
    two, sc_ofNat, Nat.cast_ofNat]
  by_cases hp : inc < L.pi / 2
  · simp [ScalarO.lt, hp]
  · simp [ScalarO.lt, hp]

end RV.Orbit
