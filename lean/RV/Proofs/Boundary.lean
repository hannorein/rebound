import RV.Proofs.Field
import RV.Model.Boundary
import Mathlib.Tactic.Linarith
import Mathlib.Tactic.Push
import Mathlib.Algebra.Order.Field.Basic
/-
  Lemmas about the boundary model over a linearly ordered field (C15).
-/
set_option linter.unusedSectionVars false
namespace RV.C15
open RV RV.Boundary

variable {K : Type} [Field K] [LinearOrder K] [IsStrictOrderedRing K]

/-- exact-arithmetic instance of the ordered scalar class: comparisons are the field's -/
instance ordScalarO : ScalarO K :=
  { toScalar := fieldScalar, lt := fun a b => decide (a < b), le := fun a b => decide (a ≤ b) }

@[simp] theorem so_lt (a b : K) : (ScalarO.lt a b = true) ↔ a < b := by simp [ScalarO.lt]
@[simp] theorem so_le (a b : K) : (ScalarO.le a b = true) ↔ a ≤ b := by simp [ScalarO.le]
@[simp] theorem so_lt_false (a b : K) : (ScalarO.lt a b = false) ↔ ¬ a < b := by simp [ScalarO.lt]
@[simp] theorem so_le_false (a b : K) : (ScalarO.le a b = false) ↔ ¬ a ≤ b := by simp [ScalarO.le]
@[simp] theorem half_eq (L : K) : half L = L / 2 := by simp [half]
@[simp] theorem nhalf_eq (L : K) : nhalf L = -L / 2 := by simp [nhalf]

/-! ### the `while` loops: how often `L` is subtracted -/

/-- number of passes of `while (x > L/2.) x -= L;` -/
def hiCount (L : K) : Nat → K → Option Nat
  | 0, x => if L / 2 < x then none else some 0
  | f+1, x => if L / 2 < x then (hiCount L f (x - L)).map (· + 1) else some 0

theorem hiCount_spec (L : K) : ∀ (f : Nat) (x : K) (n : Nat), hiCount L f x = some n →
    n ≤ f ∧ x - n * L ≤ L / 2 ∧ (n = 0 ∨ -L / 2 < x - n * L) := by
  intro f
  induction f with
  | zero =>
    intro x n h
    simp only [hiCount] at h
    split at h
    · cases h
    · obtain rfl := Option.some.inj h
      exact ⟨le_rfl, by simpa using ‹¬ L / 2 < x›, .inl rfl⟩
  | succ f ih =>
    intro x n h
    simp only [hiCount] at h
    split at h
    · rename_i hx
      obtain ⟨m, hm, rfl⟩ := Option.map_eq_some_iff.mp h
      obtain ⟨h1, h2, h3⟩ := ih _ _ hm
      have e : x - ((m + 1 : Nat) : K) * L = x - L - m * L := by push_cast; ring
      rw [e]
      refine ⟨Nat.succ_le_succ h1, h2, .inr ?_⟩
      rcases h3 with rfl | h3
      · simp only [Nat.cast_zero, zero_mul, sub_zero]; linarith
      · exact h3
    · obtain rfl := Option.some.inj h
      exact ⟨Nat.zero_le _, by simpa using ‹¬ L / 2 < x›, .inl rfl⟩

theorem hiCount_terminates (L : K) : ∀ (f : Nat) (x : K), x ≤ L / 2 + f * L →
    ∃ n, hiCount L f x = some n := by
  intro f
  induction f with
  | zero =>
    intro x hx
    exact ⟨0, by simp only [hiCount]; rw [if_neg]; simpa using hx⟩
  | succ f ih =>
    intro x hx
    simp only [hiCount]
    split
    · obtain ⟨n, hn⟩ := ih (x - L) (by push_cast at hx; linarith)
      exact ⟨n + 1, by rw [hn]; rfl⟩
    · exact ⟨0, rfl⟩

/-- the four loops of `reb_boundary_check` in terms of the pass count; the `<` loops are the `>`
    loops seen from the other side -/
theorem wrapHi_eq (L : K) : ∀ (f : Nat) (x : K),
    wrapHi L f x = (hiCount L f x).map fun (n : Nat) => x - n * L := by
  intro f
  induction f with
  | zero => intro x; simp only [wrapHi, hiCount, so_lt, half_eq]; split <;> simp
  | succ f ih =>
    intro x
    simp only [wrapHi, hiCount, so_lt, half_eq, sc_hsub]
    split
    · rw [ih, Option.map_map]; congr 1; funext n; simp only [Function.comp]; push_cast; ring
    · simp

theorem wrapLo_eq (L : K) : ∀ (f : Nat) (x : K),
    wrapLo L f x = (hiCount L f (-x)).map fun (n : Nat) => x + n * L := by
  intro f
  induction f with
  | zero => intro x; simp only [wrapLo, hiCount, so_lt, nhalf_eq, neg_div, lt_neg (a := x)]; split <;> simp
  | succ f ih =>
    intro x
    simp only [wrapLo, hiCount, so_lt, nhalf_eq, sc_hadd, neg_div, lt_neg (a := x)]
    split
    · rw [ih, Option.map_map, neg_add, ← sub_eq_add_neg]
      congr 1; funext n; simp only [Function.comp]; push_cast; ring
    · simp

theorem shearHi_eq (bx op1 dv : K) : ∀ (f : Nat) (p : P K),
    shearHi bx op1 dv f p = (hiCount bx f p.x).map fun (n : Nat) =>
      { p with x := p.x - n * bx, y := p.y + n * op1, vy := p.vy + n * dv } := by
  intro f
  induction f with
  | zero => intro p; simp only [shearHi, hiCount, so_lt, half_eq]; split <;> simp
  | succ f ih =>
    intro p
    simp only [shearHi, hiCount, so_lt, half_eq, sc_hsub, sc_hadd]
    split
    · rw [ih, Option.map_map]; congr 1; funext n
      simp only [Function.comp, P.mk.injEq]
      push_cast
      exact ⟨by ring, by ring, trivial, by ring⟩
    · simp

theorem shearLo_eq (bx om1 dv : K) : ∀ (f : Nat) (p : P K),
    shearLo bx om1 dv f p = (hiCount bx f (-p.x)).map fun (n : Nat) =>
      { p with x := p.x + n * bx, y := p.y + n * om1, vy := p.vy - n * dv } := by
  intro f
  induction f with
  | zero => intro p; simp only [shearLo, hiCount, so_lt, nhalf_eq, neg_div, lt_neg (a := p.x)]; split <;> simp
  | succ f ih =>
    intro p
    simp only [shearLo, hiCount, so_lt, nhalf_eq, sc_hsub, sc_hadd, neg_div, lt_neg (a := p.x)]
    split
    · rw [ih, Option.map_map, neg_add, ← sub_eq_add_neg]; congr 1; funext n
      simp only [Function.comp, P.mk.injEq]
      push_cast
      exact ⟨by ring, by ring, trivial, by ring⟩
    · simp

theorem wrapHi_spec (L : K) (f : Nat) (x y : K) (h : wrapHi L f x = some y) :
    ∃ n : Nat, n ≤ f ∧ y = x - n * L ∧ y ≤ L / 2 ∧ (n = 0 ∨ -L / 2 < y) := by
  rw [wrapHi_eq] at h
  obtain ⟨n, hn, rfl⟩ := Option.map_eq_some_iff.mp h
  obtain ⟨a, b, c⟩ := hiCount_spec L f x n hn
  exact ⟨n, a, rfl, b, c⟩

theorem wrapLo_spec (L : K) (f : Nat) (x y : K) (h : wrapLo L f x = some y) :
    ∃ n : Nat, n ≤ f ∧ y = x + n * L ∧ -L / 2 ≤ y ∧ (n = 0 ∨ y < L / 2) := by
  rw [wrapLo_eq] at h
  obtain ⟨n, hn, rfl⟩ := Option.map_eq_some_iff.mp h
  obtain ⟨a, b, c⟩ := hiCount_spec L f (-x) n hn
  exact ⟨n, a, rfl, by linarith, c.imp id fun h => by linarith⟩

theorem wrap1_terminates (L : K) (hL : 0 < L) (f : Nat) (x : K)
    (hx : |x| ≤ L / 2 + f * L) : ∃ y, wrap1 L f x = some y := by
  have hx' := abs_le.mp hx
  obtain ⟨n1, hn1⟩ := hiCount_terminates L f x hx'.2
  obtain ⟨-, -, c1⟩ := hiCount_spec L f x n1 hn1
  obtain ⟨n2, hn2⟩ := hiCount_terminates L f (-(x - n1 * L)) (by
    have : (0 : K) ≤ f * L := by positivity
    rcases c1 with rfl | c1
    · simp only [Nat.cast_zero, zero_mul, sub_zero]; linarith [hx'.1]
    · linarith)
  exact ⟨_, by simp only [wrap1, wrapHi_eq, wrapLo_eq, hn1, Option.map_some, Option.bind_some, hn2]; rfl⟩

theorem mapOpt_forall₂ {α β : Type} (g : α → Option β) :
    ∀ (l : List α) (l' : List β), mapOpt g l = some l' → List.Forall₂ (fun a b => g a = some b) l l' := by
  intro l
  induction l with
  | nil => intro l' h; simp [mapOpt] at h; subst h; exact List.Forall₂.nil
  | cons a l ih =>
    intro l' h
    cases ha : g a with
    | none => simp [mapOpt, ha] at h
    | some b =>
      cases hl : mapOpt g l with
      | none => simp [mapOpt, ha, hl] at h
      | some lb =>
        simp [mapOpt, ha, hl] at h
        subst h
        exact List.Forall₂.cons ha (ih lb hl)

theorem mapOpt_terminates {α β : Type} (g : α → Option β) :
    ∀ (l : List α), (∀ a ∈ l, ∃ b, g a = some b) → ∃ l', mapOpt g l = some l' := by
  intro l
  induction l with
  | nil => intro _; exact ⟨[], rfl⟩
  | cons a l ih =>
    intro h
    obtain ⟨b, hb⟩ := h a (by simp)
    obtain ⟨l', hl'⟩ := ih (fun a ha => h a (by simp [ha]))
    exact ⟨b :: l', by simp [mapOpt, hb, hl']⟩

theorem shearHi_spec (bx op1 dv : K) (f : Nat) (p q : P K) (h : shearHi bx op1 dv f p = some q) :
    ∃ n : Nat, q.x = p.x - n * bx ∧ q.y = p.y + n * op1 ∧ q.vy = p.vy + n * dv ∧ q.z = p.z ∧
      q.x ≤ bx / 2 ∧ (n = 0 ∨ -bx / 2 < q.x) := by
  rw [shearHi_eq] at h
  obtain ⟨n, hn, rfl⟩ := Option.map_eq_some_iff.mp h
  obtain ⟨-, b, c⟩ := hiCount_spec bx f p.x n hn
  exact ⟨n, rfl, rfl, rfl, rfl, b, c⟩

theorem shearLo_spec (bx om1 dv : K) (f : Nat) (p q : P K) (h : shearLo bx om1 dv f p = some q) :
    ∃ n : Nat, q.x = p.x + n * bx ∧ q.y = p.y + n * om1 ∧ q.vy = p.vy - n * dv ∧ q.z = p.z ∧
      -bx / 2 ≤ q.x ∧ (n = 0 ∨ q.x < bx / 2) := by
  rw [shearLo_eq] at h
  obtain ⟨n, hn, rfl⟩ := Option.map_eq_some_iff.mp h
  obtain ⟨-, b, c⟩ := hiCount_spec bx f (-p.x) n hn
  exact ⟨n, rfl, rfl, rfl, rfl, by show -bx / 2 ≤ p.x + n * bx; linarith,
    c.imp id fun h => by show p.x + n * bx < bx / 2; linarith⟩

section openLoop
variable {α : Type}

theorem swapRemove_take (l : List α) (i : Nat) (h : i < l.length) :
    (swapRemove l i).take i = l.take i := by
  unfold swapRemove
  cases hl : l.getLast? with
  | none => rfl
  | some last =>
    simp only [List.take_set_of_le (Nat.le_refl i)]
    rw [List.dropLast_eq_take, List.take_take]
    congr 1
    omega

theorem swapRemove_perm (l : List α) (i : Nat) (h : i < l.length) :
    List.Perm (swapRemove l i) (l.eraseIdx i) := by
  unfold swapRemove
  cases hl : l.getLast? with
  | none => simp [List.getLast?_eq_none_iff] at hl; subst hl; simp at h
  | some last =>
    obtain ⟨l0, rfl⟩ : ∃ l0, l = l0 ++ [last] := by
      have hne : l ≠ [] := by intro e; subst e; simp at h
      refine ⟨l.dropLast, ?_⟩
      have := List.dropLast_append_getLast hne
      rw [List.getLast?_eq_some_getLast hne] at hl
      simp at hl
      rw [hl] at this
      exact this.symm
    simp only [List.dropLast_concat]
    simp at h
    by_cases hi : i < l0.length
    · rw [List.eraseIdx_append_of_lt_length hi]
      have hs : l0.set i last = l0.take i ++ last :: l0.drop (i+1) := by
        rw [List.set_eq_take_append_cons_drop]; simp [hi]
      have he : l0.eraseIdx i = l0.take i ++ l0.drop (i+1) := List.eraseIdx_eq_take_drop_succ _ _
      rw [hs, he, List.append_assoc]
      apply List.Perm.append_left
      exact (List.perm_append_singleton last (l0.drop (i+1))).symm
    · have hi' : i = l0.length := by omega
      subst hi'
      rw [List.set_eq_of_length_le (Nat.le_refl _)]
      rw [List.eraseIdx_append_of_length_le (Nat.le_refl _)]
      simp

theorem openLoop_perm (out : α → Bool) (i : Nat) (l : List α) :
    List.Perm (openLoop out i l) (l.take i ++ (l.drop i).filter (fun a => !out a)) := by
  fun_induction openLoop out i l with
  | case1 i l h ho ih =>
    refine ih.trans ?_
    rw [swapRemove_take l i h]
    apply List.Perm.append_left
    have hp := swapRemove_perm l i h
    have e1 : swapRemove l i = (swapRemove l i).take i ++ (swapRemove l i).drop i := (List.take_append_drop i _).symm
    rw [e1, swapRemove_take l i h, List.eraseIdx_eq_take_drop_succ] at hp
    have hd := (List.perm_append_left_iff _).mp hp
    rw [List.drop_eq_getElem_cons h, List.filter_cons]
    simp only [ho, Bool.not_true, Bool.false_eq_true, if_false]
    exact hd.filter _
  | case2 i l h ho ih =>
    refine ih.trans ?_
    rw [List.drop_eq_getElem_cons h, List.filter_cons]
    simp only [ho, Bool.not_false, if_true]
    have : List.take (i+1) l = List.take i l ++ [l[i]] := List.take_succ_eq_append_getElem h
    rw [this, List.append_assoc, List.singleton_append]
  | case3 i l h =>
    simp at h
    simp [List.take_of_length_le h, List.drop_of_length_le h]

/-- `openLoop` from index 0 is a permutation of the non-outside particles -/
theorem openLoop_zero (out : α → Bool) (l : List α) :
    List.Perm (openLoop out 0 l) (l.filter (fun a => !out a)) := by
  simpa using openLoop_perm out 0 l

theorem take_eraseIdx_self {α} (l : List α) (i : Nat) (h : i < l.length) : (l.eraseIdx i).take i = l.take i := by
  rw [List.eraseIdx_eq_take_drop_succ]
  have hl : (l.take i).length = i := by simp; omega
  rw [List.take_append_of_le_length (by omega)]
  rw [List.take_take]; simp
theorem drop_eraseIdx_self {α} (l : List α) (i : Nat) (h : i < l.length) : (l.eraseIdx i).drop i = l.drop (i+1) := by
  rw [List.eraseIdx_eq_take_drop_succ]
  have hl : (l.take i).length = i := by simp; omega
  rw [List.drop_append_of_le_length (by omega)]
  rw [List.drop_eq_nil_of_le (by omega)]; simp

theorem openLoopSorted_eq {α : Type} (out : α → Bool) (i : Nat) (l : List α) :
    openLoopSorted out i l = l.take i ++ (l.drop i).filter (fun a => !out a) := by
  fun_induction openLoopSorted out i l with
  | case1 i l h ho ih =>
    rw [ih, take_eraseIdx_self l i h, drop_eraseIdx_self l i h]
    rw [List.drop_eq_getElem_cons h, List.filter_cons]
    simp only [ho, Bool.not_true, Bool.false_eq_true, if_false]
  | case2 i l h ho ih =>
    rw [ih, List.drop_eq_getElem_cons h, List.filter_cons]
    simp only [ho, Bool.not_false, if_true]
    rw [List.take_succ_eq_append_getElem h, List.append_assoc, List.singleton_append]
  | case3 i l h =>
    simp at h
    simp [List.take_of_length_le h, List.drop_of_length_le h]

end openLoop

end RV.C15
