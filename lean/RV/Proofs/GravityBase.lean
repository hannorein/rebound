import RV.Proofs.Field
import RV.Model.Gravity
import Mathlib.Algebra.BigOperators.Group.Finset.Basic
import Mathlib.Algebra.BigOperators.Intervals
import Mathlib.Algebra.BigOperators.Ring.Finset
import Mathlib.Algebra.Module.Defs
import Mathlib.Tactic.Abel
/-
  Vector algebra on `V3 K` over a field and the "additive step" framework: a loop nest of
  gravity.c is a composition of updates `a[i] += u`; such a composition adds to slot `k`
  the sum of the contributions of all executed updates, in whatever order they ran.
-/
set_option linter.unusedSectionVars false
set_option linter.unusedSimpArgs false
namespace RV
variable {K : Type} [Field K]

@[ext] theorem V3.ext' {a b : V3 K} (hx : a.x = b.x) (hy : a.y = b.y) (hz : a.z = b.z) : a = b := by
  cases a; cases b; simp_all

instance : Zero (V3 K) := ⟨⟨0, 0, 0⟩⟩
instance : Add (V3 K) := ⟨fun a b => ⟨a.x + b.x, a.y + b.y, a.z + b.z⟩⟩
instance : Neg (V3 K) := ⟨fun a => ⟨-a.x, -a.y, -a.z⟩⟩
instance : Sub (V3 K) := ⟨fun a b => ⟨a.x - b.x, a.y - b.y, a.z - b.z⟩⟩
instance : SMul K (V3 K) := ⟨fun s a => ⟨s * a.x, s * a.y, s * a.z⟩⟩

@[simp] theorem V3.zero_x : (0 : V3 K).x = 0 := rfl
@[simp] theorem V3.zero_y : (0 : V3 K).y = 0 := rfl
@[simp] theorem V3.zero_z : (0 : V3 K).z = 0 := rfl
@[simp] theorem V3.add_x (a b : V3 K) : (a + b).x = a.x + b.x := rfl
@[simp] theorem V3.add_y (a b : V3 K) : (a + b).y = a.y + b.y := rfl
@[simp] theorem V3.add_z (a b : V3 K) : (a + b).z = a.z + b.z := rfl
@[simp] theorem V3.neg_x (a : V3 K) : (-a).x = -a.x := rfl
@[simp] theorem V3.neg_y (a : V3 K) : (-a).y = -a.y := rfl
@[simp] theorem V3.neg_z (a : V3 K) : (-a).z = -a.z := rfl
@[simp] theorem V3.sub_x (a b : V3 K) : (a - b).x = a.x - b.x := rfl
@[simp] theorem V3.sub_y (a b : V3 K) : (a - b).y = a.y - b.y := rfl
@[simp] theorem V3.sub_z (a b : V3 K) : (a - b).z = a.z - b.z := rfl
@[simp] theorem V3.smul_x (s : K) (a : V3 K) : (s • a).x = s * a.x := rfl
@[simp] theorem V3.smul_y (s : K) (a : V3 K) : (s • a).y = s * a.y := rfl
@[simp] theorem V3.smul_z (s : K) (a : V3 K) : (s • a).z = s * a.z := rfl
@[simp] theorem V3.model_zero : (V3.zero : V3 K) = 0 := rfl

instance : AddCommGroup (V3 K) where
  add_assoc a b c := by ext <;> simp [add_assoc]
  zero_add a := by ext <;> simp
  add_zero a := by ext <;> simp
  add_comm a b := by ext <;> simp [add_comm]
  neg_add_cancel a := by ext <;> simp
  sub_eq_add_neg a b := by ext <;> simp [sub_eq_add_neg]
  nsmul := nsmulRec
  zsmul := zsmulRec

instance : Module K (V3 K) where
  one_smul a := by ext <;> simp
  mul_smul s t a := by ext <;> simp [mul_assoc]
  smul_zero s := by ext <;> simp
  smul_add s a b := by ext <;> simp [mul_add]
  add_smul s t a := by ext <;> simp [add_mul]
  zero_smul a := by ext <;> simp

def V3.dot (a b : V3 K) : K := a.x * b.x + a.y * b.y + a.z * b.z
def V3.cross (a b : V3 K) : V3 K :=
  ⟨a.y * b.z - a.z * b.y, a.z * b.x - a.x * b.z, a.x * b.y - a.y * b.x⟩

@[simp] theorem V3.cross_x (a b : V3 K) : (V3.cross a b).x = a.y * b.z - a.z * b.y := rfl
@[simp] theorem V3.cross_y (a b : V3 K) : (V3.cross a b).y = a.z * b.x - a.x * b.z := rfl
@[simp] theorem V3.cross_z (a b : V3 K) : (V3.cross a b).z = a.x * b.y - a.y * b.x := rfl

theorem V3.cross_add (a b c : V3 K) : V3.cross a (b + c) = V3.cross a b + V3.cross a c := by
  ext <;> simp <;> ring
theorem V3.cross_zero (a : V3 K) : V3.cross a 0 = 0 := by ext <;> simp
theorem V3.cross_smul (a b : V3 K) (s : K) : V3.cross a (s • b) = s • V3.cross a b := by
  ext <;> simp <;> ring

theorem V3.sum_x {ι : Type} (s : Finset ι) (f : ι → V3 K) : (∑ i ∈ s, f i).x = ∑ i ∈ s, (f i).x := by
  classical
  induction s using Finset.induction_on with
  | empty => simp
  | insert a s ha ih => simp [Finset.sum_insert ha, ih]
theorem V3.sum_y {ι : Type} (s : Finset ι) (f : ι → V3 K) : (∑ i ∈ s, f i).y = ∑ i ∈ s, (f i).y := by
  classical
  induction s using Finset.induction_on with
  | empty => simp
  | insert a s ha ih => simp [Finset.sum_insert ha, ih]
theorem V3.sum_z {ι : Type} (s : Finset ι) (f : ι → V3 K) : (∑ i ∈ s, f i).z = ∑ i ∈ s, (f i).z := by
  classical
  induction s using Finset.induction_on with
  | empty => simp
  | insert a s ha ih => simp [Finset.sum_insert ha, ih]

theorem V3.cross_sum {ι : Type} (s : Finset ι) (a : V3 K) (f : ι → V3 K) :
    V3.cross a (∑ i ∈ s, f i) = ∑ i ∈ s, V3.cross a (f i) := by
  classical
  induction s using Finset.induction_on with
  | empty => simp [V3.cross_zero]
  | insert b s hb ih => simp [Finset.sum_insert hb, ih, V3.cross_add]

namespace Gravity

/-- a particle set given by total functions: every array is of this form -/
def mkPs (N : Nat) (m : Nat → K) (x : Nat → V3 K) : Array (Body K) :=
  Array.ofFn (n := N) fun i => ⟨m i, x i⟩

@[simp] theorem mkPs_size (N : Nat) (m : Nat → K) (x : Nat → V3 K) : (mkPs N m x).size = N := by
  simp [mkPs]

theorem mkPs_get {N : Nat} (m : Nat → K) (x : Nat → V3 K) {i : Nat} (h : i < N) :
    (mkPs N m x)[i]? = some ⟨m i, x i⟩ := by
  simp [mkPs, Array.getElem?_ofFn, h]

theorem mkPs_surj (ps : Array (Body K)) :
    ps = mkPs ps.size (fun i => (ps[i]?.map (·.m)).getD 0) (fun i => (ps[i]?.map (·.p)).getD 0) := by
  apply Array.ext
  · simp
  · intro i h1 h2
    simp [mkPs, h1]

/-- `step` adds `c k` to slot `k` of the accumulator array, for every `k` -/
def Additive (step : Acc K → Acc K) (c : Nat → V3 K) : Prop :=
  ∀ (acc : Acc K) (k : Nat), (step acc)[k]? = (acc[k]?).map (· + c k)

theorem additive_id : Additive (K := K) (fun acc => acc) (fun _ => 0) := by
  intro acc k; cases h : acc[k]? <;> simp [h]

theorem additive_congr {step : Acc K → Acc K} {c d : Nat → V3 K} (h : Additive step c)
    (hcd : ∀ k, c k = d k) : Additive step d := by
  intro acc k; rw [h acc k, hcd k]

theorem additive_comp {f g : Acc K → Acc K} {c d : Nat → V3 K} (hf : Additive f c)
    (hg : Additive g d) : Additive (fun acc => g (f acc)) (fun k => c k + d k) := by
  intro acc k
  rw [hg (f acc) k, hf acc k]
  cases acc[k]? <;> simp [add_assoc]

theorem additive_ite {f g : Acc K → Acc K} {c d : Nat → V3 K} (b : Bool) (hf : Additive f c)
    (hg : Additive g d) :
    Additive (fun acc => if b then f acc else g acc) (fun k => if b then c k else d k) := by
  cases b <;> simpa

/-- the elementary additive step: slot `i` is replaced by itself plus `u` -/
theorem additive_modify (i : Nat) (f : V3 K → V3 K) (u : V3 K) (h : ∀ a, f a = a + u) :
    Additive (fun acc => acc.modify i f) (fun k => if i = k then u else 0) := by
  intro acc k
  simp only [Array.getElem?_modify]
  by_cases hik : i = k
  · subst hik; cases acc[i]? <;> simp [h]
  · cases hk : acc[k]? <;> simp [hik, hk]

theorem additive_addTo (i : Nat) (f : K) (d : V3 K) :
    Additive (fun acc => addTo acc i f d) (fun k => if i = k then f • d else 0) :=
  additive_modify i _ (f • d) fun a => by ext <;> rfl

/-- a property of (step, contribution) pairs that holds of the identity and is closed under
    composition is closed under `List.foldl` … -/
theorem closed_foldl {σ : Type} {P : (σ → σ) → (Nat → V3 K) → Prop}
    (hid : P (fun s => s) (fun _ => 0))
    (hcomp : ∀ {f g c d}, P f c → P g d → P (fun s => g (f s)) (fun k => c k + d k))
    {ι : Type} (l : List ι) (step : σ → ι → σ) (c : ι → Nat → V3 K)
    (h : ∀ e ∈ l, P (fun s => step s e) (c e)) :
    P (fun s => l.foldl step s) (fun k => (l.map (fun e => c e k)).sum) := by
  induction l with
  | nil => exact hid
  | cons e r ih =>
    exact hcomp (h e List.mem_cons_self) (ih fun e' he' => h e' (List.mem_cons_of_mem _ he'))

/-- … and under a C `for` loop: contributions summed over the iteration range -/
theorem closed_forRange {σ : Type} {P : (σ → σ) → (Nat → V3 K) → Prop}
    (hid : P (fun s => s) (fun _ => 0))
    (hcomp : ∀ {f g c d}, P f c → P g d → P (fun s => g (f s)) (fun k => c k + d k))
    (a b : Nat) (step : σ → Nat → σ) (c : Nat → Nat → V3 K)
    (h : ∀ i, a ≤ i → i < b → P (fun s => step s i) (c i)) :
    P (fun s => forRange a b s step) (fun k => ∑ i ∈ Finset.Ico a b, c i k) :=
  closed_foldl hid hcomp (List.range' a (b - a)) step c fun e he =>
    have := List.mem_range'_1.mp he
    h e this.1 (by omega)

theorem additive_foldl {ι : Type} (l : List ι) (step : Acc K → ι → Acc K) (c : ι → Nat → V3 K)
    (h : ∀ e ∈ l, Additive (fun acc => step acc e) (c e)) :
    Additive (fun acc => l.foldl step acc) (fun k => (l.map (fun e => c e k)).sum) :=
  closed_foldl additive_id additive_comp l step c h

theorem additive_forRange (a b : Nat) (step : Acc K → Nat → Acc K) (c : Nat → Nat → V3 K)
    (h : ∀ i, a ≤ i → i < b → Additive (fun acc => step acc i) (c i)) :
    Additive (fun acc => forRange a b acc step) (fun k => ∑ i ∈ Finset.Ico a b, c i k) :=
  closed_forRange additive_id additive_comp a b step c h

theorem additive_from_zero {step : Acc K → Acc K} {c : Nat → V3 K} (h : Additive step c)
    (N k : Nat) (hk : k < N) : (step (Array.replicate N V3.zero))[k]? = some (c k) := by
  rw [h]; simp [Array.getElem?_replicate, hk]

/-- sums over a C loop range as indicator sums over `range N` -/
theorem sum_Ico_ind {M : Type} [AddCommMonoid M] (a b N : Nat) (hb : b ≤ N) (f : Nat → M) :
    ∑ i ∈ Finset.Ico a b, f i = ∑ i ∈ Finset.range N, if a ≤ i ∧ i < b then f i else 0 := by
  rw [← Finset.sum_filter]
  apply Finset.sum_congr
  · ext i; simp; omega
  · intros; rfl

/-- `Σ_i Σ_j [P i j] [i = k] U i j = Σ_j [P k j] U k j` -/
theorem collapse_i {M : Type} [AddCommMonoid M] (N k : Nat) (hk : k < N) (P : Nat → Nat → Prop)
    [∀ i j, Decidable (P i j)] (U : Nat → Nat → M) :
    (∑ i ∈ Finset.range N, ∑ j ∈ Finset.range N, if P i j then (if i = k then U i j else 0) else 0)
      = ∑ j ∈ Finset.range N, if P k j then U k j else 0 := by
  rw [Finset.sum_eq_single k]
  · simp
  · intro i _ hik; simp [hik]
  · intro h; exact absurd (Finset.mem_range.mpr hk) h

/-- `Σ_i Σ_j [P i j] [j = k] V i j = Σ_i [P i k] V i k` -/
theorem collapse_j {M : Type} [AddCommMonoid M] (N k : Nat) (hk : k < N) (P : Nat → Nat → Prop)
    [∀ i j, Decidable (P i j)] (V : Nat → Nat → M) :
    (∑ i ∈ Finset.range N, ∑ j ∈ Finset.range N, if P i j then (if j = k then V i j else 0) else 0)
      = ∑ i ∈ Finset.range N, if P i k then V i k else 0 := by
  apply Finset.sum_congr rfl
  intro i _
  rw [Finset.sum_eq_single k]
  · simp
  · intro j _ hjk; simp [hjk]
  · intro h; exact absurd (Finset.mem_range.mpr hk) h

/-- the same two collapses over C loop ranges whose inner bounds depend on `i` -/
theorem collapse1 {M : Type} [AddCommMonoid M] (k a b : Nat) (c d : Nat → Nat)
    (P : Nat → Nat → Prop) [∀ i j, Decidable (P i j)] (U : Nat → Nat → M) :
    (∑ i ∈ Finset.Ico a b, ∑ j ∈ Finset.Ico (c i) (d i), if P i j ∧ i = k then U i j else 0)
      = if a ≤ k ∧ k < b then ∑ j ∈ Finset.Ico (c k) (d k), if P k j then U k j else 0 else 0 := by
  have : ∀ i, (∑ j ∈ Finset.Ico (c i) (d i), if P i j ∧ i = k then U i j else 0)
      = if i = k then ∑ j ∈ Finset.Ico (c i) (d i), if P i j then U i j else 0 else 0 := by
    intro i
    by_cases h : i = k
    · simp [h]
    · simp [h]
  simp only [this, Finset.sum_ite_eq', Finset.mem_Ico]

theorem collapse2 {M : Type} [AddCommMonoid M] (k a b : Nat) (c d : Nat → Nat)
    (P : Nat → Nat → Prop) [∀ i j, Decidable (P i j)] (V : Nat → Nat → M) :
    (∑ i ∈ Finset.Ico a b, ∑ j ∈ Finset.Ico (c i) (d i), if P i j ∧ j = k then V i j else 0)
      = ∑ i ∈ Finset.Ico a b, if P i k ∧ c i ≤ k ∧ k < d i then V i k else 0 := by
  apply Finset.sum_congr rfl
  intro i _
  have : ∀ j, (if P i j ∧ j = k then V i j else 0) = if j = k then (if P i k then V i k else 0) else 0 := by
    intro j
    by_cases h : j = k
    · subst h; simp
    · simp [h]
  simp only [this, Finset.sum_ite_eq', Finset.mem_Ico]
  by_cases h1 : P i k <;> by_cases h2 : c i ≤ k ∧ k < d i <;> simp [h1, h2]

end Gravity
end RV
