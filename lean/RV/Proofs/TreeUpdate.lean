import RV.Proofs.Tree
/-
  `reb_simulation_update_tree` on one root cell, functional form: geometry `Geo`, a particle below a cell lies in it
  (`In_of_mem_leaves`, `WF.path_induction`), recount and derefinement (`rebuild_spec`), the sweep for an arbitrary
  keep test (`sweepP_spec`, `sweep_spec`) and the re-insertion (`reinsert_spec`).
-/
set_option linter.unusedSectionVars false
set_option linter.unusedSimpArgs false
namespace RV.C15
open RV RV.Tree

variable {K : Type} [Field K] [LinearOrder K] [IsStrictOrderedRing K]

/-- geometry only: every cell is the octant cell of its parent (positions and counters arbitrary) -/
def Geo : Cell K → T K → Prop
  | _, .nil => True
  | c, .leaf c' _ _ => c' = c
  | c, .node c' _ _ ch => c' = c ∧ ∀ o, Geo (childCell c o) (ch o)

theorem Geo_of_WF (ps : Nat → Pt K) (tie : Bool) : ∀ (t : T K) (c : Cell K), WF ps tie c t → Geo c t := by
  intro t
  induction t with
  | nil => intro _ _; trivial
  | leaf c0 g q => intro c h; exact h.1
  | node c0 g n ch ih => intro c h; exact ⟨h.1, fun o => ih o _ (h.2.1 o)⟩

theorem axis_parent (px cx w s : K) (hs : s = 1 ∨ s = -1) (h : |px - (cx + w / 2 / 2 * s)| ≤ w / 2 / 2) :
    |px - cx| ≤ w / 2 := by
  rw [← add_halves (w / 2)]
  generalize w / 2 / 2 = q at h ⊢
  obtain ⟨h1, h2⟩ := abs_le.mp h
  rw [abs_le]
  rcases hs with rfl | rfl <;> constructor <;> linarith

theorem In_parent (p : Pt K) (c : Cell K) (o : Fin 8) (h : In p (childCell c o)) : In p c := by
  obtain ⟨hx, hy, hz⟩ := h
  simp only [childCell, sc_hadd, sc_hmul, sc_hdiv, sc_ofNat, sc_one, sc_hneg, Nat.cast_ofNat] at hx hy hz
  refine ⟨axis_parent _ _ _ _ ?_ hx, axis_parent _ _ _ _ ?_ hy, axis_parent _ _ _ _ ?_ hz⟩ <;>
    (split <;> simp)

theorem cnt_eq (ps : Nat → Pt K) (tie : Bool) (t : T K) (c : Cell K) (h : WF ps tie c t) :
    cnt t = ((leaves t).length : Int) := by
  cases t with
  | nil => rfl
  | leaf _ _ _ => rfl
  | node c0 g n ch =>
    obtain ⟨_, _, hn, _⟩ := h
    simp [cnt, leaves, hn]

theorem flatMap_append_perm {ι β : Type} (a b : ι → List β) : ∀ l : List ι,
    List.Perm (l.flatMap fun o => a o ++ b o) (l.flatMap a ++ l.flatMap b) := by
  intro l
  induction l with
  | nil => simp
  | cons o l ih =>
    simp only [List.flatMap_cons]
    refine (List.Perm.append_left _ ih).trans ?_
    simp only [List.append_assoc]
    apply List.Perm.append_left
    rw [← List.append_assoc, ← List.append_assoc]
    exact List.Perm.append_right _ List.perm_append_comm

theorem flatMap_perm_congr_mem {ι β : Type} (a b : ι → List β) : ∀ l : List ι,
    (∀ o ∈ l, List.Perm (a o) (b o)) → List.Perm (l.flatMap a) (l.flatMap b) := by
  intro l
  induction l with
  | nil => intro _; simp
  | cons o l ih =>
    intro h
    simp only [List.flatMap_cons]
    exact (h o (by simp)).append (ih (fun x hx => h x (by simp [hx])))

theorem flatMap_perm_congr {ι β : Type} (a b : ι → List β) (h : ∀ o, List.Perm (a o) (b o)) (l : List ι) :
    List.Perm (l.flatMap a) (l.flatMap b) :=
  flatMap_perm_congr_mem a b l fun o _ => h o

theorem foldl_sub_cnt (f : Fin 8 → Int) : ∀ (l : List (Fin 8)) (a : Int),
    l.foldl (fun a o => a - f o) a = a - (l.map f).sum := by
  intro l
  induction l with
  | nil => intro a; simp
  | cons o l ih => intro a; simp [List.foldl_cons, ih]; ring

theorem length_flatMap_sum {ι β : Type} (f : ι → List β) : ∀ l : List ι,
    ((l.flatMap f).length : Int) = (l.map fun o => ((f o).length : Int)).sum := by
  intro l
  induction l with
  | nil => simp
  | cons o l ih =>
    simp only [List.flatMap_cons, List.length_append, List.map_cons, List.sum_cons, Nat.cast_add, ih]

/-- invariant (ii) for all ancestors: a particle below a cell lies in that cell -/
theorem In_of_mem_leaves (ps : Nat → Pt K) (tie : Bool) : ∀ (t : T K) (c : Cell K), WF ps tie c t →
    ∀ q ∈ leaves t, In (ps q) c := by
  intro t
  induction t with
  | nil => intro c _ q hq; simp [leaves] at hq
  | leaf c0 g q0 => intro c h q hq; simp [leaves] at hq; subst hq; exact h.2
  | node c0 g n ch ih =>
    intro c h q hq
    simp only [leaves, List.mem_flatMap] at hq
    obtain ⟨o, _, hq⟩ := hq
    exact In_parent _ _ o (ih o _ (h.2.1 o) q hq)

/-- induction along the path from the root of a well-formed tree to its leaf `q`: every node on
    the path has a cell of width in `[0, W]` that contains particle `q` -/
theorem WF.path_induction {ps : Nat → Pt K} {tie : Bool} {W : K} {q : Nat} {M : T K → Prop}
    (leaf : ∀ c gr, M (.leaf c gr q))
    (node : ∀ c gr n ch (o : Fin 8), In (ps q) c → 0 ≤ c.w → c.w ≤ W → M (ch o) →
      M (.node c gr n ch)) :
    ∀ (t : T K) (c : Cell K), WF ps tie c t → 0 ≤ c.w → c.w ≤ W → q ∈ leaves t → M t := by
  intro t
  induction t with
  | nil => intro c _ _ _ hq; cases hq
  | leaf c' gr q' =>
    intro c _ _ _ hq
    obtain rfl := List.mem_singleton.mp hq
    exact leaf c' gr
  | node c' gr n ch ih =>
    intro c hwf hw0 hwW hq
    have hin := In_of_mem_leaves ps tie _ c hwf q hq
    obtain ⟨rfl, hch, -⟩ := hwf
    obtain ⟨o, -, hqo⟩ := List.mem_flatMap.mp hq
    refine node c' gr n ch o hin hw0 hwW (ih o _ (hch o) ?_ ?_ hqo) <;>
      rw [show (childCell c' o).w = c'.w / 2 from rfl] <;> linarith

def isNode : T K → Bool
  | .node _ _ _ _ => true
  | _ => false

theorem onlyLeaf_fold (ch : Fin 8 → T K) : ∀ (l : List (Fin 8)) (acc : Option Nat),
    (∀ o ∈ l, isNode (ch o) = false) →
    l.foldl (fun acc o => match ch o with
      | .leaf _ _ q => some q
      | _ => acc) acc = ((l.flatMap fun o => leaves (ch o)).getLast?).or acc := by
  intro l
  induction l with
  | nil => intro acc _; simp
  | cons o l ih =>
    intro acc h
    have hl : ∀ o ∈ l, isNode (ch o) = false := fun o ho => h o (by simp [ho])
    have ho := h o (by simp)
    simp only [List.foldl_cons, List.flatMap_cons]
    cases hc : ch o with
    | nil => simp only [leaves, List.nil_append]; exact ih acc hl
    | leaf c g q =>
      simp only [leaves]
      rw [ih (some q) hl]
      simp only [List.singleton_append, List.getLast?_cons]
      cases (List.flatMap (fun o => leaves (ch o)) l).getLast? <;> simp
    | node c g n ch' => simp [hc, isNode] at ho

/-- recount + derefinement of an inner node whose children are already well formed: the result is well formed
    and holds exactly the particles of the children -/
theorem rebuild_spec (ps : Nat → Pt K) (c0 : Cell K) (g : Grav K) (ch' : Fin 8 → T K)
    (IH : ∀ o, WF ps false (childCell c0 o) (ch' o)) :
    WF ps false c0 (rebuild c0 g ch') ∧
    List.Perm (leaves (rebuild c0 g ch')) ((List.finRange 8).flatMap fun o => leaves (ch' o)) := by
  set L := (List.finRange 8).flatMap fun o => leaves (ch' o) with hL
  have hn : Fin.foldl 8 (fun (a : Int) o => a - cnt (ch' o)) 0 = -(L.length : Int) := by
    rw [Fin.foldl_eq_finRange_foldl, foldl_sub_cnt, hL, length_flatMap_sum]
    simp only [zero_sub]
    congr 1
    congr 1
    apply List.map_congr_left
    intro o _
    exact cnt_eq ps false _ _ (IH o)
  simp only [rebuild, hn]
  by_cases h0 : (L.length : Int) = 0
  · have hl0 : L = [] := by
      have : L.length = 0 := by omega
      exact List.length_eq_zero_iff.mp this
    simp only [h0, neg_zero, if_true]
    refine ⟨trivial, ?_⟩
    simp only [leaves]
    rw [hl0]
  · by_cases h1 : (L.length : Int) = 1
    · have hnz : ¬ (-(L.length : Int) = 0) := by omega
      have hm1 : (-(L.length : Int) = -1) := by omega
      simp only [hnz, hm1, if_false, if_true]
      obtain ⟨q, hq⟩ : ∃ q, L = [q] := by
        have : L.length = 1 := by omega
        exact List.length_eq_one_iff.mp this
      have hnonode : ∀ o ∈ List.finRange 8, isNode (ch' o) = false := by
        intro o _
        cases hs : ch' o with
        | nil => rfl
        | leaf _ _ _ => rfl
        | node c1 g1 n1 ch1 =>
          exfalso
          have hw := IH o
          rw [hs] at hw
          obtain ⟨_, _, _, h2, _⟩ := hw
          have hsp := fin8_split (fun o => leaves (ch' o)) o
          have hlen := hsp.length_eq
          simp only [List.length_append] at hlen
          rw [← hL, hq] at hlen
          simp only [hs, leaves, List.length_singleton] at hlen
          omega
      have hol : onlyLeaf ch' = some q := by
        unfold onlyLeaf
        have := onlyLeaf_fold ch' _ none hnonode
        simp only [← hL, hq] at this
        exact this.trans (by simp)
      simp only [hol]
      have hqin : In (ps q) c0 := by
        have : q ∈ L := by rw [hq]; simp
        rw [hL, List.mem_flatMap] at this
        obtain ⟨o, _, hqo⟩ := this
        exact In_parent _ _ o (In_of_mem_leaves ps false _ _ (IH o) q hqo)
      refine ⟨⟨rfl, hqin⟩, ?_⟩
      show List.Perm [q] L
      rw [hq]
    · have hnz : ¬ (-(L.length : Int) = 0) := by omega
      have hm1 : ¬ (-(L.length : Int) = -1) := by omega
      simp only [hnz, hm1, if_false]
      refine ⟨⟨rfl, fun o => IH o, rfl, by show 2 ≤ L.length; omega, by simp⟩, ?_⟩
      simp only [leaves]
      exact List.Perm.refl _

/-- the pure sweep with an arbitrary keep test (index, cell) -/
def sweepP (keep : Nat → Cell K → Bool) : T K → T K × List Nat
  | .nil => (.nil, [])
  | .leaf c g q => if keep q c then (.leaf c g q, []) else (.nil, [q])
  | .node c g _ ch =>
      (rebuild c g (fun o => (sweepP keep (ch o)).1), (List.finRange 8).flatMap fun o => (sweepP keep (ch o)).2)

/-- the sweep of `reb_simulation_update_tree_cell` for any keep test that implies containment: no particle is
    lost or duplicated and the kept tree is well formed -/
theorem sweepP_spec (ps : Nat → Pt K) (keep : Nat → Cell K → Bool) (hk : ∀ q c, keep q c = true → In (ps q) c) :
    ∀ (t : T K) (c : Cell K), Geo c t →
    WF ps false c (sweepP keep t).1 ∧ List.Perm (leaves (sweepP keep t).1 ++ (sweepP keep t).2) (leaves t) := by
  intro t
  induction t with
  | nil => intro c _; simp [sweepP, leaves, WF]
  | leaf c0 g q =>
    intro c h
    simp only [Geo] at h
    subst h
    by_cases hi : keep q c0 = true
    · simp only [sweepP, hi, if_true]
      exact ⟨⟨rfl, hk _ _ hi⟩, by simp [leaves]⟩
    · simp only [sweepP, hi]
      exact ⟨trivial, by simp [leaves]⟩
  | node c0 g n0 ch ih =>
    intro c h
    obtain ⟨hc, hgeo⟩ := h
    subst hc
    have IH := fun o => ih o _ (hgeo o)
    obtain ⟨hwf, hp⟩ := rebuild_spec ps c0 g (fun o => (sweepP keep (ch o)).1) (fun o => (IH o).1)
    simp only [sweepP]
    refine ⟨hwf, ?_⟩
    refine (List.Perm.append_right _ hp).trans ?_
    refine (flatMap_append_perm _ _ _).symm.trans ?_
    exact flatMap_perm_congr _ _ (fun o => (IH o).2) _

theorem sweep_eq_sweepP (ps : Nat → Pt K) : ∀ t : T K, sweep ps t = sweepP (fun q c => inside (ps q) c) t := by
  intro t
  induction t with
  | nil => rfl
  | leaf c g q => rfl
  | node c g n ch ih => simp only [sweep, sweepP, memo_eq, ih]

theorem sweep_spec (ps : Nat → Pt K) (t : T K) (c : Cell K) (hgeo : Geo c t) :
    WF ps false c (sweep ps t).1 ∧ List.Perm (leaves (sweep ps t).1 ++ (sweep ps t).2) (leaves t) := by
  rw [sweep_eq_sweepP]
  exact sweepP_spec ps _ (fun q c h => (inside_iff _ _).mp h) t c hgeo

theorem reinsert_spec (ps : Nat → Pt K) (tie : Bool) (f : Nat) (c : Cell K) : ∀ (ev : List Nat) (t t' : T K),
    WF ps tie c t → (∀ q ∈ ev, In (ps q) c) → reinsert ps f c t ev = .ok t' →
    WF ps tie c t' ∧ List.Perm (leaves t') (ev ++ leaves t) := by
  intro ev
  induction ev with
  | nil =>
    intro t t' hwf _ h
    simp [reinsert, pure, Except.pure] at h
    subst h
    exact ⟨hwf, by simp⟩
  | cons q ev ih =>
    intro t t' hwf hin h
    unfold reinsert at h
    simp only [List.foldlM_cons, so_le, le_refl, if_true] at h
    cases h1 : add ps f t c q with
    | error e => simp [h1, bind, Except.bind] at h
    | ok t1 =>
      simp only [h1, bind, Except.bind] at h
      obtain ⟨hwf1, hp1⟩ := add_spec ps tie f t c q t1 hwf (hin q (by simp)) h1
      have h' : reinsert ps f c t1 ev = .ok t' := by
        unfold reinsert
        simp only [so_le, le_refl, if_true]
        exact h
      obtain ⟨hwf2, hp2⟩ := ih t1 t' hwf1 (fun r hr => hin r (by simp [hr])) h'
      refine ⟨hwf2, hp2.trans ?_⟩
      refine (List.Perm.append_left ev hp1).trans ?_
      simp only [List.cons_append]
      exact List.perm_middle

end RV.C15
