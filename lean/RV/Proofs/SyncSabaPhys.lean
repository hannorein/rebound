import RV.Proofs.SyncSaba
import RV.Proofs.SyncPhys
/-
  C09 for SABA, physics part: unsafe mode + synchronize = safe mode for all 18 types.
-/
set_option linter.unusedSectionVars false
namespace RV.Sync
variable {T PJ X V A : Type}

def SabaConfig.mode (c : SabaConfig) (safe keep : Bool) : SabaConfig := { c with safe := safe, keep := keep }

@[simp] theorem sabaDrift_mode (c : SabaConfig) (a b i : Bool) : sabaDrift (c.mode a b) i = sabaDrift c i := rfl
@[simp] theorem sabaTail_mode (c : SabaConfig) (a b : Bool) : sabaTail (c.mode a b) = sabaTail c := rfl
@[simp] theorem sabaSyncMid_mode (c : SabaConfig) (a b : Bool) : sabaSyncMid (c.mode a b) = sabaSyncMid c := rfl
@[simp] theorem saba_mode_safe (c : SabaConfig) (a b : Bool) : (c.mode a b).safe = a := rfl
@[simp] theorem saba_mode_keep (c : SabaConfig) (a b : Bool) : (c.mode a b).keep = b := rfl
@[simp] theorem saba_mode_type (c : SabaConfig) (a b : Bool) : (c.mode a b).type = c.type := rfl

/-- group laws of the primitives SABA's deferred synchronisation relies on (exact arithmetic) -/
structure SabaLaws [AddCommGroup T] (S : Sem T PJ X V A) (c : SabaConfig) : Prop where
  kepler_add : ∀ a b p, S.kepler a (S.kepler b p) = S.kepler (a + b) p
  com_add : ∀ a b p, S.com a (S.com b p) = S.com (a + b) p
  kepler_com : ∀ a b p, S.kepler a (S.com b p) = S.com b (S.kepler a p)
  from_to : ∀ p, S.fromI (S.toIpos p) (S.toIvel p) p = p
  /-- `c₀·dt + c₀·dt = 2·c₀·dt` -/
  ev_double : S.ev (.sabaC (c.type % 0x100) 0 1) + S.ev (.sabaC (c.type % 0x100) 0 1) =
    S.ev (.sabaC (c.type % 0x100) 0 2)
  /-- **the merge law of the corrector step** (types `0x1nn`, `0x2nn`): two corrector steps with
      coefficient `cc` act on the internal coordinates like one with `2·cc`.  For the modified-kick
      corrector this is additivity of a kick at fixed positions (`c09_saba_modified_kick_merge`);
      for the lazy corrector it holds because its kick only depends on positions and leaves them
      where they were. -/
  corr_merge : c.type ≥ 0x100 → ∀ s : St PJ X V A,
    (exec S (sabaCorrOps c.type 1 ++ sabaCorrOps c.type 1) s).pj = (exec S (sabaCorrOps c.type 2) s).pj

variable [AddCommGroup T]

theorem sabaSyncMid_pos (S : Sem T PJ X V A) (c : SabaConfig) (s : St PJ X V A) :
    (exec S (sabaSyncMid c) s).pos = S.toIpos (exec S (sabaSyncMid c) s).pj ∧
    (exec S (sabaSyncMid c) s).vel = S.toIvel (exec S (sabaSyncMid c) s).pj := by
  unfold sabaSyncMid
  rw [exec_append]
  simp [exec, denote]

/-- last drift / corrector of synchronize followed by the first drift / corrector of the next
    part1 = the merged drift / corrector of unsafe mode -/
theorem saba_merge {S : Sem T PJ X V A} {c : SabaConfig} (L : SabaLaws S c)
    (u w : St PJ X V A) (hw : w.pj = (exec S (sabaSyncMid c) u).pj) :
    (exec S (sabaDrift c true) w).pj = (exec S (sabaDrift c false) u).pj := by
  unfold sabaSyncMid at hw
  unfold sabaDrift
  by_cases hc : c.type ≥ 0x100
  · simp only [hc, if_true, exec_append] at hw ⊢
    have hw2 : w.pj = (exec S (sabaCorrOps c.type 1) u).pj := by rw [hw]; simp [exec, denote]
    have h1 : (exec S (sabaCorrOps c.type 1) w).pj = (exec S (sabaCorrOps c.type 2) u).pj := by
      rw [closed_pj_congr S (closed_sabaCorr c.type 1) hw2, ← exec_append]
      exact L.corr_merge hc u
    simp only [exec, denote, h1, Bool.false_eq_true, if_false]
  · simp only [hc, if_false, exec_append] at hw ⊢
    have hw2 : w.pj = S.com (S.ev (.sabaC (c.type % 0x100) 0 1)) (S.kepler (S.ev (.sabaC (c.type % 0x100) 0 1)) u.pj) := by
      rw [hw]; simp [exec, denote]
    simp only [exec, denote, if_true, Bool.false_eq_true, if_false]
    rw [hw2, L.kepler_com, L.kepler_add, L.com_add, L.ev_double]

theorem sabaStepOps_safe (c : SabaConfig) (r : Bool) :
    sabaStepOps (c.mode true false) ⟨true, r, true⟩ =
      ([.sabaInit (c.type ≥ 0x100), .init, .fromInertial] ++ sabaDrift c true ++ sabaTail c ++ sabaSyncMid c ++
        [.advT (.frac 1 1)], ⟨true, false, true⟩) := by
  cases r <;>
    simp [sabaStepOps, sabaPart1Ops, sabaPart2Ops, sabaSyncOps, initF, sabaDrift, sabaTail, sabaSyncMid,
      List.append_assoc, SabaConfig.mode]

theorem sabaStepOps_unsafe' (c : SabaConfig) (g : Flags) (hg : g.allocated = true)
    (hr : g.isSync = false → g.recalc = false) :
    sabaStepOps (c.mode false false) g =
      ([.sabaInit (c.type ≥ 0x100), .init] ++ (if g.recalc then [Prim.fromInertial] else []) ++
        sabaDrift c g.isSync ++ sabaTail c ++ [.advT (.frac 1 1)],
       { isSync := false, recalc := false, allocated := true }) := by
  have := sabaStepOps_unsafe (c.mode false false) rfl g hg hr
  have e : (g.isSync || g.recalc && (c.mode false false).p1fix) = g.isSync := by
    cases hi : g.isSync
    · simp [hr hi]
    · simp
  rw [e] at this
  simpa using this

theorem sabaSyncOps_unsafe_unsync (c : SabaConfig) (r a : Bool) :
    sabaSyncOps (c.mode false false) ⟨false, r, a⟩ = (sabaSyncMid c, ⟨true, r, a⟩) := by
  simp [sabaSyncOps, sabaSyncMid, SabaConfig.mode]

theorem sabaSyncOps_unsafe_sync (c : SabaConfig) (f : Flags) (h : f.isSync = true) :
    sabaSyncOps (c.mode false false) f = ([], f) := by
  simp [sabaSyncOps, h, SabaConfig.mode]

inductive SInv (S : Sem T PJ X V A) (c : SabaConfig) :
    Flags × St PJ X V A → Flags × St PJ X V A → Prop
  | fresh (u v) : u.2 = v.2 → initF u.1 = ⟨true, true, true⟩ → initF v.1 = ⟨true, true, true⟩ → SInv S c u v
  | unsync (u v) : u.1 = ⟨false, false, true⟩ → v.1 = ⟨true, false, true⟩ →
      v.2.pj = (exec S (sabaSyncMid c) u.2).pj → v.2.pos = S.toIpos v.2.pj → v.2.vel = S.toIvel v.2.pj →
      SInv S c u v
  | synced (u v) : u.1 = ⟨true, false, true⟩ → v.1 = ⟨true, false, true⟩ →
      u.2.pj = v.2.pj → u.2.pos = v.2.pos → u.2.vel = v.2.vel →
      v.2.pos = S.toIpos v.2.pj → v.2.vel = S.toIvel v.2.pj → SInv S c u v

theorem sabaApply_step (S : Sem T PJ X V A) (c : SabaConfig) (x : Flags × St PJ X V A) :
    sabaApply S c .step x = ((sabaStepOps c x.1).2, exec S (sabaStepOps c x.1).1 x.2) := rfl
theorem sabaApply_sync (S : Sem T PJ X V A) (c : SabaConfig) (x : Flags × St PJ X V A) :
    sabaApply S c .synchronize x = ((sabaSyncOps c x.1).2, exec S (sabaSyncOps c x.1).1 x.2) := rfl

theorem sabaApply_step_safe (S : Sem T PJ X V A) (c : SabaConfig) (v : Flags × St PJ X V A) (r : Bool)
    (hv : v.1 = ⟨true, r, true⟩) :
    sabaApply S (c.mode true false) .step v = (⟨true, false, true⟩, exec S (sabaSyncMid c)
      (exec S (sabaTail c) (exec S (sabaDrift c true) (denote S .fromInertial v.2)))) := by
  rw [sabaApply_step, hv, sabaStepOps_safe]; simp only [exec_append]; rfl

/-- an unsafe-mode step: recalculation if asked for, the merged drift iff unsynchronised -/
theorem sabaApply_step_unsafe (S : Sem T PJ X V A) (c : SabaConfig) (u : Flags × St PJ X V A) (i r : Bool)
    (hu : u.1 = ⟨i, r, true⟩) (hr : i = false → r = false) :
    sabaApply S (c.mode false false) .step u = (⟨false, false, true⟩, exec S (sabaTail c)
      (exec S (sabaDrift c i) (if r then denote S .fromInertial u.2 else u.2))) := by
  rw [sabaApply_step, hu, sabaStepOps_unsafe' c _ rfl hr]
  cases r <;> simp only [exec_append, if_true, if_false, Bool.false_eq_true] <;> rfl

theorem sabaApply_step_initF (S : Sem T PJ X V A) (c : SabaConfig) (u : Flags × St PJ X V A) :
    sabaApply S c .step (initF u.1, u.2) = sabaApply S c .step u := by
  rw [sabaApply_step, sabaApply_step, sabaStepOps_initF]

/-- the common end of every step case: once the drifts agree on `pj`, the safe run ends
    `sabaSyncMid` ahead of the unsafe one -/
theorem sinv_join (S : Sem T PJ X V A) (c : SabaConfig) {a b : St PJ X V A} (h : a.pj = b.pj) :
    SInv S c (⟨false, false, true⟩, exec S (sabaTail c) a)
      (⟨true, false, true⟩, exec S (sabaSyncMid c) (exec S (sabaTail c) b)) :=
  .unsync _ _ rfl rfl
    (closed_pj_congr S (closed_sabaSyncMid c) (closed_pj_congr S (closed_sabaTail c) h).symm)
    (sabaSyncMid_pos S c _).1 (sabaSyncMid_pos S c _).2

theorem sinv_step {S : Sem T PJ X V A} {c : SabaConfig} (L : SabaLaws S c)
    {u v : Flags × St PJ X V A} (h : SInv S c u v) :
    SInv S c (sabaApply S (c.mode false false) .step u) (sabaApply S (c.mode true false) .step v) := by
  cases h with
  | fresh h1 h2 h3 =>
    rw [← sabaApply_step_initF S _ u, ← sabaApply_step_initF S _ v,
      sabaApply_step_unsafe S c _ _ _ h2 (fun h => by cases h), sabaApply_step_safe S c _ _ h3, h1]
    exact sinv_join S c rfl
  | unsync h1 h2 h3 h4 h5 =>
    rw [sabaApply_step_unsafe S c u _ _ h1 (fun _ => rfl), sabaApply_step_safe S c v _ h2]
    refine sinv_join S c (saba_merge L u.2 _ ?_).symm
    show S.fromI v.2.pos v.2.vel v.2.pj = _
    rw [h4, h5, L.from_to, h3]
  | synced h1 h2 h3 h4 h5 h6 h7 =>
    rw [sabaApply_step_unsafe S c u _ _ h1 (fun h => by cases h), sabaApply_step_safe S c v _ h2]
    refine sinv_join S c (closed_pj_congr S (closed_sabaDrift c true) ?_)
    show u.2.pj = S.fromI v.2.pos v.2.vel v.2.pj
    rw [h6, h7, L.from_to, h3]

theorem sinv_sync (S : Sem T PJ X V A) (c : SabaConfig) {u v : Flags × St PJ X V A} (h : SInv S c u v) :
    SInv S c (sabaApply S (c.mode false false) .synchronize u) v := by
  rw [sabaApply_sync]
  cases h with
  | fresh h1 h2 h3 =>
    have hs : u.1.isSync = true := by
      have := congrArg Flags.isSync h2; rwa [initF_isSync] at this
    rw [sabaSyncOps_unsafe_sync _ _ hs]
    exact SInv.fresh _ _ h1 h2 h3
  | unsync h1 h2 h3 h4 h5 =>
    rw [h1, sabaSyncOps_unsafe_unsync]
    refine SInv.synced _ _ rfl h2 ?_ ?_ ?_ h4 h5
    · exact h3.symm
    · show (exec S (sabaSyncMid c) u.2).pos = _
      rw [(sabaSyncMid_pos S c _).1, ← h3, h4]
    · show (exec S (sabaSyncMid c) u.2).vel = _
      rw [(sabaSyncMid_pos S c _).2, ← h3, h5]
  | synced h1 h2 h3 h4 h5 h6 h7 =>
    rw [sabaSyncOps_unsafe_sync _ _ (by rw [h1]), h1]
    exact SInv.synced _ _ rfl h2 h3 h4 h5 h6 h7

theorem sinv_run {S : Sem T PJ X V A} {c : SabaConfig} (L : SabaLaws S c)
    (σ : List (Op (X × V))) (hσ : ∀ o ∈ σ, o.benign = true) (u v : Flags × St PJ X V A)
    (h : SInv S c u v) :
    SInv S c (sabaRun S (c.mode false false) σ u) (sabaRun S (c.mode true false) (σ.filter Op.isStep) v) :=
  run_filter_sim (sabaApply S (c.mode false false)) (sabaApply S (c.mode true false)) (fun o u v ho h => by
    cases o with
    | step => exact sinv_step L h
    | synchronize => exact sinv_sync S c h
    | read => exact h
    | setRecalc | poke _ => cases ho) σ hσ u v h

theorem sinv_final (S : Sem T PJ X V A) (c : SabaConfig) {u v : Flags × St PJ X V A} (h : SInv S c u v) :
    (sabaApply S (c.mode false false) .synchronize u).2.pj = v.2.pj ∧
    (sabaApply S (c.mode false false) .synchronize u).2.pos = v.2.pos ∧
    (sabaApply S (c.mode false false) .synchronize u).2.vel = v.2.vel := by
  have := sinv_sync S c h
  cases this with
  | fresh h1 h2 h3 => rw [h1]; exact ⟨rfl, rfl, rfl⟩
  | unsync h1 h2 h3 h4 h5 =>
    have : (sabaApply S (c.mode false false) .synchronize u).1.isSync = true :=
      sabaSyncOps_nokeep_isSync (c.mode false false) rfl u.1
    rw [h1] at this; cases this
  | synced h1 h2 h3 h4 h5 h6 h7 => exact ⟨h3, h4, h5⟩

/-! ### hypotheses of `c09_saba_modified_kick_merge` (RV/Props/C09.lean): laws of the factors of the
    modified-kick corrector -/

/-- laws of the factors of `reb_saba_corrector_step`, modified-kick variant (types `0x1nn`) -/
structure ModKickLaws (S : Sem T PJ X V A) (row : Nat) : Prop where
  inter_add : ∀ a b acc p, S.inter a acc (S.inter b acc p) = S.inter (a + b) acc p
  /-- kick and jerk do not move the positions -/
  posJ_inter : ∀ b acc p, S.posJ (S.inter b acc p) = S.posJ p
  posJ_jerk : ∀ x a p, S.posJ (S.jerk x a p) = S.posJ p
  /-- the jerk buffer (acceleration members of `p_jh`) is overwritten, independently of the kick -/
  jerk_inter : ∀ x a t b p, S.jerk x a (S.inter t b p) = S.inter t b (S.jerk x a p)
  jerk_idem : ∀ x a p, S.jerk x a (S.jerk x a p) = S.jerk x a p
  /-- the folded acceleration only reads the jerk buffer -/
  fold_inter : ∀ t b p, S.sabaFold (S.inter t b p) = S.sabaFold p
  ev_cc_double : S.ev (.sabaCC row 1) + S.ev (.sabaCC row 1) = S.ev (.sabaCC row 2)

end RV.Sync
