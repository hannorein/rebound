import RV.Proofs.Var
import Mathlib.Algebra.Order.Field.Basic
import Mathlib.Algebra.BigOperators.Group.List.Basic
import Mathlib.Tactic.Linarith
import Mathlib.Data.List.Forall2
import Mathlib.Analysis.SpecialFunctions.Log.Basic
import Mathlib.Algebra.Order.Field.Rat
/- for RV/Props/C16.lean: folds commute with additive maps, single test-particle variations, the Jacobi term of the WHFast
   tangent map, move_to_com, rescale_var, the sums MEGNO accumulates, and the rational / real square roots the examples use -/
set_option linter.unusedSectionVars false
namespace RV.Var
open RV

section fold
variable {α β A B : Type}
theorem foldl_hom (φ : A → B) (addA : A → A → A) (addB : B → B → B)
    (hadd : ∀ a b, φ (addA a b) = addB (φ a) (φ b)) (gA : α → A) (gB : β → B) (ψ : β → α)
    (l : List β) (h : ∀ p ∈ l, φ (gA (ψ p)) = gB p) (a0 : A) :
    φ ((l.map ψ).foldl (fun a p => addA a (gA p)) a0) = l.foldl (fun a p => addB a (gB p)) (φ a0) := by
  induction l generalizing a0 with
  | nil => rfl
  | cons p r ih =>
    simp only [List.map_cons, List.foldl_cons]
    rw [ih (fun q hq => h q (by simp [hq])), hadd, h p (by simp)]
end fold

section tp
variable {K : Type} [Field K] [CharZero K]

def cGP (p : GP K) : GP (Dual K) := ⟨Dual.const p.m, Dual.const p.x, Dual.const p.y, Dual.const p.z⟩
def cGP2 (p : GP K) : GP (Dual2 K) :=
  ⟨Dual.const (Dual.const p.m), Dual.const (Dual.const p.x), Dual.const (Dual.const p.y),
   Dual.const (Dual.const p.z)⟩

/-- the force on a test particle is the first component of the pair kernel, whatever mass the pair kernel is given for it -/
theorem tpForceTerm_eq_forcePair {F : Type} [Scalar F] (G s : F) (sq : F → F) (m x y z : F) (pj : GP F) :
    tpForceTerm G s sq x y z pj = (forcePair G s sq ⟨m, x, y, z⟩ pj).1 := rfl

/-- first-order single test-particle term = ε-part of the test-particle force term -/
theorem tpVar1_term (G : K) (sq : K → K) (x y z ddx ddy ddz : K) (pj : GP K)
    (h : PairOK sq ⟨0, x, y, z⟩ pj) :
    epsV (tpForceTerm (Dual.const G) Scalar.zero (Dual.sqrtLift sq) ⟨x, ddx⟩ ⟨y, ddy⟩ ⟨z, ddz⟩ (cGP pj))
      = tpVar1Term G sq x y z ddx ddy ddz pj := by
  have h1 := (var1_pair G sq (⟨0, x, y, z⟩, ⟨0, ddx, ddy, ddz⟩) (pj, ⟨0, 0, 0, 0⟩) h).1
  rw [tpForceTerm_eq_forcePair _ _ _ (⟨0, 0⟩ : Dual K)]
  refine h1.trans ?_
  obtain ⟨mj, xj, yj, zj⟩ := pj
  simp only [var1Pair, tpVar1Term, three, sc_one, sc_hadd, sc_hsub, sc_hmul, sc_hdiv, sc_hneg,
    sc_ofNat, sub_zero, mul_zero, zero_mul]

/-- second-order single test-particle term = ε₁ε₂-part of the test-particle force term -/
theorem tpVar2_term (G : K) (sq : K → K) (x y z : K) (dd k1 k2 : V3 K) (pj : GP K)
    (h : PairOK sq ⟨0, x, y, z⟩ pj) :
    epsV2 (tpForceTerm (Dual.const (Dual.const G)) Scalar.zero (Dual2.sqrtLift2 sq)
        (d4 x k1.x k2.x dd.x) (d4 y k1.y k2.y dd.y) (d4 z k1.z k2.z dd.z) (cGP2 pj))
      = tpVar2Term G sq x y z dd k1 k2 pj := by
  have h1 := (var2_pair G sq ⟨⟨0, x, y, z⟩, ⟨0, k1.x, k1.y, k1.z⟩, ⟨0, k2.x, k2.y, k2.z⟩, ⟨0, dd.x, dd.y, dd.z⟩⟩
      ⟨pj, ⟨0, 0, 0, 0⟩, ⟨0, 0, 0, 0⟩, ⟨0, 0, 0, 0⟩⟩ h).1
  rw [tpForceTerm_eq_forcePair _ _ _ (d4 0 0 0 0)]
  refine h1.trans ?_
  obtain ⟨mj, xj, yj, zj⟩ := pj
  simp only [var2Pair, tpVar2Term, var2Upd, three, sc_hadd, sc_hsub, sc_hmul,
    sc_hneg, sc_ofNat, sub_zero, mul_zero, zero_mul, add_zero]

end tp

section whfast
variable {K : Type} [Field K] [CharZero K]

/-- ε-part of the Jacobi kick with `η + ε·dη`: the code's variation plus a mass term the code lacks -/
theorem whJac_full (G eta deta dt : K) (sq : K → K) (x y z dx dy dz : K)
    (hs : sq (1 / (x*x + y*y + z*z)) * sq (1 / (x*x + y*y + z*z)) = 1 / (x*x + y*y + z*z))
    (hne : sq (1 / (x*x + y*y + z*z)) ≠ 0) :
    epsV (whJacKick (Dual.const G) ⟨eta, deta⟩ (Dual.const dt) Scalar.zero (Dual.sqrtLift sq) ⟨x, dx⟩ ⟨y, dy⟩ ⟨z, dz⟩)
      = V3.add (whJacKickVar G eta dt Scalar.zero sq x y z dx dy dz)
          (let c := dt * (sq (1 / (x*x + y*y + z*z)) * (1 / (x*x + y*y + z*z)) * G * deta); ⟨c*x, c*y, c*z⟩) := by
  have h2 : (2:K) ≠ 0 := by norm_num
  simp only [whJacKick, whJacKickVar, epsV, V3.add, three, Dual.add_re, Dual.add_eps,
    Dual.mul_re, Dual.mul_eps, Dual.div_re, Dual.div_eps, Dual.one_re, Dual.one_eps,
    Dual.sqrtLift_re, Dual.sqrtLift_eps, Dual.const_re, Dual.const_eps, Dual.zero_re, Dual.zero_eps,
    sc_zero, sc_one, sc_hadd, sc_hsub, sc_hmul, sc_hdiv, sc_hneg, sc_ofNat, add_zero, mul_zero]
  generalize hρ : sq (1 / (x * x + y * y + z * z)) = ρ at *
  have hs' : x * x + y * y + z * z = 1 / (ρ * ρ) := by
    rw [hs]; field_simp
  rw [hs']
  push_cast
  congr 1 <;> (field_simp; ring)

end whfast

section com
variable {K : Type} [Field K] [CharZero K]

omit [CharZero K] in
theorem massSum_acc (s0 : K) (ms : List K) : ms.foldl (fun s m => s + m) s0 = s0 + ms.sum := by
  induction ms generalizing s0 with
  | nil => simp
  | cons m r ih => simp only [List.foldl_cons, List.sum_cons, ih]; ring

omit [CharZero K] in
theorem massSum_eq (ms : List K) : massSum ms = ms.sum := by
  simp only [massSum, massSum_acc, sc_zero, zero_add]

/-- a particle (m, x) with its first-order variation, as a pair of duals -/
def dC1 (p : C1 K) : Dual K × Dual K := (⟨p.m, p.dm⟩, ⟨p.x, p.dx⟩)

omit [CharZero K] in
theorem dualMx_acc (s0 : Dual K) (l : List (C1 K)) :
    ((l.map dC1).foldl (fun s p => s + p.1 * p.2) s0).re = s0.re + (l.map (fun p => p.m * p.x)).sum ∧
    ((l.map dC1).foldl (fun s p => s + p.1 * p.2) s0).eps
      = s0.eps + (l.map (fun p => p.m * p.dx + p.dm * p.x)).sum := by
  induction l generalizing s0 with
  | nil => simp
  | cons p r ih =>
    obtain ⟨h1, h2⟩ := ih (s0 + (dC1 p).1 * (dC1 p).2)
    simp only [List.map_cons, List.foldl_cons, List.sum_cons, h1, h2]
    simp only [dC1, Dual.add_re, Dual.add_eps, Dual.mul_re, Dual.mul_eps, sc_hadd, sc_hmul]
    constructor <;> ring

omit [CharZero K] in
theorem dualM_acc (s0 : Dual K) (l : List (C1 K)) :
    (((l.map dC1).map Prod.fst).foldl (fun s m => s + m) s0).re = s0.re + (l.map C1.m).sum ∧
    (((l.map dC1).map Prod.fst).foldl (fun s m => s + m) s0).eps = s0.eps + (l.map C1.dm).sum := by
  induction l generalizing s0 with
  | nil => simp
  | cons p r ih =>
    obtain ⟨h1, h2⟩ := ih (s0 + (dC1 p).1)
    simp only [List.map_cons, List.foldl_cons, List.sum_cons, h1, h2]
    simp only [dC1, Dual.add_re, Dual.add_eps, sc_hadd]
    constructor <;> ring

omit [CharZero K] in
theorem comShift1_acc (M dm s0 : K) (hM : M ≠ 0) (l : List (C1 K)) :
    l.foldl (fun s p => ((s + p.m/M * p.dx) + p.x/M * p.dm) - p.x/(M*M) * p.m*dm) s0
      = s0 + (l.map (fun p => p.m * p.dx + p.dm * p.x)).sum / M
           - (l.map (fun p => p.m * p.x)).sum * dm / (M*M) := by
  induction l generalizing s0 with
  | nil => simp
  | cons p r ih =>
    simp only [List.foldl_cons, List.map_cons, List.sum_cons, ih]
    field_simp
    ring

/-- a particle (m, x) with its two first-order and its second-order variation, as a pair of 2-jets -/
def dC2 (p : C2 K) : Dual2 K × Dual2 K := (⟨⟨p.m, p.ma⟩, ⟨p.mb, p.mm⟩⟩, ⟨⟨p.x, p.xa⟩, ⟨p.xb, p.xx⟩⟩)

omit [CharZero K] in
theorem dual2Mx_acc (s0 : Dual2 K) (l : List (C2 K)) :
    let S := (l.map dC2).foldl (fun s p => s + p.1 * p.2) s0
    S.re.re = s0.re.re + (l.map (fun p => p.m * p.x)).sum ∧
    S.re.eps = s0.re.eps + (l.map (fun p => p.m * p.xa + p.ma * p.x)).sum ∧
    S.eps.re = s0.eps.re + (l.map (fun p => p.m * p.xb + p.mb * p.x)).sum ∧
    S.eps.eps = s0.eps.eps + (l.map (fun p => p.m * p.xx + p.ma * p.xb + p.mb * p.xa + p.mm * p.x)).sum := by
  induction l generalizing s0 with
  | nil => simp
  | cons p r ih =>
    obtain ⟨h1, h2, h3, h4⟩ := ih (s0 + (dC2 p).1 * (dC2 p).2)
    simp only [List.map_cons, List.foldl_cons, List.sum_cons] at h1 h2 h3 h4 ⊢
    simp only [h1, h2, h3, h4]
    simp only [dC2, Dual.add_re, Dual.add_eps, Dual.mul_re, Dual.mul_eps, sc_hadd, sc_hmul]
    refine ⟨?_, ?_, ?_, ?_⟩ <;> ring

omit [CharZero K] in
theorem dual2M_acc (s0 : Dual2 K) (l : List (C2 K)) :
    let S := ((l.map dC2).map Prod.fst).foldl (fun s m => s + m) s0
    S.re.re = s0.re.re + (l.map C2.m).sum ∧ S.re.eps = s0.re.eps + (l.map C2.ma).sum ∧
    S.eps.re = s0.eps.re + (l.map C2.mb).sum ∧ S.eps.eps = s0.eps.eps + (l.map C2.mm).sum := by
  induction l generalizing s0 with
  | nil => simp
  | cons p r ih =>
    obtain ⟨h1, h2, h3, h4⟩ := ih (s0 + (dC2 p).1)
    simp only [List.map_cons, List.foldl_cons, List.sum_cons] at h1 h2 h3 h4 ⊢
    simp only [h1, h2, h3, h4]
    simp only [dC2, Dual.add_re, Dual.add_eps, sc_hadd]
    refine ⟨?_, ?_, ?_, ?_⟩ <;> ring

omit [CharZero K] in
/-- ε₁ε₂-part of a quotient of second-order duals -/
theorem quot2_epseps (S0 Sa Sb Sab M dma dmb ddm : K) (hM : M ≠ 0) :
    ((⟨⟨S0, Sa⟩, ⟨Sb, Sab⟩⟩ : Dual2 K) / ⟨⟨M, dma⟩, ⟨dmb, ddm⟩⟩).eps.eps
      = Sab/M - Sa*dmb/(M*M) - Sb*dma/(M*M) - S0*ddm/(M*M) + 2*S0*dma*dmb/(M*M*M) := by
  simp only [Dual.div_eps, Dual.mul_re, Dual.mul_eps, Dual.sub_re, Dual.sub_eps,
    sc_hadd, sc_hsub, sc_hmul, sc_hdiv]
  field_simp
  ring

omit [CharZero K] in
theorem comShift2_acc (M dma dmb ddm s0 : K) (hM : M ≠ 0) (l : List (C2 K)) :
    l.foldl (fun s p =>
      (((((((((s + p.xx / M * p.m) + p.xa / M * p.mb) - p.xa * p.m/M/M*dmb) + p.xb / M * p.ma)
        + p.x / M * p.mm) - p.x * p.ma/M/M*dmb) - p.xb * p.m/M/M*dma) - p.x * p.mb/M/M*dma)
        + 2*p.x * p.m/M/M/M*dma*dmb) - p.x * p.m/M/M*ddm) s0
      = s0 + (l.map (fun p => p.m * p.xx + p.ma * p.xb + p.mb * p.xa + p.mm * p.x)).sum / M
           - (l.map (fun p => p.m * p.xa + p.ma * p.x)).sum * dmb / (M*M)
           - (l.map (fun p => p.m * p.xb + p.mb * p.x)).sum * dma / (M*M)
           - (l.map (fun p => p.m * p.x)).sum * ddm / (M*M)
           + 2 * (l.map (fun p => p.m * p.x)).sum * dma * dmb / (M*M*M) := by
  induction l generalizing s0 with
  | nil => simp
  | cons p r ih =>
    simp only [List.foldl_cons, List.map_cons, List.sum_cons, ih]
    field_simp
    ring

end com

/-! ## the real numbers with the true square root satisfy `PairOK` whenever positions differ -/
theorem pairOK_real (a b : GP ℝ) (h : r2of a b ≠ 0) : PairOK Real.sqrt a b := by
  have h0 : 0 ≤ r2of a b := by
    simp only [r2of]
    exact add_nonneg (add_nonneg (mul_self_nonneg _) (mul_self_nonneg _)) (mul_self_nonneg _)
  exact ⟨Real.mul_self_sqrt h0, fun hz => h ((Real.sqrt_eq_zero h0).mp hz)⟩

/-- a square root on the three rational squared distances 9, 16, 25 (examples in Props) -/
def sqQ : ℚ → ℚ := fun s => if s = 25 then 5 else if s = 16 then 4 else if s = 9 then 3 else 0

section rescale
variable {K : Type} [Field K] [LinearOrder K] [IsStrictOrderedRing K]

/-- the non-field operations of the routine over an ordered field; `log` stays abstract -/
def fieldOps (log : K → K) : ROps K :=
  { fabs := fun x => |x|, log := log, gt := fun a b => decide (a > b), lt := fun a b => decide (a < b) }

def nOf (nReal : Nat) (vc : VC K) : Nat := if vc.single then 1 else nReal
/-- the slots `[index, index+N)` of the particle array that belong to a configuration -/
def InRange (nReal : Nat) (vc : VC K) (k : Nat) : Prop := vc.index ≤ k ∧ k < vc.index + nOf nReal vc
def DisjointCfg (nReal : Nat) (a b : VC K) : Prop := ∀ k, ¬ (InRange nReal a k ∧ InRange nReal b k)
def scaleP (c : K) (p : P6 K) : P6 K := ⟨c*p.x, c*p.y, c*p.z, c*p.vx, c*p.vy, c*p.vz⟩

/-- what `rescale_var` may do to one configuration: bookkeeping fields unchanged, the
    represented variation `exp(lrescale)·δ` unchanged, and nothing at all changed for
    second-order sets and sets with `lrescale < 0` -/
def CfgRel (exp : K → K) (nReal : Nat) (mem mem' : Nat → P6 K) (vc vc' : VC K) : Prop :=
  vc'.order = vc.order ∧ vc'.index = vc.index ∧ vc'.single = vc.single ∧
  (∀ k, InRange nReal vc k → scaleP (exp vc'.lrescale) (mem' k) = scaleP (exp vc.lrescale) (mem k)) ∧
  ((vc.order ≠ 1 ∨ vc.lrescale < 0) → vc'.lrescale = vc.lrescale ∧ ∀ k, InRange nReal vc k → mem' k = mem k)

theorem CfgRel.refl (exp : K → K) (nReal : Nat) (mem : Nat → P6 K) (vc : VC K) :
    CfgRel exp nReal mem mem vc vc :=
  ⟨rfl, rfl, rfl, fun _ _ => rfl, fun _ => ⟨rfl, fun _ _ => rfl⟩⟩

theorem forall2_refl (exp : K → K) (nReal : Nat) (mem : Nat → P6 K) (l : List (VC K)) :
    List.Forall₂ (CfgRel exp nReal mem mem) l l := by
  induction l with
  | nil => exact List.Forall₂.nil
  | cons a r ih => exact List.Forall₂.cons (CfgRel.refl exp nReal mem a) ih

theorem CfgRel.congr_mem (exp : K → K) (nReal : Nat) (mem0 mem mem' : Nat → P6 K) (vc vc' : VC K)
    (h : CfgRel exp nReal mem mem' vc vc') (he : ∀ k, InRange nReal vc k → mem k = mem0 k) :
    CfgRel exp nReal mem0 mem' vc vc' := by
  obtain ⟨h1, h2, h3, h4, h5⟩ := h
  refine ⟨h1, h2, h3, fun k hk => by rw [h4 k hk, he k hk], fun hc => ⟨(h5 hc).1, fun k hk => by
    rw [(h5 hc).2 k hk, he k hk]⟩⟩

theorem forall2_congr_mem (exp : K → K) (nReal : Nat) (mem0 mem mem' : Nat → P6 K) (l l' : List (VC K))
    (h : List.Forall₂ (CfgRel exp nReal mem mem') l l')
    (he : ∀ v ∈ l, ∀ k, InRange nReal v k → mem k = mem0 k) :
    List.Forall₂ (CfgRel exp nReal mem0 mem') l l' := by
  induction h with
  | nil => exact List.Forall₂.nil
  | cons hab _ ih =>
    exact List.Forall₂.cons (CfgRel.congr_mem exp nReal mem0 mem mem' _ _ hab (he _ (by simp)))
      (ih (fun v hv => he v (by simp [hv])))

theorem scaleP_div (exp log : K → K) (hadd : ∀ a b, exp (a + b) = exp a * exp b)
    (hlog : ∀ s, 0 < s → exp (log s) = s) (lr s : K) (hs : 0 < s) (p : P6 K) :
    scaleP (exp (lr + log s)) (divP p s) = scaleP (exp lr) p := by
  have hne : s ≠ 0 := ne_of_gt hs
  simp only [scaleP, divP, hadd, hlog s hs, sc_hdiv, P6.mk.injEq]
  refine ⟨?_, ?_, ?_, ?_, ?_, ?_⟩ <;> (field_simp)

theorem rescaleLoop_spec (exp log : K → K) (hadd : ∀ a b, exp (a + b) = exp a * exp b)
    (hlog : ∀ s, 0 < s → exp (log s) = s) (thr : K) (hthr : 0 ≤ thr) (nReal : Nat) (sync : Bool)
    (cfgs : List (VC K)) (mem : Nat → P6 K) (w1 w2 : Bool)
    (hd : cfgs.Pairwise (DisjointCfg nReal)) :
    List.Forall₂ (CfgRel exp nReal mem (rescaleLoop (fieldOps log) thr nReal sync mem cfgs w1 w2).mem)
        cfgs (rescaleLoop (fieldOps log) thr nReal sync mem cfgs w1 w2).cfgs ∧
    (∀ k, (∀ vc ∈ cfgs, ¬ InRange nReal vc k) →
      (rescaleLoop (fieldOps log) thr nReal sync mem cfgs w1 w2).mem k = mem k) := by
  induction cfgs generalizing mem w1 w2 with
  | nil => exact ⟨List.Forall₂.nil, fun _ _ => rfl⟩
  | cons vc rest ih =>
    rw [List.pairwise_cons] at hd
    obtain ⟨hd1, hd2⟩ := hd
    -- "continue" branches: the head is left alone and the loop goes on with the same memory
    have hcont : ∀ (w1' w2' : Bool),
        List.Forall₂ (CfgRel exp nReal mem (rescaleLoop (fieldOps log) thr nReal sync mem rest w1' w2').mem)
          (vc :: rest) (vc :: (rescaleLoop (fieldOps log) thr nReal sync mem rest w1' w2').cfgs) ∧
        (∀ k, (∀ v ∈ vc :: rest, ¬ InRange nReal v k) →
          (rescaleLoop (fieldOps log) thr nReal sync mem rest w1' w2').mem k = mem k) := by
      intro w1' w2'
      obtain ⟨ihA, ihB⟩ := ih mem w1' w2' hd2
      refine ⟨List.Forall₂.cons ?_ ihA, fun k hk => ihB k (fun v hv => hk v (by simp [hv]))⟩
      have hsame : ∀ k, InRange nReal vc k →
          (rescaleLoop (fieldOps log) thr nReal sync mem rest w1' w2').mem k = mem k :=
        fun k hk => ihB k (fun v hv hv' => hd1 v hv k ⟨hk, hv'⟩)
      exact ⟨rfl, rfl, rfl, fun k hk => by rw [hsame k hk], fun _ => ⟨rfl, hsame⟩⟩
    unfold rescaleLoop
    by_cases hneg : vc.lrescale < 0
    · have : (fieldOps log).lt vc.lrescale Scalar.zero = true := by simpa [fieldOps] using hneg
      simp only [this, if_true]
      exact hcont w1 w2
    · have : (fieldOps log).lt vc.lrescale Scalar.zero = false := by simpa [fieldOps] using hneg
      simp only [this, Bool.false_eq_true, if_false]
      by_cases hbig : scaleOf (fieldOps log) mem vc.index (if vc.single then 1 else nReal) > thr
      · have hg : (fieldOps log).gt (scaleOf (fieldOps log) mem vc.index (if vc.single then 1 else nReal)) thr = true := by
          simpa [fieldOps] using hbig
        simp only [hg, if_true]
        by_cases ho : vc.order = 1
        · have : (vc.order == 1) = true := by simpa using ho
          simp only [this, if_true]
          cases sync with
          | false =>
            simp only [Bool.not_false, if_true]
            exact ⟨forall2_refl exp nReal mem _, fun _ _ => trivial⟩
          | true =>
            simp only [Bool.not_true, Bool.false_eq_true, if_false]
            set s := scaleOf (fieldOps log) mem vc.index (if vc.single then 1 else nReal) with hs
            have hspos : 0 < s := lt_of_le_of_lt hthr hbig
            set mem' : Nat → P6 K := fun k =>
              if vc.index ≤ k ∧ k < vc.index + (if vc.single then 1 else nReal) then divP (mem k) s else mem k with hmem'
            obtain ⟨ihA, ihB⟩ := ih mem' w1 w2 hd2
            have hin : ∀ k, InRange nReal vc k → mem' k = divP (mem k) s := by
              intro k hk
              have : vc.index ≤ k ∧ k < vc.index + (if vc.single then 1 else nReal) := hk
              simp only [hmem', this, and_self, if_true]
            have hout : ∀ k, ¬ InRange nReal vc k → mem' k = mem k := by
              intro k hk
              have : ¬ (vc.index ≤ k ∧ k < vc.index + (if vc.single then 1 else nReal)) := hk
              simp only [hmem', this, if_false]
            refine ⟨List.Forall₂.cons ?_ ?_, ?_⟩
            · refine ⟨rfl, rfl, rfl, fun k hk => ?_, fun hc => ?_⟩
              · have h1 : (rescaleLoop (fieldOps log) thr nReal true mem' rest w1 w2).mem k = mem' k :=
                  ihB k (fun v hv hv' => hd1 v hv k ⟨hk, hv'⟩)
                rw [h1, hin k hk]
                exact scaleP_div exp log hadd hlog vc.lrescale s hspos (mem k)
              · rcases hc with hc | hc
                · exact absurd ho hc
                · exact absurd hc hneg
            · exact forall2_congr_mem exp nReal mem mem' _ rest _ ihA
                (fun v hv k hk => hout k (fun hk' => hd1 v hv k ⟨hk', hk⟩))
            · intro k hk
              rw [ihB k (fun v hv => hk v (by simp [hv])), hout k (hk vc (by simp))]
        · have : (vc.order == 1) = false := by simpa using ho
          simp only [this, Bool.false_eq_true, if_false]
          exact ⟨forall2_refl exp nReal mem _, fun _ _ => trivial⟩
      · have hg : (fieldOps log).gt (scaleOf (fieldOps log) mem vc.index (if vc.single then 1 else nReal)) thr = false := by
          simpa [fieldOps] using hbig
        simp only [hg, Bool.false_eq_true, if_false]
        exact hcont w1 w2

end rescale

/-! ## MEGNO (reb_tools_megno_update): what the running sums are sums of -/
section megno
variable {K : Type} [Field K] [CharZero K]

/-- the values `<Y>(t_i)` that `reb_simulation_megno` would report after each update -/
def megnoValues (isZero : K → Bool) : Megno K → List (K × K × K) → List K
  | _, [] => []
  | s, u :: r =>
    let s' := megnoUpdate isZero s u.1 u.2.1 u.2.2
    megnoOf isZero u.1 s'.Yss :: megnoValues isZero s' r

/-- Σ Y(t_i)·dt_i with Y(t_i) = (Ys₀ + Σ_{j≤i} dY_j)/t_i : the time integral the code accumulates -/
def yIntegral : K → List (K × K × K) → K
  | _, [] => 0
  | ys, u :: r => (ys + u.2.1) / u.1 * u.2.2 + yIntegral (ys + u.2.1) r

end megno

end RV.Var
