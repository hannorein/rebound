import RV.Proofs.C01Whfast
/- C01 / WHFast: advertised generalised orders in barycentric coordinates (coordinates = 3) and in democratic heliocentric / WHDS
   coordinates (1, 2), and the orders with the second corrector switched on -/
namespace RV.C01.Whfast
open RV.C01 RV.C01.Gen RV.C01.Adv

/-- as `order_jacobi` (C01WhfastOrd), in barycentric coordinates (default kernel) -/
theorem order_barycentric : ∀ corr ∈ [0, 3, 5, 7, 11, 17], ∀ s ∈ stepOf (3, 0, corr, 0),
    Quadrature s ((whfast 0 corr).getD 1 0) tolWH ∧ WordOrder s (whfastWords 0 corr) κWH tolWH := by
  decide +kernel

/-- democratic heliocentric and WHDS coordinates: second order in the three-way splitting drift / jump / kick -/
theorem order_heliocentric : ∀ coord ∈ [1, 2], ∀ s ∈ stepOf (coord, 0, 0, 0), Quadrature s 2 tolWH ∧ Palindrome s := by
  decide +kernel

/-- F18 again: with the second corrector switched on the words with two `B`s still agree up to length 3, but no longer at
    length 4 for the kernels that achieve it without -/
theorem order_with_corrector2 : ∀ kern ∈ [1, 2, 3], ∀ corr ∈ [3, 17], ∀ s ∈ stepOf (0, kern, corr, 1),
    WordOrder s [4, 4, 3] κWH tolWH ∧ (whCorr2IsInverse = false → ¬ WordOrder s [4, 4, 4] κWH (1/1000)) ∧
    (whCorr2IsInverse = true → WordOrder s [4, 4, 4] κWH tolWH) := by
  decide +kernel
end RV.C01.Whfast
