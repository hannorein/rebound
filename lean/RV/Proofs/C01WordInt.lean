import RV.Model.Shard
import Mathlib.Algebra.Order.Field.Rat
import Mathlib.Algebra.Order.Field.Basic
import Mathlib.Tactic.Ring
import Mathlib.Tactic.FieldSimp
import Mathlib.Tactic.Linarith
/-
  C01 — the word tries of `RV.Model.Sched` in integer arithmetic.  The coefficient of a word of length `n` in
  `Π exp(cᵢ·Lᵢ)` is homogeneous of degree `n` in the `cᵢ`, so it is an integer over `Dⁿ` when `D` is a common denominator
  of the schedule times `lcm(1..maxd)` (`k! ∣ lcm(1..maxd)ᵏ` for `k ≤ maxd`, which clears the `xᵏ/k!`).  That choice of `D`
  (`wordDen`) is a heuristic only: `integralT`, `integralOps`, `integralStages` check by evaluation that it clears every
  fraction, and the correctness lemmas hold for any `D ≠ 0` that passes.

  `ZT` stores the integers.  Only the trie products are integer: `mulExpZ`, `mulPolyZ`, `mulStageZ` are `mulExp`, `mulPoly`,
  `mulStage` on numerators (`runW_toWT`, `runY_toYT`).  The factors (`powers`, `kickPoly`, `gpowers`, `invFacts`) are still
  computed in `Rat`, once for the integrality check and once in `runWZ`/`runYZ`, and then scaled by `pwZ`/`polyZ`.  The kernel
  evaluates the integer products several times faster than the rational ones, which are renormalised at every step.

  The `Decidable` instances below make `decide` use the integer tries.  If `D` fails the runtime checks they fall back to
  `instDecidableEqBool` on the rational trie (slower, same answer); the generated SABA, WHFast, EOS and JANUS schedules all
  take the integer branch.
-/
namespace RV.C01

/-- a `WT` whose node at depth `n` holds the numerator over `Dⁿ` -/
inductive ZT where
  | nil : ZT
  | node (c : Int) (a b : ZT) : ZT

variable (D : Nat)

def ZT.toWT : ZT → Nat → WT
  | .nil, _ => .nil
  | .node c a b, n => .node (c / (D : Rat) ^ n) (a.toWT (n+1)) (b.toWT (n+1))

/-- numerators of an arbitrary starting trie (`mkT`, `mkTPath`); that they are numerators is checked by `integralT` when the
    instance runs, so no second constructor of the starting tries is needed -/
def ZT.ofWT : WT → Nat → ZT
  | .nil, _ => .nil
  | .node c a b, n => .node (c * (D : Rat) ^ n).num (ZT.ofWT a (n+1)) (ZT.ofWT b (n+1))

def integralT : WT → Nat → Bool
  | .nil, _ => true
  | .node c a b, n => (c * (D : Rat) ^ n).den == 1 && integralT a (n+1) && integralT b (n+1)

/-- numerators of `[x₁/Dᵏ, x₂/Dᵏ⁺¹, …]` -/
def pwZ : List Rat → Nat → List Int
  | [], _ => []
  | x :: r, k => (x * (D : Rat) ^ k).num :: pwZ r (k+1)

def integralPw : List Rat → Nat → Bool
  | [], _ => true
  | x :: r, k => (x * (D : Rat) ^ k).den == 1 && integralPw r (k+1)

def dotZ : List Int → List Int → Int
  | x :: xs, y :: ys => x * y + dotZ xs ys
  | _, _ => 0

def mulExpZ (pw : List Int) (isB : Bool) : ZT → List Int → ZT
  | .nil, _ => .nil
  | .node c a b, hist =>
    let c' := c + dotZ hist pw
    if isB then .node c' (mulExpZ pw isB a []) (mulExpZ pw isB b (c :: hist))
    else .node c' (mulExpZ pw isB a (c :: hist)) (mulExpZ pw isB b [])

abbrev PolyZ := List (List Bool × Int)

/-- numerators of a polynomial whose coefficient of a word of length `n` is taken over `Dⁿ` -/
def polyZ (E : Poly) : PolyZ := E.map fun (w, e) => (w, (e * (D : Rat) ^ w.length).num)

def integralPoly (E : Poly) : Bool := E.all fun (w, e) => (e * (D : Rat) ^ w.length).den == 1

def convEZ (E : PolyZ) (path : List Bool) (anc : List Int) : Int :=
  E.foldl (fun acc (w, e) => if isPrefix w path then acc + anc.getD w.length 0 * e else acc) 0

def mulPolyZ (E : PolyZ) : ZT → List Bool → List Int → ZT
  | .nil, _, _ => .nil
  | .node c a b, path, anc =>
    let anc' := c :: anc
    .node (convEZ E path anc') (mulPolyZ E a (false :: path) anc') (mulPolyZ E b (true :: path) anc')

def runWZ (maxB maxd : Nat) (κ : Rat) : List Op → ZT → ZT
  | [], t => t
  | o :: s, t =>
    if o.kind == 0 then runWZ maxB maxd κ s (mulExpZ (pwZ D (powers o.a maxd 1 1) 1) false t [])
    else if isKick o then
      if o.b == 0 then runWZ maxB maxd κ s (mulExpZ (pwZ D (powers o.a maxd 1 1) 1) true t [])
      else runWZ maxB maxd κ s (mulPolyZ (polyZ D (kickPoly maxB maxd o.a (κ * o.b))) t [] [])
    else runWZ maxB maxd κ s t

/-- `D` clears the denominators of every operator's power list or kick polynomial -/
def integralOps (maxB maxd : Nat) (κ : Rat) (s : List Op) : Bool :=
  s.all fun o =>
    if o.kind == 0 || (isKick o && o.b == 0) then integralPw D (powers o.a maxd 1 1) 1
    else if isKick o then integralPoly D (kickPoly maxB maxd o.a (κ * o.b)) else true

/-- `|c/S − q| ≤ tol` in integers -/
def nearZ (c : Int) (S : Nat) (q tol : Rat) : Bool :=
  decide ((c * q.den - q.num * S).natAbs * tol.den ≤ tol.num * (S * q.den : Nat))

def okTZ (tol : Rat) : ZT → Nat → Bool
  | .nil, _ => true
  | .node c a b, n => nearZ c (D ^ n) (1 / (fact n : Rat)) tol && okTZ tol a (n+1) && okTZ tol b (n+1)

def idTZ (tol : Rat) : ZT → Nat → Bool
  | .nil, _ => true
  | .node c a b, n => nearZ c (D ^ n) (if n = 0 then 1 else 0) tol && idTZ tol a (n+1) && idTZ tol b (n+1)

variable {D}

theorem num_div_of_den_one (hD : D ≠ 0) (x : Rat) (k : Nat) (h : (x * (D : Rat) ^ k).den = 1) :
    ((x * (D : Rat) ^ k).num : Rat) / (D : Rat) ^ k = x := by
  have hD' : (D : Rat) ^ k ≠ 0 := pow_ne_zero _ (Nat.cast_ne_zero.mpr hD)
  rw [Rat.coe_int_num_of_den_eq_one h, mul_div_assoc, div_self hD', mul_one]

theorem toWT_ofWT (hD : D ≠ 0) (t : WT) (n : Nat) (h : integralT D t n = true) : (ZT.ofWT D t n).toWT D n = t := by
  induction t generalizing n with
  | nil => rfl
  | node c a b iha ihb =>
    simp only [integralT, Bool.and_eq_true, beq_iff_eq] at h
    simp only [ZT.ofWT, ZT.toWT, num_div_of_den_one hD c n h.1.1, iha _ h.1.2, ihb _ h.2]

/-- `[z₁/Dᵏ, z₂/Dᵏ⁺¹, …]` -/
def castPw (D : Nat) : List Int → Nat → List Rat
  | [], _ => []
  | z :: r, k => z / (D : Rat) ^ k :: castPw D r (k+1)

theorem castPw_pwZ (hD : D ≠ 0) (pw : List Rat) (k : Nat) (h : integralPw D pw k = true) : castPw D (pwZ D pw k) k = pw := by
  induction pw generalizing k with
  | nil => rfl
  | cons x r ih =>
    simp only [integralPw, Bool.and_eq_true, beq_iff_eq] at h
    simp only [pwZ, castPw, num_div_of_den_one hD x k h.1, ih _ h.2]

/-- `[z₁/Dᵉ, z₂/Dᵉ⁻¹, …]`: coefficients of the ancestors of a node, nearest first.  The exponent is an `Int` (and the proofs
    use `zpow`) because a node at depth `n` passes `n − 1`, which is `−1` at the root, where the history is empty
    (the `e0` rewrites below) -/
def castUp (D : Nat) : List Int → Int → List Rat
  | [], _ => []
  | z :: r, e => z / (D : Rat) ^ e :: castUp D r (e-1)

theorem castUp_cons (c : Int) (h : List Int) (n : Nat) :
    castUp D (c :: h) (((n + 1 : Nat) : Int) - 1) = c / (D : Rat) ^ n :: castUp D h ((n : Int) - 1) := by
  have : ((n + 1 : Nat) : Int) - 1 = n := by push_cast; ring
  rw [this, castUp, zpow_natCast]

theorem dot_cast (hD : D ≠ 0) (h p : List Int) (e : Int) (k : Nat) :
    dot (castUp D h e) (castPw D p k) = dotZ h p / (D : Rat) ^ (e + k) := by
  have hD' : (D : Rat) ≠ 0 := Nat.cast_ne_zero.mpr hD
  induction h generalizing p e k with
  | nil => simp [castUp, dot, dotZ]
  | cons x xs ih =>
    cases p with
    | nil => simp [castUp, castPw, dot, dotZ]
    | cons y ys =>
      have he : e - 1 + ((k + 1 : Nat) : Int) = e + k := by push_cast; ring
      simp only [castUp, castPw, dot, dotZ, ih, he, zpow_add₀ hD', zpow_natCast]
      push_cast
      field_simp

theorem mulExp_toWT (hD : D ≠ 0) (p : List Int) (isB : Bool) (t : ZT) (n : Nat) (h : List Int) :
    mulExp (castPw D p 1) isB (t.toWT D n) (castUp D h ((n : Int) - 1)) = (mulExpZ p isB t h).toWT D n := by
  induction t generalizing n h with
  | nil => rfl
  | node c a b iha ihb =>
    have hc : (c : Rat) / (D : Rat) ^ n + dot (castUp D h ((n : Int) - 1)) (castPw D p 1) =
        ((c + dotZ h p : Int) : Rat) / (D : Rat) ^ n := by
      rw [dot_cast hD, show (n : Int) - 1 + ((1 : Nat) : Int) = n by push_cast; ring, zpow_natCast]
      push_cast; ring
    have e0 : ([] : List Rat) = castUp D [] (((n + 1 : Nat) : Int) - 1) := rfl
    cases isB
    · simp only [ZT.toWT, mulExp, mulExpZ, hc, Bool.false_eq_true, if_false]
      rw [← castUp_cons, iha, e0, ihb]
    · simp only [ZT.toWT, mulExp, mulExpZ, hc, if_true]
      rw [← castUp_cons, ihb, e0, iha]

def castPoly (D : Nat) (E : PolyZ) : Poly := E.map fun (w, z) => (w, z / (D : Rat) ^ w.length)

theorem castPoly_polyZ (hD : D ≠ 0) (E : Poly) (h : integralPoly D E = true) : castPoly D (polyZ D E) = E := by
  induction E with
  | nil => rfl
  | cons x r ih =>
    obtain ⟨w, e⟩ := x
    simp only [integralPoly, List.all_cons, Bool.and_eq_true, beq_iff_eq] at h
    simp only [polyZ, castPoly, List.map_cons, num_div_of_den_one hD e _ h.1]
    exact congrArg _ (ih (by simpa [integralPoly] using h.2))

theorem getD_castUp (l : List Int) (e : Int) (j : Nat) :
    (castUp D l e).getD j 0 = (l.getD j 0 : Int) / (D : Rat) ^ (e - j) := by
  induction l generalizing e j with
  | nil => simp [castUp]
  | cons z r ih =>
    cases j with
    | zero => simp [castUp]
    | succ j => simp only [castUp, List.getD_cons_succ, ih]; congr 2; push_cast; ring

theorem convE_cast (hD : D ≠ 0) (E : PolyZ) (path : List Bool) (anc : List Int) (e : Int) :
    convE (castPoly D E) path (castUp D anc e) = convEZ E path anc / (D : Rat) ^ e := by
  have hD' : (D : Rat) ≠ 0 := Nat.cast_ne_zero.mpr hD
  suffices h : ∀ acc : Int,
      (castPoly D E).foldl (fun acc (x : List Bool × Rat) =>
        if isPrefix x.1 path then acc + (castUp D anc e).getD x.1.length 0 * x.2 else acc) (acc / (D : Rat) ^ e) =
      ((E.foldl (fun acc (x : List Bool × Int) =>
        if isPrefix x.1 path then acc + anc.getD x.1.length 0 * x.2 else acc) acc : Int) : Rat) / (D : Rat) ^ e by
    have := h 0
    rw [Int.cast_zero, zero_div] at this
    exact this
  induction E with
  | nil => intro acc; rfl
  | cons x r ih =>
    intro acc
    obtain ⟨w, z⟩ := x
    rw [show castPoly D ((w, z) :: r) = (w, (z : Rat) / (D : Rat) ^ w.length) :: castPoly D r from rfl]
    simp only [List.foldl_cons]
    by_cases hp : isPrefix w path = true
    · simp only [hp, if_true]
      rw [getD_castUp]
      have : (acc : Rat) / (D : Rat) ^ e + (anc.getD w.length 0 : Int) / (D : Rat) ^ (e - w.length) * (z / (D : Rat) ^ w.length) =
          ((acc + anc.getD w.length 0 * z : Int) : Rat) / (D : Rat) ^ e := by
        rw [zpow_sub₀ hD', zpow_natCast]; push_cast; field_simp
      rw [this]; exact ih _
    · simp only [hp, Bool.false_eq_true, if_false]; exact ih _

theorem mulPoly_toWT (hD : D ≠ 0) (E : PolyZ) (t : ZT) (n : Nat) (path : List Bool) (anc : List Int) :
    mulPoly (castPoly D E) (t.toWT D n) path (castUp D anc ((n : Int) - 1)) = (mulPolyZ E t path anc).toWT D n := by
  induction t generalizing n path anc with
  | nil => rfl
  | node c a b iha ihb =>
    simp only [ZT.toWT, mulPoly, mulPolyZ]
    rw [← castUp_cons, convE_cast hD, iha, ihb, show ((n + 1 : Nat) : Int) - 1 = n by push_cast; ring, zpow_natCast]

theorem runW_toWT (hD : D ≠ 0) (maxB maxd : Nat) (κ : Rat) (s : List Op) (t : ZT)
    (h : integralOps D maxB maxd κ s = true) :
    runW maxB maxd κ s (t.toWT D 0) = (runWZ D maxB maxd κ s t).toWT D 0 := by
  induction s generalizing t with
  | nil => rfl
  | cons o s ih =>
    simp only [integralOps, List.all_cons, Bool.and_eq_true] at h
    have ih' := fun t => ih t h.2
    have h1 := h.1
    have e0 : ([] : List Rat) = castUp D [] (((0 : Nat) : Int) - 1) := rfl
    unfold runW runWZ
    -- `← castPw_pwZ` writes the rational factor as a cast so that `mulExp_toWT` applies; it also rewrites the copy of
    -- the factor inside `pwZ D _`, which the closing `castPw_pwZ` restores
    by_cases hk : (o.kind == 0) = true
    · simp only [hk, Bool.true_or, if_true] at h1 ⊢
      rw [← ih', ← castPw_pwZ hD _ 1 h1, e0, mulExp_toWT hD, castPw_pwZ hD _ 1 h1]
    · by_cases hq : isKick o = true
      · by_cases hb : (o.b == 0) = true
        · simp only [hk, hq, hb, Bool.false_or, Bool.and_self, if_true, Bool.false_eq_true, if_false] at h1 ⊢
          rw [← ih', ← castPw_pwZ hD _ 1 h1, e0, mulExp_toWT hD, castPw_pwZ hD _ 1 h1]
        · simp only [hk, hq, hb, Bool.false_or, Bool.and_false, Bool.false_eq_true, if_false, if_true] at h1 ⊢
          rw [← ih', ← castPoly_polyZ hD _ h1, e0, mulPoly_toWT hD, castPoly_polyZ hD _ h1]
      · simp only [hk, hq, Bool.false_eq_true, if_false]
        exact ih' t

theorem absQ_eq_abs (x : Rat) : absQ x = |x| := by
  unfold absQ
  split_ifs with h
  · exact (abs_of_neg h).symm
  · exact (abs_of_nonneg (not_lt.mp h)).symm

theorem nearZ_eq (c : Int) (S : Nat) (hS : S ≠ 0) (q tol : Rat) :
    nearZ c S q tol = decide (absQ (c / (S : Rat) - q) ≤ tol) := by
  have hS' : (0 : Rat) < S := Nat.cast_pos.mpr (Nat.pos_of_ne_zero hS)
  have hq : (0 : Rat) < q.den := Nat.cast_pos.mpr q.den_pos
  have ht : (0 : Rat) < tol.den := Nat.cast_pos.mpr tol.den_pos
  unfold nearZ
  rw [decide_eq_decide, absQ_eq_abs]
  have e1 : (c : Rat) / S - q = ((c * q.den - q.num * S : Int) : Rat) / (S * q.den) := by
    conv_lhs => rw [← Rat.num_div_den q]
    push_cast; field_simp
  rw [e1, abs_div, abs_of_pos (mul_pos hS' hq), div_le_iff₀ (mul_pos hS' hq)]
  conv_rhs => rw [← Rat.num_div_den tol]
  rw [div_mul_eq_mul_div, le_div_iff₀ ht, ← Int.cast_abs, Int.abs_eq_natAbs]
  -- both sides are the same inequality: the left one casts the `Nat` product to `Int`, the right one is over `Rat`
  constructor
  · intro h
    have : (((c * q.den - q.num * S).natAbs * tol.den : Nat) : Int) ≤ tol.num * (S * q.den : Nat) := h
    exact_mod_cast this
  · intro h
    have : (((c * q.den - q.num * S).natAbs * tol.den : Nat) : Int) ≤ tol.num * (S * q.den : Nat) := by exact_mod_cast h
    exact this

theorem okT_toWT (hD : D ≠ 0) (tol : Rat) (t : ZT) (n : Nat) : okT tol (t.toWT D n) n = okTZ D tol t n := by
  induction t generalizing n with
  | nil => rfl
  | node c a b iha ihb =>
    simp only [ZT.toWT, okT, okTZ, iha, ihb, nearZ_eq c _ (pow_ne_zero n hD)]
    push_cast; rfl

theorem idT_toWT (hD : D ≠ 0) (tol : Rat) (t : ZT) (n : Nat) : idT tol (t.toWT D n) n = idTZ D tol t n := by
  induction t generalizing n with
  | nil => rfl
  | node c a b iha ihb =>
    simp only [ZT.toWT, idT, idTZ, iha, ihb, nearZ_eq c _ (pow_ne_zero n hD)]
    push_cast; rfl

/-- a common denominator: of the schedule's coefficients, times `lcm(1..maxd)` for the factorials in the exponentials
    (`k! ∣ lcm(1..maxd)ᵏ` for `k ≤ maxd`); not relied on: `productZ` checks that it clears every fraction -/
def wordDen (maxd : Nat) (κ : Rat) (s : List Op) : Nat :=
  s.foldl (fun d o => (d.lcm o.a.den).lcm (κ * o.b).den) 1 * (List.range maxd).foldl (fun d k => d.lcm (k+1)) 1

/-- the product of `s` into `t₀`, as integers over powers of `wordDen`; `none` if that is not a common denominator -/
def productZ (maxB maxd : Nat) (κ : Rat) (s : List Op) (t₀ : WT) : Option ZT :=
  let D := wordDen maxd κ s
  if D != 0 && integralT D t₀ 0 && integralOps D maxB maxd κ s then some (runWZ D maxB maxd κ s (ZT.ofWT D t₀ 0)) else none

/-- `runW_toWT` with the runtime checks of `productZ` as its hypotheses -/
theorem runW_eq_of_productZ (maxB maxd : Nat) (κ : Rat) (s : List Op) (t₀ : WT) (t : ZT) (h : productZ maxB maxd κ s t₀ = some t) :
    wordDen maxd κ s ≠ 0 ∧ runW maxB maxd κ s t₀ = t.toWT (wordDen maxd κ s) 0 := by
  simp only [productZ, Bool.and_eq_true, bne_iff_ne, Option.ite_none_right_eq_some, Option.some.injEq] at h
  obtain ⟨⟨⟨hD, hT⟩, hO⟩, rfl⟩ := h
  exact ⟨hD, by rw [← runW_toWT hD _ _ _ _ _ hO, toWT_ofWT hD _ _ hT]⟩

/-- decide a property of `runW … t₀` on the integer trie when there is one, on the rational trie otherwise -/
def decideRunW (ok : WT → Bool) (okZ : Nat → ZT → Bool) (hok : ∀ D, D ≠ 0 → ∀ t, ok (t.toWT D 0) = okZ D t)
    (maxB maxd : Nat) (κ : Rat) (s : List Op) (t₀ : WT) : Decidable (ok (runW maxB maxd κ s t₀) = true) :=
  match h : productZ maxB maxd κ s t₀ with
  | some t => decidable_of_iff (okZ (wordDen maxd κ s) t = true) (by
      obtain ⟨hD, e⟩ := runW_eq_of_productZ maxB maxd κ s t₀ t h
      rw [e, hok _ hD])
  | none => instDecidableEqBool _ _

/-! `decide` on the word conditions goes through these instances: `WordOrder` etc. are reducible `_ = true`, and these are
    found before `instDecidableEqBool` (declared later, more specific key `okT _ (product …) _ = true`).  Files that do not
    import this one decide the same propositions on `WT`. -/

instance (s : List Op) (lim : List Nat) (κ tol : Rat) : Decidable (WordOrder s lim κ tol) :=
  decideRunW (okT tol · 0) (okTZ · tol · 0) (fun _ hD t => okT_toWT hD tol t 0)
    (lim.length - 1) (maxOf lim) κ s (mkT lim (maxOf lim + 1) 0 0 1)

instance (s : List Op) (lim : List Nat) (path : List Bool) (κ tol : Rat) : Decidable (WordOrderOn s lim path κ tol) :=
  decideRunW (okT tol · 0) (okTZ · tol · 0) (fun _ hD t => okT_toWT hD tol t 0)
    (lim.length - 1) (maxOf lim) κ s (mkTPath lim path (maxOf lim + 1) 0 0 1)

instance (s : List Op) (lim : List Nat) (κ tol : Rat) : Decidable (WordIdentity s lim κ tol) :=
  decideRunW (idT tol · 0) (idTZ · tol · 0) (fun _ hD t => idT_toWT hD tol t 0)
    (lim.length - 1) (maxOf lim) κ s (mkT lim (maxOf lim + 1) 0 0 1)

/-! ### the composition tries (`YT`) in integers

  The coefficient of a word of total degree `d` with `l` letters is homogeneous of degree `d` in the stage sizes and carries
  `l` inverse factorials: an integer over `Dᵈ·Fˡ` when `D` clears the stage sizes and `F = lcm(1..p+1)`. -/

inductive ZY where
  | nil : ZY
  | node (c : Int) (k1 k3 k5 k7 k9 : ZY) : ZY

def ZY.toYT (D F : Nat) : ZY → Nat → Nat → YT
  | .nil, _, _ => .nil
  | .node c k1 k3 k5 k7 k9, d, l =>
    .node (c / ((D : Rat) ^ d * (F : Rat) ^ l)) (k1.toYT D F (d+1) (l+1)) (k3.toYT D F (d+3) (l+1)) (k5.toYT D F (d+5) (l+1))
      (k7.toYT D F (d+7) (l+1)) (k9.toYT D F (d+9) (l+1))

def mkYZ (p : Nat) : Nat → Nat → Int → ZY
  | 0, _, _ => .nil
  | f+1, deg, c =>
    if deg ≤ p then .node c (mkYZ p f (deg+1) 0) (mkYZ p f (deg+3) 0) (mkYZ p f (deg+5) 0) (mkYZ p f (deg+7) 0) (mkYZ p f (deg+9) 0)
    else .nil

def dotYZ (gp : List Int) : List (Int × Nat) → List Int → Int
  | (c, d) :: hs, f :: fs => c * gp.getD d 0 * f + dotYZ gp hs fs
  | _, _ => 0

def mulStageZ (gp ifs : List Int) : ZY → List (Int × Nat) → ZY
  | .nil, _ => .nil
  | .node c k1 k3 k5 k7 k9, hist =>
    let down (d : Nat) : List (Int × Nat) := (c, d) :: hist.map (fun (x, D) => (x, D + d))
    .node (c + dotYZ gp hist ifs) (mulStageZ gp ifs k1 (down 1)) (mulStageZ gp ifs k3 (down 3))
      (mulStageZ gp ifs k5 (down 5)) (mulStageZ gp ifs k7 (down 7)) (mulStageZ gp ifs k9 (down 9))

def runYZ (D F p : Nat) : List Rat → ZY → ZY
  | [], t => t
  | g :: gs, t => runYZ D F p gs (mulStageZ (pwZ D (gpowers g (p+1) 1) 0) (pwZ F (invFacts (p+1) 1 1) 1) t [])

def integralStages (D F p : Nat) (γs : List Rat) : Bool :=
  integralPw F (invFacts (p+1) 1 1) 1 && γs.all fun g => integralPw D (gpowers g (p+1) 1) 0

def okYZ (D F : Nat) (tol : Rat) : ZY → Option Nat → Nat → Nat → Bool
  | .nil, _, _, _ => true
  | .node c k1 k3 k5 k7 k9, n, d, l =>
    let want : Rat := match n with | some k => 1 / (fact k : Rat) | none => 0
    nearZ c (D ^ d * F ^ l) want tol && okYZ D F tol k1 (n.map (· + 1)) (d+1) (l+1) && okYZ D F tol k3 none (d+3) (l+1)
      && okYZ D F tol k5 none (d+5) (l+1) && okYZ D F tol k7 none (d+7) (l+1) && okYZ D F tol k9 none (d+9) (l+1)

/-- the root holds `c` over `D⁰F⁰`, every other node 0 (`hc`: these are the only two ways `mkYZ` is called) -/
theorem toYT_mkYZ (D F p f deg l : Nat) (c : Int) (hc : c = 0 ∨ (deg = 0 ∧ l = 0)) :
    (mkYZ p f deg c).toYT D F deg l = mkY p f deg c := by
  induction f generalizing deg l c with
  | zero => rfl
  | succ f ih =>
    have hc' : (c : Rat) / ((D : Rat) ^ deg * (F : Rat) ^ l) = c := by
      rcases hc with rfl | ⟨rfl, rfl⟩ <;> simp
    have z := fun d => ih (deg + d) (l + 1) 0 (Or.inl rfl)
    simp only [Int.cast_zero] at z
    unfold mkYZ mkY
    split_ifs
    · simp only [ZY.toYT, hc', z]
    · rfl

/-- ancestors of a node of degree `deg`: `(x, d)` stands for `x` over `D^(deg−d)·Fᵉ`, `e` falling along the list -/
def castUpY (D F : Nat) : List (Int × Nat) → Int → Int → List (Rat × Nat)
  | [], _, _ => []
  | (x, d) :: r, deg, e => (x / ((D : Rat) ^ (deg - d) * (F : Rat) ^ e), d) :: castUpY D F r deg (e-1)

theorem castUpY_map (D F : Nat) (h : List (Int × Nat)) (deg e : Int) (d : Nat) :
    castUpY D F (h.map fun (x, g) => (x, g + d)) (deg + d) e = (castUpY D F h deg e).map fun (x, g) => (x, g + d) := by
  induction h generalizing e with
  | nil => rfl
  | cons a r ih =>
    obtain ⟨x, g⟩ := a
    simp only [List.map_cons, castUpY, ih]
    rw [show deg + (d : Int) - ((g + d : Nat) : Int) = deg - g by push_cast; ring]

theorem getD_castPw (l : List Int) (k j : Nat) : (castPw D l k).getD j 0 = (l.getD j 0 : Int) / (D : Rat) ^ (k + j) := by
  induction l generalizing k j with
  | nil => simp [castPw]
  | cons z r ih =>
    cases j with
    | zero => simp [castPw]
    | succ j => simp only [castPw, List.getD_cons_succ, ih]; congr 2; ring

theorem dotY_cast {F : Nat} (hD : D ≠ 0) (hF : F ≠ 0) (gp : List Int) (h : List (Int × Nat)) (ifs : List Int)
    (deg e : Int) (k : Nat) :
    dotY (castPw D gp 0) (castUpY D F h deg e) (castPw F ifs k) =
      dotYZ gp h ifs / ((D : Rat) ^ deg * (F : Rat) ^ (e + k)) := by
  have hD' : (D : Rat) ≠ 0 := Nat.cast_ne_zero.mpr hD
  have hF' : (F : Rat) ≠ 0 := Nat.cast_ne_zero.mpr hF
  induction h generalizing ifs e k with
  | nil => simp [castUpY, dotY, dotYZ]
  | cons a r ih =>
    obtain ⟨x, g⟩ := a
    cases ifs with
    | nil => simp [castUpY, castPw, dotY, dotYZ]
    | cons z zs =>
      have he : e - 1 + ((k + 1 : Nat) : Int) = e + k := by push_cast; ring
      simp only [castUpY, castPw, dotY, dotYZ, ih, he, getD_castPw, zpow_add₀ hF', zpow_sub₀ hD', zpow_natCast, Nat.zero_add]
      push_cast
      field_simp

theorem mulStage_toYT {F : Nat} (hD : D ≠ 0) (hF : F ≠ 0) (gp ifs : List Int) (t : ZY) (deg l : Nat) (h : List (Int × Nat)) :
    mulStage (castPw D gp 0) (castPw F ifs 1) (t.toYT D F deg l) (castUpY D F h deg ((l : Int) - 1)) =
      (mulStageZ gp ifs t h).toYT D F deg l := by
  induction t generalizing deg l h with
  | nil => rfl
  | node c k1 k3 k5 k7 k9 i1 i3 i5 i7 i9 =>
    have hc : (c : Rat) / ((D : Rat) ^ deg * (F : Rat) ^ l) +
        dotY (castPw D gp 0) (castUpY D F h deg ((l : Int) - 1)) (castPw F ifs 1) =
        ((c + dotYZ gp h ifs : Int) : Rat) / ((D : Rat) ^ deg * (F : Rat) ^ l) := by
      rw [dotY_cast hD hF, show (l : Int) - 1 + ((1 : Nat) : Int) = l by push_cast; ring, zpow_natCast, zpow_natCast]
      push_cast; ring
    have hdown : ∀ d : Nat, ((c : Rat) / ((D : Rat) ^ deg * (F : Rat) ^ l), d) ::
          (castUpY D F h deg ((l : Int) - 1)).map (fun (x, g) => (x, g + d)) =
        castUpY D F ((c, d) :: h.map fun (x, g) => (x, g + d)) ((deg + d : Nat) : Int) (((l + 1 : Nat) : Int) - 1) := by
      intro d
      have e1 : ((deg + d : Nat) : Int) - (d : Int) = deg := by push_cast; ring
      have e2 : ((l + 1 : Nat) : Int) - 1 = l := by push_cast; ring
      rw [castUpY, e1, e2, zpow_natCast, zpow_natCast]
      congr 1
      rw [← castUpY_map]; push_cast; rfl
    simp only [ZY.toYT, mulStage, mulStageZ, hc, hdown, i1, i3, i5, i7, i9]

theorem runY_toYT {F : Nat} (hD : D ≠ 0) (hF : F ≠ 0) (p : Nat) (γs : List Rat) (t : ZY)
    (h : integralStages D F p γs = true) : runY p γs (t.toYT D F 0 0) = (runYZ D F p γs t).toYT D F 0 0 := by
  simp only [integralStages, Bool.and_eq_true, List.all_eq_true] at h
  induction γs generalizing t with
  | nil => rfl
  | cons g gs ih =>
    have hg := h.2 g (List.mem_cons_self ..)
    have e0 : ([] : List (Rat × Nat)) = castUpY D F [] ((0 : Nat) : Int) (((0 : Nat) : Int) - 1) := rfl
    rw [runY, runYZ, ← ih _ ⟨h.1, fun x hx => h.2 x (List.mem_cons_of_mem _ hx)⟩, ← castPw_pwZ hD _ 0 hg,
      ← castPw_pwZ hF _ 1 h.1, e0, mulStage_toYT hD hF, castPw_pwZ hD _ 0 hg, castPw_pwZ hF _ 1 h.1]

theorem okY_toYT {F : Nat} (hD : D ≠ 0) (hF : F ≠ 0) (tol : Rat) (t : ZY) (n : Option Nat) (d l : Nat) :
    okY tol (t.toYT D F d l) n = okYZ D F tol t n d l := by
  induction t generalizing n d l with
  | nil => rfl
  | node c k1 k3 k5 k7 k9 i1 i3 i5 i7 i9 =>
    simp only [ZY.toYT, okY, okYZ, i1, i3, i5, i7, i9, nearZ_eq c _ (Nat.mul_ne_zero (pow_ne_zero d hD) (pow_ne_zero l hF))]
    push_cast; rfl

/-- `decide` on `CompositionOrder` evaluates the integer trie when the denominators allow it -/
instance (γs : List Rat) (p : Nat) (tol : Rat) : Decidable (CompositionOrder γs p tol) :=
  let D := γs.foldl (fun d g => d.lcm g.den) 1
  let F := (List.range (p+1)).foldl (fun d k => d.lcm (k+1)) 1
  if h : (D != 0 && F != 0 && integralStages D F p γs) = true then
    decidable_of_iff (okYZ D F tol (runYZ D F p γs (mkYZ p (p+1) 0 1)) (some 0) 0 0 = true) (by
      simp only [Bool.and_eq_true, bne_iff_ne] at h
      have e := toYT_mkYZ D F p (p+1) 0 0 1 (Or.inr ⟨rfl, rfl⟩)
      rw [Int.cast_one] at e
      rw [CompositionOrder, ← e, runY_toYT h.1.1 h.1.2 p γs _ h.2, okY_toYT h.1.1 h.1.2])
  else instDecidableEqBool _ _

end RV.C01
