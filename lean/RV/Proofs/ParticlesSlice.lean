import RV.Model.Particles
import Mathlib.Tactic.Ring
/-
  The Python container's slices (rebound/particles.py:40-41, CPython `slice.indices`): arithmetic facts
  about `pySliceBounds`, `rangeCount`, `rangeList` (property C14).
-/
namespace RV.Particles

theorem mem_rangeList (step : Int) : ∀ (cnt : Nat) (s x : Int),
    x ∈ rangeList s step cnt ↔ ∃ m : Nat, m < cnt ∧ x = s + m * step := by
  intro cnt
  induction cnt with
  | zero => intro s x; simp [rangeList]
  | succ k ih =>
    intro s x
    simp only [rangeList, List.mem_cons, ih]
    constructor
    · rintro (h | ⟨m, hm, hx⟩)
      · exact ⟨0, by omega, by simp [h]⟩
      · exact ⟨m + 1, by omega, by rw [hx]; push_cast; ring⟩
    · rintro ⟨m, hm, hx⟩
      cases m with
      | zero => left; simpa using hx
      | succ j => right; exact ⟨j, by omega, by rw [hx]; push_cast; ring⟩

/-- counting upwards: `s + m*d` stays below `e` for exactly the first `(e - s - 1) / d + 1` values of `m` -/
theorem lt_count_iff (s e d : Int) (hd : 0 < d) (m : Nat) :
    m < (if s < e then (e - s - 1) / d + 1 else 0).toNat ↔ s + m * d < e := by
  have : 0 ≤ (m : Int) * d := Int.mul_nonneg (Int.natCast_nonneg m) hd.le
  rw [Int.lt_toNat]
  split
  · rw [Int.lt_add_one_iff, Int.le_ediv_iff_mul_le hd]; omega
  · omega

/-- `range(s, e, step)` contains `s + m*step` exactly while it stays before `e` in the direction of travel -/
theorem lt_rangeCount_iff (s e step : Int) (hk : step ≠ 0) (m : Nat) :
    m < rangeCount s e step ↔ (0 < step → s + m * step < e) ∧ (step < 0 → e < s + m * step) := by
  unfold rangeCount
  rcases Int.lt_or_gt_of_ne hk with hneg | hpos
  · rw [if_neg (by omega), lt_count_iff e s (-step) (by omega), Int.mul_neg]; omega
  · rw [if_pos hpos, lt_count_iff s e step hpos]; omega

theorem pySliceBounds_range (n : Nat) (start stop : Option Int) (step : Int) :
    (0 < step → 0 ≤ (pySliceBounds n start stop step).1 ∧ (pySliceBounds n start stop step).1 ≤ n ∧
                0 ≤ (pySliceBounds n start stop step).2 ∧ (pySliceBounds n start stop step).2 ≤ n) ∧
    (step < 0 → -1 ≤ (pySliceBounds n start stop step).1 ∧ (pySliceBounds n start stop step).1 ≤ (n : Int) - 1 ∧
                -1 ≤ (pySliceBounds n start stop step).2 ∧ (pySliceBounds n start stop step).2 ≤ (n : Int) - 1) := by
  unfold pySliceBounds
  cases start <;> cases stop <;> dsimp only <;> omega

theorem pySlice_mem (n : Nat) (start stop : Option Int) (step : Int) (hk : step ≠ 0) (x : Int) :
    x ∈ pySlice n start stop step ↔
      ∃ m : Nat, x = (pySliceBounds n start stop step).1 + m * step ∧
        (0 < step → x < (pySliceBounds n start stop step).2) ∧
        (step < 0 → (pySliceBounds n start stop step).2 < x) := by
  unfold pySlice
  simp only [mem_rangeList, lt_rangeCount_iff _ _ _ hk]
  constructor
  · rintro ⟨m, hm, rfl⟩; exact ⟨m, rfl, hm⟩
  · rintro ⟨m, rfl, hm⟩; exact ⟨m, hm, rfl⟩

theorem pySlice_in_bounds (n : Nat) (start stop : Option Int) (step : Int) (hk : step ≠ 0) (x : Int)
    (hx : x ∈ pySlice n start stop step) : 0 ≤ x ∧ x < n := by
  obtain ⟨m, rfl, h1, h2⟩ := (pySlice_mem n start stop step hk x).mp hx
  have hb := pySliceBounds_range n start stop step
  rcases Int.lt_or_gt_of_ne hk with hneg | hpos
  · have := Int.mul_nonpos_of_nonneg_of_nonpos (Int.natCast_nonneg m) hneg.le
    have := hb.2 hneg; have := h2 hneg
    omega
  · have := Int.mul_nonneg (Int.natCast_nonneg m) hpos.le
    have := hb.1 hpos; have := h1 hpos
    omega

/-- `s[:]` is everything -/
theorem pySlice_all (n : Nat) (x : Int) : x ∈ pySlice n none none 1 ↔ 0 ≤ x ∧ x < n := by
  have hb : pySliceBounds n none none 1 = (0, (n : Int)) := rfl
  simp only [pySlice_mem n none none 1 (by omega), hb]
  constructor
  · rintro ⟨m, e, h1, _⟩
    have := h1 (by omega)
    omega
  · rintro ⟨h0, h1⟩
    exact ⟨x.toNat, by omega, fun _ => h1, fun h => by omega⟩

end RV.Particles
