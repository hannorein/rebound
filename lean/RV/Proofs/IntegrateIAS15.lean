import RV.Proofs.IntegrateAdaptive
/-
  C08: the step-size controller of IAS15 (integrator_ias15.c:615-646, 773) satisfies the hypothesis of the
  adaptive exact-finish theorem with δ = min_dt: the progress bound is derived from the code's clamps.
-/
namespace RV.Integrate
open RV
variable {K : Type} [Field K] [LinearOrder K] [IsStrictOrderedRing K]

theorem ias15SF_eq : (ias15SF : K) = 1 / 4 := by
  simp only [ias15SF, sc_one, sc_hdiv, sc_ofNat]; norm_num

/-- the controller for a forward attempt (`d > 0`, the estimate asks for `raw > 0`) -/
theorem ias15Ctl_pos (minDt d raw : K) (hd : 0 < d) (hr : 0 < raw) (hm : 0 ≤ minDt) :
    ias15Ctl minDt d raw =
      (if 4 * max raw minDt < d then (false, max raw minDt)
       else (true, if 4 * d < max raw minDt then 4 * d else max raw minDt)) := by
  have hq : 0 < max raw minDt := lt_max_of_lt_left hr
  have hclamp : (if |raw| < minDt then copysign minDt raw else raw) = max raw minDt := by
    rw [abs_of_pos hr]
    by_cases h : raw < minDt
    · have hc : copysign minDt raw = minDt := by
        rw [copysign_def]
        have h1 : ¬ minDt < 0 := not_lt.mpr hm
        have h2 : ¬ raw < 0 := not_lt.mpr hr.le
        simp [h1, h2]
      rw [if_pos h, hc, max_eq_right h.le]
    · rw [if_neg h, max_eq_left (not_lt.mp h)]
  unfold ias15Ctl
  simp only [slt_iff, sfabs, fgt_iff, decide_eq_true_eq, sc_one, sc_hdiv, ias15SF_eq, hclamp]
  generalize max raw minDt = q at hq ⊢
  have hratio : |q / d| = q / d := abs_of_pos (div_pos hq hd)
  rw [hratio]
  have e1 : q / d < 1 / 4 ↔ 4 * q < d := by
    rw [div_lt_iff₀ hd]; constructor <;> intro h <;> linarith
  have four : (1 : K) / (1 / 4) = 4 := by norm_num
  have e2 : 1 / (1 / 4 : K) < q / d ↔ 4 * d < q := by
    rw [four, lt_div_iff₀ hd]
  have e3 : (1 : K) < q / d ↔ d < q := by
    rw [lt_div_iff₀ hd, one_mul]
  have e4 : d / (1 / 4 : K) = 4 * d := by field_simp
  simp only [e1, e2, e3, e4]
  by_cases h1 : 4 * q < d
  · simp [h1]
  · simp only [h1, if_false]
    by_cases h2 : 4 * d < q
    · have : d < q := by linarith
      simp [h2, this]
    · simp [h2]

theorem copysign_neg_right (a b : K) (hb : b ≠ 0) : copysign a (-b) = -copysign a b := by
  rw [copysign_def, copysign_def]
  rcases lt_or_gt_of_ne hb with h | h
  · have h' : ¬ (-b < 0) := by linarith
    by_cases ha : a < 0 <;> simp [h, h', ha]
  · have h' : ¬ (b < 0) := by linarith
    have h'' : -b < 0 := by linarith
    by_cases ha : a < 0 <;> simp [h'', h', ha]

/-- the controller is odd: mirroring the attempt and the estimate mirrors the proposal, so the backward
    direction needs no analysis of its own -/
theorem ias15Ctl_neg_neg (minDt d raw : K) (hr : raw ≠ 0) :
    ias15Ctl minDt (-d) (-raw) = ((ias15Ctl minDt d raw).1, -(ias15Ctl minDt d raw).2) := by
  have hclamp : (if |raw| < minDt then copysign minDt (-raw) else -raw) =
      -(if |raw| < minDt then copysign minDt raw else raw) := by
    rw [copysign_neg_right _ _ hr, apply_ite Neg.neg]
  simp only [ias15Ctl, slt_iff, sfabs, fgt_iff, decide_eq_true_eq, sc_hdiv, abs_neg, hclamp, neg_div_neg_eq]
  generalize (if |raw| < minDt then copysign minDt raw else raw) = q
  simp only [neg_div, apply_ite Prod.fst, apply_ite Prod.snd]
  split_ifs <;> rfl

theorem ias15Ctl_spec_pos (minDt d raw : K) (hd : 0 < d) (hr : 0 < raw) (hm : 0 ≤ minDt) :
    0 < (ias15Ctl minDt d raw).2 ∧
    ((ias15Ctl minDt d raw).1 = false →
      minDt ≤ (ias15Ctl minDt d raw).2 ∧ 4 * (ias15Ctl minDt d raw).2 < d) ∧
    ((ias15Ctl minDt d raw).1 = true →
      d ≤ 4 * (ias15Ctl minDt d raw).2 ∧ (ias15Ctl minDt d raw).2 ≤ 4 * d ∧
      (minDt ≤ (ias15Ctl minDt d raw).2 ∨ (ias15Ctl minDt d raw).2 = 4 * d)) := by
  rw [ias15Ctl_pos minDt d raw hd hr hm]
  have hq : 0 < max raw minDt := lt_max_of_lt_left hr
  have hqm : minDt ≤ max raw minDt := le_max_right _ _
  generalize max raw minDt = q at hq hqm ⊢
  by_cases h1 : 4 * q < d
  · rw [if_pos h1]
    exact ⟨hq, fun _ => ⟨hqm, h1⟩, fun h => by simp at h⟩
  · rw [if_neg h1]
    by_cases h2 : 4 * d < q
    · rw [if_pos h2]
      exact ⟨by show 0 < 4 * d; linarith, fun h => by simp at h,
        fun _ => ⟨by show d ≤ 4 * (4 * d); linarith, le_refl _, Or.inr rfl⟩⟩
    · rw [if_neg h2]
      exact ⟨hq, fun h => by simp at h,
        fun _ => ⟨by show d ≤ 4 * q; linarith, by show q ≤ 4 * d; linarith, Or.inl hqm⟩⟩

/-- what one attempt of the controller guarantees, in direction `sg`: the new step points the same way;
    a rejection leaves a step of at least `min_dt` that is less than a quarter of the one tried; an
    acceptance proposes between a quarter and four times the step done, and at least
    `min(min_dt, 4·|dt_done|)` -/
theorem ias15Ctl_spec (minDt d raw sg : K) (hsg : sg = 1 ∨ sg = -1) (hd : 0 < d * sg) (hr : 0 < raw * sg)
    (hm : 0 ≤ minDt) :
    0 < (ias15Ctl minDt d raw).2 * sg ∧
    ((ias15Ctl minDt d raw).1 = false →
      minDt ≤ (ias15Ctl minDt d raw).2 * sg ∧ 4 * ((ias15Ctl minDt d raw).2 * sg) < d * sg) ∧
    ((ias15Ctl minDt d raw).1 = true →
      d * sg ≤ 4 * ((ias15Ctl minDt d raw).2 * sg) ∧ (ias15Ctl minDt d raw).2 * sg ≤ 4 * (d * sg) ∧
      (minDt ≤ (ias15Ctl minDt d raw).2 * sg ∨ (ias15Ctl minDt d raw).2 * sg = 4 * (d * sg))) := by
  rcases hsg with rfl | rfl
  · simp only [mul_one] at hd hr ⊢
    exact ias15Ctl_spec_pos minDt d raw hd hr hm
  · have h := ias15Ctl_neg_neg minDt (-d) (-raw) (by linarith : -raw ≠ 0)
    rw [neg_neg, neg_neg] at h
    rw [h]
    simpa only [mul_neg, mul_one, neg_neg] using
      ias15Ctl_spec_pos minDt (-d) (-raw) (by linarith) (by linarith) hm

/-- the retry loop of one IAS15 step: with `min_dt > 0`, an error estimate that always asks for a step in
    the direction of integration, and a first attempt of size at most `min_dt·4^(n+1)`, one of the first
    `n+1` attempts is accepted; the step done points in the direction of integration, is no longer than
    the step asked for, is that step itself or at least `min_dt` long; the proposal points the same way
    and is at least `min_dt` or exactly four times the step done. -/
theorem ias15Attempts_spec (minDt sg : K) (raw : Nat → K → K) (hsg : sg = 1 ∨ sg = -1) (hm : 0 < minDt)
    (hraw : ∀ j d, 0 < d * sg → 0 < raw j d * sg) :
    ∀ (n fuel j : Nat) (dt : K), 0 < dt * sg → dt * sg ≤ minDt * 4 ^ (n + 1) → n + 1 ≤ fuel →
      ∃ done new, ias15Attempts minDt raw fuel j dt = some (done, new) ∧
        0 < done * sg ∧ done * sg ≤ dt * sg ∧ (done = dt ∨ minDt ≤ done * sg) ∧
        0 < new * sg ∧ (minDt ≤ new * sg ∨ new * sg = 4 * (done * sg)) := by
  -- one attempt: accepted (and done), or rejected with a step of at least `min_dt` less than a quarter of this one
  have attempt : ∀ (f j : Nat) (dt : K), 0 < dt * sg →
      (∃ new, ias15Attempts minDt raw (f + 1) j dt = some (dt, new) ∧ 0 < new * sg ∧
        (minDt ≤ new * sg ∨ new * sg = 4 * (dt * sg))) ∨
      (∃ dn, ias15Attempts minDt raw (f + 1) j dt = ias15Attempts minDt raw f (j + 1) dn ∧
        0 < dn * sg ∧ minDt ≤ dn * sg ∧ 4 * (dn * sg) < dt * sg) := by
    intro f j dt hdt
    obtain ⟨p1, p2, p3⟩ := ias15Ctl_spec minDt dt (raw j dt) sg hsg hdt (hraw j dt hdt) hm.le
    rw [ias15Attempts]
    rcases hc : ias15Ctl minDt dt (raw j dt) with ⟨acc, dn⟩
    rw [hc] at p1 p2 p3
    cases acc with
    | true => exact Or.inl ⟨dn, rfl, p1, (p3 rfl).2.2⟩
    | false => exact Or.inr ⟨dn, rfl, p1, p2 rfl⟩
  intro n
  induction n with
  | zero =>
    intro fuel j dt hdt hb hf
    obtain ⟨f, rfl⟩ : ∃ f, fuel = f + 1 := ⟨fuel - 1, by omega⟩
    rcases attempt f j dt hdt with ⟨new, e, r4, r5⟩ | ⟨dn, -, -, q1, q2⟩
    · exact ⟨dt, new, e, hdt, le_refl _, Or.inl rfl, r4, r5⟩
    · simp only [zero_add, pow_one] at hb
      exfalso; linarith
  | succ n ih =>
    intro fuel j dt hdt hb hf
    obtain ⟨f, rfl⟩ : ∃ f, fuel = f + 1 := ⟨fuel - 1, by omega⟩
    rcases attempt f j dt hdt with ⟨new, e, r4, r5⟩ | ⟨dn, e, p1, q1, q2⟩
    · exact ⟨dt, new, e, hdt, le_refl _, Or.inl rfl, r4, r5⟩
    · have hb' : dn * sg ≤ minDt * 4 ^ (n + 1) := by
        have : minDt * 4 ^ (n + 1 + 1) = 4 * (minDt * 4 ^ (n + 1)) := by ring
        rw [this] at hb; linarith
      obtain ⟨done, new, e', r1, r2, r3, r4, r5⟩ := ih f (j + 1) dn p1 hb' (by omega)
      refine ⟨done, new, e.trans e', r1, by linarith, Or.inr ?_, r4, r5⟩
      rcases r3 with h | h
      · rw [h]; exact q1
      · exact h

/-- one IAS15 step with its step-size controller, called with a step of at most `min_dt·4^fuel` in the
    direction of integration: time advances by the step done, which points the same way, is no longer than the
    step asked for and is that step itself or at least `min_dt` long; the proposal points the same way and is
    at least `min_dt`, unless the step done was a requested step shorter than `min_dt` (then four times it) -/
theorem stepIAS15_spec (minDt sg : K) (raw : Nat → Nat → K → K) (fuel : Nat)
    (hsg : sg = 1 ∨ sg = -1) (hm : 0 < minDt) (hf : 1 ≤ fuel)
    (hraw : ∀ k j d, 0 < d * sg → 0 < raw k j d * sg)
    (k : Nat) (t dt dld : K) (hdt : 0 < dt * sg) (hB : dt * sg ≤ minDt * 4 ^ fuel) :
    let o := stepIAS15 minDt raw fuel k t dt dld
    o.t = t + o.dld ∧ 0 < o.dld * sg ∧ o.dld * sg ≤ dt * sg ∧ (o.dld = dt ∨ minDt ≤ o.dld * sg) ∧
    0 < o.dt * sg ∧ (minDt ≤ o.dt * sg ∨ (o.dt * sg = 4 * (o.dld * sg) ∧ o.dld = dt ∧ dt * sg < minDt)) := by
  obtain ⟨n, rfl⟩ : ∃ n, fuel = n + 1 := ⟨fuel - 1, by omega⟩
  obtain ⟨done, new, e, r1, r2, r3, r4, r5⟩ :=
    ias15Attempts_spec minDt sg (raw k) hsg hm (hraw k) n (n + 1) 0 dt hdt hB (le_refl _)
  simp only [stepIAS15, e]
  refine ⟨trivial, r1, r2, r3, r4, ?_⟩
  by_cases hlt : minDt ≤ new * sg
  · exact Or.inl hlt
  · right
    rcases r5 with h | h
    · exact absurd h hlt
    · have hsmall : done * sg < minDt := by
        have := not_le.mp hlt
        linarith
      rcases r3 with h3 | h3
      · exact ⟨h, h3, by rw [← h3]; exact hsmall⟩
      · exact absurd h3 (not_le.mpr hsmall)

/-- IAS15's bookkeeping with its step-size controller satisfies the hypothesis of the adaptive exact-finish
    theorem with `δ = min_dt`, no whole-step rejections, for requested steps up to `min_dt·4^fuel` -/
theorem isAdaptive_ias15 (minDt sg : K) (raw : Nat → Nat → K → K) (fuel : Nat) (hsg : sg = 1 ∨ sg = -1)
    (hm : 0 < minDt) (hf : 1 ≤ fuel) (hraw : ∀ k j d, 0 < d * sg → 0 < raw k j d * sg) :
    IsAdaptive (stepIAS15 minDt raw fuel) sg minDt 0 (minDt * 4 ^ fuel) := by
  intro k t dt dld hdt hB
  obtain ⟨h1, h2, h3, h4, h5, h6⟩ := stepIAS15_spec minDt sg raw fuel hsg hm hf hraw k t dt dld hdt hB
  exact ⟨h5, Or.inr ⟨h1, h2, h3, h4.symm, h6.imp id And.right⟩⟩

end RV.Integrate
