import RV.Proofs.CompareStream
/-
  Lemmas about `diffReport`: the field list reb_binary_diff writes with output_option 0 (the difference stream of
  archive snapshots), its relation to the return value `compare`, and to what is in force after reading
  stream 1 followed by the report.
-/
namespace RV.Persist

theorem mem_reportFirst (specs : List CmpSpec) (tbl : List Desc) (fs2 : List Field) (f x : Field) :
    x ∈ reportFirst specs tbl fs2 f ↔
      (findField fs2 f.1 = none ∧ x = (f.1, [])) ∨
      (∃ p2, findField fs2 f.1 = some p2 ∧ payloadDiffer specs (descForType tbl f.1) f.2 p2 = true ∧ x = (f.1, p2)) := by
  unfold reportFirst
  cases h : findField fs2 f.1 with
  | none => simp
  | some p2 =>
    cases hp : payloadDiffer specs (descForType tbl f.1) f.2 p2 <;> simp [hp]

theorem reportFirst_fst (specs : List CmpSpec) (tbl : List Desc) (fs2 : List Field) (f x : Field)
    (h : x ∈ reportFirst specs tbl fs2 f) : x.1 = f.1 := by
  rcases (mem_reportFirst specs tbl fs2 f x).mp h with ⟨_, rfl⟩ | ⟨p2, _, _, rfl⟩ <;> rfl

/-- exact membership: the report holds precisely the vanished fields (empty payload), the fields present in both
    streams whose payloads differ (with the payload of stream 2) and the fields only stream 2 has -/
theorem diffReport_mem_iff (sp : Special) (specs : List CmpSpec) (tbl : List Desc) (fs1 fs2 : List Field) (id : Nat) (p : Bytes) :
    (id, p) ∈ diffReport sp specs tbl fs1 fs2 ↔
      (∃ p1, (id, p1) ∈ body sp fs1 ∧ findField (body sp fs2) id = none ∧ p = []) ∨
      (∃ p1, (id, p1) ∈ body sp fs1 ∧ findField (body sp fs2) id = some p ∧
          payloadDiffer specs (descForType tbl id) p1 p = true) ∨
      ((id, p) ∈ body sp fs2 ∧ findField (body sp fs1) id = none) := by
  unfold diffReport reportSecond
  simp only [List.mem_append, List.mem_flatMap, List.mem_filter, mem_reportFirst]
  constructor
  · rintro (⟨f, hf, h⟩ | ⟨hm, hn⟩)
    · rcases h with ⟨hnone, he⟩ | ⟨p2, hsome, hd, he⟩
      · cases he
        exact Or.inl ⟨f.2, hf, hnone, rfl⟩
      · cases he
        exact Or.inr (Or.inl ⟨f.2, hf, hsome, hd⟩)
    · refine Or.inr (Or.inr ⟨hm, ?_⟩)
      cases h : findField (body sp fs1) id <;> simp [h] at hn ⊢
  · rintro (⟨p1, hm, hnone, rfl⟩ | ⟨p1, hm, hsome, hd⟩ | ⟨hm, hnone⟩)
    · exact Or.inl ⟨(id, p1), hm, Or.inl ⟨hnone, rfl⟩⟩
    · exact Or.inl ⟨(id, p1), hm, Or.inr ⟨p, hsome, hd, rfl⟩⟩
    · exact Or.inr ⟨hm, by simp [hnone]⟩

/-- does an entry of the report count for the return value?  Everything except a walltime field present in both -/
def counts (sp : Special) (tbl : List Desc) (fs1 fs2 : List Field) (f : Field) : Bool :=
  !(wallOf tbl f.1 && (findField (body sp fs1) f.1).isSome && (findField (body sp fs2) f.1).isSome)

theorem mem_isSome (fs : List Field) (id : Nat) (p : Bytes) (h : (id, p) ∈ fs) : (findField fs id).isSome = true :=
  (findField_isSome_iff fs id).mpr (List.mem_map.mpr ⟨(id, p), h, rfl⟩)

theorem findField_none_not_mem (a : List Field) (id : Nat) (h : findField a id = none) : ∀ x ∈ a, x.1 ≠ id :=
  (findField_eq_none_iff a id).mp h

theorem findField_flatMap_report (specs : List CmpSpec) (tbl : List Desc) (fs2 l : List Field)
    (hn : (l.map (·.1)).Nodup) (id : Nat) :
    findField (l.flatMap (reportFirst specs tbl fs2)) id =
      match findField l id with
      | none => none
      | some p1 => findField (reportFirst specs tbl fs2 (id, p1)) id := by
  induction l with
  | nil => rfl
  | cons f r ih =>
    simp only [List.map_cons, List.nodup_cons] at hn
    rw [List.flatMap_cons, findField_append, findField_cons]
    by_cases h : f.1 = id
    · have hfe : f = (id, f.2) := by cases f; simp at h; simp [h]
      simp only [h, if_true]
      rw [← hfe]
      cases hg : findField (reportFirst specs tbl fs2 f) id with
      | some p => rfl
      | none =>
        simp only
        rw [findField_eq_none_iff]
        intro x hx e
        obtain ⟨g, hgm, hxg⟩ := List.mem_flatMap.mp hx
        have := reportFirst_fst specs tbl fs2 g x hxg
        apply hn.1
        rw [h, ← e, this]
        exact List.mem_map_of_mem hgm
    · have hnone : findField (reportFirst specs tbl fs2 f) id = none :=
        (findField_eq_none_iff _ id).mpr (fun x hx e => h ((reportFirst_fst specs tbl fs2 f x hx).symm.trans e))
      simp only [hnone, h, if_false]
      exact ih hn.2

theorem findField_reportSecond (fs1 fs2 : List Field) (id : Nat) :
    findField (reportSecond fs1 fs2) id = if (findField fs1 id).isNone then findField fs2 id else none := by
  unfold reportSecond
  induction fs2 with
  | nil => simp [findField_nil]
  | cons f r ih =>
    rw [findField_cons]
    by_cases hk : (findField fs1 f.1).isNone = true
    · rw [List.filter_cons_of_pos (by simpa using hk), findField_cons]
      by_cases h : f.1 = id
      · subst h; simp [hk]
      · simp only [h, if_false]; exact ih
    · rw [List.filter_cons_of_neg (by simpa using hk)]
      by_cases h : f.1 = id
      · subst h
        simp only [if_true]
        rw [ih]
        simp [hk]
      · simp only [h, if_false]; exact ih

end RV.Persist
