import RV.Proofs.Sync
/-
  C09: WHFast with first-order variational particles (`vStepOps` / `vSyncOps`, the fourth replay
  family) — the keep_unsynchronized bitwise clause (dataflow analysis, `VRel`) and the accounting of
  the half drifts of the variational centre of mass (`VClock`, `VInv`).  Own footprint components:
  the variational particles' positions / velocities / accelerations are separate from the real
  particles', because `to_inertial` only overwrites the real ones.
-/
namespace RV.Sync.Var
open RV.Sync

structure VSt (PJ X V A VX VV VA : Type) where
  pj : PJ          -- ri_whfast.p_jh, all N entries (real and variational)
  pos : X          -- real particles
  vel : V
  acc : A
  vpos : VX        -- variational particles
  vvel : VV
  vacc : VA
  saved : PJ

/-- uninterpreted primitives, typed by their footprints -/
structure VSem (T PJ X V A VX VV VA : Type) where
  ev : Coef → T
  fromI : X → V → VX → VV → PJ → PJ      -- from_inertial transforms real and variational particles
  toIpos : PJ → X
  toIvel : PJ → V
  kepler : T → PJ → PJ
  com : T → PJ → PJ
  jump : T → PJ → PJ
  inter : T → A → VA → PJ → PJ           -- reads the accelerations of real and variational particles
  upd : X → A
  updV : X → VX → VA                     -- reb_calculate_acceleration_var: positions only
  vcom : T → PJ → PJ
  vposOf : PJ → VX                       -- jacobi_to_inertial_pos / _posvel of the variational configs
  vvelOf : PJ → VV
  rescaleX : VX → VV → VX                -- reb_simulation_rescale_var
  rescaleV : VX → VV → VV

variable {T PJ X V A VX VV VA : Type}

/-- denotation of the primitives that occur in `vStepOps` / `vSyncOps` (all others: identity) -/
def vDenote (S : VSem T PJ X V A VX VV VA) : Prim → VSt PJ X V A VX VV VA → VSt PJ X V A VX VV VA
  | .fromInertial, s => { s with pj := S.fromI s.pos s.vel s.vpos s.vvel s.pj }
  | .toInertial, s => { s with pos := S.toIpos s.pj, vel := S.toIvel s.pj }
  | .kepler τ, s => { s with pj := S.kepler (S.ev τ) s.pj }
  | .com τ, s => { s with pj := S.com (S.ev τ) s.pj }
  | .jump τ, s => { s with pj := S.jump (S.ev τ) s.pj }
  | .interaction τ, s => { s with pj := S.inter (S.ev τ) s.acc s.vacc s.pj }
  | .updateAcc, s => { s with acc := S.upd s.pos, vacc := S.updV s.pos s.vpos }
  | .varComDrift τ, s => { s with pj := S.vcom (S.ev τ) s.pj }
  | .varToInertialPos, s => { s with vpos := S.vposOf s.pj }
  | .varToInertialPosvel, s => { s with vpos := S.vposOf s.pj, vvel := S.vvelOf s.pj }
  | .rescaleVar, s => { s with vpos := S.rescaleX s.vpos s.vvel, vvel := S.rescaleV s.vpos s.vvel }
  | .savePJ, s => { s with saved := s.pj }
  | .restorePJ, s => { s with pj := s.saved }
  | _, s => s

def vExec (S : VSem T PJ X V A VX VV VA) : List Prim → VSt PJ X V A VX VV VA → VSt PJ X V A VX VV VA
  | [], s => s
  | p :: ps, s => vExec S ps (vDenote S p s)

structure VComps where
  pj : Bool
  pos : Bool
  vel : Bool
  acc : Bool
  vpos : Bool
  vvel : Bool
  vacc : Bool
  saved : Bool

def vAgree (L : VComps) (s s' : VSt PJ X V A VX VV VA) : Prop :=
  (L.pj = true → s.pj = s'.pj) ∧ (L.pos = true → s.pos = s'.pos) ∧ (L.vel = true → s.vel = s'.vel) ∧
  (L.acc = true → s.acc = s'.acc) ∧ (L.vpos = true → s.vpos = s'.vpos) ∧ (L.vvel = true → s.vvel = s'.vvel) ∧
  (L.vacc = true → s.vacc = s'.vacc) ∧ (L.saved = true → s.saved = s'.saved)

def vTransfer : Prim → VComps → VComps
  | .fromInertial, L => { L with pj := L.pos && L.vel && L.vpos && L.vvel && L.pj }
  | .toInertial, L => { L with pos := L.pj, vel := L.pj }
  | .kepler _, L | .com _, L | .jump _, L | .varComDrift _, L => L
  | .interaction _, L => { L with pj := L.acc && L.vacc && L.pj }
  | .updateAcc, L => { L with acc := L.pos, vacc := L.pos && L.vpos }
  | .varToInertialPos, L => { L with vpos := L.pj }
  | .varToInertialPosvel, L => { L with vpos := L.pj, vvel := L.pj }
  | .rescaleVar, L => { L with vpos := L.vpos && L.vvel, vvel := L.vpos && L.vvel }
  | .savePJ, L => { L with saved := L.pj }
  | .restorePJ, L => { L with pj := L.saved }
  | _, L => L

def vTransferList : List Prim → VComps → VComps
  | [], L => L
  | p :: ps, L => vTransferList ps (vTransfer p L)

theorem vAgree_denote (S : VSem T PJ X V A VX VV VA) (p : Prim) (L : VComps)
    (s s' : VSt PJ X V A VX VV VA) (h : vAgree L s s') :
    vAgree (vTransfer p L) (vDenote S p s) (vDenote S p s') := by
  -- a primitive either touches nothing, or overwrites components by functions of those it reads
  cases p <;> first
    | exact h
    | (obtain ⟨h1, h2, h3, h4, h5, h6, h7, h8⟩ := h
       simp only [vTransfer, vDenote, vAgree, Bool.and_eq_true]
       refine ⟨?_, ?_, ?_, ?_, ?_, ?_, ?_, ?_⟩ <;> first
         | assumption
         | (intro hh; simp only [h1, h2, h3, h4, h5, h6, h7, hh]))

theorem vAgree_exec (S : VSem T PJ X V A VX VV VA) (ps : List Prim) (L : VComps)
    (s s' : VSt PJ X V A VX VV VA) (h : vAgree L s s') :
    vAgree (vTransferList ps L) (vExec S ps s) (vExec S ps s') := by
  induction ps generalizing L s s' with
  | nil => exact h
  | cons p ps ih => exact ih _ _ _ (vAgree_denote S p L s s' h)

theorem vExec_append (S : VSem T PJ X V A VX VV VA) (a b : List Prim) (s : VSt PJ X V A VX VV VA) :
    vExec S (a ++ b) s = vExec S b (vExec S a s) := by
  induction a generalizing s with
  | nil => rfl
  | cons p ps ih => exact ih _

/-- the agreement `VRel` grants: `p_jh`, and with `b` the particles too -/
theorem vAgree_rel {s s' : VSt PJ X V A VX VV VA} (b : Bool) (h : s.pj = s'.pj)
    (h2 : b = true → s.pos = s'.pos ∧ s.vel = s'.vel ∧ s.vpos = s'.vpos ∧ s.vvel = s'.vvel) :
    vAgree ⟨true, b, b, false, b, b, false, false⟩ s s' :=
  ⟨fun _ => h, fun hh => (h2 hh).1, fun hh => (h2 hh).2.1, fun hh => (by cases hh),
   fun hh => (h2 hh).2.2.1, fun hh => (h2 hh).2.2.2, fun hh => (by cases hh), fun hh => (by cases hh)⟩

def vApply (S : VSem T PJ X V A VX VV VA) (c : Config) (o : Op Unit)
    (x : Flags × VSt PJ X V A VX VV VA) : Flags × VSt PJ X V A VX VV VA :=
  ((vOpOps c x.1 o).2, vExec S (vOpOps c x.1 o).1 x.2)

def vRun (S : VSem T PJ X V A VX VV VA) (c : Config) :
    List (Op Unit) → Flags × VSt PJ X V A VX VV VA → Flags × VSt PJ X V A VX VV VA
  | [], x => x
  | o :: os, x => vRun S c os (vApply S c o x)

/-- two (flags, state) pairs no later step can tell apart (keep_unsynchronized) -/
def VRel (x y : Flags × VSt PJ X V A VX VV VA) : Prop :=
  initF x.1 = initF y.1 ∧ x.2.pj = y.2.pj ∧
  ((initF x.1).isSync = true →
    x.2.pos = y.2.pos ∧ x.2.vel = y.2.vel ∧ x.2.vpos = y.2.vpos ∧ x.2.vvel = y.2.vvel)

theorem VRel.refl (x : Flags × VSt PJ X V A VX VV VA) : VRel x x := ⟨rfl, rfl, fun _ => ⟨rfl, rfl, rfl, rfl⟩⟩
theorem VRel.symm {x y : Flags × VSt PJ X V A VX VV VA} (h : VRel x y) : VRel y x :=
  ⟨h.1.symm, h.2.1.symm, fun hs => by
    have := h.2.2 (by rw [h.1]; exact hs)
    exact ⟨this.1.symm, this.2.1.symm, this.2.2.1.symm, this.2.2.2.symm⟩⟩
theorem VRel.trans {x y z : Flags × VSt PJ X V A VX VV VA} (a : VRel x y) (b : VRel y z) : VRel x z :=
  ⟨a.1.trans b.1, a.2.1.trans b.2.1, fun hs => by
    have h1 := a.2.2 hs
    have h2 := b.2.2 (by rw [← a.1]; exact hs)
    exact ⟨h1.1.trans h2.1, h1.2.1.trans h2.2.1, h1.2.2.1.trans h2.2.2.1, h1.2.2.2.trans h2.2.2.2⟩⟩

theorem vStepOps_initF (c : Config) (f : Flags) : vStepOps c (initF f) = vStepOps c f := by
  unfold vStepOps vStepCore vPart1Ops; rw [initF_idem]

theorem vSyncOps_initF (c : Config) (f : Flags) : vSyncOps c (initF f) = vSyncOps c f := by
  unfold vSyncOps; rw [initF_idem]

theorem vSyncOps_sync (c : Config) (f : Flags) (h : (initF f).isSync = true) :
    vSyncOps c f = ([.init], initF f) := by
  unfold vSyncOps; simp only [h, if_true]

/-- dataflow of a step with variational particles, keep_unsynchronized = 1, safe_mode = 0: the new
    `p_jh` (all N entries) and the flags depend on the old `p_jh` alone, or — from a synchronised
    state — on `p_jh` and the positions / velocities of real and variational particles -/
theorem vstep_determined (c : Config) (hk : c.keep = true) (hs : c.safe = false) (g : Flags)
    (hg : g.allocated = true) :
    (vTransferList (vStepOps c g).1 ⟨true, g.isSync, g.isSync, false, g.isSync, g.isSync, false, false⟩).pj = true ∧
    (vStepOps c g).2 = ⟨false, false, true⟩ := by
  obtain ⟨isSync, recalc, allocated⟩ := g
  simp only at hg; subst hg
  -- the call list by flag case, then the analysis is evaluated on it
  cases isSync <;> cases recalc <;>
    simp only [vStepOps, vStepCore, vPart1Ops, vPart2Ops, vSyncOps, initF, hk, hs, if_true, if_false,
      Bool.false_eq_true, Bool.or_false, Bool.or_true, Bool.not_true, Bool.not_false] <;>
    cases c.vfix <;> cases c.p1fix <;> decide

theorem vsync_keep (S : VSem T PJ X V A VX VV VA) (c : Config) (hk : c.keep = true) (f : Flags)
    (s : VSt PJ X V A VX VV VA) :
    (vSyncOps c f).2 = initF f ∧ (vExec S (vSyncOps c f).1 s).pj = s.pj ∧
    ((initF f).isSync = true → vExec S (vSyncOps c f).1 s = s) := by
  unfold vSyncOps
  cases h : (initF f).isSync <;> simp [hk, h, vExec, vDenote]

/-- what a user sees after `synchronize` is a function of `p_jh` (unsynchronised state) -/
theorem vsync_obs_determined (c : Config) (f : Flags) (h : (initF f).isSync = false) :
    let M := vTransferList (vSyncOps c f).1 ⟨true, false, false, false, false, false, false, false⟩
    M.pj = true ∧ M.pos = true ∧ M.vel = true ∧ M.vpos = true ∧ M.vvel = true := by
  unfold vSyncOps
  cases c.keep <;> simp [h, vTransferList, vTransfer]

theorem vrel_step (S : VSem T PJ X V A VX VV VA) (c : Config) (hk : c.keep = true) (hs : c.safe = false)
    {x y : Flags × VSt PJ X V A VX VV VA} (h : VRel x y) :
    VRel (vApply S c .step x) (vApply S c .step y) := by
  obtain ⟨h1, h2, h3⟩ := h
  show VRel ((vStepOps c x.1).2, vExec S (vStepOps c x.1).1 x.2) ((vStepOps c y.1).2, vExec S (vStepOps c y.1).1 y.2)
  rw [← vStepOps_initF c x.1, ← vStepOps_initF c y.1, ← h1]
  have hg := initF_allocated x.1
  generalize initF x.1 = g at *
  obtain ⟨hd, hf⟩ := vstep_determined c hk hs g hg
  have := vAgree_exec S (vStepOps c g).1 _ _ _ (vAgree_rel g.isSync h2 h3)
  refine ⟨rfl, this.1 hd, ?_⟩
  rw [hf]; intro hh; simp [initF] at hh

theorem vrel_sync (S : VSem T PJ X V A VX VV VA) (c : Config) (hk : c.keep = true)
    (x : Flags × VSt PJ X V A VX VV VA) : VRel x (vApply S c .synchronize x) := by
  obtain ⟨e1, e2, e3⟩ := vsync_keep S c hk x.1 x.2
  show VRel x ((vSyncOps c x.1).2, vExec S (vSyncOps c x.1).1 x.2)
  refine ⟨by rw [e1, initF_idem], e2.symm, fun hh => ?_⟩
  rw [e3 hh]; exact ⟨rfl, rfl, rfl, rfl⟩

theorem vrel_run (S : VSem T PJ X V A VX VV VA) (c : Config) (hk : c.keep = true) (hs : c.safe = false)
    (σ : List (Op Unit)) (hσ : ∀ o ∈ σ, o.benign = true) (x y : Flags × VSt PJ X V A VX VV VA)
    (h : VRel x y) : VRel (vRun S c σ x) (vRun S c (σ.filter Op.isStep) y) :=
  run_filter_sim (vApply S c) (vApply S c) (fun o x y ho h => by
    cases o with
    | step => exact vrel_step S c hk hs h
    | synchronize => exact (vrel_sync S c hk x).symm.trans h
    | read => exact h
    | setRecalc | poke _ => cases ho) σ hσ x y h

theorem vrel_sync_obs (S : VSem T PJ X V A VX VV VA) (c : Config)
    {x y : Flags × VSt PJ X V A VX VV VA} (h : VRel x y) :
    (vExec S (vSyncOps c x.1).1 x.2).pj = (vExec S (vSyncOps c y.1).1 y.2).pj ∧
    (vExec S (vSyncOps c x.1).1 x.2).pos = (vExec S (vSyncOps c y.1).1 y.2).pos ∧
    (vExec S (vSyncOps c x.1).1 x.2).vel = (vExec S (vSyncOps c y.1).1 y.2).vel ∧
    (vExec S (vSyncOps c x.1).1 x.2).vpos = (vExec S (vSyncOps c y.1).1 y.2).vpos ∧
    (vExec S (vSyncOps c x.1).1 x.2).vvel = (vExec S (vSyncOps c y.1).1 y.2).vvel := by
  rw [← vSyncOps_initF c x.1, ← vSyncOps_initF c y.1, ← h.1]
  cases hs : (initF x.1).isSync
  · have hm := vsync_obs_determined c (initF x.1) (by rw [initF_idem]; exact hs)
    have := vAgree_exec S (vSyncOps c (initF x.1)).1 _ _ _ (vAgree_rel false h.2.1 fun hh => by cases hh)
    exact ⟨this.1 hm.1, this.2.1 hm.2.1, this.2.2.1 hm.2.2.1, this.2.2.2.2.1 hm.2.2.2.1,
      this.2.2.2.2.2.1 hm.2.2.2.2⟩
  · rw [vSyncOps_sync c _ (by rw [initF_idem]; exact hs)]
    exact ⟨h.2.1, h.2.2 hs⟩

/-! ### the variational centre of mass: drift accounting

  `p_jh[vc.index]` (the centre of mass of a set of variational particles) is moved by nothing but
  the two explicit half drifts `p_jh[index].pos += dt/2 · p_jh[index].vel` at the end of part1 and
  in the `N_var_config` block of part2.  A *clock* reads off a state how many such half drifts the
  variational centre of mass has received; the laws say which primitive does what to it (facts
  about the C primitives: Kepler / COM / jump / interaction steps do not move that entry's
  position, the explicit drift adds its coefficient, the transformations carry it over). -/

structure VClock (S : VSem T PJ X V A VX VV VA) where
  κ : PJ → Int                 -- half drifts received by the variational COM held in `p_jh`
  κx : VX → Int                -- … by the variational particles the user sees
  half : T → Int
  kepler : ∀ t p, κ (S.kepler t p) = κ p
  com : ∀ t p, κ (S.com t p) = κ p
  jump : ∀ t p, κ (S.jump t p) = κ p
  inter : ∀ t a va p, κ (S.inter t a va p) = κ p
  vcom : ∀ t p, κ (S.vcom t p) = κ p + half t
  vposOf : ∀ p, κx (S.vposOf p) = κ p
  fromI : ∀ x v vx vv p, κ (S.fromI x v vx vv p) = κx vx
  rescale : ∀ vx vv, κx (S.rescaleX vx vv) = κx vx
  ev_half : half (S.ev (.frac 1 2)) = 1

/-- both copies of the variational centre of mass have received `n` half drifts — or the copy in
    `p_jh` is about to be rebuilt from the synchronised particles -/
def VInv {S : VSem T PJ X V A VX VV VA} (K : VClock S) (n : Int)
    (x : Flags × VSt PJ X V A VX VV VA) : Prop :=
  K.κx x.2.vpos = n ∧
  (K.κ x.2.pj = n ∨ (x.1.isSync = true ∧ (x.1.recalc = true ∨ x.1.allocated = false)))

section clock
variable {S : VSem T PJ X V A VX VV VA} (K : VClock S)

/-- the exception of `VInv`, `p_jh` about to be rebuilt from synchronised particles, in terms of the
    flags part1 looks at -/
theorem stale_initF {f : Flags} (h : f.isSync = true ∧ (f.recalc = true ∨ f.allocated = false)) :
    (initF f).isSync = true ∧ (initF f).recalc = true := by
  obtain ⟨i, r, al⟩ := f
  cases al <;> simpa [initF] using h

/-- `synchronize` does not move the clock of `p_jh`; from an unsynchronised state it sets the clock
    of the visible particles to it; without keep_unsynchronized it leaves the cache alone -/
theorem vsync_clock (c : Config) (f : Flags) (s : VSt PJ X V A VX VV VA) :
    K.κ (vExec S (vSyncOps c f).1 s).pj = K.κ s.pj ∧
    K.κx (vExec S (vSyncOps c f).1 s).vpos = (if (initF f).isSync then K.κx s.vpos else K.κ s.pj) ∧
    (c.keep = false → (vExec S (vSyncOps c f).1 s).saved = s.saved) := by
  unfold vSyncOps
  cases h : (initF f).isSync <;> cases c.keep <;>
    simp [h, vExec, vDenote, K.kepler, K.com, K.vposOf]

/-- the call list of part1: the recalculation (after a synchronize if unsynchronised), the drift, the
    half drift of the variational centre of mass -/
theorem vPart1Ops_fst (c : Config) (f : Flags) : (vPart1Ops c f).1 =
    .init :: (if c.safe || (initF f).recalc then
        (if (initF f).isSync then [] else (vSyncOps c (initF f)).1 ++ [.warn]) ++ [.fromInertial] else []) ++
      (if (vPart1Ops c f).2.isSync then [.kepler (.frac 1 2), .com (.frac 1 2)]
        else [.kepler (.frac 1 1), .com (.frac 1 1)]) ++
      [.jump (.frac 1 2), .toInertial, .varComDrift (.frac 1 2), .varToInertialPos, .advT (.frac 1 2)] := by
  unfold vPart1Ops
  cases hb : (c.safe || (initF f).recalc) <;> cases hi : (initF f).isSync <;> simp only [hb, hi] <;> rfl

theorem vpart1_clock (c : Config) (f : Flags) (s : VSt PJ X V A VX VV VA) (n : Int) (h : VInv K n (f, s)) :
    K.κ (vExec S (vPart1Ops c f).1 s).pj = n + 1 ∧ K.κx (vExec S (vPart1Ops c f).1 s).vpos = n + 1 := by
  obtain ⟨h1, h2⟩ := h
  replace h2 := h2.imp_right stale_initF
  rw [vPart1Ops_fst]
  -- the length of the drift plays no role
  obtain ⟨a, b, e⟩ : ∃ a b, (if (vPart1Ops c f).2.isSync then [Prim.kepler (.frac 1 2), .com (.frac 1 2)]
      else [.kepler (.frac 1 1), .com (.frac 1 1)]) = [.kepler a, .com b] := by split <;> exact ⟨_, _, rfl⟩
  rw [e]
  -- the drift starts from coordinates with clock `n`: `p_jh` as it is, or rebuilt from the visible particles
  cases hb : (c.safe || (initF f).recalc) <;> cases hi : (initF f).isSync <;>
    simp only [hi, if_true, if_false, Bool.false_eq_true, vExec_append, vExec, vDenote, List.cons_append,
      List.nil_append, K.kepler, K.com, K.jump, K.vcom, K.vposOf, K.fromI, K.ev_half, vsync_clock K, initF_idem]
  case true.true => rw [h1]; exact ⟨rfl, rfl⟩
  all_goals rw [h2.resolve_right fun h => by simp [h.1, h.2] at hb hi]; exact ⟨rfl, rfl⟩

theorem vpart2_clock (c : Config) (hv : c.vfix = true) (f : Flags) (s : VSt PJ X V A VX VV VA) (m : Int)
    (h : K.κ s.pj = m) :
    K.κ (vExec S (vPart2Ops c f).1 s).pj = m + 1 ∧ K.κx (vExec S (vPart2Ops c f).1 s).vpos = m + 1 := by
  unfold vPart2Ops
  cases hs : c.safe <;> cases hk : c.keep <;>
    simp only [hv, if_true, if_false, Bool.false_eq_true, vExec_append, vExec, vDenote, List.cons_append,
      List.nil_append, K.jump, K.vcom, K.vposOf, K.inter, K.ev_half, vsync_clock K, h, and_self]

theorem vStepOps_fst (c : Config) (f : Flags) : (vStepOps c f).1 =
    (vPart1Ops c f).1 ++ [.updateAcc] ++ (vPart2Ops c (vPart1Ops c f).2).1 ++ [.rescaleVar] := rfl

theorem vstep_clock (c : Config) (hv : c.vfix = true) (f : Flags) (s : VSt PJ X V A VX VV VA) (n : Int)
    (h : VInv K n (f, s)) :
    K.κ (vExec S (vStepOps c f).1 s).pj = n + 2 ∧ K.κx (vExec S (vStepOps c f).1 s).vpos = n + 2 := by
  obtain ⟨a, _⟩ := vpart1_clock K c f s n h
  obtain ⟨b1, b2⟩ := vpart2_clock K c hv (vPart1Ops c f).2
    (vDenote S .updateAcc (vExec S (vPart1Ops c f).1 s)) (n + 1) a
  simp only [vStepOps_fst, vExec_append, vExec]
  exact ⟨b1.trans (Int.add_assoc n 1 1), (K.rescale _ _).trans (b2.trans (Int.add_assoc n 1 1))⟩

/-- every API operation keeps the two copies together; a step adds exactly two half drifts to both —
    for every combination of safe_mode, keep_unsynchronized and internal flags (repaired source) -/
theorem vinv_apply (c : Config) (hv : c.vfix = true)
    (o : Op Unit) (n : Int) (x : Flags × VSt PJ X V A VX VV VA) (h : VInv K n x) :
    VInv K (n + if o.isStep then 2 else 0) (vApply S c o x) := by
  obtain ⟨f, s⟩ := x
  cases o with
  | read => exact (Int.add_zero n).symm ▸ h
  | poke v => exact (Int.add_zero n).symm ▸ h
  | setRecalc => exact (Int.add_zero n).symm ▸ ⟨h.1, h.2.imp_right fun h' => ⟨h'.1, Or.inl rfl⟩⟩
  | step => exact ⟨(vstep_clock K c hv f s n h).2, Or.inl (vstep_clock K c hv f s n h).1⟩
  | synchronize =>
    show VInv K (n + 0) ((vSyncOps c f).2, vExec S (vSyncOps c f).1 s)
    rw [Int.add_zero]
    cases hi : (initF f).isSync
    · -- unsynchronised: `p_jh` is not stale, and the visible particles are regenerated from it
      obtain ⟨e1, e2, _⟩ := vsync_clock K c f s
      rw [hi, if_neg Bool.false_ne_true] at e2
      have hp := h.2.resolve_right fun h' => by rw [(stale_initF h').1] at hi; cases hi
      exact ⟨e2.trans hp, Or.inl (e1.trans hp)⟩
    · rw [vSyncOps_sync c f hi]
      exact ⟨h.1, h.2.imp_right fun h' => ⟨(stale_initF h').1, Or.inl (stale_initF h').2⟩⟩

end clock

def stepCount (σ : List (Op Unit)) : Int := ((σ.filter Op.isStep).length : Int)

theorem vinv_run {S : VSem T PJ X V A VX VV VA} (K : VClock S) (c : Config) (hv : c.vfix = true)
    (σ : List (Op Unit)) (n : Int) (x : Flags × VSt PJ X V A VX VV VA) (h : VInv K n x) :
    VInv K (n + 2 * stepCount σ) (vRun S c σ x) := by
  induction σ generalizing n x with
  | nil => simpa [vRun, stepCount] using h
  | cons o os ih =>
    have := ih _ _ (vinv_apply K c hv o n x h)
    have e : n + 2 * stepCount (o :: os) = (n + if o.isStep then 2 else 0) + 2 * stepCount os := by
      cases o <;> simp [stepCount, List.filter, Op.isStep] <;> omega
    rw [e]; exact this

/-- concrete clock: the state *is* the count -/
def clockSem : VSem Int Int Unit Unit Unit Int Int Unit where
  ev := fun τ => match τ with | .frac n 2 => n | .frac n 1 => 2 * n | _ => 0
  fromI := fun _ _ vx _ _ => vx
  toIpos := fun _ => ()
  toIvel := fun _ => ()
  kepler := fun _ p => p
  com := fun _ p => p
  jump := fun _ p => p
  inter := fun _ _ _ p => p
  upd := fun _ => ()
  updV := fun _ _ => ()
  vcom := fun t p => p + t
  vposOf := fun p => p
  vvelOf := fun p => p
  rescaleX := fun vx _ => vx
  rescaleV := fun _ vv => vv

def clockK : VClock clockSem where
  κ := id
  κx := id
  half := id
  kepler := fun _ _ => rfl
  com := fun _ _ => rfl
  jump := fun _ _ => rfl
  inter := fun _ _ _ _ => rfl
  vcom := fun _ _ => rfl
  vposOf := fun _ => rfl
  fromI := fun _ _ _ _ _ => rfl
  rescale := fun _ _ => rfl
  ev_half := rfl

end RV.Sync.Var
