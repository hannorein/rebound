import RV.Model.Sched
import RV.Proofs.Reversal
import RV.Proofs.Janus
import RV.Model.C10Saba
/-
  C10 on the operator schedules the code really runs.  `rv/extract_c01.py` derives, by executing the control flow of the C text, the exact list of primitive-operator calls
  one time step makes for every member of the option lattice (lean/RV/Gen/C01*.lean, `RV.C01.Op`).
  This file turns a *raw* palindrome of such a list (no merging of neighbours, so no additivity of the
  flows is needed) into `step(−dt) ∘ step(dt) = id`, under the only hypothesis that every primitive
  operator is undone by itself with the negated step.
-/
namespace RV.C10S
open RV RV.C01 RV.Reversal

/-- the operators that move the state (force evaluations, kind 2, only refresh the accelerations the next
    kick reads; `Fresh` says every kick reads accelerations of the current positions) -/
def moves (s : List Op) : List Op := s.filter (·.kind != 2)

/-- a drift-like operator (kind 0: Kepler / free drift, 10: inner drift of EOS): its `b` is the
    centre-of-mass flag, not a coefficient -/
def isDrift (o : Op) : Bool := o.kind % 10 == 0

/-- the operator for `−dt`: times negate, jerk terms (∝ dt³) negate, the flag of a drift stays -/
def negOp (o : Op) : Op := if isDrift o then ⟨o.kind, -o.a, o.b⟩ else ⟨o.kind, -o.a, -o.b⟩

/-- coefficients (multiples of dt, of dt³) instantiated at the step `h` -/
def inst (h : Rat) (o : Op) : Op :=
  if isDrift o then ⟨o.kind, o.a * h, o.b⟩ else ⟨o.kind, o.a * h, o.b * (h * h * h)⟩

theorem inst_neg (h : Rat) (o : Op) : inst (-h) o = negOp (inst h o) := by
  have hd : ∀ a b, isDrift ⟨o.kind, a, b⟩ = isDrift o := fun _ _ => rfl
  cases hk : isDrift o
  · simp only [inst, negOp, hk, hd, Bool.false_eq_true, if_false, Op.mk.injEq, true_and]
    constructor <;> ring
  · simp only [inst, negOp, hk, hd, if_true, Op.mk.injEq, true_and, and_true]
    ring

/-- the raw palindrome: the list of state-moving operators reads the same in both directions -/
@[reducible] def RawPalin (s : List Op) : Prop := (moves s).reverse = moves s

/-- one time step of a schedule with step size `h`, through arbitrary maps `φ` of the primitives -/
def schedStep {S : Type} (φ : Op → S → S) (l : List Op) (h : Rat) : S → S := opRun φ (l.map (inst h))

theorem schedStep_reverse {S : Type} (φ : Op → S → S) (hφ : ∀ o s, φ (negOp o) (φ o s) = s)
    (l : List Op) (hl : l.reverse = l) (h : Rat) (x : S) :
    schedStep φ l (-h) (schedStep φ l h x) = x := by
  unfold schedStep
  have e : l.map (inst (-h)) = (l.map (inst h)).map negOp := by
    rw [List.map_map]; apply List.map_congr_left; intro o _; exact inst_neg h o
  rw [e]
  apply opRun_palindrome φ negOp hφ
  rw [← List.map_reverse, hl]

theorem schedSteps_reverse {S : Type} (φ : Op → S → S) (hφ : ∀ o s, φ (negOp o) (φ o s) = s)
    (l : List Op) (hl : l.reverse = l) (h : Rat) (n : Nat) (x : S) :
    iter (schedStep φ l (-h)) n (iter (schedStep φ l h) n x) = x :=
  iter_inverse _ _ (schedStep_reverse φ hφ l hl h) n x

/-! ### EOS: the outer splitting with every shell-0 drift replaced by the whole inner scheme -/

/-- an operator of the inner scheme, called with the argument `a·dt` (inner letters are `kind + 10`) -/
def innerOp (a : Rat) (o : Op) : Op :=
  if o.kind == 0 then ⟨10, a * o.a, o.b⟩ else ⟨o.kind + 10, a * o.a, a * a * a * o.b⟩

def expand (inner : List Op) (o : Op) : List Op :=
  if o.kind == 0 then (moves inner).map (innerOp o.a) else [o]

/-- the operators one EOS step really applies: `reb_integrator_eos_drift_shell0(a·dt)` unrolled inside
    the outer schedule -/
def eosFull (outer inner : List Op) : List Op := (moves outer).flatMap (expand inner)

theorem eosFull_palin (outer inner : List Op) (ho : RawPalin outer) (hi : RawPalin inner) :
    (eosFull outer inner).reverse = eosFull outer inner := by
  unfold eosFull
  rw [List.reverse_flatMap, ho]
  apply List.flatMap_congr
  intro o _
  show (expand inner o).reverse = expand inner o
  unfold expand
  split
  · rw [← List.map_reverse, hi]
  · rfl

/-! ### SABA: the step model of RV/Model/C10Saba.lean is a raw palindrome for EVERY stage count and EVERY pair of
    coefficient tables — the two mirror-index computations of `reb_integrator_saba_part2` make it one -/

open RV.C10Saba in
theorem driftIdx_mirror (S j : Nat) (h : j ≤ S) : driftIdx S (S - j) = driftIdx S j := by
  unfold driftIdx
  split <;> split <;> omega

open RV.C10Saba in
theorem kickIdx_mirror (S j : Nat) (h : j < S) : kickIdx S (S - 1 - j) = kickIdx S j := by
  unfold kickIdx
  split <;> split <;> omega

theorem moves_cons3 (a b : Rat) (rest : List Op) :
    moves ((⟨0, a, 1⟩ : Op) :: ⟨2, 0, 0⟩ :: ⟨1, b, 0⟩ :: rest) = ⟨0, a, 1⟩ :: ⟨1, b, 0⟩ :: moves rest := rfl

theorem moves_append (l₁ l₂ : List Op) : moves (l₁ ++ l₂) = moves l₁ ++ moves l₂ :=
  List.filter_append ..

section saba
open RV.C10Saba RV.Janus
variable (S : Nat) (c d : List Rat) (cf df : Nat → Rat)
  (hc : ∀ i x, c[i]? = some x → cf i = x) (hd : ∀ i x, d[i]? = some x → df i = x)

/-- the state-moving operators of a SABA step by position, for total coefficient functions: drift `j`
    (`0 … S`) and kick `j` (`0 … S-1`) through the two mirror-index computations -/
def sabaOpAt : Nat → Op :=
  alt (fun j => ⟨0, cf (driftIdx S j), 1⟩) fun j => ⟨1, df (kickIdx S j), 0⟩

include hc hd in
theorem saba_loop_moves (n : Nat) :
    ∀ j m, loop S c d j n = some m → moves m = (List.range' (2 * j) (2 * n)).map (sabaOpAt S cf df) := by
  induction n with
  | zero => intro j m h; cases h; rfl
  | succ n ih =>
    intro j m h
    unfold loop at h
    split at h
    · rename_i ci di rest hci hdi hrest
      cases h
      rw [moves_cons3, ih (j + 1) rest hrest, sabaOpAt, map_alt_succ, hc _ _ hci, hd _ _ hdi]
    · cases h

include hc hd in
theorem saba_step_moves (hS : 1 ≤ S) (l : List Op) (h : RV.C10Saba.step S c d = some l) :
    moves l = (List.range' 0 (2 * S + 1)).map (sabaOpAt S cf df) := by
  unfold RV.C10Saba.step at h
  split at h
  · rename_i c0 d0 mid hc0 hd0 hmid
    cases h
    have e0 : driftIdx S 0 = 0 := rfl
    have eS : driftIdx S S = 0 := by unfold driftIdx; split <;> omega
    have k0 : kickIdx S 0 = 0 := rfl
    rw [moves_cons3, moves_append, saba_loop_moves S c d cf df hc hd (S - 1) 1 mid hmid, sabaOpAt,
      map_alt_full _ _ S hS, e0, eS, k0, hc _ _ hc0, hd _ _ hd0]
    rfl
  · cases h

end saba

theorem saba_step_palindrome (S : Nat) (hS : 1 ≤ S) (c d : List Rat) (l : List Op)
    (h : RV.C10Saba.step S c d = some l) : RawPalin l := by
  let cf : Nat → Rat := fun i => match c[i]? with | some x => x | none => 0
  let df : Nat → Rat := fun i => match d[i]? with | some x => x | none => 0
  have hc : ∀ i x, c[i]? = some x → cf i = x := by intro i x hx; simp only [cf, hx]
  have hd : ∀ i x, d[i]? = some x → df i = x := by intro i x hx; simp only [df, hx]
  unfold RawPalin
  rw [saba_step_moves S c d cf df hc hd hS l h]
  exact RV.Janus.alt_palindrome _ _ S (fun j hj => by rw [driftIdx_mirror S j hj])
    fun j hj => by rw [kickIdx_mirror S j hj]

end RV.C10S
