import RV.Proofs.TreeArrRelabel
/-
  The forest invariant `ForestOK` and the re-insertion of the eviction buffer at the end of the array
  (`addOne_spec`, `reinsertA_spec`).
-/
set_option linter.unusedSectionVars false
namespace RV.C15
open RV RV.Tree RV.Boundary RV.TreeArr

variable {K : Type} [Field K] [LinearOrder K] [IsStrictOrderedRing K] {α : Type}

/-- the forest invariant: every root tree is well formed in its root cell and the leaves of all trees together hold
    every array index exactly once -/
def ForestOK (ps : Nat → Pt K) (rc : Nat → Cell K) (forest : List (T K)) (n : Nat) : Prop :=
  (∀ r (h : r < forest.length), WF ps false (rc r) forest[r]) ∧
  List.Perm (forest.flatMap leaves) (List.range n)

theorem psOf_append_left (pos : α → Pt K) (arr : List α) (p : α) (i : Nat) (h : i < arr.length) :
    psOf pos (arr ++ [p]) i = psOf pos arr i := by
  simp [psOf, List.getElem?_append_left h]

theorem psOf_append_new (pos : α → Pt K) (arr : List α) (p : α) :
    psOf pos (arr ++ [p]) arr.length = pos p := by
  simp [psOf]

theorem flatMap_set_perm {β : Type} (l : List (T K)) (f : T K → List β) (r : Nat) (h : r < l.length) (t : T K)
    (new : List β) (ht : List.Perm (f t) (new ++ f l[r])) :
    List.Perm ((l.set r t).flatMap f) (new ++ l.flatMap f) := by
  have hs : l.set r t = l.take r ++ t :: l.drop (r + 1) := by
    rw [List.set_eq_take_append_cons_drop]; simp [h]
  have hl : l = l.take r ++ l[r] :: l.drop (r + 1) := by
    rw [← List.drop_eq_getElem_cons h, List.take_append_drop]
  rw [hs]
  conv_rhs => rw [hl]
  simp only [List.flatMap_append, List.flatMap_cons]
  refine (List.Perm.append_left _ (List.Perm.append_right _ ht)).trans ?_
  simp only [List.append_assoc]
  rw [← List.append_assoc, ← List.append_assoc new]
  apply List.Perm.append_right
  exact List.perm_append_comm

/-- one `reb_simulation_add` of a buffered particle -/
theorem addOne_spec (pos : α → Pt K) (inBox : α → Bool) (ri : Pt K → Nat) (rc : Nat → Cell K) (fuel : Nat)
    (forest : List (T K)) (arr : List α) (p : α) (forest' : List (T K)) (arr' : List α)
    (hok : ForestOK (psOf pos arr) rc forest arr.length)
    (hin : inBox p = true) (hr : ri (pos p) < forest.length) (hc : In (pos p) (rc (ri (pos p))))
    (h : addOne pos inBox ri rc fuel (forest, arr) p = .ok (forest', arr')) :
    arr' = arr ++ [p] ∧ forest'.length = forest.length ∧ ForestOK (psOf pos arr') rc forest' arr'.length := by
  obtain ⟨hwf, hperm⟩ := hok
  have hlt : ∀ r (h : r < forest.length), ∀ q ∈ leaves forest[r], q < arr.length := by
    intro r hr q hq
    have : q ∈ forest.flatMap leaves := List.mem_flatMap.mpr ⟨forest[r], List.getElem_mem hr, hq⟩
    exact List.mem_range.mp (hperm.mem_iff.mp this)
  have hwf' : ∀ r (h : r < forest.length), WF (psOf pos (arr ++ [p])) false (rc r) forest[r] := by
    intro r hr
    exact WF_congr _ _ false _ _ (hwf r hr) (fun q hq => psOf_append_left pos arr p q (hlt r hr q hq))
  simp only [addOne, hin, Bool.not_true, Bool.false_eq_true, if_false] at h
  have hgd : forest.getD (ri (pos p)) T.nil = forest[ri (pos p)] := by
    simp [List.getD_eq_getElem?_getD, hr]
  rw [hgd] at h
  cases ha : add (psOf pos (arr ++ [p])) fuel forest[ri (pos p)] (rc (ri (pos p))) arr.length with
  | error e => simp [ha] at h
  | ok t =>
    simp only [ha, Except.ok.injEq, Prod.mk.injEq] at h
    obtain ⟨hf, harr⟩ := h
    subst hf harr
    have hnew : In (psOf pos (arr ++ [p]) arr.length) (rc (ri (pos p))) := by
      rw [psOf_append_new]; exact hc
    obtain ⟨hwt, hpt⟩ := add_spec _ false fuel _ _ _ t (hwf' _ hr) hnew ha
    refine ⟨rfl, by simp, ?_, ?_⟩
    · intro r hr'
      simp only [List.length_set] at hr'
      rw [List.getElem_set]
      by_cases e : ri (pos p) = r
      · subst e; simp only [if_true]; exact hwt
      · simp only [e, if_false]; exact hwf' r hr'
    · have := flatMap_set_perm forest leaves _ hr t [arr.length] (by simpa using hpt)
      refine this.trans ?_
      simp only [List.length_append, List.length_singleton, List.range_succ, List.singleton_append]
      exact (List.Perm.cons _ hperm).trans (List.perm_append_singleton _ _).symm

/-- the loop `for(i<N_reinsert) reb_simulation_add(r, reinsert[i])` -/
theorem reinsertA_spec (pos : α → Pt K) (inBox : α → Bool) (ri : Pt K → Nat) (rc : Nat → Cell K) (fuel : Nat) :
    ∀ (ev : List α) (forest : List (T K)) (arr : List α) (forest' : List (T K)) (arr' : List α),
    ForestOK (psOf pos arr) rc forest arr.length →
    (∀ p ∈ ev, inBox p = true ∧ ri (pos p) < forest.length ∧ In (pos p) (rc (ri (pos p)))) →
    ev.foldlM (addOne pos inBox ri rc fuel) (forest, arr) = .ok (forest', arr') →
    arr' = arr ++ ev ∧ forest'.length = forest.length ∧ ForestOK (psOf pos arr') rc forest' arr'.length := by
  intro ev
  induction ev with
  | nil =>
    intro forest arr forest' arr' hok _ h
    simp [pure, Except.pure] at h
    obtain ⟨h1, h2⟩ := h
    subst h1 h2
    exact ⟨by simp, rfl, hok⟩
  | cons p ev ih =>
    intro forest arr forest' arr' hok hev h
    simp only [List.foldlM_cons] at h
    cases h1 : addOne pos inBox ri rc fuel (forest, arr) p with
    | error e => simp [h1, bind, Except.bind] at h
    | ok s1 =>
      obtain ⟨f1, a1⟩ := s1
      simp only [h1, bind, Except.bind] at h
      obtain ⟨hp1, hp2, hp3⟩ := hev p (by simp)
      obtain ⟨ha1, hl1, hok1⟩ := addOne_spec pos inBox ri rc fuel forest arr p f1 a1 hok hp1 hp2 hp3 h1
      obtain ⟨ha2, hl2, hok2⟩ := ih f1 a1 forest' arr' hok1
        (fun q hq => by rw [hl1]; exact hev q (by simp [hq])) h
      refine ⟨by rw [ha2, ha1]; simp, by rw [hl2, hl1], hok2⟩

end RV.C15
