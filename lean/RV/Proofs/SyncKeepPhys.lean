import RV.Proofs.SyncPhys
/-
  C09: physics of a WHFast run with keep_unsynchronized = 1, safe_mode = 0, in which the
  recalculate flag is set while the run is unsynchronised — what `reb_simulation_step` does around
  every pre/post timestep callback (synchronize → callback → recalculate flags) — for the repaired
  part1 (`Config.p1fix`, 35adc5c: `is_synchronized = 1` after `from_inertial`).
  Callbacks that do not edit particles: the run + a final synchronize shows what safe mode shows.
  (Edits themselves are discarded under keep_unsynchronized: part1's nested synchronize regenerates
  the particles from `p_jh` before `from_inertial` reads them — documented meaning of the flag.)
-/
set_option linter.unusedSectionVars false
namespace RV.Sync
variable {T PJ X V A : Type}

@[simp] theorem mode_p1fix (c : Config) (a b : Bool) : (c.mode a b).p1fix = c.p1fix := rfl

def Op.noEdit {Y} : Op Y → Bool | .poke _ => false | _ => true

/-- relation between the keep_unsynchronized run `u` and the safe run `v` (steps only) -/
inductive KInv (S : Sem T PJ X V A) (c : Config) :
    Flags × St PJ X V A → Flags × St PJ X V A → Prop
  | fresh (u v) : u.2 = v.2 → initF u.1 = ⟨true, true, true⟩ → initF v.1 = ⟨true, true, true⟩ → KInv S c u v
  /-- half a drift behind; the recalculate flag may be set (callback), the particles may or may not
      have been regenerated by a synchronize -/
  | unsync (u v) (r : Bool) : u.1 = ⟨false, r, true⟩ → v.1 = ⟨true, false, true⟩ →
      v.2.pj = (exec S (syncMid c) u.2).pj → v.2.pos = S.toIpos v.2.pj → v.2.vel = S.toIvel v.2.pj →
      KInv S c u v

theorem syncOps_keep_unsync (c : Config) (r : Bool) :
    syncOps (c.mode false true) ⟨false, r, true⟩ =
      ([.init] ++ (([.savePJ] ++ syncMid c) ++ [.restorePJ]), ⟨false, r, true⟩) := by
  rw [syncOps_unsync _ _ (by simp [initF])]
  simp [initF]

/-- recalculating while unsynchronised with keep_unsynchronized: nested synchronize (cache, sync,
    restore), warning, `from_inertial`, and then — repaired source — the *first-half* drift -/
theorem stepOps_keep_recalc (c : Config) (hp : c.p1fix = true) :
    stepOps (c.mode false true) ⟨false, true, true⟩ =
      ([.init] ++ ([.init] ++ (([.savePJ] ++ syncMid c) ++ [.restorePJ])) ++ [.warn, .fromInertial] ++
        driftOps c true ++ stepTail c ++ [.advT (.frac 1 2)], ⟨false, false, true⟩) := by
  rw [stepOps_unsafe _ rfl _ rfl, syncOps_keep_unsync]; simp [hp]

/-- as found: the merged full drift is applied to the freshly recalculated coordinates -/
theorem stepOps_keep_recalc_as_found (c : Config) (hp : c.p1fix = false) :
    stepOps (c.mode false true) ⟨false, true, true⟩ =
      ([.init] ++ ([.init] ++ (([.savePJ] ++ syncMid c) ++ [.restorePJ])) ++ [.warn, .fromInertial] ++
        driftOps c false ++ stepTail c ++ [.advT (.frac 1 2)], ⟨false, false, true⟩) := by
  rw [stepOps_unsafe _ rfl _ rfl, syncOps_keep_unsync]; simp [hp]

section
variable [AddCommGroup T]

/-- state after the nested synchronize + `from_inertial` of a recalculating step -/
theorem keep_recalc_head (S : Sem T PJ X V A) (c : Config)
    (hfrom : ∀ p q, S.fromI (S.toIpos p) (S.toIvel p) q = p) (s : St PJ X V A) :
    (exec S ([.init] ++ ([.init] ++ (([.savePJ] ++ syncMid c) ++ [.restorePJ])) ++ [.warn, .fromInertial]) s).pj =
      (exec S (syncMid c) s).pj := by
  have e : exec S ([.init] ++ ([.init] ++ (([.savePJ] ++ syncMid c) ++ [.restorePJ])) ++ [.warn, .fromInertial]) s =
      denote S .fromInertial (denote S .restorePJ (exec S (syncMid c) (denote S .savePJ s))) := by
    simp only [exec_append]; rfl
  rw [e]
  generalize hs' : denote S .savePJ s = s'
  have hp := syncMid_pos S c s'
  have hj : (exec S (syncMid c) s').pj = (exec S (syncMid c) s).pj :=
    closed_pj_congr S (closed_syncMid c) (by rw [← hs']; rfl)
  have hsv : (exec S (syncMid c) s').saved = s.pj := by
    rw [exec_saved S _ (savePJ_not_mem_syncMid c), ← hs']; rfl
  show S.fromI (exec S (syncMid c) s').pos (exec S (syncMid c) s').vel (exec S (syncMid c) s').saved = _
  rw [hp.1, hp.2, hfrom, hj]

theorem kinv_join (S : Sem T PJ X V A) (c : Config) {a b : St PJ X V A} (h : a.pj = b.pj) :
    KInv S c (⟨false, false, true⟩, exec S (stepTail c) a)
      (⟨true, false, true⟩, exec S (syncMid c) (exec S (stepTail c) b)) :=
  let ⟨h3, h4, h5⟩ := step_join S c h
  .unsync _ _ false rfl rfl h3 h4 h5

theorem kinv_step {S : Sem T PJ X V A} (L : Laws S) (c : Config) (hp : c.p1fix = true)
    (hfrom : ∀ p q, S.fromI (S.toIpos p) (S.toIvel p) q = p)
    (hC : InverseOn S (corrBlk c)) (hC2 : InverseOn S (c2Blk c))
    {u v : Flags × St PJ X V A} (h : KInv S c u v) :
    KInv S c (apply S (c.mode false true) .step u) (apply S (c.mode true false) .step v) := by
  cases h with
  | fresh h1 h2 h3 =>
    rw [← apply_step_initF S _ u, ← apply_step_initF S _ v, apply_step_unsafe_recalc S c _ _ h2,
      apply_step_safe S c _ _ h3, h1]
    exact kinv_join S c rfl
  | unsync r h1 h2 h3 h4 h5 =>
    have hw : (denote S .fromInertial v.2).pj = (exec S (syncMid c) u.2).pj := by
      show S.fromI v.2.pos v.2.vel v.2.pj = _
      rw [h4, h5, L.from_to, h3]
    rw [apply_step_safe S c v _ h2]
    cases r with
    | false =>
      rw [apply_step_unsafe S c _ u _ h1]
      exact kinv_join S c (merge_drifts L c hC hC2 u.2 _ hw).symm
    | true =>
      rw [apply_step, h1, stepOps_keep_recalc c hp]
      simp only [exec_append _ _ [Prim.advT _], exec_append _ _ (stepTail c), exec_append _ _ (driftOps c true)]
      exact kinv_join S c (closed_pj_congr S (closed_driftOps c true)
        ((keep_recalc_head S c hfrom u.2).trans hw.symm))

theorem kinv_sync (S : Sem T PJ X V A) (c : Config) {u v : Flags × St PJ X V A} (h : KInv S c u v) :
    KInv S c (apply S (c.mode false true) .synchronize u) v := by
  rw [apply_sync]
  cases h with
  | fresh h1 h2 h3 =>
    have hs : (initF u.1).isSync = true := by rw [h2]
    rw [syncOps_sync _ _ hs]
    exact KInv.fresh _ _ h1 (by rw [initF_idem]; exact h2) h3
  | unsync r h1 h2 h3 h4 h5 =>
    have hpj := exec_sync_keep_pj S (c.mode false true) rfl u.1 u.2
    refine KInv.unsync _ _ r ?_ h2 ?_ h4 h5
    · show (syncOps (c.mode false true) u.1).2 = _
      rw [h1, syncOps_keep_unsync]
    · rw [h3]
      exact (closed_pj_congr S (closed_syncMid c) hpj).symm

theorem kinv_setRecalc (S : Sem T PJ X V A) (c : Config) {u v : Flags × St PJ X V A} (h : KInv S c u v) :
    KInv S c (apply S (c.mode false true) .setRecalc u) v := by
  cases h with
  | fresh h1 h2 h3 =>
    refine KInv.fresh _ _ h1 ?_ h3
    show initF { u.1 with recalc := true } = _
    rw [initF_setRecalc, h2]
  | unsync r h1 h2 h3 h4 h5 =>
    refine KInv.unsync _ _ true ?_ h2 h3 h4 h5
    show ({ u.1 with recalc := true } : Flags) = _
    rw [h1]

theorem kinv_run {S : Sem T PJ X V A} (L : Laws S) (c : Config) (hp : c.p1fix = true)
    (hfrom : ∀ p q, S.fromI (S.toIpos p) (S.toIvel p) q = p)
    (hC : InverseOn S (corrBlk c)) (hC2 : InverseOn S (c2Blk c))
    (σ : List (Op (X × V))) (hσ : ∀ o ∈ σ, o.noEdit = true) (u v : Flags × St PJ X V A)
    (h : KInv S c u v) :
    KInv S c (run S (c.mode false true) σ u) (run S (c.mode true false) (σ.filter Op.isStep) v) :=
  run_filter_sim (apply S (c.mode false true)) (apply S (c.mode true false)) (fun o u v ho h => by
    cases o with
    | step => exact kinv_step L c hp hfrom hC hC2 h
    | synchronize => exact kinv_sync S c h
    | read => exact h
    | setRecalc => exact kinv_setRecalc S c h
    | poke _ => cases ho) σ hσ u v h

/-- what the user sees after a final synchronize (keep_unsynchronized: `p_jh` is not touched) -/
theorem kinv_final (S : Sem T PJ X V A) (c : Config) {u v : Flags × St PJ X V A} (h : KInv S c u v) :
    (apply S (c.mode false true) .synchronize u).2.pos = v.2.pos ∧
    (apply S (c.mode false true) .synchronize u).2.vel = v.2.vel := by
  rw [apply_sync]
  cases h with
  | fresh h1 h2 h3 =>
    have hs : (initF u.1).isSync = true := by rw [h2]
    rw [syncOps_sync _ _ hs, ← h1]; exact ⟨rfl, rfl⟩
  | unsync r h1 h2 h3 h4 h5 =>
    rw [h1, syncOps_keep_unsync]
    have e : exec S ([Prim.init] ++ (([Prim.savePJ] ++ syncMid c) ++ [Prim.restorePJ])) u.2 =
        denote S .restorePJ (exec S (syncMid c) (denote S .savePJ u.2)) := by
      simp only [exec_append]; rfl
    have hj : (exec S (syncMid c) (denote S .savePJ u.2)).pj = (exec S (syncMid c) u.2).pj :=
      closed_pj_congr S (closed_syncMid c) rfl
    have hq := syncMid_pos S c (denote S .savePJ u.2)
    simp only [e]
    refine ⟨?_, ?_⟩
    · show (exec S (syncMid c) (denote S .savePJ u.2)).pos = _
      rw [hq.1, hj, ← h3, h4]
    · show (exec S (syncMid c) (denote S .savePJ u.2)).vel = _
      rw [hq.2, hj, ← h3, h5]

end
end RV.Sync
