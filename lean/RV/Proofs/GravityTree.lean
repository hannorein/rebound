import RV.Proofs.GravityLaws
import Mathlib.Algebra.Order.Field.Basic
/-
  The Barnes-Hut walk (gravity.c:1435-1487) when every visited cell is opened (opening
  angle 0): the walk visits every leaf exactly once, so it adds the sum over the leaves of
  the tree, minus the particle's own leaf.
-/
set_option linter.unusedSectionVars false
namespace RV.Gravity
open RV
variable {K : Type} [Field K]

/-- a leaf as the walk sees it: particle index, remote flag, mass, position -/
structure Leaf (K : Type) where
  pt : Nat
  remote : Bool
  m : K
  pos : V3 K

mutual
/-- the leaves below a cell, in walk order -/
def leaves : Cell K → List (Leaf K)
  | .leaf p r m c => [⟨p, r, m, c⟩]
  | .node _ _ _ kids => leavesL kids
def leavesL : List (Cell K) → List (Leaf K)
  | [] => []
  | c :: cs => leaves c ++ leavesL cs
end

mutual
/-- every non-leaf cell met by the walk from `gb` passes the opening test -/
def opensAll (gt : K → K → Bool) (theta2 : K) (gb : V3 K) : Cell K → Bool
  | .leaf _ _ _ _ => true
  | .node w _ com kids =>
    gt (w * w) (theta2 * ((gb.x - com.x) * (gb.x - com.x) + (gb.y - com.y) * (gb.y - com.y)
      + (gb.z - com.z) * (gb.z - com.z))) && opensAllL gt theta2 gb kids
def opensAllL (gt : K → K → Bool) (theta2 : K) (gb : V3 K) : List (Cell K) → Bool
  | [] => true
  | c :: cs => opensAll gt theta2 gb c && opensAllL gt theta2 gb cs
end

/-- what one leaf adds to particle `pt` seen from `gb`:
    `(starPref(|d|²+ε²)·m)·d`, `d = gb - pos`; nothing for the particle's own (local) leaf -/
def leafTerm (starPref : K → K) (soft2 : K) (pt : Nat) (gb : V3 K) (l : Leaf K) : V3 K :=
  if !l.remote && l.pt == pt then 0
  else (starPref (((gb - l.pos).x * (gb - l.pos).x + (gb - l.pos).y * (gb - l.pos).y
      + (gb - l.pos).z * (gb - l.pos).z) + soft2) * l.m) • (gb - l.pos)

mutual
theorem walk_open (starPref : K → K) (gt : K → K → Bool) (soft2 theta2 : K) (pt : Nat) (gb : V3 K) :
    ∀ (c : Cell K) (a : V3 K), opensAll gt theta2 gb c = true →
      walk starPref gt soft2 theta2 pt gb c a
        = a + ((leaves c).map (leafTerm starPref soft2 pt gb)).sum
  | .leaf p r m com, a, _ => by
    simp only [walk, leaves, List.map_cons, List.map_nil, List.sum_cons, List.sum_nil, add_zero, leafTerm]
    by_cases h : (!r && p == pt) = true
    · simp [h]
    · simp only [h, if_false, Bool.false_eq_true, sc_hadd, sc_hsub, sc_hmul]
      ext <;> simp
  | .node w m com kids, a, h => by
    simp only [opensAll, Bool.and_eq_true] at h
    simp only [walk, leaves, sc_hsub, sc_hmul, sc_hadd, h.1, if_true]
    exact walkList_open starPref gt soft2 theta2 pt gb kids a h.2
theorem walkList_open (starPref : K → K) (gt : K → K → Bool) (soft2 theta2 : K) (pt : Nat) (gb : V3 K) :
    ∀ (cs : List (Cell K)) (a : V3 K), opensAllL gt theta2 gb cs = true →
      walkList starPref gt soft2 theta2 pt gb cs a
        = a + ((leavesL cs).map (leafTerm starPref soft2 pt gb)).sum
  | [], a, _ => by simp [walkList, leavesL]
  | c :: cs, a, h => by
    simp only [opensAllL, Bool.and_eq_true] at h
    simp only [walkList, leavesL, List.map_append, List.sum_append]
    rw [walkList_open starPref gt soft2 theta2 pt gb cs _ h.2,
      walk_open starPref gt soft2 theta2 pt gb c a h.1, add_assoc]
end

/-- TREE case of `reb_calculate_acceleration` when every cell is opened: slot `k` holds the sum
    over ghost boxes and over all leaves (except the particle's own) of the leaf terms -/
theorem accTree_get (starPref : K → K) (gt : K → K → Bool) (soft theta2 : K) (ghosts : List (V3 K))
    (roots : List (Cell K)) {N : Nat} (m : Nat → K) (x : Nat → V3 K)
    (hopen : ∀ gb ∈ ghosts, ∀ i, i < N → opensAllL gt theta2 (gb + x i) roots = true)
    {k : Nat} (hk : k < N) :
    (accTree starPref gt soft theta2 ghosts roots (mkPs N m x))[k]?
      = some ((ghosts.map fun gb =>
          ((leavesL roots).map (leafTerm starPref (soft * soft) k (gb + x k))).sum).sum) := by
  have hbox : ∀ gb ∈ ghosts, Additive (fun acc => forRange 0 N acc fun acc i =>
      match (mkPs N m x)[i]? with
      | some p =>
        acc.modify i fun a => walkList starPref gt (soft * soft) theta2 i
          ⟨gb.x + p.p.x, gb.y + p.p.y, gb.z + p.p.z⟩ roots a
      | none => acc)
      (fun k => ∑ i ∈ Finset.Ico 0 N, if i = k then
        ((leavesL roots).map (leafTerm starPref (soft * soft) i (gb + x i))).sum else 0) := by
    intro gb hgb
    apply additive_forRange
    intro i _ hi
    have e : (⟨gb.x + (x i).x, gb.y + (x i).y, gb.z + (x i).z⟩ : V3 K) = gb + x i := by ext <;> simp
    simp only [mkPs_get m x hi, e]
    apply additive_modify
    intro a
    exact walkList_open starPref gt (soft * soft) theta2 i (gb + x i) roots a (hopen gb hgb i hi)
  have h := additive_foldl ghosts (fun acc gb => forRange 0 N acc fun acc i =>
      match (mkPs N m x)[i]? with
      | some p =>
        acc.modify i fun a => walkList starPref gt (soft * soft) theta2 i
          ⟨gb.x + p.p.x, gb.y + p.p.y, gb.z + p.p.z⟩ roots a
      | none => acc) _ hbox
  have key : (accTree starPref gt soft theta2 ghosts roots (mkPs N m x))[k]?
      = some ((ghosts.map fun gb => ∑ i ∈ Finset.Ico 0 N, if i = k then
        ((leavesL roots).map (leafTerm starPref (soft * soft) i (gb + x i))).sum else 0).sum) := by
    have := additive_from_zero h N k hk
    simp only [accTree, mkPs_size, sc_hmul, sc_hadd]
    exact this
  rw [key]
  congr 2
  apply List.map_congr_left
  intro gb _
  rw [Finset.sum_ite_eq']
  simp [hk]

/-- if moreover the leaves of the tree are exactly the particles (each once, local), the tree
    force at opening angle 0 is the direct sum over all other particles and all ghost boxes -/
theorem accTree_direct (starPref : K → K) (gt : K → K → Bool) (soft theta2 : K) (ghosts : List (V3 K))
    (roots : List (Cell K)) {N : Nat} (m : Nat → K) (x : Nat → V3 K)
    (hopen : ∀ gb ∈ ghosts, ∀ i, i < N → opensAllL gt theta2 (gb + x i) roots = true)
    (hleaves : (leavesL roots).Perm ((List.range N).map fun j => (⟨j, false, m j, x j⟩ : Leaf K)))
    {k : Nat} (hk : k < N) :
    (accTree starPref gt soft theta2 ghosts roots (mkPs N m x))[k]?
      = some ((ghosts.map fun gb => ∑ j ∈ Finset.range N,
          if Src N false 0 k j then force (fun s _ _ => -starPref s) (soft * soft) m x gb k j else 0).sum) := by
  rw [accTree_get starPref gt soft theta2 ghosts roots m x hopen hk]
  congr 2
  apply List.map_congr_left
  intro gb _
  rw [(hleaves.map (leafTerm starPref (soft * soft) k (gb + x k))).sum_eq, List.map_map]
  have e1 : ∀ f : Nat → V3 K, ((List.range N).map f).sum = ∑ t ∈ Finset.range N, f t := fun f => rfl
  rw [e1]
  apply Finset.sum_congr rfl
  intro j hj
  have hj' := Finset.mem_range.mp hj
  simp only [Function.comp, leafTerm, Bool.not_false, Bool.true_and, beq_iff_eq, force, roleI, neg_neg, s2, dvec]
  by_cases hjk : j = k
  · simp [hjk, Src]
  · have : Src N false 0 k j := by unfold Src; simp [hjk, hj']
    simp [hjk, this]


/-! ### opening angle 0 over an ordered field: every cell of non-zero width is opened -/
section ordered
variable {F : Type} [Field F] [LinearOrder F] [IsStrictOrderedRing F]

mutual
/-- every non-leaf cell has a non-zero width -/
def widthsNZ : Cell F → Prop
  | .leaf _ _ _ _ => True
  | .node w _ _ kids => w ≠ 0 ∧ widthsNZL kids
def widthsNZL : List (Cell F) → Prop
  | [] => True
  | c :: cs => widthsNZ c ∧ widthsNZL cs
end

mutual
theorem opensAll_theta0 (gb : V3 F) : ∀ (c : Cell F), widthsNZ c →
    opensAll (fun a b => decide (a > b)) 0 gb c = true
  | .leaf _ _ _ _, _ => by simp [opensAll]
  | .node w m com kids, h => by
    simp only [widthsNZ] at h
    simp only [opensAll, zero_mul, Bool.and_eq_true, decide_eq_true_eq]
    exact ⟨mul_self_pos.mpr h.1, opensAllL_theta0 gb kids h.2⟩
theorem opensAllL_theta0 (gb : V3 F) : ∀ (cs : List (Cell F)), widthsNZL cs →
    opensAllL (fun a b => decide (a > b)) 0 gb cs = true
  | [], _ => by simp [opensAllL]
  | c :: cs, h => by
    simp only [widthsNZL] at h
    simp only [opensAllL, Bool.and_eq_true]
    exact ⟨opensAll_theta0 gb c h.1, opensAllL_theta0 gb cs h.2⟩
end
end ordered

end RV.Gravity
