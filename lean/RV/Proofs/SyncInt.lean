import RV.Proofs.Sync
/-
  C09: `reb_simulation_integrate` assigns `dt` only in a synchronised state (`dtOk_plan`), and every
  particle edit made by a step callback is seen synchronised and picked up (`editOk_expand`).
-/
namespace RV.Sync
variable {F : Type}

theorem dtOk_steps (stepF syncF forceF : F → F) (isS : F → Bool) (n : Nat) (rest : List DtOp)
    (h : ∀ g, dtOk stepF syncF forceF isS rest g = true) (f : F) :
    dtOk stepF syncF forceF isS (List.replicate n (DtOp.api .step) ++ rest) f = true := by
  induction n generalizing f with
  | zero => exact h f
  | succ n ih => simp only [List.replicate_succ, List.cons_append, dtOk]; exact ih _

/-- the flag transition of the synchronize that precedes an assignment to `dt` -/
def preF (syncF forceF : F → F) (force : Bool) : F → F := if force then forceF else syncF

theorem dtOk_syncBefore (stepF syncF forceF : F → F) (isS : F → Bool) (force : Bool) (r : List DtOp) (f : F) :
    dtOk stepF syncF forceF isS (syncBeforeDt force :: r) f =
      dtOk stepF syncF forceF isS r (preF syncF forceF force f) := by
  cases force <;> rfl

theorem dtOk_final (stepF syncF forceF : F → F) (isS : F → Bool) (force : Bool)
    (hs : force = false → ∀ f, isS (syncF f) = true) (hp : ∀ f, isS (preF syncF forceF force f) = true)
    (exact rc : Bool) (g : F) :
    dtOk stepF syncF forceF isS (finalBlock force exact rc) g = true := by
  unfold finalBlock
  cases force
  · cases exact <;> cases rc <;> simp [dtOk, hs rfl]
  · have hf : ∀ f, isS (forceF f) = true := hp
    cases exact <;> cases rc <;> simp [dtOk, hf]

theorem dtOk_tail (stepF syncF forceF : F → F) (isS : F → Bool) (force : Bool)
    (hs : force = false → ∀ f, isS (syncF f) = true) (hp : ∀ f, isS (preF syncF forceF force f) = true)
    (k : Nat) (exact rc : Bool) (g : F) :
    dtOk stepF syncF forceF isS (lastStepBlock force k ++ finalBlock force exact rc) g = true := by
  induction k generalizing g with
  | zero => exact dtOk_final stepF syncF forceF isS force hs hp exact rc g
  | succ k ih =>
    simp only [lastStepBlock, List.cons_append, List.nil_append, dtOk_syncBefore,
      dtOk, hp, Bool.true_and]
    exact ih _

/-- every assignment to `dt` made by `integrate` happens in a synchronised state, provided the
    synchronize that precedes it really synchronises (no keep_unsynchronized, or the forced
    variant) and the direction is not reversed on an unsynchronised simulation — or the entry
    synchronises first -/
theorem dtOk_plan (stepF syncF forceF : F → F) (isS : F → Bool) (force : Bool)
    (hs : force = false → ∀ f, isS (syncF f) = true) (hp : ∀ f, isS (preF syncF forceF force f) = true)
    (n k : Nat) (exact reverse syncFirst rc : Bool) (f : F)
    (h : reverse = true → syncFirst = true ∨ isS f = true) :
    dtOk stepF syncF forceF isS (integratePlan n k exact reverse syncFirst force rc) f = true := by
  unfold integratePlan
  have ht : ∀ g, dtOk stepF syncF forceF isS (List.replicate n (DtOp.api .step) ++ (lastStepBlock force k ++
      finalBlock force exact rc)) g = true := by
    intro g
    exact dtOk_steps stepF syncF forceF isS n _ (dtOk_tail stepF syncF forceF isS force hs hp k exact rc) g
  cases reverse
  · simp only [Bool.false_eq_true, if_false, List.cons_append, List.nil_append, List.append_assoc, dtOk]
    exact ht f
  · rcases h rfl with h1 | h1
    · subst h1
      simp only [if_true, List.cons_append, List.nil_append, List.append_assoc, dtOk_syncBefore, dtOk, hp,
        Bool.true_and]
      exact ht _
    · cases syncFirst
      · simp only [if_true, if_false, Bool.false_eq_true, List.cons_append, List.nil_append,
          List.append_assoc, dtOk]
        rw [h1, Bool.true_and]
        exact ht f
      · simp only [if_true, List.cons_append, List.nil_append, List.append_assoc, dtOk_syncBefore, dtOk, hp,
          Bool.true_and]
        exact ht _

theorem stepOps_unsafe_flags (c : Config) (hs : c.safe = false) (f : Flags) :
    (stepOps c f).2 = ⟨false, false, true⟩ := by
  rw [← stepOps_initF, stepOps_unsafe c hs _ (initF_allocated f)]

/-- flag transitions needed: synchronize synchronises and keeps a set recalculate flag of a
    synchronised state; setting the flag keeps the state synchronised -/
structure EditFlags (stepF syncF setF : F → F) (isS isR : F → Bool) : Prop where
  sync_isS : ∀ f, isS (syncF f) = true
  sync_isR : ∀ f, isS f = true → isR f = true → isR (syncF f) = true
  set_isS : ∀ f, isS f = true → isS (setF f) = true
  set_isR : ∀ f, isR (setF f) = true

theorem editOk_expand {X : Type} (stepF syncF setF : F → F) (isS isR : F → Bool)
    (H : EditFlags stepF syncF setF isS isR) (l : List (MOp X)) (rest : List (Op X)) (p : Bool) (f : F)
    (hp : p = true → isS f = true ∧ isR f = true)
    (hrest : ∀ p g, (p = true → isS g = true ∧ isR g = true) → editOk stepF syncF setF isS isR rest p g = true) :
    editOk stepF syncF setF isS isR (expandAll l ++ rest) p f = true := by
  induction l generalizing p f with
  | nil => exact hrest p f hp
  | cons m ms ih =>
    have step_ok : ∀ (tail : List (Op X)) (p : Bool) (g : F), (p = true → isS g = true ∧ isR g = true) →
        (∀ q h, (q = true → isS h = true ∧ isR h = true) → editOk stepF syncF setF isS isR tail q h = true) →
        editOk stepF syncF setF isS isR (Op.step :: tail) p g = true := by
      intro tail p g hg ht
      simp only [editOk, Bool.and_eq_true, Bool.or_eq_true, Bool.not_eq_true']
      refine ⟨?_, ht false _ (fun h => by cases h)⟩
      cases p
      · exact Or.inl rfl
      · exact Or.inr (hg rfl)
    have edit_ok : ∀ (w : X) (tail : List (Op X)) (p : Bool) (g : F),
        (∀ q h, (q = true → isS h = true ∧ isR h = true) → editOk stepF syncF setF isS isR tail q h = true) →
        editOk stepF syncF setF isS isR (Op.synchronize :: Op.poke w :: Op.setRecalc :: tail) p g = true := by
      intro w tail p g ht
      simp only [editOk, H.sync_isS, Bool.true_and]
      exact ht true _ (fun _ => ⟨H.set_isS _ (H.sync_isS g), H.set_isR _⟩)
    show editOk stepF syncF setF isS isR (m.expand ++ expandAll ms ++ rest) p f = true
    cases m with
    | synchronize =>
      simp only [MOp.expand, List.cons_append, List.nil_append, editOk]
      apply ih
      intro hp'
      have := hp hp'
      exact ⟨H.sync_isS f, H.sync_isR f this.1 this.2⟩
    | read =>
      simp only [MOp.expand, List.cons_append, List.nil_append, editOk]
      exact ih p f hp
    | cbStep pre post =>
      have hpost : ∀ q h, (q = true → isS h = true ∧ isR h = true) →
          editOk stepF syncF setF isS isR ((match post with | some w => [Op.synchronize, .poke w, .setRecalc] | none => []) ++
            (expandAll ms ++ rest)) q h = true := by
        intro q h hq
        cases post with
        | none => simpa using ih q h hq
        | some w => exact edit_ok w _ q h (fun q' h' hq' => ih q' h' hq')
      cases pre with
      | none =>
        simp only [MOp.expand, cbStepPlan, List.nil_append, List.cons_append, List.append_assoc]
        exact step_ok _ p f hp hpost
      | some w =>
        simp only [MOp.expand, cbStepPlan, List.cons_append, List.nil_append, List.append_assoc]
        exact edit_ok w _ p f (fun q h hq => step_ok _ q h hq hpost)

end RV.Sync
