import Mathlib.Data.List.Basic
import Mathlib.Data.List.Nodup
import Mathlib.Data.List.Perm.Basic
import RV.Model.Collision
/-
  Index fix-ups of the post-search driver (DESIGN appendix A4): helper definitions and
  lemmas for RV/Props/C13.lean.

  Every particle carries an identity `ident p : ι`.  `denote l p` is the identity that the
  C index `p` names in the identity list `l` of the current particle array.
-/
set_option linter.unusedSimpArgs false
namespace RV.Collision
variable {α G ι : Type}

/-- identity named by the C index `p` (none when out of range) -/
def denote (l : List ι) (p : Int) : Option ι := if p < 0 then none else l[p.toNat]?

theorem denote_nat (l : List ι) (p : Nat) : denote l (p : Int) = l[p]? := by
  have : ¬ ((p : Int) < 0) := by omega
  simp [denote, this]

theorem denote_some {l : List ι} {p : Int} {a : ι} (h : denote l p = some a) :
    ∃ n : Nat, p = n ∧ n < l.length ∧ l[n]? = some a := by
  unfold denote at h
  split at h
  · cases h
  · rename_i hp
    refine ⟨p.toNat, by omega, ?_, h⟩
    exact (List.getElem?_eq_some_iff.mp h).1

theorem denote_neg1 (l : List ι) : denote l (-1) = none := by simp [denote]

/-- the particle array after `reb_simulation_remove_particle(index=i)` without a tree:
    shift down (keep_sorted) or move the last particle into the hole -/
def rmList {β : Type} (ks : Bool) (l : List β) (i : Nat) : List β :=
  if ks then l.eraseIdx i
  else match l.getLast? with
    | none => l
    | some z => (l.set i z).dropLast

/-- the index arithmetic applied to a surviving index `p` after particle `idx` was removed -/
def fixIdx (ks : Bool) (idx nNew p : Int) : Int :=
  if ks then (if p > idx then p - 1 else p) else (if p == nNew then idx else p)

theorem rmList_map {β γ : Type} (f : β → γ) (ks : Bool) (l : List β) (i : Nat) :
    (rmList ks l i).map f = rmList ks (l.map f) i := by
  unfold rmList
  cases ks
  · simp only [Bool.false_eq_true, if_false, List.getLast?_map]
    cases h : l.getLast? with
    | none => simp
    | some z => simp [List.map_set, List.map_dropLast]
  · simp [List.eraseIdx_map]

theorem rmList_length {β : Type} (ks : Bool) (l : List β) (i : Nat) (hi : i < l.length) :
    (rmList ks l i).length = l.length - 1 := by
  unfold rmList
  cases ks
  · simp only [Bool.false_eq_true, if_false]
    cases h : l.getLast? with
    | none => simp [List.getLast?_eq_none_iff] at h; subst h; simp at hi
    | some z => simp
  · simp [List.length_eraseIdx, hi]

/-- A4: a surviving index, corrected by the code's arithmetic, names the same identity in the
    new array as before (both removal modes) -/
theorem rmList_getElem? (ks : Bool) (l : List ι) (i p : Nat) (hi : i < l.length)
    (hp : p < l.length) (hne : p ≠ i) :
    denote (rmList ks l i) (fixIdx ks (i : Int) ((l.length : Int) - 1) (p : Int)) = l[p]? := by
  unfold rmList fixIdx
  cases ks
  · simp only [Bool.false_eq_true, if_false]
    have hlast : l.getLast? = l[l.length - 1]? := List.getLast?_eq_getElem?
    have hl1 : l.length - 1 < l.length := by omega
    rw [hlast, List.getElem?_eq_getElem hl1]
    simp only
    by_cases hpl : p = l.length - 1
    · have : ((p : Int) == (l.length : Int) - 1) = true := by simp; omega
      rw [this]; simp only [if_true]
      rw [denote_nat, List.getElem?_dropLast, List.length_set, List.getElem?_set]
      have h1 : i < l.length - 1 := by omega
      simp [h1, hi, hpl]
    · have : ((p : Int) == (l.length : Int) - 1) = false := by simp; omega
      rw [this]; simp only [Bool.false_eq_true, if_false]
      rw [denote_nat, List.getElem?_dropLast, List.length_set, List.getElem?_set]
      have h1 : p < l.length - 1 := by omega
      have h2 : ¬ i = p := fun h => hne h.symm
      simp [h1, h2]
  · simp only [if_true]
    by_cases hgt : p > i
    · have : ((p : Int) > (i : Int)) := by omega
      simp only [this, if_true]
      have e : (p : Int) - 1 = ((p - 1 : Nat) : Int) := by omega
      rw [e, denote_nat, List.getElem?_eraseIdx]
      have h1 : ¬ (p - 1 < i) := by omega
      have h2 : p - 1 + 1 = p := by omega
      simp [h1, h2]
    · have : ¬ ((p : Int) > (i : Int)) := by omega
      simp only [this, if_false]
      rw [denote_nat, List.getElem?_eraseIdx]
      have h1 : p < i := by omega
      simp [h1]

theorem rmList_perm_erase [DecidableEq ι] (ks : Bool) (l : List ι) (i : Nat) (hi : i < l.length)
    (hn : l.Nodup) : (rmList ks l i).Perm (l.erase l[i]) := by
  rw [hn.erase_getElem i hi]
  unfold rmList
  cases ks
  · simp only [Bool.false_eq_true, if_false]
    have hne : l ≠ [] := by intro h; subst h; simp at hi
    have hlast : l.getLast? = some (l.getLast hne) := List.getLast?_eq_some_getLast hne
    rw [hlast]
    simp only
    -- l = d ++ [z]
    have hd := List.dropLast_concat_getLast hne
    generalize l.getLast hne = z at *
    generalize hdd : l.dropLast = d at *
    subst hd
    by_cases hid : i < d.length
    · rw [List.set_append_left _ _ hid, List.dropLast_concat, List.eraseIdx_append_of_lt_length hid]
      rw [List.set_eq_take_append_cons_drop, if_pos hid, List.eraseIdx_eq_take_drop_succ]
      have : (List.take i d ++ z :: List.drop (i + 1) d).Perm (List.take i d ++ (List.drop (i + 1) d ++ [z])) := by
        apply List.Perm.append_left
        simpa using (List.perm_append_comm (l₁ := [z]) (l₂ := List.drop (i+1) d))
      simpa [List.append_assoc] using this
    · have hlen : i = d.length := by simp at hi; omega
      subst hlen
      simp [List.eraseIdx_append_of_length_le]
  · simp

theorem rmList_sorted_eq_erase [DecidableEq ι] (l : List ι) (i : Nat) (hi : i < l.length)
    (hn : l.Nodup) : rmList true l i = l.erase l[i] := by
  rw [hn.erase_getElem i hi]; simp [rmList]

/-- entry `e` tracks the pair of identities `d` it denoted when it was found: void iff one of
    the two has been removed (`dead`), otherwise it still names exactly these two -/
def Tracks (l dead : List ι) (e : Coll G) (d : ι × ι) : Prop :=
  ((d.1 ∈ dead ∨ d.2 ∈ dead) ∧ e.p1 = -1 ∧ e.p2 = -1) ∨
  (d.1 ∉ dead ∧ d.2 ∉ dead ∧ denote l e.p1 = some d.1 ∧ denote l e.p2 = some d.2)

theorem nodup_index_eq {l : List ι} (hn : l.Nodup) {i j : Nat} {a : ι}
    (hi : l[i]? = some a) (hj : l[j]? = some a) : i = j := by
  obtain ⟨h1, e1⟩ := List.getElem?_eq_some_iff.mp hi
  obtain ⟨h2, e2⟩ := List.getElem?_eq_some_iff.mp hj
  exact (hn.getElem_inj_iff).mp (e1.trans e2.symm)

theorem voidIfNames_of_not (idx : Int) (e : Coll G) (hv : (e.p1 == idx || e.p2 == idx) = false) :
    voidIfNames idx e = e := by simp [voidIfNames, hv]

theorem voidIfNames_of_named (idx : Int) (e : Coll G) (hv : (e.p1 == idx || e.p2 == idx) = true) :
    voidIfNames idx e = { e with p1 := -1, p2 := -1 } := by simp [voidIfNames, hv]

theorem fixEntry_of_not (ks : Bool) (idx nNew : Int) (e : Coll G)
    (hv : (e.p1 == idx || e.p2 == idx) = false) :
    (fixEntry ks idx nNew e).p1 = fixIdx ks idx nNew e.p1 ∧
    (fixEntry ks idx nNew e).p2 = fixIdx ks idx nNew e.p2 := by
  -- once `voidIfNames` is the identity, each component of `fixEntry` is literally the `if` of `fixIdx`
  unfold fixEntry fixIdx
  rw [voidIfNames_of_not idx e hv]
  cases ks
  · simp only [Bool.false_eq_true, if_false]
    constructor <;> split <;> split <;> simp_all
  · simp only [if_true]
    constructor <;> split <;> split <;> simp_all

theorem fixEntry_void (ks : Bool) (idx nNew : Int) (h0 : 0 ≤ idx) (hN : 0 ≤ nNew) (e : Coll G)
    (h1 : e.p1 = -1) (h2 : e.p2 = -1) :
    (fixEntry ks idx nNew e).p1 = -1 ∧ (fixEntry ks idx nNew e).p2 = -1 := by
  have e1 : ((-1 : Int) == idx) = false := by simp; omega
  have e2 : ¬ ((-1 : Int) > idx) := by omega
  have e3 : ((-1 : Int) == nNew) = false := by simp; omega
  unfold fixEntry voidIfNames
  cases ks <;> simp [h1, h2, e1, e2, e3]

theorem fixEntry_named (ks : Bool) (idx nNew : Int) (h0 : 0 ≤ idx) (hN : 0 ≤ nNew) (e : Coll G)
    (hv : (e.p1 == idx || e.p2 == idx) = true) :
    (fixEntry ks idx nNew e).p1 = -1 ∧ (fixEntry ks idx nNew e).p2 = -1 := by
  have e1 : ((-1 : Int) == idx) = false := by simp; omega
  have e2 : ¬ ((-1 : Int) > idx) := by omega
  have e3 : ((-1 : Int) == nNew) = false := by simp; omega
  unfold fixEntry
  rw [voidIfNames_of_named idx e hv]
  cases ks <;> simp [e1, e2, e3]

/-- one removal seen by a pending entry: if the fix-up keeps void entries void, voids the entries
    naming the removed index `i` (identity `x`), and lets every other index name in the new array
    `l'` what it named in `l`, then the entry keeps tracking its pair w.r.t. `dead ++ [x]` -/
theorem Tracks.step {l l' dead : List ι} (hn : l.Nodup) {i : Nat} {x : ι} (hix : l[i]? = some x)
    {e e' : Coll G} {d : ι × ι}
    (hvoid : e.p1 = -1 → e.p2 = -1 → e'.p1 = -1 ∧ e'.p2 = -1)
    (hnamed : (e.p1 == (i : Int) || e.p2 == (i : Int)) = true → e'.p1 = -1 ∧ e'.p2 = -1)
    (hkeep : (e.p1 == (i : Int) || e.p2 == (i : Int)) = false → ∀ n : Nat, n ≠ i → n < l.length →
      (e.p1 = n → denote l' e'.p1 = l[n]?) ∧ (e.p2 = n → denote l' e'.p2 = l[n]?))
    (h : Tracks l dead e d) : Tracks l' (dead ++ [x]) e' d := by
  rcases h with ⟨hd, h1, h2⟩ | ⟨ha, hb, h1, h2⟩
  · exact .inl ⟨by rcases hd with h | h <;> simp [h], hvoid h1 h2⟩
  · obtain ⟨n1, hp1, hn1, hg1⟩ := denote_some h1
    obtain ⟨n2, hp2, hn2, hg2⟩ := denote_some h2
    by_cases hx : d.1 = x ∨ d.2 = x
    · refine .inl ⟨by rcases hx with h | h <;> simp [h], hnamed ?_⟩
      rcases hx with h | h
      · have := nodup_index_eq hn hg1 (h ▸ hix); simp [hp1, this]
      · have := nodup_index_eq hn hg2 (h ▸ hix); simp [hp2, this]
    · push Not at hx
      have hne1 : n1 ≠ i := by
        intro h; subst h; rw [hix] at hg1; exact hx.1 (Option.some.inj hg1).symm
      have hne2 : n2 ≠ i := by
        intro h; subst h; rw [hix] at hg2; exact hx.2 (Option.some.inj hg2).symm
      have hv : (e.p1 == (i : Int) || e.p2 == (i : Int)) = false := by
        simp [hp1, hp2]; omega
      exact .inr ⟨by simp [ha]; exact hx.1, by simp [hb]; exact hx.2,
        ((hkeep hv n1 hne1 hn1).1 hp1).trans hg1, ((hkeep hv n2 hne2 hn2).2 hp2).trans hg2⟩

/-- collision.c:418-441: after particle `i` (identity `x`) was removed without a tree, a
    fixed-up later entry tracks the same pair w.r.t. the new array and `dead ++ [x]` -/
theorem fixEntry_tracks (ks : Bool) (l dead : List ι) (hn : l.Nodup) (i : Nat) (x : ι)
    (hix : l[i]? = some x) (e : Coll G) (d : ι × ι) (h : Tracks l dead e d) :
    Tracks (rmList ks l i) (dead ++ [x]) (fixEntry ks (i : Int) ((l.length : Int) - 1) e) d := by
  have hi : i < l.length := (List.getElem?_eq_some_iff.mp hix).1
  refine Tracks.step hn hix (fixEntry_void ks _ _ (by omega) (by omega) e)
    (fixEntry_named ks _ _ (by omega) (by omega) e) (fun hv n hne hnl => ?_) h
  obtain ⟨f1, f2⟩ := fixEntry_of_not ks (i : Int) ((l.length : Int) - 1) e hv
  have r := rmList_getElem? ks l i n hi hnl hne
  exact ⟨fun hp => by rw [f1, hp, r], fun hp => by rw [f2, hp, r]⟩

/-- collision.c:399-406: with a tree the array is unchanged and entries naming the flagged
    particle are voided -/
theorem voidIfNames_tracks (l dead : List ι) (hn : l.Nodup) (i : Nat) (x : ι)
    (hix : l[i]? = some x) (e : Coll G) (d : ι × ι) (h : Tracks l dead e d) :
    Tracks l (dead ++ [x]) (voidIfNames (i : Int) e) d := by
  refine Tracks.step hn hix (fun h1 h2 => ?_) (fun hv => by rw [voidIfNames_of_named _ e hv]; exact ⟨rfl, rfl⟩)
    (fun hv n _ _ => by
      rw [voidIfNames_of_not _ e hv]
      exact ⟨fun hp => by rw [hp, denote_nat], fun hp => by rw [hp, denote_nat]⟩) h
  have e1 : ((-1 : Int) == (i : Int)) = false := by rw [beq_eq_false_iff_ne]; omega
  simp [voidIfNames, h1, h2, e1]

/-- the configurations in which the driver's removals are accepted: no variational
    particles, and not (keep_sorted together with a tree) — that combination is refused by
    `reb_simulation_remove_particle` after it has already shifted the array (F4) -/
structure Cfg (ks : Bool) (s : Sim α) : Prop where
  nvar : s.nVar = 0
  hyb : s.hybrid = true → ks = true
  mode : s.tree = false ∨ ks = false

theorem removeParticle_notree (v : RmVariant) (flag : α → α) (s : Sim α) (ks : Bool) (i : Nat)
    (hi : i < s.ps.length) (hc : Cfg ks s) (ht : s.tree = false) :
    ∃ s', removeParticle v flag s (i : Int) ks = (s', true) ∧ s'.ps = rmList ks s.ps i ∧
      s'.tree = s.tree ∧ s'.nVar = s.nVar ∧ s'.hybrid = s.hybrid := by
  have hks : (ks || s.hybrid) = ks := by
    cases hk : ks <;> cases hh : s.hybrid <;> simp
    have := hc.hyb hh; simp [hk] at this
  have hr : (decide ((i : Int) ≥ (s.ps.length : Int)) || decide ((i : Int) < 0)) = false := by
    simp; omega
  unfold removeParticle
  simp only [hks, hr, Bool.and_false, Bool.false_eq_true, if_false]
  by_cases h1 : s.ps.length = 1
  · have hi0 : i = 0 := by omega
    subst hi0
    obtain ⟨a, ha⟩ := List.length_eq_one_iff.mp h1
    have hN1 : (((1 : Nat) : Int) == 1) = true := rfl
    refine ⟨{ s with ps := []
                     nActive := if v.lastResetsNActive && s.nActive > 0 then 0 else s.nActive
                     tree := if v.lastDeletesTree then false else s.tree }, ?_, ?_, ?_, rfl, rfl⟩
    · simp only [h1, hN1, if_true]
    · cases ks <;> simp [rmList, ha]
    · simp [ht]
  · have hN : ((s.ps.length : Int) == 1) = false := by
      rw [beq_eq_false_iff_ne]; omega
    simp only [hN, hc.nvar, Bool.false_eq_true, if_false, bne_self_eq_false, ht, Bool.and_false]
    cases ks
    · simp only [Bool.false_eq_true, if_false]
      cases hl : s.ps.getLast? with
      | none =>
        exfalso
        rw [List.getLast?_eq_none_iff] at hl
        rw [hl] at hi; simp at hi
      | some z =>
        refine ⟨_, rfl, ?_, rfl, rfl, rfl⟩
        simp [rmList, hl]
    · simp only [if_true]
      refine ⟨_, rfl, ?_, rfl, rfl, rfl⟩
      simp [rmList]

theorem removeParticle_tree (v : RmVariant) (flag : α → α) (s : Sim α) (i : Nat)
    (hi : i < s.ps.length) (h2 : 2 ≤ s.ps.length) (hc : Cfg false s) (ht : s.tree = true) :
    ∃ s', removeParticle v flag s (i : Int) false = (s', true) ∧ s'.ps = s.ps.modify i flag ∧
      s'.tree = s.tree ∧ s'.nVar = s.nVar ∧ s'.hybrid = s.hybrid := by
  have hh : s.hybrid = false := by
    cases h : s.hybrid
    · rfl
    · have := hc.hyb h; simp at this
  unfold removeParticle
  have hN : ((s.ps.length : Int) == 1) = false := by
    rw [beq_eq_false_iff_ne]; omega
  have hr : (decide ((i : Int) ≥ (s.ps.length : Int)) || decide ((i : Int) < 0)) = false := by
    simp; omega
  simp only [hh, Bool.or_false, hN, hr, hc.nvar, Bool.false_eq_true, if_false,
    bne_self_eq_false, ht, if_true, Bool.and_false]
  exact ⟨_, rfl, by simp, rfl, rfl, rfl⟩

section step
variable (ident : α → ι)

def ids (s : Sim α) : List ι := s.ps.map ident

theorem modify_map_ident (flag : α → α) (hflag : ∀ a, ident (flag a) = ident a) (ps : List α)
    (i : Nat) : (ps.modify i flag).map ident = ps.map ident := by
  apply List.ext_getElem?
  intro j
  simp only [List.getElem?_map, List.getElem?_modify]
  cases ps[j]? with
  | none => rfl
  | some a => by_cases h : i = j <;> simp [h, hflag]

/-- identity list `l'` after the identities `rem` were removed from `l`:
    unchanged with a tree (particles only flagged), the same order minus `rem` when sorted,
    a permutation of that otherwise -/
def IdsAfter [DecidableEq ι] (ks tree : Bool) (l rem l' : List ι) : Prop :=
  if tree then l' = l else if ks then l' = rem.foldl List.erase l
  else l'.Perm (rem.foldl List.erase l)

theorem foldl_erase_perm [DecidableEq ι] (rem : List ι) {l l' : List ι} (h : l'.Perm l) :
    (rem.foldl List.erase l').Perm (rem.foldl List.erase l) := by
  induction rem generalizing l l' with
  | nil => exact h
  | cons x r ih => exact ih (h.erase x)

theorem IdsAfter.trans [DecidableEq ι] {ks tree : Bool} {l0 dead l rem l' : List ι}
    (h1 : IdsAfter ks tree l0 dead l) (h2 : IdsAfter ks tree l rem l') :
    IdsAfter ks tree l0 (dead ++ rem) l' := by
  unfold IdsAfter at *
  cases tree
  · cases ks
    · simp only [Bool.false_eq_true, if_false] at *
      rw [List.foldl_append]
      exact h2.trans (foldl_erase_perm rem h1)
    · simp only [if_true, Bool.false_eq_true, if_false] at *
      rw [List.foldl_append, ← h1, h2]
  · simp only [if_true] at *
    rw [h2, h1]

theorem IdsAfter.refl [DecidableEq ι] (ks tree : Bool) (l : List ι) : IdsAfter ks tree l [] l := by
  unfold IdsAfter; cases tree <;> cases ks <;> simp

/-- one accepted removal + fix-up (either half of collision.c:394-485) -/
theorem removeAndFix_spec [DecidableEq ι] (v : RmVariant) (flag : α → α) (hflag : ∀ a, ident (flag a) = ident a)
    (ks : Bool) (s : Sim α) (hc : Cfg ks s) (hn : (ids ident s).Nodup)
    (hlen : s.tree = true → 2 ≤ s.ps.length)
    (idx : Int) (x : ι) (hx : denote (ids ident s) idx = some x)
    (cur : Int) (rest : List (Coll G)) (ds : List (ι × ι)) (dead : List ι)
    (htr : List.Forall₂ (Tracks (ids ident s) dead) rest ds) :
    ∃ s' cur' rest', removeAndFix v flag ks s idx cur rest = (s', cur', rest') ∧
      Cfg ks s' ∧ s'.tree = s.tree ∧ (ids ident s').Nodup ∧
      (s.tree = true → s'.ps.length = s.ps.length) ∧
      List.Forall₂ (Tracks (ids ident s') (dead ++ [x])) rest' ds ∧
      (∀ y, y ≠ x → denote (ids ident s) cur = some y → denote (ids ident s') cur' = some y) ∧
      IdsAfter ks s.tree (ids ident s) [x] (ids ident s') := by
  obtain ⟨i, hidx, hi, hgi⟩ := denote_some hx
  have hi' : i < s.ps.length := by simpa [ids] using hi
  subst hidx
  cases ht : s.tree
  · obtain ⟨s', hrm, hps, htree, hnv, hhy⟩ := removeParticle_notree v flag s ks i hi' hc ht
    have hids : ids ident s' = rmList ks (ids ident s) i := by
      simp only [ids, hps, rmList_map]
    have hlen' : s'.ps.length = s.ps.length - 1 := by rw [hps, rmList_length ks _ i hi']
    have hnew : ((s'.ps.length : Int) - (s'.nVar : Int)) = ((ids ident s).length : Int) - 1 := by
      rw [hnv, hc.nvar, hlen']; simp [ids]; omega
    have hperm := rmList_perm_erase ks (ids ident s) i hi hn
    have hxi : (ids ident s)[i] = x := by
      have := List.getElem?_eq_some_iff.mp hgi; exact this.2
    refine ⟨s', fixIdx ks (i : Int) (((ids ident s).length : Int) - 1) cur,
      rest.map (fixEntry ks (i : Int) (((ids ident s).length : Int) - 1)), ?_, ?_, ?_, ?_, ?_, ?_, ?_, ?_⟩
    · unfold removeAndFix
      rw [hrm]
      simp only [if_true, htree, ht, Bool.false_eq_true, if_false, hnew]
      cases ks <;> simp [fixIdx]
    · exact ⟨by rw [hnv]; exact hc.nvar, by rw [hhy]; exact hc.hyb, by rw [htree]; exact hc.mode⟩
    · rw [htree, ht]
    · rw [hids]; exact (hperm.nodup_iff).mpr (hn.erase _)
    · intro h; cases h
    · rw [hids]
      clear hrm
      induction htr with
      | nil => exact List.Forall₂.nil
      | cons h _ ih => exact List.Forall₂.cons (fixEntry_tracks ks _ dead hn i x hgi _ _ h) ih
    · intro y hy hcur
      obtain ⟨n, hc1, hn1, hg1⟩ := denote_some hcur
      have hne : n ≠ i := by
        intro h; subst h; rw [hgi] at hg1; exact hy (Option.some.inj hg1).symm
      rw [hids, hc1, rmList_getElem? ks _ i n hi hn1 hne, hg1]
    · unfold IdsAfter
      simp only [Bool.false_eq_true, if_false, List.foldl_cons, List.foldl_nil]
      cases ks
      · simp only [Bool.false_eq_true, if_false]; rw [hids, ← hxi]; exact hperm
      · simp only [if_true]; rw [hids, ← hxi]; exact rmList_sorted_eq_erase _ i hi hn
  · have hks : ks = false := by
      rcases hc.mode with h | h
      · rw [ht] at h; cases h
      · exact h
    subst hks
    obtain ⟨s', hrm, hps, htree, hnv, hhy⟩ := removeParticle_tree v flag s i hi' (hlen ht) hc ht
    have hids : ids ident s' = ids ident s := by
      simp only [ids, hps]; exact modify_map_ident ident flag hflag _ _
    refine ⟨s', cur, rest.map (voidIfNames (i : Int)), ?_, ?_, ?_, ?_, ?_, ?_, ?_, ?_⟩
    · unfold removeAndFix
      rw [hrm]
      simp only [if_true, htree, ht]
    · exact ⟨by rw [hnv]; exact hc.nvar, by rw [hhy]; exact hc.hyb, Or.inr rfl⟩
    · rw [htree, ht]
    · rw [hids]; exact hn
    · intro _; rw [hps]; simp
    · rw [hids]
      clear hrm
      induction htr with
      | nil => exact List.Forall₂.nil
      | cons h _ ih => exact List.Forall₂.cons (voidIfNames_tracks _ dead hn i x hgi _ _ h) ih
    · intro y _ hcur; rw [hids]; exact hcur
    · unfold IdsAfter; simp only [if_true]; exact hids

/-- what the theorem assumes about the resolve callback: it may change particle payloads
    (and `N_active`, error count) but does not add, remove or reorder particles -/
def ResOK (res : Sim α → Coll G → Sim α × Nat) : Prop :=
  ∀ s c, ids ident (res s c).1 = ids ident s ∧ (res s c).1.tree = s.tree ∧
    (res s c).1.nVar = s.nVar ∧ (res s c).1.hybrid = s.hybrid

/-- identities the resolver asked to remove -/
def remOf (a b : ι) (out : Nat) : List ι :=
  (if out &&& 1 != 0 then [a] else []) ++ (if out &&& 2 != 0 then [b] else [])

theorem lookup_of_denote {s : Sim α} {p : Int} {a : ι} (h : denote (ids ident s) p = some a) :
    ∃ pa, lookup s p = some pa ∧ ident pa = a := by
  unfold denote ids at h
  unfold lookup
  split at h
  · cases h
  · rename_i hp
    simp only [hp, if_false]
    rw [List.getElem?_map] at h
    cases hq : s.ps[p.toNat]? with
    | none => rw [hq] at h; cases h
    | some pa => rw [hq] at h; exact ⟨pa, rfl, Option.some.inj h⟩

theorem two_le_of_denote {l : List ι} {p q : Int} {a b : ι} (hab : a ≠ b)
    (h1 : denote l p = some a) (h2 : denote l q = some b) : 2 ≤ l.length := by
  obtain ⟨n1, _, hn1, hg1⟩ := denote_some h1
  obtain ⟨n2, _, hn2, hg2⟩ := denote_some h2
  have : n1 ≠ n2 := by
    intro h; subst h; rw [hg1] at hg2; exact hab (Option.some.inj hg2)
  omega

/-- a void entry is skipped: collision.c:389 -/
theorem processOne_void (v : RmVariant) (flag : α → α) (res : Sim α → Coll G → Sim α × Nat) (ks : Bool)
    (s : Sim α) (c : Coll G) (rest : List (Coll G)) (h1 : c.p1 = -1) :
    processOne v flag res ks s c rest = (s, rest, none) := by
  unfold processOne; simp [h1]

/-- a removal that happens only when the resolver asked for it (`b`) -/
theorem removeAndFix_opt [DecidableEq ι] (b : Bool) (v : RmVariant) (flag : α → α)
    (hflag : ∀ a, ident (flag a) = ident a)
    (ks : Bool) (s : Sim α) (hc : Cfg ks s) (hn : (ids ident s).Nodup)
    (hlen : s.tree = true → 2 ≤ s.ps.length)
    (idx : Int) (x : ι) (hx : denote (ids ident s) idx = some x)
    (cur : Int) (rest : List (Coll G)) (ds : List (ι × ι)) (dead : List ι)
    (htr : List.Forall₂ (Tracks (ids ident s) dead) rest ds) :
    ∃ s' cur' rest', (if b then removeAndFix v flag ks s idx cur rest else (s, cur, rest)) = (s', cur', rest') ∧
      Cfg ks s' ∧ s'.tree = s.tree ∧ (ids ident s').Nodup ∧
      (s.tree = true → s'.ps.length = s.ps.length) ∧
      List.Forall₂ (Tracks (ids ident s') (dead ++ if b then [x] else [])) rest' ds ∧
      (∀ y, y ≠ x → denote (ids ident s) cur = some y → denote (ids ident s') cur' = some y) ∧
      IdsAfter ks s.tree (ids ident s) (if b then [x] else []) (ids ident s') := by
  cases b
  · exact ⟨s, cur, rest, rfl, hc, rfl, hn, fun _ => rfl, by simpa using htr, fun _ _ h => h,
      IdsAfter.refl _ _ _⟩
  · obtain ⟨s', cur', rest', e, h1, h2, h3, h5, h6, h7, h8⟩ :=
      removeAndFix_spec ident v flag hflag ks s hc hn hlen idx x hx cur rest ds dead htr
    exact ⟨s', cur', rest', e, h1, h2, h3, h5, h6, h7, h8⟩

/-- a live entry: the resolver is called with exactly the two identities the entry denoted,
    the requested identities are removed, and every later entry keeps tracking its pair -/
theorem processOne_live [DecidableEq ι] (v : RmVariant) (flag : α → α) (hflag : ∀ a, ident (flag a) = ident a)
    (res : Sim α → Coll G → Sim α × Nat) (hres : ResOK ident res)
    (ks : Bool) (s : Sim α) (hc : Cfg ks s) (hn : (ids ident s).Nodup)
    (c : Coll G) (a b : ι) (hab : a ≠ b)
    (h1 : denote (ids ident s) c.p1 = some a) (h2 : denote (ids ident s) c.p2 = some b)
    (rest : List (Coll G)) (ds : List (ι × ι)) (dead : List ι)
    (htr : List.Forall₂ (Tracks (ids ident s) dead) rest ds) :
    ∃ s' rest' pa pb, processOne v flag res ks s c rest =
        (s', rest', some ⟨c, some pa, some pb, (res s c).2, s.nActive, s.ps.length - s.nVar⟩) ∧
      ident pa = a ∧ ident pb = b ∧
      Cfg ks s' ∧ s'.tree = s.tree ∧ (ids ident s').Nodup ∧
      List.Forall₂ (Tracks (ids ident s') (dead ++ remOf a b (res s c).2)) rest' ds ∧
      IdsAfter ks s.tree (ids ident s) (remOf a b (res s c).2) (ids ident s') := by
  obtain ⟨pa, hla, hpa⟩ := lookup_of_denote ident h1
  obtain ⟨pb, hlb, hpb⟩ := lookup_of_denote ident h2
  obtain ⟨n1, hp1, _, _⟩ := denote_some h1
  obtain ⟨n2, hp2, _, _⟩ := denote_some h2
  have hcond : (c.p1 != -1 && c.p2 != -1) = true := by
    simp only [Bool.and_eq_true, bne_iff_ne]; omega
  obtain ⟨hri, hrt, hrv, hrh⟩ := hres s c
  rcases hrs : res s c with ⟨s1, out⟩
  rw [hrs] at hri hrt hrv hrh
  simp only at hri hrt hrv hrh
  have hc1 : Cfg ks s1 := ⟨by rw [hrv]; exact hc.nvar, by rw [hrh]; exact hc.hyb, by rw [hrt]; exact hc.mode⟩
  have hn1 : (ids ident s1).Nodup := by rw [hri]; exact hn
  have hlen1 : s1.tree = true → 2 ≤ s1.ps.length := by
    intro _
    have := two_le_of_denote hab h1 h2
    have e : s1.ps.length = (ids ident s1).length := by simp [ids]
    rw [e, hri]; exact this
  have htr1 : List.Forall₂ (Tracks (ids ident s1) dead) rest ds := by rw [hri]; exact htr
  have h1' : denote (ids ident s1) c.p1 = some a := by rw [hri]; exact h1
  have h2' : denote (ids ident s1) c.p2 = some b := by rw [hri]; exact h2
  -- the two halves of collision.c:394-485, each taken only if the outcome asks for it
  obtain ⟨s2, p2, rest2, e2, hc2, ht2, hn2, hlt2, htr2, hcur2, hst2⟩ :=
    removeAndFix_opt ident (out &&& 1 != 0) v flag hflag ks s1 hc1 hn1 hlen1 c.p1 a h1' c.p2 rest ds dead htr1
  have hlen2 : s2.tree = true → 2 ≤ s2.ps.length := by
    intro h; rw [ht2] at h; rw [hlt2 h]; exact hlen1 h
  obtain ⟨s3, p3, rest3, e3, hc3, ht3, hn3, -, htr3, -, hst3⟩ :=
    removeAndFix_opt ident (out &&& 2 != 0) v flag hflag ks s2 hc2 hn2 hlen2 p2 b
      (hcur2 b (Ne.symm hab) h2') p2 rest2 ds _ htr2
  refine ⟨s3, rest3, pa, pb, ?_, hpa, hpb, hc3, by rw [ht3, ht2, hrt], hn3, ?_, ?_⟩
  · unfold processOne
    simp only [hcond, if_true, hrs, hla, hlb, e2]
    cases o2 : (out &&& 2 != 0) <;> simp only [o2, if_true, Bool.false_eq_true, if_false] at e3 ⊢
    · cases e3; rfl
    · rw [e3]
  · rw [List.append_assoc] at htr3; exact htr3
  · have := hst2.trans (ht2 ▸ hst3)
    rwa [hri, hrt] at this

/-- replay of the pending list at the level of identities: `Run dead ds calls dead'` says that,
    going through the denoted pairs `ds` in order with `dead` already removed, the resolver is
    called exactly on the pairs whose two identities are both still alive (with the particles
    carrying these identities), entries naming a removed identity are skipped, and the
    identities removed so far grow by exactly what each call's outcome requests -/
inductive Run : List ι → List (ι × ι) → List (Call α G) → List ι → Prop
  | nil (dead : List ι) : Run dead [] [] dead
  | skip {dead : List ι} {d : ι × ι} {ds : List (ι × ι)} {calls : List (Call α G)} {dead' : List ι} :
      (d.1 ∈ dead ∨ d.2 ∈ dead) → Run dead ds calls dead' → Run dead (d :: ds) calls dead'
  | call {dead : List ι} {d : ι × ι} {ds : List (ι × ι)} {calls : List (Call α G)} {dead' : List ι}
      (k : Call α G) (pa pb : α) :
      d.1 ∉ dead → d.2 ∉ dead → k.a = some pa → k.b = some pb → ident pa = d.1 → ident pb = d.2 →
      Run (dead ++ remOf d.1 d.2 k.out) ds calls dead' → Run dead (d :: ds) (k :: calls) dead'

theorem processLoop_spec [DecidableEq ι] (v : RmVariant) (flag : α → α) (hflag : ∀ a, ident (flag a) = ident a)
    (res : Sim α → Coll G → Sim α × Nat) (hres : ResOK ident res) (ks : Bool)
    (ds : List (ι × ι)) (hdist : ∀ d ∈ ds, d.1 ≠ d.2) :
    ∀ (s : Sim α) (pend : List (Coll G)) (dead : List ι), Cfg ks s → (ids ident s).Nodup →
      List.Forall₂ (Tracks (ids ident s) dead) pend ds →
      ∃ rem, Run ident dead ds (processLoop v flag res ks s pend).2 (dead ++ rem) ∧
        IdsAfter ks s.tree (ids ident s) rem (ids ident (processLoop v flag res ks s pend).1) ∧
        (ids ident (processLoop v flag res ks s pend).1).Nodup ∧
        Cfg ks (processLoop v flag res ks s pend).1 ∧
        (processLoop v flag res ks s pend).1.tree = s.tree := by
  induction ds with
  | nil =>
    intro s pend dead hc hn htr
    cases htr
    refine ⟨[], ?_, ?_, ?_, ?_, ?_⟩
    · simp only [processLoop, List.append_nil]; exact Run.nil dead
    · simp only [processLoop]; exact IdsAfter.refl _ _ _
    · simpa only [processLoop] using hn
    · simpa only [processLoop] using hc
    · simp only [processLoop]
  | cons d ds' ih =>
    intro s pend dead hc hn htr
    cases htr with
    | cons hhead htail =>
      rename_i c rest
      have hd' : ∀ d ∈ ds', d.1 ≠ d.2 := fun x hx => hdist x (List.mem_cons_of_mem _ hx)
      rcases hhead with ⟨hdd, h1, h2⟩ | ⟨ha, hb, h1, h2⟩
      · have hp := processOne_void v flag res ks s c rest h1
        obtain ⟨rem, hrun, hids, hnd, hcf, htf⟩ := ih hd' s rest dead hc hn htail
        rw [processLoop]; simp only [hp]
        exact ⟨rem, Run.skip hdd hrun, hids, hnd, hcf, htf⟩
      · obtain ⟨s', rest', pa, pb, hp, hpa, hpb, hc', ht', hn', htr', hids'⟩ :=
          processOne_live ident v flag hflag res hres ks s hc hn c d.1 d.2
            (hdist d (List.mem_cons_self)) h1 h2 rest ds' dead htail
        obtain ⟨rem, hrun, hids, hnd, hcf, htf⟩ := ih hd' s' rest' _ hc' hn' htr'
        rw [processLoop]; simp only [hp]
        refine ⟨remOf d.1 d.2 (res s c).2 ++ rem, ?_, hids'.trans (ht' ▸ hids), hnd, hcf, by rw [htf, ht']⟩
        rw [← List.append_assoc]
        exact Run.call _ pa pb ha hb rfl rfl hpa hpb hrun

theorem mem_foldl_erase [DecidableEq ι] (rem : List ι) {l : List ι} (hn : l.Nodup) (x : ι) :
    x ∈ rem.foldl List.erase l ↔ x ∈ l ∧ x ∉ rem := by
  induction rem generalizing l with
  | nil => simp
  | cons y r ih =>
    simp only [List.foldl_cons]
    rw [ih (hn.erase y), hn.mem_erase_iff]
    simp only [List.mem_cons, not_or]
    tauto

theorem foldl_erase_sublist [DecidableEq ι] (rem l : List ι) : (rem.foldl List.erase l).Sublist l := by
  induction rem generalizing l with
  | nil => exact List.Sublist.refl _
  | cons y r ih => exact (ih (l.erase y)).trans List.erase_sublist

end step

end RV.Collision
