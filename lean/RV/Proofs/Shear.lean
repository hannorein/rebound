import RV.Proofs.Boundary
/-
  REB_BOUNDARY_SHEAR (boundary.c, C15): the specification `FmodSpec` of C's `fmod`, the size and the
  congruence class of the two azimuthal offsets, and termination of the shear wrap of one particle
  (`shear1_terminates`: radial loops, then the plain wraps of `y` and `z`).
-/
namespace RV.C15
open RV RV.Boundary

variable {K : Type} [Field K] [LinearOrder K] [IsStrictOrderedRing K]

/-- the C99 specification of `fmod(a,b)` for `b ≠ 0`: `a - q*b` for an integer `q`, smaller than `b` in magnitude,
    with the sign of `a` (the exact emulation `fmodFloat` is compared with libm on every run) -/
def FmodSpec (fmod : K → K → K) : Prop :=
  ∀ a b : K, b ≠ 0 → (∃ q : Int, fmod a b = a - q * b) ∧ |fmod a b| < |b| ∧
    (0 ≤ a → 0 ≤ fmod a b) ∧ (a ≤ 0 → fmod a b ≤ 0)

/-- `|fmod(·, bY)| < bY` and the shift by `±bY/2` give `2·bY` (3/2 would do) -/
theorem offsets_bound (fmod : K → K → K) (hf : FmodSpec fmod) (omega t bx bY : K) (hY : 0 < bY) :
    |(shearOffsets fmod omega t bx bY).1| ≤ 2 * bY ∧ |(shearOffsets fmod omega t bx bY).2.1| ≤ 2 * bY := by
  simp only [shearOffsets, sc_hadd, sc_hsub, sc_hmul, sc_hdiv, sc_neg, sc_ofNat, half_eq, Nat.cast_ofNat]
  have hne : bY ≠ 0 := ne_of_gt hY
  have h1 := (hf (-(3 / 2) * omega * bx * t + bY / 2) bY hne).2.1
  have h2 := (hf (3 / 2 * omega * bx * t - bY / 2) bY hne).2.1
  generalize fmod (-(3 / 2) * omega * bx * t + bY / 2) bY = u at h1 ⊢
  generalize fmod (3 / 2 * omega * bx * t - bY / 2) bY = v at h2 ⊢
  rw [abs_of_pos hY, abs_lt] at h1 h2
  constructor <;> rw [abs_le] <;> constructor <;> linarith

/-- a loop that subtracts `b` while the value is above `b/2` runs at most `k` times from a start
    `≤ b/2 + k·b` -/
theorem wrap_count_le {x y b : K} {n k : Nat} (hb : 0 < b) (hx : x ≤ b / 2 + k * b)
    (hy : y = x - n * b) (h : n = 0 ∨ -b / 2 < y) : (n : K) ≤ k := by
  rcases h with rfl | h
  · simp
  · have h1 : (n : K) * b < (k + 1) * b := by rw [add_mul, one_mul]; linarith
    have h2 : (n : K) < k + 1 := lt_of_mul_lt_mul_right h1 hb.le
    exact_mod_cast Nat.lt_succ_iff.mp (by exact_mod_cast h2)

/-- the whole shear wrap of one particle returns when the fuel covers the radial, azimuthal (including the offsets
    picked up by the radial wraps) and vertical excursions -/
theorem shear1_terminates (bx bY bz op1 om1 dv : K) (hx : 0 < bx) (hY : 0 < bY) (hz : 0 < bz)
    (ho1 : |op1| ≤ 2 * bY) (ho2 : |om1| ≤ 2 * bY) (kx ky kz F : Nat) (hF1 : kx ≤ F) (hF2 : ky + 4 * kx ≤ F) (hF3 : kz ≤ F)
    (p : P K) (hpx : |p.x| ≤ bx / 2 + kx * bx) (hpy : |p.y| ≤ bY / 2 + ky * bY) (hpz : |p.z| ≤ bz / 2 + kz * bz) :
    ∃ q, shear1 bx bY bz op1 om1 dv F p = some q := by
  have hFx : (kx : K) * bx ≤ F * bx :=
    mul_le_mul_of_nonneg_right (by exact_mod_cast hF1) hx.le
  have hFy : ((ky : K) + 4 * kx) * bY ≤ F * bY :=
    mul_le_mul_of_nonneg_right (by exact_mod_cast hF2) hY.le
  have hFz : (kz : K) * bz ≤ F * bz :=
    mul_le_mul_of_nonneg_right (by exact_mod_cast hF3) hz.le
  have hk0 : (0 : K) ≤ kx * bx := by positivity
  have ax := abs_le.mp hpx
  -- radial loops: at most `kx` wraps each way
  obtain ⟨n, hn⟩ := hiCount_terminates bx F p.x (by linarith only [ax.2, hFx])
  obtain ⟨p1, e1⟩ : ∃ p1, shearHi bx op1 dv F p = some p1 := ⟨_, by rw [shearHi_eq, hn]; rfl⟩
  obtain ⟨n1, a1, a2, -, a4, a5, a6⟩ := shearHi_spec _ _ _ _ _ _ e1
  have hn1 : (n1 : K) ≤ kx := wrap_count_le hx ax.2 a1 a6
  have hx1 : -bx / 2 - kx * bx ≤ p1.x := by
    rcases a6 with rfl | h0
    · rw [a1]; simp only [Nat.cast_zero, zero_mul, sub_zero]; linarith only [ax.1]
    · linarith only [h0, hk0]
  obtain ⟨n', hn'⟩ := hiCount_terminates bx F (-p1.x) (by linarith only [hx1, hFx])
  obtain ⟨p2, e2⟩ : ∃ p2, shearLo bx om1 dv F p1 = some p2 := ⟨_, by rw [shearLo_eq, hn']; rfl⟩
  obtain ⟨n2, b1, b2, -, b4, -, b6⟩ := shearLo_spec _ _ _ _ _ _ e2
  have hn2 : (n2 : K) ≤ kx :=
    wrap_count_le (x := -p1.x) (y := -p2.x) hx (by linarith only [hx1]) (by rw [b1]; ring)
      (b6.imp id fun h => by linarith only [h])
  -- azimuthal: the radial wraps moved `y` by at most `2·kx·2·bY`
  have hy2 : |p2.y| ≤ bY / 2 + F * bY := by
    have t1 : |(n1 : K) * op1| ≤ kx * (2 * bY) := by
      rw [abs_mul, Nat.abs_cast]
      exact mul_le_mul hn1 ho1 (abs_nonneg _) (Nat.cast_nonneg _)
    have t2 : |(n2 : K) * om1| ≤ kx * (2 * bY) := by
      rw [abs_mul, Nat.abs_cast]
      exact mul_le_mul hn2 ho2 (abs_nonneg _) (Nat.cast_nonneg _)
    have t3 := abs_add_three p.y ((n1 : K) * op1) ((n2 : K) * om1)
    rw [b2, a2]
    linarith only [t1, t2, t3, hpy, hFy]
  obtain ⟨y, ey⟩ := wrap1_terminates bY hY F p2.y hy2
  obtain ⟨z, ez⟩ := wrap1_terminates bz hz F p2.z (by rw [b4, a4]; linarith only [hpz, hFz])
  exact ⟨{ p2 with y := y, z := z }, by simp [shear1, e1, e2, ey, ez]⟩

/-- the offsets modulo `Ly`, from nothing but `fmod a b = a - q*b` at the two arguments the code passes -/
theorem offsets_cong_of (fmod : K → K → K) (omega t bx bY : K)
    (h1 : ∃ q : Int, fmod (-(3 / 2) * omega * bx * t + bY / 2) bY = -(3 / 2) * omega * bx * t + bY / 2 - q * bY)
    (h2 : ∃ q : Int, fmod (3 / 2 * omega * bx * t - bY / 2) bY = 3 / 2 * omega * bx * t - bY / 2 - q * bY) :
    (∃ a : Int, (shearOffsets fmod omega t bx bY).1 = 3 / 2 * omega * bx * t + a * bY) ∧
    (∃ b : Int, (shearOffsets fmod omega t bx bY).2.1 = -(3 / 2 * omega * bx * t) + b * bY) ∧
    (shearOffsets fmod omega t bx bY).2.2 = 3 / 2 * omega * bx := by
  simp only [shearOffsets, sc_hadd, sc_hsub, sc_hmul, sc_hdiv, sc_neg, sc_ofNat, half_eq, Nat.cast_ofNat]
  obtain ⟨q1, h1⟩ := h1
  obtain ⟨q2, h2⟩ := h2
  refine ⟨⟨q1 - 1, ?_⟩, ⟨q2 + 1, ?_⟩, trivial⟩
  · rw [h1]; push_cast; ring
  · rw [h2]; push_cast; ring

theorem offsets_cong (fmod : K → K → K) (hf : FmodSpec fmod) (omega t bx bY : K) (hY : bY ≠ 0) :
    (∃ a : Int, (shearOffsets fmod omega t bx bY).1 = 3 / 2 * omega * bx * t + a * bY) ∧
    (∃ b : Int, (shearOffsets fmod omega t bx bY).2.1 = -(3 / 2 * omega * bx * t) + b * bY) ∧
    (shearOffsets fmod omega t bx bY).2.2 = 3 / 2 * omega * bx :=
  offsets_cong_of fmod omega t bx bY (hf _ _ hY).1 (hf _ _ hY).1

end RV.C15
