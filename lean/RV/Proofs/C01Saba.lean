import RV.Proofs.C01WordInt
import RV.Model.Advertised
import RV.Gen.C01Saba
/-
  C01 / SABA family: facts about the coefficient tables and schedules of the current source
  (lean/RV/Gen/C01Saba.lean), decided by kernel evaluation in exact rational arithmetic (`WordOrder`: on the integer
  tries of `C01WordInt`).
-/
namespace RV.C01.Saba
open RV.C01 RV.C01.Gen RV.C01.Adv

theorem counts : sabaCounts = [("c literals", 35), ("d literals", 30), ("cc literals", 4), ("types", 18)] ∧
    sabaStep.length = 18 ∧ sabaTwoUnsync.length = 18 := by decide +kernel

theorem stages : ∀ t ∈ sabaTypes, sabaStages.lookup t.2.1 = some t.2.2 ∧ (sabaStep.lookup t.2.1).isSome := by
  decide +kernel

theorem consistent : ∀ e ∈ sabaStep, Consistent e.2 tolSaba := by decide +kernel

theorem symmetric : ∀ e ∈ sabaStep, Palindrome e.2 := by decide +kernel

theorem fresh : ∀ e ∈ sabaStep, Fresh e.2 := by decide +kernel

theorem stage_count : ∀ t ∈ sabaTypes, ∀ s ∈ sabaStep.lookup t.2.1,
    (s.filter (fun o => o.kind == 1 && o.a != 0)).length = t.2.2 ∧ countKind 0 s = t.2.2 + 1 := by decide +kernel

theorem quadrature : ∀ e ∈ sabaStep, ∀ lim ∈ saba.lookup e.1, Quadrature e.2 (lim.getD 1 0) tolSaba := by
  decide +kernel

theorem unsync : ∀ e ∈ sabaStep, ∀ two ∈ sabaTwoUnsync.lookup e.1, norm two = norm (e.2 ++ e.2) := by
  decide +kernel
theorem order : ∀ e ∈ sabaStep, ∀ lim ∈ saba.lookup e.1, WordOrder e.2 lim κWH tolSaba := by decide +kernel

theorem advertised_known : ∀ e ∈ sabaStep, (saba.lookup e.1).isSome := by decide +kernel
end RV.C01.Saba
