import RV.Model.Persist
import Mathlib.Data.List.Basic
import Mathlib.Tactic.NormNum
/-
  Vocabulary for the round trip of the field-level persistence model (RV/Model/Persist.lean), for every table:
  well-formedness of a simulation w.r.t. a row (`WFd`, `WF`), the kinds of rows (`RowKind`), what reading back a
  row's field writes (`writeS`) and what a reader ends with (`restore`), the side conditions on a table (`TableOK`),
  the reader loop without END (`applyAll`); with the lemmas on little-endian counters and table lookup they need.
  The round trip itself is in PersistRow.lean (one row) and PersistStream.lean (whole stream).
-/
namespace RV.Persist

theorem leNat_encLE (k n : Nat) : leNat (encLE k n) = n % 256 ^ k := by
  induction k generalizing n with
  | zero => simp [encLE, leNat, Nat.mod_one]
  | succ k ih =>
    simp only [encLE, leNat, ih]
    have h : (UInt8.ofNat (n % 256)).toNat = n % 256 := by
      simp [UInt8.toNat_ofNat']
    rw [h, Nat.pow_succ, Nat.mul_comm (256 ^ k) 256, Nat.mod_mul]

theorem encLE_length (k n : Nat) : (encLE k n).length = k := by
  induction k generalizing n with
  | zero => rfl
  | succ k ih => simp [encLE, ih]

theorem encLE_leNat (b : Bytes) : encLE b.length (leNat b) = b := by
  induction b with
  | nil => rfl
  | cons x r ih =>
    simp only [List.length_cons, encLE, leNat]
    have hx : x.toNat < 256 := x.toNat_lt
    have h1 : (x.toNat + 256 * leNat r) % 256 = x.toNat := by omega
    have h2 : (x.toNat + 256 * leNat r) / 256 = leNat r := by omega
    rw [h1, h2, ih]
    simp

theorem encLE4_leNat (b : Bytes) (h : b.length = 4) : encLE 4 (leNat b) = b := by
  have := encLE_leNat b
  rwa [h] at this

theorem mem_live {tbl : List Desc} {d : Desc} (hd : d ∈ live tbl) : d ∈ tbl ∧ d.dtype ≠ .fieldEnd := by
  induction tbl with
  | nil => simp [live] at hd
  | cons a r ih =>
    simp only [live] at hd
    split at hd
    · simp at hd
    · rename_i hne
      rcases List.mem_cons.mp hd with rfl | h
      · exact ⟨List.mem_cons_self, hne⟩
      · exact ⟨List.mem_cons_of_mem _ (ih h).1, (ih h).2⟩

theorem live_sub (tbl : List Desc) : ∀ d ∈ live tbl, d ∈ tbl := fun _ hd => (mem_live hd).1

theorem live_notEnd (tbl : List Desc) : ∀ d ∈ live tbl, d.dtype ≠ .fieldEnd := fun _ hd => (mem_live hd).2

theorem find_of_nodup (l : List Desc) (hn : (l.map (·.id)).Nodup) (d : Desc) (hd : d ∈ l) :
    l.find? (fun x => x.id = d.id) = some d := by
  induction l with
  | nil => simp at hd
  | cons a r ih =>
    simp only [List.map_cons, List.nodup_cons] at hn
    rcases List.mem_cons.mp hd with h | h
    · subst h; simp
    · have hne : a.id ≠ d.id := by
        intro e
        apply hn.1
        rw [e]
        exact List.mem_map_of_mem h
      rw [List.find?_cons_of_neg (by simpa using hne)]
      exact ih hn.2 h

theorem lookup_of_mem (tbl : List Desc) (hn : ((live tbl).map (·.id)).Nodup) (d : Desc) (hd : d ∈ live tbl) :
    lookup tbl d.id = some d := find_of_nodup _ hn d hd

def fieldSize (s : Sim) (d : Desc) : Nat := counter s d * d.elemSize

/-- C-level validity of the state the writer reads for row `d` (sizes agree with dtypes, counters describe
    the allocations, no 32-bit overflow of the byte size, element size positive) -/
def WFd (psz : Nat) (s : Sim) (d : Desc) : Prop :=
  match simpleSize psz d.dtype with
  | some sz => (s.mem d.mem).length = sz
  | none =>
    match d.dtype with
    | .pointer | .pointerAligned =>
      d.elemSize ≠ 0 ∧ (s.mem d.nMem).length = 4 ∧ fieldSize s d < 4294967296 ∧
      (fieldSize s d ≠ 0 → ∃ b, s.heap d.mem = some b ∧ b.length = fieldSize s d)
    | .pointerFixed => ∀ b, s.heap d.mem = some b → b.length = d.elemSize
    | .dp7 =>
      d.elemSize ≠ 0 ∧ 7 ∣ d.elemSize ∧ (s.mem d.nMem).length = 4 ∧ fieldSize s d < 4294967296 ∧
      (fieldSize s d ≠ 0 → ∀ k, k < 7 → ∃ b, s.heap (d.mem + k) = some b ∧ b.length = fieldSize s d / 7)
    | _ => True

def WF (psz : Nat) (tbl : List Desc) (s : Sim) : Prop := ∀ d ∈ live tbl, WFd psz s d

/-- the five kinds of rows that the writer and the reader distinguish -/
inductive RowKind (psz : Nat) (t : DType) : Prop
  | simple (sz : Nat) (h : simpleSize psz t = some sz)
  | array (h : t = .pointer ∨ t = .pointerAligned)
  | fixed (h : t = .pointerFixed)
  | dp7 (h : t = .dp7)
  | none (h : t = .other ∨ t = .fieldEnd ∨ t = .notFound)

theorem rowKind (psz : Nat) (t : DType) : RowKind psz t := by
  cases t
  case pointer | pointerAligned => exact .array (by simp)
  case pointerFixed => exact .fixed rfl
  case dp7 => exact .dp7 rfl
  case other | fieldEnd | notFound => exact .none (by simp)
  all_goals exact .simple _ rfl

/-- does the field emitted for row `d` (if any) write member `m` / heap slot `m` when read back? -/
def memWritten (psz : Nat) (s : Sim) (d : Desc) (m : Nat) : Bool :=
  match simpleSize psz d.dtype with
  | some _ => m = d.mem
  | none =>
    match d.dtype with
    | .pointer | .pointerAligned | .dp7 => fieldSize s d ≠ 0 && m = d.nMem
    | _ => false

def heapWritten (psz : Nat) (s : Sim) (d : Desc) (m : Nat) : Bool :=
  match simpleSize psz d.dtype with
  | some _ => false
  | none =>
    match d.dtype with
    | .pointer | .pointerAligned => fieldSize s d ≠ 0 && m = d.mem
    | .pointerFixed => (s.heap d.mem).isSome && m = d.mem
    | .dp7 => fieldSize s d ≠ 0 && (d.mem ≤ m && m < d.mem + 7)
    | _ => false

/-- `cur` with the locations written by row `d` set to `s`'s values -/
def writeS (psz : Nat) (s cur : Sim) (d : Desc) : Sim :=
  { mem := fun m => if memWritten psz s d m then s.mem m else cur.mem m
    heap := fun m => if heapWritten psz s d m then s.heap m else cur.heap m }

/-- the simulation a reader starting from `init` ends with: `s` on every location written by some
    live row, `init` elsewhere -/
def restore (psz : Nat) (tbl : List Desc) (init s : Sim) : Sim :=
  { mem := fun m => if (live tbl).any (fun d => memWritten psz s d m) then s.mem m else init.mem m
    heap := fun m => if (live tbl).any (fun d => heapWritten psz s d m) then s.heap m else init.heap m }

theorem Sim.ext' {a b : Sim} (h1 : ∀ m, a.mem m = b.mem m) (h2 : ∀ m, a.heap m = b.heap m) : a = b := by
  cases a; cases b
  simp only [Sim.mk.injEq]
  exact ⟨funext h1, funext h2⟩

theorem foldl_writeS (psz : Nat) (s : Sim) (ds : List Desc) (cur : Sim) :
    (ds.foldl (writeS psz s) cur) =
      { mem := fun m => if ds.any (fun d => memWritten psz s d m) then s.mem m else cur.mem m
        heap := fun m => if ds.any (fun d => heapWritten psz s d m) then s.heap m else cur.heap m } := by
  induction ds generalizing cur with
  | nil => simp
  | cons d r ih =>
    rw [List.foldl_cons, ih]
    apply Sim.ext'
    · intro m
      simp only [writeS, List.any_cons]
      by_cases h1 : memWritten psz s d m = true <;> by_cases h2 : (r.any fun d => memWritten psz s d m) = true <;>
        simp [h1, h2]
    · intro m
      simp only [writeS, List.any_cons]
      by_cases h1 : heapWritten psz s d m = true <;> by_cases h2 : (r.any fun d => heapWritten psz s d m) = true <;>
        simp [h1, h2]

/-- side conditions on the table and the special ids under which lookup of an emitted id finds its row -/
structure TableOK (psz : Nat) (sp : Special) (tbl : List Desc) : Prop where
  nodup : ((live tbl).map (·.id)).Nodup
  endFresh : ∀ d ∈ live tbl, d.id ≠ sp.endId
  fpEq : sp.fpIdWritten = sp.fpId
  fpNotEnd : sp.fpId ≠ sp.endId
  fpNotLegacy : sp.fpId ≠ sp.legacyId
  /-- the id of the function-pointer flag is either absent from the table or belongs to a REB_OTHER row -/
  fpRow : ∀ d ∈ live tbl, d.id = sp.fpId → d.dtype = .other

def applyAll (psz : Nat) (sp : Special) (tbl : List Desc) (st : Sim × List Warning) (fs : List Field) :
    Sim × List Warning := fs.foldl (applyField psz sp tbl) st

section
variable {psz : Nat} {sp : Special} {tbl : List Desc} (st : Sim × List Warning)

@[simp] theorem applyAll_nil : applyAll psz sp tbl st [] = st := rfl

@[simp] theorem applyAll_cons (f : Field) (fs : List Field) :
    applyAll psz sp tbl st (f :: fs) = applyAll psz sp tbl (applyField psz sp tbl st f) fs := rfl

theorem applyAll_append (l1 l2 : List Field) :
    applyAll psz sp tbl st (l1 ++ l2) = applyAll psz sp tbl (applyAll psz sp tbl st l1) l2 :=
  List.foldl_append ..
end

theorem decodeFields_append (psz : Nat) (sp : Special) (tbl : List Desc) (st : Sim × List Warning)
    (l1 l2 : List Field) (h : ∀ f ∈ l1, f.1 ≠ sp.endId) :
    decodeFields psz sp tbl st (l1 ++ l2) = decodeFields psz sp tbl (applyAll psz sp tbl st l1) l2 := by
  induction l1 generalizing st with
  | nil => rfl
  | cons f r ih =>
    have hf : f.1 ≠ sp.endId := h f (by simp)
    simp only [List.cons_append, decodeFields, hf, if_false, applyAll_cons]
    exact ih _ (fun g hg => h g (List.mem_cons_of_mem _ hg))

end RV.Persist
