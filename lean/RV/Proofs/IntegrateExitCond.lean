import RV.Proofs.IntegrateStatus
import Mathlib.Data.List.Pairwise
/-
  C08: the exit conditions of reb_run_heartbeat computed from the particle positions (rebound.c:743-774)
  are what the documentation says: some particle farther than exit_max_distance from the origin / some pair
  closer than exit_min_distance; a zero distance switches the test off.
-/
set_option linter.unusedSectionVars false
namespace RV.Integrate
open RV
variable {K : Type} [Field K] [LinearOrder K] [IsStrictOrderedRing K]

theorem norm2_eq (p : V3 K) : norm2 p = p.x ^ 2 + p.y ^ 2 + p.z ^ 2 := by
  simp only [norm2, sc_hadd, sc_hmul]; ring

theorem dist2_eq (a b : V3 K) : dist2 a b = (a.x - b.x) ^ 2 + (a.y - b.y) ^ 2 + (a.z - b.z) ^ 2 := by
  simp only [dist2, sc_hadd, sc_hmul, sc_hsub]; ring

theorem dist2_symm (a b : V3 K) : dist2 a b = dist2 b a := by
  rw [dist2_eq, dist2_eq]; ring

theorem escapeFlag_iff (maxd : K) (ps : List (V3 K)) :
    escapeFlag maxd ps = true ↔ maxd ≠ 0 ∧ ∃ p ∈ ps, maxd ^ 2 < p.x ^ 2 + p.y ^ 2 + p.z ^ 2 := by
  unfold escapeFlag
  simp only [fne_iff, sc_zero, fgt_iff, sc_hmul]
  by_cases h : maxd = 0
  · simp [h]
  · simp only [ne_eq, h, not_false_eq_true, decide_true, if_true, List.any_eq_true, decide_eq_true_eq, true_and]
    constructor
    · rintro ⟨p, hp, hlt⟩
      exact ⟨p, hp, by rw [← norm2_eq]; rw [pow_two]; exact hlt⟩
    · rintro ⟨p, hp, hlt⟩
      exact ⟨p, hp, by rw [norm2_eq, ← pow_two]; exact hlt⟩

theorem anyClosePair_false_iff (m2 : K) (ps : List (V3 K)) :
    anyClosePair m2 ps = false ↔ ps.Pairwise (fun a b => m2 ≤ dist2 b a) := by
  induction ps with
  | nil => simp [anyClosePair]
  | cons p rest ih =>
    simp only [anyClosePair, Bool.or_eq_false_iff, List.pairwise_cons, ih, slt_iff]
    constructor
    · rintro ⟨h1, h2⟩
      refine ⟨fun q hq => ?_, h2⟩
      have := List.any_eq_false.mp h1 q hq
      simpa using this
    · rintro ⟨h1, h2⟩
      refine ⟨?_, h2⟩
      rw [List.any_eq_false]
      intro q hq
      simpa using h1 q hq

theorem encounterFlag_false_iff (mind : K) (ps : List (V3 K)) :
    encounterFlag mind ps = false ↔
      mind = 0 ∨ ps.Pairwise (fun a b => mind ^ 2 ≤ (b.x - a.x) ^ 2 + (b.y - a.y) ^ 2 + (b.z - a.z) ^ 2) := by
  unfold encounterFlag
  simp only [fne_iff, sc_zero, sc_hmul]
  by_cases h : mind = 0
  · simp [h]
  · simp only [ne_eq, h, not_false_eq_true, decide_true, if_true, false_or, anyClosePair_false_iff]
    constructor <;> intro hp <;> refine hp.imp ?_ <;> intro a b hab
    · rw [← dist2_eq, pow_two]; exact hab
    · rw [dist2_eq, ← pow_two]; exact hab

end RV.Integrate
