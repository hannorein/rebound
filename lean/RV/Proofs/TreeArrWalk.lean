import RV.Proofs.TreeArr
/-
  The in-place walk of one root tree equals the pure sweep `sweepP` with the keep test read off the original array,
  run on the state `evState` of the evictions made so far (`walkA_eq`); `mapStL_spec` is the step through the octants.
-/
set_option linter.unusedSectionVars false
namespace RV.C15
open RV RV.Tree RV.Boundary RV.TreeArr

variable {K : Type} [Field K] [LinearOrder K] [IsStrictOrderedRing K] {α : Type}

theorem flatMap_sublist {ι β : Type} (a b : ι → List β) (h : ∀ o, List.Sublist (a o) (b o)) : ∀ l : List ι,
    List.Sublist (l.flatMap a) (l.flatMap b) := by
  intro l
  induction l with
  | nil => simp
  | cons o l ih => simp only [List.flatMap_cons]; exact (h o).append ih

theorem sweepP_sublist (keep : Nat → Cell K → Bool) : ∀ t : T K, List.Sublist (sweepP keep t).2 (leaves t) := by
  intro t
  induction t with
  | nil => simp [sweepP, leaves]
  | leaf c g q => by_cases h : keep q c = true <;> simp [sweepP, leaves, h]
  | node c g n ch ih => simp only [sweepP, leaves]; exact flatMap_sublist _ _ ih _

/-- sequential map: if every element, started in the state reached so far, returns `g o` and advances the state by `e o`,
    then the whole map returns `l.map g` in state `S (E ++ l.flatMap e)` -/
theorem mapStL_spec {ι σ β : Type} (f : ι → σ → Option (β × σ)) (S : List Nat → σ) (g : ι → β) (e : ι → List Nat) :
    ∀ (l : List ι) (E : List Nat),
    (∀ l1 o l2, l = l1 ++ o :: l2 → f o (S (E ++ l1.flatMap e)) = some (g o, S (E ++ l1.flatMap e ++ e o))) →
    mapStL f l (S E) = some (l.map g, S (E ++ l.flatMap e)) := by
  intro l
  induction l with
  | nil => intro E _; simp [mapStL]
  | cons o l ih =>
    intro E h
    have h0 := h [] o l rfl
    simp only [List.flatMap_nil, List.append_nil] at h0
    have ht := ih (E ++ e o) (by
      intro l1 o' l2 hl
      have := h (o :: l1) o' l2 (by rw [hl]; rfl)
      simpa [List.flatMap_cons, List.append_assoc] using this)
    simp only [mapStL, h0, ht, List.map_cons, List.flatMap_cons, List.append_assoc]


/-- the walk's leaf test, in terms of the particle the leaf held when the walk began -/
def keepOf (pos : α → Pt K) (flagged : α → Bool) (arr0 : List α) (q : Nat) (c : Cell K) : Bool :=
  match arr0[q]? with
  | some p => inside (pos p) c && !flagged p
  | none => false

theorem getD_map_finRange {β : Type} (g : Fin 8 → β) (d : β) (o : Fin 8) :
    ((List.finRange 8).map g).getD o.val d = g o := by
  simp [List.getD_eq_getElem?_getD]

/-- the stateful walk over the array = the pure sweep, with the array/log/buffer obtained by evicting the swept-out
    indices in pre-order -/
theorem walkA_eq (pos : α → Pt K) (flagged : α → Bool) (arr0 : List α) : ∀ (t : T K) (E : List Nat),
    (E ++ leaves t).Nodup → (∀ x ∈ E ++ leaves t, x < arr0.length) →
    walkA pos flagged t (evState flagged arr0 E) =
      some ((sweepP (keepOf pos flagged arr0) t).1,
            evState flagged arr0 (E ++ (sweepP (keepOf pos flagged arr0) t).2)) := by
  intro t
  induction t with
  | nil => intro E _ _; simp [walkA, sweepP]
  | leaf c g p0 =>
    intro E hn hb
    have hnE := (List.nodup_append.mp hn).1
    have hp0 : p0 ∉ E := by
      intro hm
      exact (List.nodup_append.mp hn).2.2 p0 hm p0 (by simp [leaves]) rfl
    have hp0b : p0 < arr0.length := hb p0 (by simp [leaves])
    have inv := ArrInv_evState flagged arr0 E hnE (fun e he => hb e (by simp [he]))
    obtain ⟨_, hget⟩ := inv.get p0 hp0b hp0
    have hp : arr0[p0]? = some arr0[p0] := List.getElem?_eq_getElem hp0b
    rw [hp] at hget
    simp only [walkA, hget, sweepP, keepOf, hp]
    by_cases hk : (inside (pos arr0[p0]) c && !flagged arr0[p0]) = true
    · simp [hk]
    · have hk' : (inside (pos arr0[p0]) c && !flagged arr0[p0]) = false := by
        cases h : (inside (pos arr0[p0]) c && !flagged arr0[p0]) <;> simp_all
      simp only [hk', Bool.false_eq_true, if_false]
      rw [evState_snoc]
      simp [evStep, hget]
  | node c g n ch ih =>
    intro E hn hb
    set keep := keepOf pos flagged arr0 with hkeep
    have hspec := mapStL_spec (fun o s => walkA pos flagged (ch o) s) (evState flagged arr0)
      (fun o => (sweepP keep (ch o)).1) (fun o => (sweepP keep (ch o)).2) (List.finRange 8) E (by
        intro l1 o l2 hl
        have hsub : List.Sublist (E ++ l1.flatMap (fun o => (sweepP keep (ch o)).2) ++ leaves (ch o))
            (E ++ leaves (.node c g n ch)) := by
          simp only [leaves, hl, List.flatMap_append, List.flatMap_cons, List.append_assoc]
          apply List.Sublist.append (List.Sublist.refl _)
          apply List.Sublist.append (flatMap_sublist _ _ (fun o => sweepP_sublist keep (ch o)) _)
          exact List.sublist_append_left _ _
        have := ih o (E ++ l1.flatMap (fun o => (sweepP keep (ch o)).2)) (hn.sublist hsub)
          (fun x hx => hb x (hsub.subset hx))
        simpa [List.append_assoc] using this)
    simp only [walkA, hspec, sweepP]
    have hfun : (fun o : Fin 8 => (List.map (fun o => (sweepP keep (ch o)).1) (List.finRange 8)).getD o.val T.nil) =
        fun o => (sweepP keep (ch o)).1 := by
      funext o
      exact getD_map_finRange _ _ o
    rw [hfun]

end RV.C15
