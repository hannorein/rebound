import RV.Proofs.WHLink
import RV.Model.WHInt
/-
  The model of `reb_whfast_interaction_step` (Jacobi coordinates) has the shape that
  `InteractionLike` (RV/Proofs/WHSteps.lean) postulates: every Jacobi body gets
      v'_i += dt · ( a'_i + c_i · x'_i ),   a' = declarative Jacobi transform of the inertial accelerations,
  with the radial coefficient `c_i = rji·rj2i·G·η_i` for `i > 1` and `0` for `i = 1`.
-/
namespace RV.WHInt
open RV RV.Transform RV.WH
variable {K : Type} [Field K]

/-- the radial coefficient the loop uses for the body at list position `k` (index `i+k`) -/
def coef (sqrt : K → K) (G soft : K) (i : Nat) (eta : K) (bodies : List (JB K)) (k : Nat) (b : JB K) : K :=
  if 1 < i + k then
    sqrt (1 / (b.x.x * b.x.x + b.x.y * b.x.y + b.x.z * b.x.z + soft * soft))
      * (1 / (b.x.x * b.x.x + b.x.y * b.x.y + b.x.z * b.x.z + soft * soft)) * G
      * (eta + ((bodies.take (k + 1)).map (·.m)).sum)
  else 0

theorem kickLoop_get (sqrt : K → K) (G soft dt : K) :
    ∀ (bodies : List (JB K)) (accs : List (V3 K)) (i : Nat) (eta : K) (k : Nat) (b : JB K) (a : V3 K),
      bodies[k]? = some b → accs[k]? = some a →
      (kickLoop sqrt G soft dt i eta bodies accs)[k]?
        = some (b.v + dt • (a + coef sqrt G soft i eta bodies k b • b.x)) := by
  intro bodies
  induction bodies with
  | nil => intro accs i eta k b a hb; simp at hb
  | cons b0 r ih =>
    intro accs i eta k b a hb ha
    cases accs with
    | nil => simp at ha
    | cons a0 ra =>
      cases k with
      | zero =>
        simp only [List.getElem?_cons_zero, Option.some.injEq] at hb ha
        subst hb; subst ha
        rw [kickLoop, List.getElem?_cons_zero, Option.some.injEq]
        simp only [coef, List.take_succ_cons, List.take_zero, List.map_cons, List.map_nil,
          List.sum_cons, List.sum_nil, add_zero, sc_one]
        split_ifs <;> ext <;>
          dsimp only [V3.add_x, V3.add_y, V3.add_z, V3.smul_x, V3.smul_y, V3.smul_z] <;> ring
      | succ k =>
        simp only [List.getElem?_cons_succ] at hb ha
        simp only [kickLoop, List.getElem?_cons_succ, sc_hadd]
        rw [ih ra (i + 1) (eta + b0.m) k b a hb ha]
        congr 3
        simp only [coef, List.take_succ_cons, List.map_cons, List.sum_cons]
        have : i + 1 + k = i + (k + 1) := by omega
        rw [this]
        by_cases h1 : 1 < i + (k + 1)
        · simp only [h1, if_true]; congr 1; ring_nf
        · simp only [h1, if_false]

/-- the Jacobi accelerations the model feeds into the loop are the declarative Jacobi coordinates
    (`jrel`) of the inertial accelerations, component by component -/
theorem jacAcc_get (m0 : K) (a0 : V3 K) (ms : List K) (as : List (V3 K)) (hlen : as.length = ms.length)
    (hx : SumsNZ m0 (ms.zip (as.map (·.x)))) (hy : SumsNZ m0 (ms.zip (as.map (·.y))))
    (hz : SumsNZ m0 (ms.zip (as.map (·.z)))) (k : Nat) (hk : k < ms.length) :
    (jacAcc m0 a0 ms as)[k]? = some
      ⟨jrel (mF ((m0, a0.x) :: ms.zip (as.map (·.x)))) (fF ((m0, a0.x) :: ms.zip (as.map (·.x)))) (k + 1),
       jrel (mF ((m0, a0.y) :: ms.zip (as.map (·.y)))) (fF ((m0, a0.y) :: ms.zip (as.map (·.y)))) (k + 1),
       jrel (mF ((m0, a0.z) :: ms.zip (as.map (·.z)))) (fF ((m0, a0.z) :: ms.zip (as.map (·.z)))) (k + 1)⟩ := by
  have lx : (ms.zip (as.map (·.x))).length = ms.length := by simp [hlen]
  have ly : (ms.zip (as.map (·.y))).length = ms.length := by simp [hlen]
  have lz : (ms.zip (as.map (·.z))).length = ms.length := by simp [hlen]
  obtain ⟨_, _, ex⟩ := jacFwd_decl m0 a0.x _ hx
  obtain ⟨_, _, ey⟩ := jacFwd_decl m0 a0.y _ hy
  obtain ⟨_, _, ez⟩ := jacFwd_decl m0 a0.z _ hz
  simp only [jacAcc, ex, ey, ez, lx, ly, lz, List.getElem?_map]
  simp [hk]

end RV.WHInt
