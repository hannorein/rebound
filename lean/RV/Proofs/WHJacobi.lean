import RV.Proofs.Diag
import Mathlib.Algebra.Module.BigOperators
/-
  Jacobi coordinates as a declarative linear map and the classical decomposition of the
  mass-weighted bilinear form:   Σ m_i a_i b_i = Σ μ_i A_i B_i
  (μ_0 = M, A_0 = centre-of-mass value, μ_i = m_i η_{i-1}/η_i, A_i = a_i − (Σ_{k<i} m_k a_k)/η_{i-1}).
  Hence  P = M V_com  and  L = M R×V + Σ_{i≥1} μ_i x'_i × v'_i.
-/
namespace RV.WH
open RV
variable {K : Type} [Field K]

/-- `η_i = Σ_{k≤i} m_k` (the running mass of `inertial_to_jacobi`) -/
def eta (m : Nat → K) (i : Nat) : K := ∑ k ∈ Finset.range (i + 1), m k
/-- `s_i = Σ_{k≤i} m_k f_k` for one scalar component -/
def wsum (m f : Nat → K) (i : Nat) : K := ∑ k ∈ Finset.range (i + 1), m k * f k

/-- Jacobi coordinate `i ≥ 1` of a component: `f_i − s_{i-1}/η_{i-1}` -/
def jrel (m f : Nat → K) (i : Nat) : K := f i - wsum m f (i - 1) / eta m (i - 1)
/-- Jacobi mass `μ_i = m_i η_{i-1}/η_i`, `i ≥ 1` -/
def mu (m : Nat → K) (i : Nat) : K := m i * eta m (i - 1) / eta m i

theorem eta_succ (m : Nat → K) (i : Nat) : eta m (i + 1) = eta m i + m (i + 1) :=
  Finset.sum_range_succ _ _
theorem wsum_succ (m f : Nat → K) (i : Nat) : wsum m f (i + 1) = wsum m f i + m (i + 1) * f (i + 1) :=
  Finset.sum_range_succ _ _

theorem bilinear_jacobi (m a b : Nat → K) (n : Nat) (h : ∀ i, i ≤ n → eta m i ≠ 0) :
    ∑ i ∈ Finset.range (n + 1), m i * a i * b i
      = wsum m a n * wsum m b n / eta m n
        + ∑ i ∈ Finset.Ico 1 (n + 1), mu m i * jrel m a i * jrel m b i := by
  induction n with
  | zero =>
    have h0 : m 0 ≠ 0 := by simpa [eta] using h 0 (le_refl 0)
    simp [wsum, eta]
    field_simp
  | succ n ih =>
    have hn := h n (by omega)
    have hn1 := h (n + 1) (le_refl _)
    rw [Finset.sum_range_succ, ih (fun i hi => h i (by omega)),
      Finset.sum_Ico_succ_top (by omega : 1 ≤ n + 1)]
    simp only [mu, jrel, Nat.add_sub_cancel, wsum_succ]
    rw [eta_succ] at hn1 ⊢
    field_simp
    ring

def wsumV (m : Nat → K) (x : Nat → V3 K) (i : Nat) : V3 K := ∑ k ∈ Finset.range (i + 1), m k • x k

/-- Jacobi coordinates of `N` bodies: slot 0 = centre of mass, slot `i ≥ 1` = position relative
    to the centre of mass of the bodies `0..i-1` -/
def jacV (N : Nat) (m : Nat → K) (x : Nat → V3 K) (i : Nat) : V3 K :=
  if i = 0 then (1 / eta m (N - 1)) • wsumV m x (N - 1)
  else x i - (1 / eta m (i - 1)) • wsumV m x (i - 1)

/-- Jacobi masses: slot 0 carries the total mass -/
def muJ (N : Nat) (m : Nat → K) (i : Nat) : K := if i = 0 then eta m (N - 1) else mu m i

theorem wsumV_x (m : Nat → K) (x : Nat → V3 K) (i : Nat) : (wsumV m x i).x = wsum m (fun k => (x k).x) i := by
  simp [wsumV, wsum, V3.sum_x]
theorem wsumV_y (m : Nat → K) (x : Nat → V3 K) (i : Nat) : (wsumV m x i).y = wsum m (fun k => (x k).y) i := by
  simp [wsumV, wsum, V3.sum_y]
theorem wsumV_z (m : Nat → K) (x : Nat → V3 K) (i : Nat) : (wsumV m x i).z = wsum m (fun k => (x k).z) i := by
  simp [wsumV, wsum, V3.sum_z]

/-- the same for `N` bodies, slot 0 written as `η·(s_a/η)·(s_b/η)` and the sum over `Ico 1 N` -/
theorem bilinear_jacobi' (N : Nat) (hN : 1 ≤ N) (m a b : Nat → K) (h : ∀ i, i < N → eta m i ≠ 0) :
    ∑ i ∈ Finset.range N, m i * a i * b i
      = eta m (N - 1) * (wsum m a (N - 1) / eta m (N - 1)) * (wsum m b (N - 1) / eta m (N - 1))
        + ∑ i ∈ Finset.Ico 1 N, mu m i * jrel m a i * jrel m b i := by
  obtain ⟨n, rfl⟩ : ∃ n, N = n + 1 := ⟨N - 1, by omega⟩
  have hn := h n (by omega)
  rw [bilinear_jacobi m a b n (fun i hi => h i (by omega))]
  simp only [Nat.add_sub_cancel]
  congr 1
  field_simp

theorem range_split (N : Nat) (hN : 1 ≤ N) (f : Nat → V3 K) :
    ∑ i ∈ Finset.range N, f i = f 0 + ∑ i ∈ Finset.Ico 1 N, f i := by
  rw [Finset.range_eq_Ico, Finset.sum_eq_sum_Ico_succ_bot (by omega : 0 < N)]

/-- the antisymmetrised form `Σ m (a d − c b)` (one component of a cross product), written as the
    components of `muJ • cross (jacV ·) (jacV ·)` come out -/
theorem bilinear_jacobi_sub (N : Nat) (hN : 1 ≤ N) (m a b c d : Nat → K) (h : ∀ i, i < N → eta m i ≠ 0) :
    ∑ i ∈ Finset.range N, m i * (a i * d i - c i * b i)
      = eta m (N - 1) * (1 / eta m (N - 1) * wsum m a (N - 1) * (1 / eta m (N - 1) * wsum m d (N - 1))
          - 1 / eta m (N - 1) * wsum m c (N - 1) * (1 / eta m (N - 1) * wsum m b (N - 1)))
        + ∑ i ∈ Finset.Ico 1 N, mu m i *
            ((a i - 1 / eta m (i - 1) * wsum m a (i - 1)) * (d i - 1 / eta m (i - 1) * wsum m d (i - 1))
              - (c i - 1 / eta m (i - 1) * wsum m c (i - 1)) * (b i - 1 / eta m (i - 1) * wsum m b (i - 1))) := by
  have e : ∀ i, m i * (a i * d i - c i * b i) = m i * a i * d i - m i * c i * b i := fun i => by ring
  simp only [e, Finset.sum_sub_distrib, bilinear_jacobi' N hN m _ _ h, jrel]
  rw [add_sub_add_comm, ← Finset.sum_sub_distrib]
  congr 1
  · ring
  · exact Finset.sum_congr rfl fun i _ => by ring

/-- **Jacobi decomposition of angular momentum**: `Σ m_i x_i × v_i = Σ_i μ_i X_i × V_i`
    (slot 0: `M R × V`) -/
theorem angmom_jacobi (N : Nat) (hN : 1 ≤ N) (m : Nat → K) (x v : Nat → V3 K)
    (h : ∀ i, i < N → eta m i ≠ 0) :
    ∑ i ∈ Finset.range N, m i • V3.cross (x i) (v i)
      = ∑ i ∈ Finset.range N, muJ N m i • V3.cross (jacV N m x i) (jacV N m v i) := by
  have hi : ∀ i ∈ Finset.Ico 1 N, muJ N m i • V3.cross (jacV N m x i) (jacV N m v i)
      = mu m i • V3.cross (x i - (1 / eta m (i - 1)) • wsumV m x (i - 1))
          (v i - (1 / eta m (i - 1)) • wsumV m v (i - 1)) := fun i hi => by
    have : i ≠ 0 := Nat.ne_of_gt (Finset.mem_Ico.mp hi).1
    simp only [muJ, jacV, this, if_false]
  rw [range_split N hN fun i => muJ N m i • _, Finset.sum_congr rfl hi]
  ext <;>
    simp only [V3.sum_x, V3.sum_y, V3.sum_z, V3.smul_x, V3.smul_y, V3.smul_z, V3.cross_x, V3.cross_y, V3.cross_z,
      V3.add_x, V3.add_y, V3.add_z, V3.sub_x, V3.sub_y, V3.sub_z, muJ, jacV, if_true, wsumV_x, wsumV_y, wsumV_z] <;>
    exact bilinear_jacobi_sub N hN m _ _ _ _ h

/-- **momentum**: `Σ m_i v_i = M · V_0` -/
theorem momentum_jacobi (N : Nat) (hN : 1 ≤ N) (m : Nat → K) (v : Nat → V3 K)
    (h : eta m (N - 1) ≠ 0) :
    ∑ i ∈ Finset.range N, m i • v i = muJ N m 0 • jacV N m v 0 := by
  simp only [muJ, jacV, if_true, smul_smul]
  rw [mul_one_div_cancel h, one_smul, wsumV, Nat.sub_add_cancel hN]

end RV.WH
