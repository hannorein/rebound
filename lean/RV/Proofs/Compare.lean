import RV.Model.Persist
/-
  Lemmas about `compare` (the equality decision of reb_binary_diff at field level).
-/
set_option linter.unusedVariables false
namespace RV.Persist

theorem findField_eq (fs : List Field) (id : Nat) :
    findField fs id = (fs.find? (fun f => f.1 = id)).map (·.2) := by
  unfold findField
  cases fs.find? (fun f => f.1 = id) <;> rfl

theorem findField_nil (id : Nat) : findField [] id = none := rfl

theorem findField_cons (f : Field) (r : List Field) (id : Nat) :
    findField (f :: r) id = if f.1 = id then some f.2 else findField r id := by
  simp only [findField_eq, List.find?_cons]
  by_cases h : f.1 = id <;> simp [h]

theorem findField_append (a b : List Field) (id : Nat) :
    findField (a ++ b) id = match findField a id with | some p => some p | none => findField b id := by
  simp only [findField_eq, List.find?_append]
  cases a.find? (fun f => f.1 = id) <;> rfl

theorem findField_eq_none_iff (a : List Field) (id : Nat) : findField a id = none ↔ ∀ x ∈ a, x.1 ≠ id := by
  simp [findField_eq]

theorem findField_some_mem (fs : List Field) (id : Nat) (p : Bytes) (h : findField fs id = some p) :
    (id, p) ∈ fs := by
  rw [findField_eq, Option.map_eq_some_iff] at h
  obtain ⟨f, hf, rfl⟩ := h
  have := List.find?_some hf
  simp only [decide_eq_true_eq] at this
  exact this ▸ List.mem_of_find?_eq_some hf

theorem findField_isSome_iff (fs : List Field) (id : Nat) : (findField fs id).isSome ↔ id ∈ fs.map (·.1) := by
  rw [← Option.ne_none_iff_isSome, Ne, findField_eq_none_iff]
  simp

theorem findField_self (fs : List Field) (hn : (fs.map (·.1)).Nodup) (f : Field) (hf : f ∈ fs) :
    findField fs f.1 = some f.2 := by
  induction fs with
  | nil => simp at hf
  | cons a r ih =>
    rw [List.map_cons, List.nodup_cons] at hn
    rw [findField_cons]
    rcases List.mem_cons.mp hf with rfl | h
    · rw [if_pos rfl]
    · rw [if_neg fun e : a.1 = f.1 => hn.1 (e ▸ List.mem_map_of_mem h), ih hn.2 h]

/-! ### IEEE `!=` on bit patterns -/

/-- a double whose comparison with itself is well behaved: not a NaN -/
def notNaN (b : Bytes) : Prop := isNaN64 (leNat b) = false

theorem f64Ne_self (b : Bytes) (h : notNaN b) : f64Ne b b = false := by
  unfold f64Ne
  unfold notNaN at h
  simp [h]

def memberBytes (c : CmpSpec) (a : Bytes) (i : Nat) (m : EMember) : Bytes :=
  slice (slice a (i * c.size) c.size) m.off m.size

/-- no compared floating-point member of any element is a NaN -/
def FpClean (c : CmpSpec) (a : Bytes) : Prop :=
  ∀ i, i < a.length / c.size → ∀ m ∈ c.members, m.kind = .f64 → notNaN (memberBytes c a i m)

theorem memberNe_self (m : EMember) (x : Bytes) (h : m.kind = .f64 → notNaN (slice x m.off m.size)) :
    memberNe m x x = false := by
  unfold memberNe
  cases hk : m.kind <;> simp [hk] at h ⊢
  exact f64Ne_self _ h

theorem elemDiffer_self (c : CmpSpec) (a : Bytes) (i : Nat)
    (h : ∀ m ∈ c.members, m.kind = .f64 → notNaN (memberBytes c a i m)) : elemDiffer c a a i = false := by
  unfold elemDiffer
  rw [List.any_eq_false]
  intro m hm
  have := memberNe_self m (slice a (i * c.size) c.size) (h m hm)
  simp [this]

theorem payloadDiffer_self (specs : List CmpSpec) (d : Option Desc) (a : Bytes)
    (h : ∀ dd k c, d = some dd → dd.cmp = k + 1 → specs[k]? = some c → FpClean c a) :
    payloadDiffer specs d a a = false := by
  unfold payloadDiffer
  rw [if_neg (by simp)]
  split
  · split
    · simp
    · rename_i dd _ k hk
      split
      · rename_i c hc
        rw [List.any_eq_false]
        intro i hi
        rw [elemDiffer_self c a i fun m hm => h dd k c rfl hk hc i (List.mem_range.mp hi) m hm]
        simp
      · simp
  · simp

theorem payloadDiffer_memberwise (specs : List CmpSpec) (d : Desc) (k : Nat) (c : CmpSpec) (a b : Bytes)
    (h : d.cmp = k + 1) (hs : specs[k]? = some c) :
    payloadDiffer specs (some d) a b = false ↔
      a.length = b.length ∧ ∀ i, i < a.length / c.size → ∀ m ∈ c.members,
        memberNe m (slice a (i * c.size) c.size) (slice b (i * c.size) c.size) = false := by
  by_cases hl : a.length = b.length <;> simp [payloadDiffer, hl, h, hs, elemDiffer]

theorem slice_getElem? (b : Bytes) (off size j : Nat) :
    (slice b off size)[j]? = if j < size then b[off + j]? else none := by
  unfold slice
  rw [List.getElem?_take]
  split
  · rw [List.getElem?_drop]
  · rfl

theorem fillSlots_getElem? (esz : Nat) (slots : List (Nat × Nat)) (fill : Nat → UInt8) (b : Bytes) (p : Nat) :
    (fillSlots esz slots fill b)[p]? = (b[p]?).map (fun x => if slotHit slots (p % esz) then fill p else x) := by
  unfold fillSlots
  rw [List.getElem?_mapIdx]

theorem fillSlots_length (esz : Nat) (slots : List (Nat × Nat)) (fill : Nat → UInt8) (b : Bytes) :
    (fillSlots esz slots fill b).length = b.length := by
  simp [fillSlots]

/-- no byte of member `m` lies in a slot -/
def memberClear (slots : List (Nat × Nat)) (m : EMember) : Bool :=
  (List.range m.size).all (fun j => !slotHit slots (m.off + j))

/-- every compared member lies inside the element and clear of the slots -/
def specClear (c : CmpSpec) (slots : List (Nat × Nat)) : Bool :=
  c.members.all (fun m => memberClear slots m && decide (m.off + m.size ≤ c.size))

theorem slice_slice_fill (c : CmpSpec) (slots : List (Nat × Nat)) (fill : Nat → UInt8) (a : Bytes)
    (i : Nat) (m : EMember) (hc : memberClear slots m = true) (hin : m.off + m.size ≤ c.size) :
    slice (slice (fillSlots c.size slots fill a) (i * c.size) c.size) m.off m.size =
      slice (slice a (i * c.size) c.size) m.off m.size := by
  have hpt : ∀ j : Nat, (slice (slice (fillSlots c.size slots fill a) (i * c.size) c.size) m.off m.size)[j]? =
      (slice (slice a (i * c.size) c.size) m.off m.size)[j]? := by
    intro (j : Nat)
    simp only [slice_getElem?]
    by_cases hj : j < m.size
    · have hlt : m.off + j < c.size := by omega
      simp only [hj, hlt, if_true]
      rw [fillSlots_getElem?]
      have hmod : (i * c.size + (m.off + j)) % c.size = m.off + j := by
        rw [Nat.mul_comm, Nat.mul_add_mod]
        exact Nat.mod_eq_of_lt hlt
      rw [hmod]
      have hclear : slotHit slots (m.off + j) = false := by
        simpa using List.all_eq_true.mp hc j (List.mem_range.mpr hj)
      rw [hclear]
      cases a[i * c.size + (m.off + j)]? <;> simp
    · simp only [hj, if_false]
  exact List.ext_getElem? hpt

/-- **overwriting pointer slots (and padding) never changes the outcome of a member-wise comparison** -/
theorem payloadDiffer_fillSlots (specs : List CmpSpec) (d : Desc) (k : Nat) (c : CmpSpec)
    (slots : List (Nat × Nat)) (fa fb : Nat → UInt8) (a b : Bytes)
    (h : d.cmp = k + 1) (hs : specs[k]? = some c) (hclear : specClear c slots = true) (hpos : 0 < c.size) :
    payloadDiffer specs (some d) (fillSlots c.size slots fa a) (fillSlots c.size slots fb b) =
      payloadDiffer specs (some d) a b := by
  have hm : ∀ (i : Nat) (m : EMember), m ∈ c.members →
      memberNe m (slice (fillSlots c.size slots fa a) (i * c.size) c.size)
        (slice (fillSlots c.size slots fb b) (i * c.size) c.size) =
      memberNe m (slice a (i * c.size) c.size) (slice b (i * c.size) c.size) := by
    intro i m hmem
    have hcm := List.all_eq_true.mp hclear m hmem
    simp only [Bool.and_eq_true, decide_eq_true_eq] at hcm
    unfold memberNe
    rw [slice_slice_fill c slots fa a i m hcm.1 hcm.2, slice_slice_fill c slots fb b i m hcm.1 hcm.2]
  have hb : ∀ x y : Bool, (x = false ↔ y = false) → x = y := by decide
  apply hb
  rw [payloadDiffer_memberwise specs d k c _ _ h hs, payloadDiffer_memberwise specs d k c _ _ h hs,
    fillSlots_length, fillSlots_length]
  exact and_congr_right fun _ => forall_congr' fun i => forall_congr' fun _ => forall_congr' fun m =>
    forall_congr' fun hmem => by rw [hm i m hmem]

end RV.Persist
