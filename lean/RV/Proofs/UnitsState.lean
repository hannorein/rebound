import RV.Proofs.Units
import RV.Model.UnitsState
/-
  About RV/Model/Units.lean and RV/Model/UnitsState.lean: each conversion function composes and is the identity
  for equal units, hence so does `convertParticle`; the two successful steps of the unit state machine.
-/
namespace RV.UnitsState
open RV RV.Units
variable {K : Type} [Field K]

/-- `G` is the value `convert_G` gives for the stored units -/
def Follows (gSI : K) (s : USim K) : Prop :=
  ∀ u, s.units = some u → s.G = convertG gSI u.L u.T u.M

theorem follows_updateUnits (gSI : K) (s : USim K) (u : UnitSys K) : Follows gSI (updateUnits gSI s u) := by
  intro v hv
  simp only [updateUnits, Option.some.injEq] at hv
  subst hv; rfl

theorem convertMass_trans (x a b c : K) (hb : b ≠ 0) :
    convertMass (convertMass x a b) b c = convertMass x a c := by
  simp only [convertMass, sc_hmul, sc_hdiv]; field_simp

theorem convertLength_trans (x a b c : K) (hb : b ≠ 0) :
    convertLength (convertLength x a b) b c = convertLength x a c :=
  convertMass_trans x a b c hb

theorem convertVel_trans (v aL aT bL bT cL cT : K) (hL : bL ≠ 0) (hT : bT ≠ 0) :
    convertVel (convertVel v aL aT bL bT) bL bT cL cT = convertVel v aL aT cL cT := by
  simp only [convertVel, sc_hmul, sc_hdiv]; field_simp

theorem convertAcc_trans (x aL aT bL bT cL cT : K) (hL : bL ≠ 0) (hT : bT ≠ 0) :
    convertAcc (convertAcc x aL aT bL bT) bL bT cL cT = convertAcc x aL aT cL cT := by
  simp only [convertAcc, p_powi, sc_hmul, sc_hdiv]; field_simp

theorem convertMass_same (x a : K) (ha : a ≠ 0) : convertMass x a a = x := by
  simp only [convertMass, sc_hmul, sc_hdiv]; field_simp

theorem convertLength_same (x a : K) (ha : a ≠ 0) : convertLength x a a = x := convertMass_same x a ha

theorem convertVel_same (v L T : K) (hL : L ≠ 0) (hT : T ≠ 0) : convertVel v L T L T = v := by
  simp only [convertVel, sc_hmul, sc_hdiv]; field_simp

theorem convertAcc_same (x L T : K) (hL : L ≠ 0) (hT : T ≠ 0) : convertAcc x L T L T = x := by
  simp only [convertAcc, p_powi, sc_hmul, sc_hdiv]; field_simp

theorem convertParticle_trans (p : PData K) (aL aT aM bL bT bM cL cT cM : K)
    (hL : bL ≠ 0) (hT : bT ≠ 0) (hM : bM ≠ 0) :
    convertParticle (convertParticle p aL aT aM bL bT bM) bL bT bM cL cT cM =
      convertParticle p aL aT aM cL cT cM := by
  simp only [convertParticle, convertMass_trans _ _ _ _ hM, convertLength_trans _ _ _ _ hL,
    convertVel_trans _ _ _ _ _ _ _ hL hT, convertAcc_trans _ _ _ _ _ _ _ hL hT]

theorem convertParticle_same (p : PData K) (aL aT aM : K) (hL : aL ≠ 0) (hT : aT ≠ 0) (hM : aM ≠ 0) :
    convertParticle p aL aT aM aL aT aM = p := by
  simp only [convertParticle, convertMass_same _ _ hM, convertLength_same _ _ hL, convertVel_same _ _ _ hL hT,
    convertAcc_same _ _ _ hL hT]

theorem step_setUnits_ok (gSI : K) (s : USim K) (u : UnitSys K) (h : s.parts = []) :
    step gSI s (.setUnits (some u)) = .ok (updateUnits gSI s u) := by
  simp [step, h]

theorem step_convert_ok (gSI : K) (s : USim K) (cur u : UnitSys K) (h : s.units = some cur) :
    step gSI s (.convert (some u)) =
      .ok (updateUnits gSI { s with parts := s.parts.map (fun p => convertParticle p cur.L cur.T cur.M u.L u.T u.M) } u) := by
  simp [step, h]

end RV.UnitsState
