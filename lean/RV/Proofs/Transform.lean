import RV.Proofs.Field
import RV.Model.Transform
/-
  About RV/Model/Transform.lean: the forward and reverse Jacobi loops undo each other (`jac_act_roundtrip`,
  final state `jacFwdAct_final`); the accumulators of the DH / WHDS / barycentric / hybrid maps in closed
  form (`comAcc_eq`, `dhSum_eq`, `whdsSum_eq`, `baryAcc_eq`, `hybAcc_eq`) in terms of `msum`, `mxsum`.
-/
set_option linter.unusedSectionVars false
namespace RV.Transform
open RV
variable {K : Type} [Field K]

/-- every running mass sum the C code divides by is non-zero -/
def SumsNZ : K → List (K × K) → Prop
  | eta, [] => eta ≠ 0
  | eta, (m, _) :: r => eta ≠ 0 ∧ SumsNZ (eta + m) r

def msum (l : List (K × K)) : K := (l.map (fun p => p.1)).sum
def mxsum (l : List (K × K)) : K := (l.map (fun p => p.1 * p.2)).sum

@[simp] theorem msum_cons (m x : K) (l : List (K × K)) : msum ((m, x) :: l) = m + msum l := by
  simp [msum]
@[simp] theorem mxsum_cons (m x : K) (l : List (K × K)) : mxsum ((m, x) :: l) = m * x + mxsum l := by
  simp [mxsum]

theorem sumsNZ_head {eta : K} {l : List (K × K)} (h : SumsNZ eta l) : eta ≠ 0 := by
  cases l with
  | nil => exact h
  | cons a r => obtain ⟨m, x⟩ := a; exact h.1

theorem jacInvAct_append (eta s : K) (l1 l2 : List (K × K)) :
    jacInvAct eta s (l1 ++ l2) =
      (let r1 := jacInvAct eta s l1
       let r2 := jacInvAct r1.2.1 r1.2.2 l2
       (r1.1 ++ r2.1, r2.2.1, r2.2.2)) := by
  induction l1 generalizing eta s with
  | nil => simp [jacInvAct]
  | cons a r ih =>
    obtain ⟨m, x⟩ := a
    simp only [List.cons_append, jacInvAct, ih]

theorem jacFwdAct_length (eta s : K) (act : List (K × K)) :
    (jacFwdAct eta s act).1.length = act.length := by
  induction act generalizing eta s with
  | nil => simp [jacFwdAct]
  | cons a r ih => obtain ⟨m, x⟩ := a; simp [jacFwdAct, ih]

/-- final state of the forward loop: total mass and mass-weighted sum -/
theorem jacFwdAct_final (eta s : K) (act : List (K × K)) (h : SumsNZ eta act) :
    (jacFwdAct eta s act).2.1 = eta + msum act ∧
    (jacFwdAct eta s act).2.2 = s + mxsum act ∧
    SumsNZ ((jacFwdAct eta s act).2.1) [] := by
  induction act generalizing eta s with
  | nil => simp [jacFwdAct, msum, mxsum, SumsNZ]; exact h
  | cons a r ih =>
    obtain ⟨m, x⟩ := a
    obtain ⟨h0, hr⟩ := h
    have := ih (eta + m) (s * ((eta + m) * (1 / eta)) + m * (x - s * (1 / eta))) hr
    obtain ⟨e1, e2, e3⟩ := this
    refine ⟨?_, ?_, ?_⟩
    · simp only [jacFwdAct, sc_one, sc_hadd, sc_hsub, sc_hmul, sc_hdiv]
      rw [e1]; simp [msum]; ring
    · simp only [jacFwdAct, sc_one, sc_hadd, sc_hsub, sc_hmul, sc_hdiv]
      rw [e2]; simp [msum, mxsum]; field_simp; ring
    · simpa only [jacFwdAct, sc_one, sc_hadd, sc_hsub, sc_hmul, sc_hdiv] using e3

/-- the reverse loop undoes the forward loop, for every number of active particles -/
theorem jac_act_roundtrip (eta s : K) (act : List (K × K)) (h : SumsNZ eta act) :
    jacInvAct (jacFwdAct eta s act).2.1 (jacFwdAct eta s act).2.2
        (((act.map Prod.fst).zip (jacFwdAct eta s act).1).reverse)
      = ((act.map Prod.snd).reverse, eta, s) := by
  induction act generalizing eta s with
  | nil => simp [jacFwdAct, jacInvAct]
  | cons a r ih =>
    obtain ⟨m, x⟩ := a
    obtain ⟨h0, hr⟩ := h
    have h1 : eta + m ≠ 0 := sumsNZ_head hr
    have := ih (eta + m) (s * ((eta + m) * (1 / eta)) + m * (x - s * (1 / eta))) hr
    simp only [jacFwdAct, sc_one, sc_hadd, sc_hsub, sc_hmul, sc_hdiv, List.map_cons,
      List.zip_cons_cons, List.reverse_cons, jacInvAct_append, this, jacInvAct]
    refine Prod.ext ?_ (Prod.ext ?_ ?_)
    · simp; field_simp; ring
    · simp
    · simp; field_simp

theorem zip_map_fst (l : List (K × K)) (f : K × K → K) :
    (l.map Prod.fst).zip (l.map f) = l.map (fun p => (p.1, f p)) := by
  induction l with
  | nil => rfl
  | cons a r ih => simp [ih]

theorem zip_sub_add (l : List (K × K)) (c : K) :
    ((l.map Prod.fst).zip (l.map (fun p => p.2 - c))).map (fun p => (p.1, p.2 + c)) = l := by
  induction l with
  | nil => rfl
  | cons a r ih => simp [ih]

theorem comAcc_eq (xs ms : K) (l : List (K × K)) :
    comAcc xs ms l = (xs + mxsum l, ms + msum l) := by
  induction l generalizing xs ms with
  | nil => simp [comAcc, mxsum, msum]
  | cons a r ih =>
    obtain ⟨m, x⟩ := a
    simp only [comAcc, sc_hadd, sc_hmul, ih]
    simp [mxsum, msum]; constructor <;> ring

theorem dhSum_eq (mt a : K) (l : List (K × K)) :
    dhSum mt a l = a + mxsum l / mt := by
  induction l generalizing a with
  | nil => simp [dhSum, mxsum]
  | cons p r ih =>
    obtain ⟨m, q⟩ := p
    simp only [dhSum, sc_hadd, sc_hmul, sc_hdiv, ih]
    simp [mxsum]; ring

theorem mxsum_shift (l : List (K × K)) (c : K) :
    mxsum (l.map (fun p => (p.1, p.2 - c))) = mxsum l - c * msum l := by
  induction l with
  | nil => simp [mxsum, msum]
  | cons p r ih =>
    simp only [mxsum, msum, List.map_cons, List.sum_cons, List.map_map] at *
    rw [ih]; ring

theorem whdsSum_eq (m0 a : K) (l : List (K × K)) :
    whdsSum m0 a l = a + (l.map (fun p => p.2 * p.1 / (m0 + p.1))).sum := by
  induction l generalizing a with
  | nil => simp [whdsSum]
  | cons p r ih =>
    obtain ⟨m, q⟩ := p
    simp only [whdsSum, sc_hadd, sc_hmul, sc_hdiv, ih]
    simp; ring

theorem baryAcc_eq (sx sm : K) (l : List (K × K)) :
    baryAcc sx sm l = (sx + mxsum l, sm + msum l) := by
  induction l generalizing sx sm with
  | nil => simp [baryAcc, mxsum, msum]
  | cons a r ih =>
    obtain ⟨m, x⟩ := a
    simp only [baryAcc, sc_hadd, sc_hmul, ih]
    simp [mxsum, msum]; constructor <;> ring

/-- every `m0 + m_i` the WHDS code divides by is non-zero -/
def WhdsNZ (m0 : K) (act : List (K × K)) : Prop := ∀ p ∈ act, m0 + p.1 ≠ 0

/-- the sum `whdsInvVel` subtracts, evaluated on the output of `whdsFwdVel` (barycentric velocity `V`), is
    `(Σ m v − V Σ m) / m0` -/
theorem whds_sum_key (m0 V : K) (act : List (K × K)) (h0 : m0 ≠ 0) (hw : WhdsNZ m0 act) :
    ((act.map (fun p => (p.1, (m0 + p.1) / m0 * (p.2 - V)))).map
        (fun p => p.2 * p.1 / (m0 + p.1))).sum = (mxsum act - V * msum act) / m0 := by
  induction act with
  | nil => simp [mxsum, msum]
  | cons p r ih =>
    have hp : m0 + p.1 ≠ 0 := hw p (List.mem_cons_self)
    have hr : WhdsNZ m0 r := fun q hq => hw q (List.mem_cons_of_mem _ hq)
    simp only [List.map_cons, List.sum_cons, mxsum, msum] at *
    rw [ih hr]; field_simp; ring

theorem msum_map_snd (l : List (K × K)) (f : K × K → K) :
    msum (l.map (fun p => (p.1, f p))) = msum l := by
  simp [msum, List.map_map, Function.comp_def]

theorem hybAcc_eq (c mt : K) (l : List (K × K)) :
    hybAcc c mt l = (c + mxsum l, mt + msum l) := by
  induction l generalizing c mt with
  | nil => simp [hybAcc, mxsum, msum]
  | cons a r ih =>
    obtain ⟨m, x⟩ := a
    simp only [hybAcc, sc_hadd, sc_hmul, ih]
    simp [mxsum, msum]; constructor <;> ring

end RV.Transform
