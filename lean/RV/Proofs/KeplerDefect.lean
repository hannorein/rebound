import RV.Proofs.Kepler
import Mathlib.Algebra.Order.Field.Basic
import Mathlib.Tactic.Linarith
import Mathlib.Tactic.Positivity
/- how the truncation residual of the Stumpff series travels through the duplication loop of
   stumpff_cs3 (helper lemmas for RV/Props/C03.lean) -/
set_option linter.unusedSectionVars false
namespace RV.Kepler
open RV
section alg
variable {K : Type} [Field K] [CharZero K]

/-- defects of the three Stumpff relations -/
def D0 (z : K) (c : Cs3 K) : K := c.c0 - (1 - z * c.c2)
def D1 (z : K) (c : Cs3 K) : K := c.c1 - (1 - z * c.c3)
def D2 (c : Cs3 K) : K := c.c1 ^ 2 - (1 + c.c0) * c.c2
/-- defect of `c0² + z c1² = 1` -/
def DP (z : K) (c : Cs3 K) : K := c.c0 ^ 2 + z * c.c1 ^ 2 - 1

theorem defect_step (z : K) (c : Cs3 K) :
    D2 (cs3DupStep c) = 0 ∧
    D1 (4 * z) (cs3DupStep c) = c.c0 * D1 z c + D0 z c ∧
    D0 (4 * z) (cs3DupStep c) = 2 * (1 + c.c0) * D0 z c + 2 * z * D2 c := by
  simp only [D0, D1, D2, cs3DupStep, sc_hadd, sc_hsub, sc_hmul, sc_one, n2_eq, half_eq, quarter_eq]
  refine ⟨by ring, by ring, by ring⟩

theorem defect_pythagoras (z : K) (c : Cs3 K) : DP z c = (1 + c.c0) * D0 z c + z * D2 c := by
  simp only [DP, D0, D2]; ring

theorem D_rel_iff (z : K) (c : Cs3 K) : StumpffRel z c ↔ D0 z c = 0 ∧ D1 z c = 0 ∧ D2 c = 0 := by
  simp only [D0, D1, D2, sub_eq_zero]
  exact ⟨fun h => ⟨h.h0, h.h1, h.h2⟩, fun h => ⟨h.1, h.2.1, h.2.2⟩⟩

/-- the series start: only the quadratic relation has a defect -/
theorem defect_series (z : K) : D0 z (cs3Series z) = 0 ∧ D1 z (cs3Series z) = 0 := by
  obtain ⟨e3, e2, e1, e0⟩ := cs3Series_eq z
  simp only [D0, D1]
  constructor
  · rw [e0]; ring
  · rw [e1]; ring
end alg

section ord
variable {K : Type} [Field K] [LinearOrder K] [IsStrictOrderedRing K]

theorem D2_cs3Dup (n : Nat) : ∀ c : Cs3 K, D2 c = 0 → D2 (cs3Dup n c) = 0 := by
  induction n with
  | zero => exact fun _ h => h
  -- `D2` does not depend on `z`: any value serves as the first argument of `defect_step`
  | succ n ih => exact fun c _ => ih _ (defect_step 0 c).1

theorem defect_step_bound (z : K) (c : Cs3 K) (h2 : D2 c = 0) (hc0 : |c.c0| ≤ 1) :
    |D0 (4 * z) (cs3DupStep c)| ≤ 4 * |D0 z c| ∧ |D1 (4 * z) (cs3DupStep c)| ≤ |D1 z c| + |D0 z c| := by
  obtain ⟨-, s1, s0⟩ := defect_step z c
  rw [s1, s0, h2, mul_zero, add_zero, abs_mul, abs_mul, abs_of_pos (two_pos : (0 : K) < 2)]
  have h1 : |(1 : K) + c.c0| ≤ 2 := by
    rw [abs_le] at hc0 ⊢; constructor <;> linarith
  constructor
  · calc 2 * |1 + c.c0| * |D0 z c| ≤ 2 * 2 * |D0 z c| := by gcongr
      _ = 4 * |D0 z c| := by ring
  · calc |c.c0 * D1 z c + D0 z c| ≤ |c.c0| * |D1 z c| + |D0 z c| := abs_mul c.c0 _ ▸ abs_add_le _ _
      _ ≤ |D1 z c| + |D0 z c| := by gcongr; exact mul_le_of_le_one_left (abs_nonneg _) hc0

/-- bound after `n` duplications starting from data whose quadratic defect vanishes, as long as the
    intermediate `c0` stay in [-1, 1] (they are cosines in the elliptic case) -/
theorem defect_bound (n : Nat) : ∀ (z : K) (c : Cs3 K), D2 c = 0 →
    (∀ k < n, |(cs3Dup k c).c0| ≤ 1) →
    |D0 (4 ^ n * z) (cs3Dup n c)| ≤ 4 ^ n * |D0 z c| ∧
    |D1 (4 ^ n * z) (cs3Dup n c)| ≤ |D1 z c| + (4 ^ n - 1) / 3 * |D0 z c| := by
  induction n with
  | zero =>
    intro z c _ _
    simp only [pow_zero, one_mul, cs3Dup, sub_self, zero_div, zero_mul, add_zero, le_refl, true_and]
  | succ n ih =>
    intro z c h2 hc
    obtain ⟨a0, a1⟩ := defect_step_bound z c h2 (hc 0 n.succ_pos)
    obtain ⟨i0, i1⟩ := ih (4 * z) (cs3DupStep c) (defect_step z c).1 fun k hk => hc (k + 1) (Nat.succ_lt_succ hk)
    have p4 : (0 : K) ≤ 4 ^ n := by positivity
    have p41 : (0 : K) ≤ (4 ^ n - 1) / 3 :=
      div_nonneg (sub_nonneg.2 (one_le_pow₀ (by norm_num))) (by norm_num)
    rw [show (4 : K) ^ (n + 1) * z = 4 ^ n * (4 * z) by ring]
    constructor
    · calc _ ≤ 4 ^ n * (4 * |D0 z c|) := i0.trans (mul_le_mul_of_nonneg_left a0 p4)
        _ = 4 ^ (n + 1) * |D0 z c| := by ring
    · calc _ ≤ (|D1 z c| + |D0 z c|) + (4 ^ n - 1) / 3 * (4 * |D0 z c|) :=
            i1.trans (add_le_add a1 (mul_le_mul_of_nonneg_left a0 p41))
        _ = |D1 z c| + (4 ^ (n + 1) - 1) / 3 * |D0 z c| := by ring

end ord
end RV.Kepler
