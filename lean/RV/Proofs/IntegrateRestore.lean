import RV.Proofs.IntegrateStatus
/-
  C08, step-size clause on EVERY exit path: with exact_finish_time = 1 a fixed-step integration
  that returns — with SUCCESS or with any exit code, at any boundary, also the one that ends the
  step cut to fit tmax — leaves dt at the full step.  Arbitrary exit-condition flags everywhere.
-/
set_option linter.unusedSectionVars false
namespace RV.Integrate
open RV
variable {K : Type} [Field K] [LinearOrder K] [IsStrictOrderedRing K]

/-- invariant at the entry of `reb_check_exit` -/
def RInv (tmax d sg : K) (s : Sim K) (lf : K) : Prop :=
  lf = d ∧ s.exactFinish = 1 ∧
  (1 ≤ s.status ∨
   (s.status = -1 ∧ s.dt = d ∧ (s.dtLastDone = 0 ∨ s.dtLastDone = d) ∧ 0 < (tmax - s.t) * sg) ∨
   (s.status = -2 ∧ s.t = tmax ∧ 0 < s.dt * sg))

/-- what `reb_check_exit` hands to the step (or returns with) -/
def RPost (tmax d sg : K) (s : Sim K) (lf : K) : Prop :=
  lf = d ∧ s.exactFinish = 1 ∧
  (0 ≤ s.status ∨
   (s.status = -1 ∧ s.dt = d ∧ (s.dtLastDone = 0 ∨ s.dtLastDone = d) ∧ (s.t + d) * sg < tmax * sg) ∨
   (s.status = -2 ∧ s.dt = tmax - s.t ∧ 0 < (tmax - s.t) * sg))

/-- NO_PARTICLES only raises the status -/
theorem rpost_noParticles {tmax d sg : K} {r : Sim K} {lf : K} (f : Flags) (h : RPost tmax d sg r lf) :
    RPost tmax d sg (exitNoParticles r f) lf := by
  rw [exitNoParticles_eq]
  exact ite_of (P := fun st => RPost tmax d sg { r with status := st } lf) ⟨h.1, h.2.1, Or.inl (by norm_num)⟩ h

theorem check_restore (tmax d sg : K) (hsg : sg = 1 ∨ sg = -1) (hd : 0 < d * sg) (s : Sim K) (lf : K)
    (f : Flags) (inv : RInv tmax d sg s lf) :
    ∃ s1 lf1, checkExit s tmax false lf f = .ret s1 lf1 ∧ RPost tmax d sg s1 lf1 := by
  obtain ⟨hlf, hex, hcase⟩ := inv
  have hs : s.status = -1 ∨ s.status = -2 ∨ 1 ≤ s.status := by
    rcases hcase with h | h | h
    · exact Or.inr (Or.inr h)
    · exact Or.inl h.1
    · exact Or.inr (Or.inl h.1)
  refine ⟨_, _, checkExit_form s tmax lf false f hs, rpost_noParticles f ?_⟩
  by_cases he : f.errMsg = true
  · simp only [he, if_true]
    rw [exitTime_of_nonneg _ _ _ _ _ (by norm_num)]
    exact ⟨hlf, hex, Or.inl (by norm_num)⟩
  · have he' : f.errMsg = false := by simpa using he
    simp only [he', Bool.false_eq_true, if_false]
    rcases hcase with h | ⟨hst, hdt, hdld, hrem⟩ | ⟨hst, ht, hpos⟩
    · rw [exitTime_of_nonneg _ _ _ _ _ (by omega)]
      exact ⟨hlf, hex, Or.inl (by show 0 ≤ s.status; omega)⟩
    · have hc : copysign 1 s.dt = sg := copysign_one_dir hsg (by rw [hdt]; exact hd)
      rw [exitTime_run s tmax lf _ (Or.inl hst), hc]
      simp only [hex, if_true]
      have h2 : ¬ s.status = -2 := by rw [hst]; norm_num
      by_cases hnear : tmax * sg ≤ (s.t + s.dt) * sg
      · simp only [hnear, if_true]
        by_cases ht : s.t = tmax
        · simp only [ht, if_true]
          exact ⟨hlf, rfl, Or.inl (by norm_num)⟩
        · simp only [ht, if_false, h2]
          refine ⟨?_, rfl, Or.inr (Or.inr ⟨rfl, rfl, hrem⟩)⟩
          by_cases h0 : s.dtLastDone = 0
          · simp only [h0, ne_eq, not_true_eq_false, if_false]; exact hlf
          · simp only [ne_eq, h0, not_false_eq_true, if_true]
            rcases hdld with h | h
            · exact absurd h h0
            · exact h
      · simp only [hnear, if_false, h2]
        refine ⟨hlf, hex, Or.inr (Or.inl ⟨hst, hdt, hdld, ?_⟩)⟩
        rw [← hdt]; exact not_le.mp hnear
    · have hc : copysign 1 s.dt = sg := copysign_one_dir hsg hpos
      rw [exitTime_run s tmax lf _ (Or.inr hst), hc]
      have hnear : tmax * sg ≤ (tmax + s.dt) * sg := by linarith
      simp only [hex, if_true, ht, hnear]
      exact ⟨hlf, rfl, Or.inl (by norm_num)⟩

theorem step_restore (step : StepFn K) (hfix : IsFixed step) (tmax d sg : K)
    (k : Nat) (s1 : Sim K) (lf1 : K) (f : Flags) (p : RPost tmax d sg s1 lf1) (hneg : s1.status < 0) :
    RInv tmax d sg (stepAndBeat step k s1 f) lf1 := by
  obtain ⟨hlf, hex, hcase⟩ := p
  obtain ⟨e1, e2, e3⟩ := hfix k s1.t s1.dt s1.dtLastDone
  obtain ⟨g1, g2, g3, g4⟩ := stepAndBeat_time step k s1 f
  have gst := stepAndBeat_status step k s1 f
  refine ⟨hlf, by rw [g4]; exact hex, ?_⟩
  cases hsc : f.stepCode with
  | some x =>
    left; rw [gst, hsc]; simpa using stepCode_pos f x hsc
  | none =>
    rw [hsc] at gst; simp only [Option.getD_none] at gst
    rcases hcase with h | ⟨hst, hdt, hdld, hfar⟩ | ⟨hst, hdt, hrem⟩
    · omega
    · right; left
      refine ⟨by rw [gst]; exact hst, by rw [g2, e2]; exact hdt, ?_, ?_⟩
      · rw [g3]
        rcases e3 with h | h
        · right; rw [h]; exact hdt
        · rw [h]; exact hdld
      · rw [g1, e1, hdt]; linarith
    · right; right
      refine ⟨by rw [gst]; exact hst, by rw [g1, e1, hdt]; ring, ?_⟩
      rw [g2, e2, hdt]; exact hrem

/-- every way out of the loop carries `last_full_dt = d` -/
theorem loop_restore (step : StepFn K) (hfix : IsFixed step) (env : Nat → Flags) (tmax d sg : K)
    (hsg : sg = 1 ∨ sg = -1) (hd : 0 < d * sg) :
    ∀ (fuel k : Nat) (s : Sim K) (lf : K), RInv tmax d sg s lf →
      ∀ s' lf', loop step env tmax false fuel k s lf = (.done s', lf') → lf' = d ∧ s'.exactFinish = 1 := by
  intro fuel
  induction fuel with
  | zero => intro k s lf inv s' lf' h; simp [loop] at h
  | succ fuel ih =>
    intro k s lf inv s' lf' h
    obtain ⟨s1, lf1, hce, post⟩ := check_restore tmax d sg hsg hd s lf (env k) inv
    by_cases hneg : s1.status < 0
    · rw [loop_of_ret_neg step env tmax false fuel k s s1 lf lf1 hce hneg] at h
      exact ih (k + 1) _ lf1 (step_restore step hfix tmax d sg k s1 lf1 (env (k + 1)) post hneg) s' lf' h
    · rw [loop_of_ret_done step env tmax false fuel k s s1 lf lf1 hce hneg] at h
      simp only [Prod.mk.injEq, Outcome.done.injEq] at h
      obtain ⟨h1, h2⟩ := h
      subst h1 h2
      exact ⟨post.1, post.2.1⟩

end RV.Integrate
