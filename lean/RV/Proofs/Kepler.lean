import RV.Proofs.Field
import RV.Model.Kepler
import Mathlib.Data.Nat.Factorial.Basic
import Mathlib.Tactic.NormNum
/- helper lemmas for RV/Props/C03.lean: the model pieces of RV/Model/Kepler.lean at a field -/
set_option linter.unusedSectionVars false
namespace RV.Kepler
open RV RV.Gen.C03
variable {K : Type} [Field K]

theorem lit_eq (p q : Nat) : (lit p q : K) = (p : K) / (q : K) := rfl
@[simp] theorem n2_eq : (n2 : K) = 2 := by simp [n2]
@[simp] theorem n4_eq : (n4 : K) = 4 := by simp [n4]
@[simp] theorem n5_eq : (n5 : K) = 5 := by simp [n5]
@[simp] theorem n16_eq : (n16 : K) = 16 := by simp [n16]
@[simp] theorem n20_eq : (n20 : K) = 20 := by simp [n20]
@[simp] theorem half_eq : (half : K) = 1 / 2 := by simp [half, lit_eq]
@[simp] theorem quarter_eq : (quarter : K) = 1 / 4 := by simp [quarter, lit_eq]
@[simp] theorem eighth_eq : (eighth : K) = 1 / 8 := by simp [eighth, lit_eq]
@[simp] theorem sixteenth_eq : (sixteenth : K) = 1 / 16 := by simp [sixteenth, lit_eq]

/-- the table extracted from the C source is the table of factorials -/
theorem table_nat : ∀ i : Fin 35, invfactNum[i] = 1 ∧ invfactDen[i] = Nat.factorial i := by
  decide +kernel

theorem invfact_eq (i : Fin 35) : (invfact i : K) = 1 / (Nat.factorial i : K) := by
  obtain ⟨h1, h2⟩ := table_nat i
  simp only [invfact, sc_hdiv, sc_ofNat, h1, h2, Nat.cast_one]


/-- the polynomial identities between the four Stumpff functions at argument `z`
    that the duplication formulas preserve (for the true functions:
    c0 = cos√z, c1 = sin√z/√z, c2 = (1-c0)/z, c3 = (1-c1)/z). -/
structure StumpffRel (z : K) (c : Cs3 K) : Prop where
  h0 : c.c0 = 1 - z * c.c2
  h1 : c.c1 = 1 - z * c.c3
  h2 : c.c1 ^ 2 = (1 + c.c0) * c.c2

theorem StumpffRel.pythagoras {z : K} {c : Cs3 K} (h : StumpffRel z c) :
    c.c0 ^ 2 + z * c.c1 ^ 2 = 1 := by
  obtain ⟨h0, h1, h2⟩ := h
  rw [h2, h0]; ring

variable [CharZero K]

theorem cs3DupStep_rel {z : K} {c : Cs3 K} (h : StumpffRel z c) :
    StumpffRel (4 * z) (cs3DupStep c) := by
  obtain ⟨h0, h1, h2⟩ := h
  have hp : c.c0 ^ 2 + z * c.c1 ^ 2 = 1 := StumpffRel.pythagoras ⟨h0, h1, h2⟩
  refine ⟨?_, ?_, ?_⟩
  · dsimp only [cs3DupStep, n2, half, quarter, lit, sc_one, sc_ofNat]
    linear_combination 2 * hp
  · dsimp only [cs3DupStep, n2, half, quarter, lit, sc_one, sc_ofNat]
    linear_combination c.c0 * h1 + h0
  · dsimp only [cs3DupStep, n2, half, quarter, lit, sc_one, sc_ofNat]
    ring

theorem fact_vals : Nat.factorial 0 = 1 ∧ Nat.factorial 1 = 1 ∧ Nat.factorial 2 = 2 ∧ Nat.factorial 3 = 6 ∧
    Nat.factorial 4 = 24 ∧ Nat.factorial 5 = 120 ∧ Nat.factorial 6 = 720 ∧ Nat.factorial 7 = 5040 ∧
    Nat.factorial 8 = 40320 ∧ Nat.factorial 9 = 362880 ∧ Nat.factorial 10 = 3628800 ∧
    Nat.factorial 11 = 39916800 ∧ Nat.factorial 12 = 479001600 ∧ Nat.factorial 13 = 6227020800 ∧
    Nat.factorial 14 = 87178291200 ∧ Nat.factorial 15 = 1307674368000 ∧ Nat.factorial 16 = 20922789888000 ∧
    Nat.factorial 17 = 355687428096000 ∧ Nat.factorial 18 = 6402373705728000 ∧
    Nat.factorial 19 = 121645100408832000 := by decide +kernel

theorem invfact_of (i : Fin 35) {n : Nat} (h : Nat.factorial i = n) : (invfact i : K) = 1 / (n : K) := by
  rw [invfact_eq, h]

theorem invfact_vals :
    (invfact 0 : K) = 1 ∧ (invfact 1 : K) = 1 ∧ (invfact 2 : K) = 1/2 ∧ (invfact 3 : K) = 1/6 ∧
    (invfact 4 : K) = 1/24 ∧ (invfact 5 : K) = 1/120 ∧ (invfact 6 : K) = 1/720 ∧ (invfact 7 : K) = 1/5040 ∧
    (invfact 8 : K) = 1/40320 ∧ (invfact 9 : K) = 1/362880 ∧ (invfact 10 : K) = 1/3628800 ∧
    (invfact 11 : K) = 1/39916800 ∧ (invfact 12 : K) = 1/479001600 ∧ (invfact 13 : K) = 1/6227020800 ∧
    (invfact 14 : K) = 1/87178291200 ∧ (invfact 15 : K) = 1/1307674368000 ∧
    (invfact 16 : K) = 1/20922789888000 ∧ (invfact 17 : K) = 1/355687428096000 ∧
    (invfact 18 : K) = 1/6402373705728000 ∧ (invfact 19 : K) = 1/121645100408832000 := by
  obtain ⟨f0, f1, f2, f3, f4, f5, f6, f7, f8, f9, f10, f11, f12, f13, f14, f15, f16, f17, f18, f19⟩ := fact_vals
  simp only [invfact_of 0 f0, invfact_of 1 f1, invfact_of 2 f2, invfact_of 3 f3, invfact_of 4 f4, invfact_of 5 f5,
    invfact_of 6 f6, invfact_of 7 f7, invfact_of 8 f8, invfact_of 9 f9, invfact_of 10 f10, invfact_of 11 f11,
    invfact_of 12 f12, invfact_of 13 f13, invfact_of 14 f14, invfact_of 15 f15, invfact_of 16 f16,
    invfact_of 17 f17, invfact_of 18 f18, invfact_of 19 f19, Nat.cast_ofNat, Nat.cast_one, div_one, and_self]

/-- closed form of the Horner evaluation of stumpff_cs3: truncated Stumpff series -/
theorem cs3Series_eq (z : K) :
    (cs3Series z).c3 = 1/6 - z/120 + z^2/5040 - z^3/362880 + z^4/39916800 - z^5/6227020800 ∧
    (cs3Series z).c2 = 1/2 - z/24 + z^2/720 - z^3/40320 + z^4/3628800 - z^5/479001600 ∧
    (cs3Series z).c1 = 1 - z * (cs3Series z).c3 ∧
    (cs3Series z).c0 = 1 - z * (cs3Series z).c2 := by
  obtain ⟨i0, i1, i2, i3, i4, i5, i6, i7, i8, i9, i10, i11, i12, i13, -⟩ := invfact_vals (K := K)
  dsimp only [cs3Series]
  rw [i0, i1, i2, i3, i4, i5, i6, i7, i8, i9, i10, i11, i12, i13]
  exact ⟨by ring, by ring, rfl, rfl⟩


/-- G-relations for energy parameter `β` and universal variable `X` -/
structure GRel (β X : K) (g : Cs3 K) : Prop where
  h0 : g.c0 = 1 - β * g.c2
  h1 : g.c1 = X - β * g.c3
  h2 : g.c1 ^ 2 = (1 + g.c0) * g.c2

section sc
omit [CharZero K]

/-- the scalar content of a Kepler step: radius `r0`, new radius `r`, `η = x·v`, energy parameter `β`,
    `v2 = |v|²`, and four numbers `G0..G3` that satisfy the Stiefel relations for `(β, X)` where `X`
    solves the universal Kepler equation for `dt`.  Its consequences below are stated for the
    coefficients `fgCoeffs` of the C code (`c.f = F − 1`, `c.g = G`, `c.fd = Ḟ`, `c.gd = Ġ − 1`). -/
structure KeplerSc (r0 r η β M X dt G0 G1 G2 G3 v2 : K) : Prop where
  h0 : G0 = 1 - β * G2
  h1 : G1 = X - β * G3
  h2 : G1 ^ 2 = (1 + G0) * G2
  hk : r0 * X + η * G2 + (M - β * r0) * G3 = dt
  hr : r = r0 + η * G1 + (M - β * r0) * G2
  r0ne : r0 ≠ 0
  hv : v2 = 2 * M / r0 - β

namespace KeplerSc
variable {r0 r η β M X dt G0 G1 G2 G3 v2 : K} (h : KeplerSc r0 r η β M X dt G0 G1 G2 G3 v2)
include h

/- The six proofs below have one shape.  `dt` (and `v2`) are substituted first, so that clearing
   denominators sees them expanded; `r`, `G0`, `G1` are substituted only after `field_simp`, so that
   `r` is still an atom with `rne : r ≠ 0` while it is a denominator.  What is left is a polynomial
   identity modulo the one quadratic relation `h2`; the multiplier of `h2` is the quotient of the
   polynomial division of the goal by `h2`. -/
theorem wronskian (rne : r ≠ 0) :
    let c := fgCoeffs M (1 / r0) (1 / r) dt G1 G2 G3
    (1 + c.f) * (1 + c.gd) - c.g * c.fd = 1 := by
  obtain ⟨h0, h1, h2, hk, hr, r0ne, -⟩ := h
  dsimp only [fgCoeffs, sc_neg]
  subst hk
  field_simp
  subst h1 h0 hr
  linear_combination (r0 * M) * h2

theorem radius :
    let c := fgCoeffs M (1 / r0) (1 / r) dt G1 G2 G3
    (1 + c.f) ^ 2 * (r0 * r0) + 2 * (1 + c.f) * c.g * η + c.g ^ 2 * v2 = r ^ 2 := by
  obtain ⟨h0, h1, h2, hk, hr, r0ne, hv⟩ := h
  dsimp only [fgCoeffs, sc_neg]
  subst hk hv
  field_simp
  subst h1 h0 hr
  linear_combination (-r0 * (-2 * M * r0 + β * r0 ^ 2 + η ^ 2)) * h2

theorem energy (rne : r ≠ 0) :
    let c := fgCoeffs M (1 / r0) (1 / r) dt G1 G2 G3
    2 * M / r - (c.fd ^ 2 * (r0 * r0) + 2 * c.fd * (1 + c.gd) * η + (1 + c.gd) ^ 2 * v2) = β := by
  obtain ⟨h0, -, h2, -, hr, r0ne, hv⟩ := h
  dsimp only [fgCoeffs, sc_neg]
  subst hv
  field_simp
  subst h0 hr
  linear_combination (-M ^ 2 * r0) * h2

theorem radial (rne : r ≠ 0) :
    let c := fgCoeffs M (1 / r0) (1 / r) dt G1 G2 G3
    (1 + c.f) * c.fd * (r0 * r0) + ((1 + c.f) * (1 + c.gd) + c.g * c.fd) * η + c.g * (1 + c.gd) * v2
      = η * G0 + (M - β * r0) * G1 := by
  obtain ⟨h0, h1, -, hk, hr, r0ne, hv⟩ := h
  dsimp only [fgCoeffs, sc_neg]
  subst hk hv
  field_simp
  subst h1 h0 hr
  ring

theorem laplace1 (rne : r ≠ 0) :
    let c := fgCoeffs M (1 / r0) (1 / r) dt G1 G2 G3
    (1 + c.f) * (M / r - β) - c.fd * (η * G0 + (M - β * r0) * G1) = M / r0 - β := by
  obtain ⟨h0, -, h2, -, hr, r0ne, -⟩ := h
  dsimp only [fgCoeffs, sc_neg]
  field_simp
  subst h0 hr
  linear_combination (-M * (-M + β * r0)) * h2

theorem laplace2 (rne : r ≠ 0) :
    let c := fgCoeffs M (1 / r0) (1 / r) dt G1 G2 G3
    c.g * (M / r - β) - (1 + c.gd) * (η * G0 + (M - β * r0) * G1) = -η := by
  obtain ⟨h0, h1, h2, hk, hr, -, -⟩ := h
  dsimp only [fgCoeffs, sc_neg]
  subst hk
  field_simp
  subst h1 h0 hr
  linear_combination (-M * η) * h2

end KeplerSc

end sc

section vec
omit [CharZero K]

def rr (p : P6 K) : K := p.x * p.x + p.y * p.y + p.z * p.z
def vv (p : P6 K) : K := p.vx * p.vx + p.vy * p.vy + p.vz * p.vz
def xv (p : P6 K) : K := p.x * p.vx + p.y * p.vy + p.z * p.vz
/-- angular momentum x × v -/
def Lx (p : P6 K) : K := p.y * p.vz - p.z * p.vy
def Ly (p : P6 K) : K := p.z * p.vx - p.x * p.vz
def Lz (p : P6 K) : K := p.x * p.vy - p.y * p.vx
/-- Laplace–Runge–Lenz vector `v × (x × v) − M x/|x|`, with `|x|` supplied as `r` -/
def Ax (M r : K) (p : P6 K) : K := (vv p - M / r) * p.x - xv p * p.vx
def Ay (M r : K) (p : P6 K) : K := (vv p - M / r) * p.y - xv p * p.vy
def Az (M r : K) (p : P6 K) : K := (vv p - M / r) * p.z - xv p * p.vz

theorem fgApply_rr (c : FG K) (p : P6 K) :
    rr (fgApply c p) = (1 + c.f) ^ 2 * rr p + 2 * (1 + c.f) * c.g * xv p + c.g ^ 2 * vv p := by
  dsimp only [fgApply, rr, vv, xv]; ring

theorem fgApply_vv (c : FG K) (p : P6 K) :
    vv (fgApply c p) = c.fd ^ 2 * rr p + 2 * c.fd * (1 + c.gd) * xv p + (1 + c.gd) ^ 2 * vv p := by
  dsimp only [fgApply, rr, vv, xv]; ring

theorem fgApply_xv (c : FG K) (p : P6 K) :
    xv (fgApply c p) = (1 + c.f) * c.fd * rr p + ((1 + c.f) * (1 + c.gd) + c.g * c.fd) * xv p
      + c.g * (1 + c.gd) * vv p := by
  dsimp only [fgApply, rr, vv, xv]; ring

theorem fgApply_L (c : FG K) (p : P6 K) :
    Lx (fgApply c p) = ((1 + c.f) * (1 + c.gd) - c.g * c.fd) * Lx p ∧
    Ly (fgApply c p) = ((1 + c.f) * (1 + c.gd) - c.g * c.fd) * Ly p ∧
    Lz (fgApply c p) = ((1 + c.f) * (1 + c.gd) - c.g * c.fd) * Lz p := by
  refine ⟨?_, ?_, ?_⟩ <;> dsimp only [fgApply, Lx, Ly, Lz] <;> ring

/-- hypotheses under which the update is "the Kepler step": `r0 = |x|`, the four numbers
    `g` satisfy the Stiefel relations for the orbit's `β` and for `X`, and `X` solves the
    universal Kepler equation for `dt`. -/
structure KeplerStep (M dt r0 X : K) (p : P6 K) (g : Cs3 K) : Prop where
  hr0 : r0 * r0 = rr p
  r0ne : r0 ≠ 0
  rel : GRel (invariants M r0 (1 / r0) p).beta X g
  kepler : r0 * X + (invariants M r0 (1 / r0) p).eta0 * g.c2 + (invariants M r0 (1 / r0) p).zeta0 * g.c3 = dt

/-- `r = r0 + η0 G1 + ζ0 G2`, the quantity whose inverse is `ri` in the C code -/
def newR (M r0 : K) (p : P6 K) (g : Cs3 K) : K :=
  r0 + (invariants M r0 (1 / r0) p).eta0 * g.c1 + (invariants M r0 (1 / r0) p).zeta0 * g.c2

theorem invariants_eq (M r0 : K) (p : P6 K) :
    (invariants M r0 (1 / r0) p).v2 = vv p ∧
    (invariants M r0 (1 / r0) p).beta = 2 * M * (1 / r0) - vv p ∧
    (invariants M r0 (1 / r0) p).eta0 = xv p ∧
    (invariants M r0 (1 / r0) p).zeta0 = M - (2 * M * (1 / r0) - vv p) * r0 :=
  ⟨rfl, rfl, rfl, rfl⟩

section step
variable {M dt r0 X : K} {p : P6 K} {g : Cs3 K} (h : KeplerStep M dt r0 X p g)
include h

theorem KeplerStep.toSc :
    KeplerSc r0 (newR M r0 p g) (xv p) (2 * M * (1 / r0) - vv p) M X dt g.c0 g.c1 g.c2 g.c3 (vv p) :=
  ⟨h.rel.h0, h.rel.h1, h.rel.h2, h.kepler, rfl, h.r0ne, by rw [mul_one_div, sub_sub_cancel]⟩

/-- the step preserves `x × v` (Wronskian of the update = 1) -/
theorem KeplerStep.angular_momentum (rne : newR M r0 p g ≠ 0) :
    let q := fgUpdate M (1 / r0) (1 / newR M r0 p g) dt g.c1 g.c2 g.c3 p
    Lx q = Lx p ∧ Ly q = Ly p ∧ Lz q = Lz p := by
  obtain ⟨l1, l2, l3⟩ := fgApply_L (fgCoeffs M (1 / r0) (1 / newR M r0 p g) dt g.c1 g.c2 g.c3) p
  rw [h.toSc.wronskian rne, one_mul] at l1 l2 l3
  exact ⟨l1, l2, l3⟩

end step

end vec

/-! ### stumpff_cs (six functions) -/
section six

/-- relations between the functions c1..c5 carried by stumpff_cs at argument `s.z` -/
structure Stumpff6Rel (s : Cs5 K) : Prop where
  h1 : s.c1 = 1 - s.z * s.c3
  h2 : s.c2 = 1 / 2 - s.z * s.c4
  h3 : s.c3 = 1 / 6 - s.z * s.c5
  hq : s.c1 ^ 2 = (1 + (1 - s.z * s.c2)) * s.c2

/-- the first four functions, with `c0 = 1 - z c2` as in the last line of stumpff_cs -/
def cs5To3 (s : Cs5 K) : Cs3 K := { c0 := 1 - s.z * s.c2, c1 := s.c1, c2 := s.c2, c3 := s.c3 }

theorem cs5To3_rel {s : Cs5 K} (h : Stumpff6Rel s) : StumpffRel s.z (cs5To3 s) :=
  ⟨rfl, h.h1, h.hq⟩

theorem cs6DupStep_z (s : Cs5 K) : (cs6DupStep s).z = 4 * s.z := by
  simp only [cs6DupStep, sc_hmul, n4_eq]; ring


/-- the new values in terms of the old ones (textbook duplication formulas) -/
theorem cs6DupStep_vals {s : Cs5 K} (h : Stumpff6Rel s) :
    (cs6DupStep s).c2 = s.c1 ^ 2 / 2 ∧
    (cs6DupStep s).c3 = (s.c2 + (1 - s.z * s.c2) * s.c3) / 4 ∧
    (cs6DupStep s).c1 = (1 - s.z * s.c2) * s.c1 ∧
    1 - (cs6DupStep s).z * (cs6DupStep s).c2 = 2 * (1 - s.z * s.c2) ^ 2 - 1 := by
  obtain ⟨h1, h2, h3, hq⟩ := h
  have e2 : (cs6DupStep s).c2 = s.c1 ^ 2 / 2 := by
    dsimp only [cs6DupStep, half, n4, eighth, lit, sc_one, sc_ofNat]
    linear_combination (-(1 + s.c1) / 2) * h1
  have e3 : (cs6DupStep s).c3 = (s.c2 + (1 - s.z * s.c2) * s.c3) / 4 := by
    dsimp only [cs6DupStep, n4, sixteenth, lit, sc_one, sc_ofNat]
    linear_combination (-1 / 4) * h3 + (-1 / 4) * h2
  have e1 : (cs6DupStep s).c1 = (1 - s.z * s.c2) * s.c1 := by
    have : (cs6DupStep s).c1 = 1 - (cs6DupStep s).z * (cs6DupStep s).c3 := by
      simp only [cs6DupStep, sc_hadd, sc_hsub, sc_hmul, sc_one]
    rw [this, e3, cs6DupStep_z]
    linear_combination (-(1 - s.z * s.c2)) * h1
  refine ⟨e2, e3, e1, ?_⟩
  rw [e2, cs6DupStep_z]
  linear_combination (-2 * s.z) * hq

theorem cs6DupStep_rel {s : Cs5 K} (h : Stumpff6Rel s) : Stumpff6Rel (cs6DupStep s) := by
  obtain ⟨e2, e3, e1, e0⟩ := cs6DupStep_vals h
  obtain ⟨h1, h2, h3, hq⟩ := h
  refine ⟨?_, ?_, ?_, ?_⟩
  · simp only [cs6DupStep, sc_hadd, sc_hsub, sc_hmul, sc_one]
  · simp only [cs6DupStep, sc_hadd, sc_hsub, sc_hmul, sc_one, half_eq]
  · simp only [cs6DupStep, sc_hadd, sc_hsub, sc_hmul, sc_one, lit_eq]; norm_num
  · rw [e0, e1, e2]
    ring

theorem cs6DupStep_cs3 {s : Cs5 K} (h : Stumpff6Rel s) :
    cs5To3 (cs6DupStep s) = cs3DupStep (cs5To3 s) := by
  obtain ⟨e2, e3, e1, e0⟩ := cs6DupStep_vals h
  simp only [cs5To3, cs3DupStep, sc_hadd, sc_hsub, sc_hmul, sc_one, half_eq, n2_eq, quarter_eq, Cs3.mk.injEq]
  refine ⟨?_, ?_, ?_, ?_⟩
  · rw [e0]; ring
  · rw [e1]
  · rw [e2]; ring
  · rw [e3]; ring
end six

section mass
omit [CharZero K]

theorem jacobiEtas_length (eta : K) (nact : Nat) (ms : List K) :
    (jacobiEtas eta nact ms).length = ms.length := by
  induction ms generalizing eta nact with
  | nil => cases nact <;> simp [jacobiEtas]
  | cons m r ih => cases nact <;> simp [jacobiEtas, ih]

theorem jacobiEtas_get (eta : K) (nact : Nat) (ms : List K) (i : Nat) (h : i < ms.length) :
    (jacobiEtas eta nact ms)[i]? = some (eta + (ms.take (min (i + 1) nact)).sum) := by
  induction ms generalizing eta nact i with
  | nil => exact absurd h (Nat.not_lt_zero _)
  | cons m r ih =>
    cases nact with
    | zero =>
      rw [Nat.min_zero, List.take_zero, List.sum_nil, add_zero, jacobiEtas]
      cases i with
      | zero => rfl
      | succ i =>
        rw [List.getElem?_cons_succ, ih eta 0 i (Nat.lt_of_succ_lt_succ h), Nat.min_zero, List.take_zero,
          List.sum_nil, add_zero]
    | succ a =>
      rw [jacobiEtas]
      cases i with
      | zero => rw [List.getElem?_cons_zero, Nat.zero_add, Nat.succ_min_succ, List.take_succ_cons, Nat.zero_min,
          List.take_zero, List.sum_cons, List.sum_nil, add_zero]
      | succ i =>
        rw [List.getElem?_cons_succ, ih (eta + m) a i (Nat.lt_of_succ_lt_succ h), Nat.succ_min_succ,
          List.take_succ_cons, List.sum_cons, add_assoc]

theorem etas_length (c : Coord) (m0 pj0m : K) (nact : Nat) (ms : List K) :
    (etas c m0 pj0m nact ms).length = ms.length := by
  cases c <;> simp [etas, jacobiEtas_length]

theorem whds_get (m0 pj0m : K) (nact : Nat) (ms : List K) (i : Nat) (h : i < ms.length) :
    (etas .whds m0 pj0m nact ms)[i]? = some (if i < nact then m0 + ms[i] else m0) := by
  simp [etas, h]

theorem jumpSum_eq (px : K) (l : List (K × K)) :
    jumpSum px l = px + (l.map (fun p => p.1 * p.2)).sum := by
  induction l generalizing px with
  | nil => simp [jumpSum]
  | cons a r ih => obtain ⟨m, v⟩ := a; simp only [jumpSum, ih, sc_hadd, sc_hmul, List.map_cons, List.sum_cons]; ring

theorem whJumpSumDH_eq (px : K) (l : List (K × K × K)) :
    whJumpSumDH px l = px + (l.map (fun a => a.1 * a.2.1)).sum := by
  induction l generalizing px with
  | nil => simp [whJumpSumDH]
  | cons a r ih => obtain ⟨m, v, x⟩ := a; simp only [whJumpSumDH, ih, sc_hadd, sc_hmul, List.map_cons, List.sum_cons]; ring

theorem whJumpSumWHDS_eq (m0 px : K) (l : List (K × K × K)) :
    whJumpSumWHDS m0 px l = px + (l.map (fun a => a.1 * a.2.1 / (m0 + a.1))).sum := by
  induction l generalizing px with
  | nil => simp [whJumpSumWHDS]
  | cons a r ih =>
    obtain ⟨m, v, x⟩ := a
    simp only [whJumpSumWHDS, ih, sc_hadd, sc_hmul, sc_hdiv, List.map_cons, List.sum_cons]; ring

end mass

end RV.Kepler

/-! ### bounded loops (any scalar type, including `Float`) -/
namespace RV.Kepler
section loops
variable {K : Type} [KScalar K]

theorem quartLoop_iters (c : Ctx K) : ∀ (rem : Nat) (X : K) (prev : List K) (gs : Cs3 K) (it mh : Nat)
    (r : K × Cs3 K × Bool × Nat × Nat), quartLoop c rem X prev gs it mh = .ok r → r.2.2.2.1 ≤ it + rem := by
  intro rem
  induction rem with
  | zero =>
    intro X prev gs it mh r h
    simp only [quartLoop, pure, Except.pure] at h
    cases h; simp
  | succ rem ih =>
    intro X prev gs it mh r h
    simp only [quartLoop, bind, Except.bind] at h
    split at h
    · cases h
    · rename_i v hv
      obtain ⟨gs', nh⟩ := v
      simp only at h
      split at h
      · simp only [pure, Except.pure] at h; cases h; simp
      · have := ih _ _ _ _ _ _ h; omega

/- the same script as `quartLoop_iters`; only the arity of the result tuple differs -/
theorem newtLoop_iters (c : Ctx K) : ∀ (rem : Nat) (X oldX : K) (gs : Cs3 K) (ri : K) (it mh : Nat)
    (r : K × Cs3 K × K × Bool × Nat × Nat), newtLoop c rem X oldX gs ri it mh = .ok r → r.2.2.2.2.1 ≤ it + rem := by
  intro rem
  induction rem with
  | zero =>
    intro X oldX gs ri it mh r h
    simp only [newtLoop, pure, Except.pure] at h
    cases h; simp
  | succ rem ih =>
    intro X oldX gs ri it mh r h
    simp only [newtLoop, bind, Except.bind] at h
    split at h
    · cases h
    · rename_i v hv
      obtain ⟨gs', nh⟩ := v
      simp only at h
      split at h
      · simp only [pure, Except.pure] at h; cases h; simp
      · have := ih _ _ _ _ _ _ _ h; omega
end loops
end RV.Kepler
