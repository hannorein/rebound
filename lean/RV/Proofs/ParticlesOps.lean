import RV.Proofs.ParticlesDcrit
/-
  Operation-level lemmas for C14: every operation of RV/Model/Particles.lean keeps the storage
  invariant, faults only in the call shape of finding F4g, and — outside the call shapes of the
  findings F4/F18 — does on the abstract machine exactly what `Spec` says.  Tree mode's second phase
  (eviction of flagged particles by the tree update) and the MERCURIUS side array included.
-/
set_option linter.unusedSimpArgs false
namespace RV.Particles

theorem removeCore_removed_valid (v : Variant) (c : State) (i : Int) (ks : Bool)
    (h : (removeCore v c i ks).2 = Out.removed) : ¬ rangeBad c i = true := by
  intro hb
  rw [removeCore_eq, if_pos hb] at h
  split at h <;> simp [removeShortcut] at h

theorem Spec.removeCore_removed (s : Spec) (i : Int) (ks : Bool) (h0 : 0 ≤ i) (h1 : i < (s.ps.length : Int))
    (hN : s.ps.length ≠ 1) (hv : s.nVar = 0) (ht : s.treeRoot = false) :
    (s.removeCore i ks).2 = Out.removed := by
  unfold Spec.removeCore
  rw [if_neg (by omega), if_neg hN]
  unfold Spec.removeMany
  rw [if_neg (by simp [hv])]
  split
  · simp [ht]
  · simp only [ht, Bool.false_eq_true, if_false]
    have : s.ps ≠ [] := by intro h; rw [h] at h1; simp at h1; omega
    cases hl : s.ps.getLast? with
    | none => exact absurd (List.getLast?_eq_none_iff.mp hl) this
    | some l => rfl

/-- the source variant `v` cannot answer `fault` (leave the `dcrit` allocation) on this call -/
def NoFaultRemove (v : Variant) (c : State) (i : Int) : Prop :=
  (v.dcritBounded = true ∨ ¬ Overrun c i) ∧
  (v.dcritWithParticles = true ∨ v.rangeFirst = true ∨ c.mercurius = false ∨ rangeBad c i = false)

/-- the call has none of the shapes in which variant `v` departs from the documented behaviour -/
def NoShapeRemove (v : Variant) (c : State) (i : Int) (ks : Bool) : Prop :=
  NoShapeCore v c i ks ∧ NoFaultRemove v c i ∧
  (v.dcritWithParticles = true ∨ c.mercurius = false ∨ c.dcrit = [] ∨ c.N = 1 ∨
    (c.nVar = 0 ∧ c.treeRoot = false) ∨ rangeBad c i = true)

theorem NoShapeRemove.repaired (c : State) (i : Int) (ks : Bool) : NoShapeRemove Variant.repaired c i ks :=
  ⟨NoShapeCore.repaired c i ks, ⟨Or.inl rfl, Or.inl rfl⟩, Or.inl rfl⟩

theorem dcritShift_not_merc (v : Variant) (c : State) (i : Int) (h : c.mercurius = false) :
    dcritShift v c i = some c := by
  unfold dcritShift; simp [h]

/-! ### the wrapper only adds a `dcrit` update to the core removal -/

/-- the MERCURIUS prologue runs: in the repaired placement when something is removed, in the current one
    unless the range check has refused before -/
def dcritRuns (v : Variant) (c : State) (i : Int) (ks : Bool) : Bool :=
  if v.dcritWithParticles then decide ((removeCore v c i ks).2 = Out.removed)
  else !(v.rangeFirst && rangeBad c i)

theorem dcritRuns_of_removed (v : Variant) (c : State) (i : Int) (ks : Bool)
    (h : (removeCore v c i ks).2 = Out.removed) : dcritRuns v c i ks = true := by
  have := removeCore_removed_valid v c i ks h
  unfold dcritRuns; split <;> simp [h, this]

theorem dcritRuns_rangeBad (v : Variant) (c : State) (i : Int) (ks : Bool) (hrun : dcritRuns v c i ks = true)
    (hrb : rangeBad c i = true) : v.dcritWithParticles = false ∧ v.rangeFirst = false := by
  unfold dcritRuns at hrun
  split at hrun
  · exact absurd hrb (removeCore_removed_valid v c i ks (of_decide_eq_true hrun))
  · exact ⟨Bool.eq_false_iff.mpr ‹_›, by simpa [hrb] using hrun⟩

theorem remove_eq (v : Variant) (c : State) (i : Int) (ks : Bool) :
    remove v c i ks =
      if dcritRuns v c i ks then
        match dcritShift v c i with
        | none => (c, Out.fault)
        | some c1 => ({ (removeCore v c i ks).1 with dcrit := c1.dcrit }, (removeCore v c i ks).2)
      else removeCore v c i ks := by
  unfold remove dcritRuns
  cases hW : v.dcritWithParticles
  · simp only [Bool.false_eq_true, if_false]
    by_cases hb : (v.rangeFirst && rangeBad c i) = true
    · rw [if_pos hb, if_neg (by simp [hb])]
      simp only [Bool.and_eq_true] at hb
      rw [removeCore_eq, if_pos hb.2, if_neg (by simp [hb.1])]
    · rw [if_neg hb, Bool.eq_false_iff.mpr hb]
      simp only [Bool.not_false, if_true]
      cases hds : dcritShift v c i with
      | none => rfl
      | some c1 => simp only []; rw [dcritShift_shape v c c1 i hds, removeCore_dcrit]
  · simp only [if_true, decide_eq_true_eq]; rfl

theorem dcritShift_run (v : Variant) (c : State) (i : Int) (ks : Bool) (hnf : NoFaultRemove v c i)
    (hrun : dcritRuns v c i ks = true) :
    dcritShift v c i = some { c with dcrit := if c.mercurius then dcritErased c.dcrit c.N i else c.dcrit } := by
  by_cases hrb : rangeBad c i = true
  · obtain ⟨hW, hrf⟩ := dcritRuns_rangeBad v c i ks hrun hrb
    have hm : c.mercurius = false := by simpa [hW, hrf, hrb] using hnf.2
    rw [dcritShift_not_merc v c i hm, if_neg (by simp [hm])]
  · obtain ⟨h0, h1⟩ := not_rangeBad_iff.mp hrb
    exact dcritShift_spec v c i h0 h1 hnf.1

/-- outside the call shape of finding F4g the wrapper's answer is the core's, and `dcrit` is known -/
theorem remove_eq_of_noFault (v : Variant) (c : State) (i : Int) (ks : Bool) (hnf : NoFaultRemove v c i) :
    remove v c i ks =
      ({ (removeCore v c i ks).1 with
          dcrit := (if dcritRuns v c i ks then (if c.mercurius then dcritErased c.dcrit c.N i else c.dcrit)
                    else c.dcrit) }, (removeCore v c i ks).2) := by
  rw [remove_eq]
  split
  · rename_i hrun
    rw [dcritShift_run v c i ks hnf hrun]
  · rw [← removeCore_keeps_dcrit v c i ks]

theorem remove_spec (v : Variant) (c : State) (hinv : Inv c) (i : Int) (ks : Bool) :
    Inv (remove v c i ks).1 ∧ (NoFaultRemove v c i → (remove v c i ks).2 ≠ Out.fault) ∧
    (NoShapeRemove v c i ks → (abs (remove v c i ks).1, (remove v c i ks).2) = (abs c).remove i ks) := by
  obtain ⟨k1, k2, k3⟩ := removeCore_spec v c hinv i ks
  refine ⟨?_, fun hnf => by rw [remove_eq_of_noFault v c i ks hnf]; exact k2, fun hs => ?_⟩
  · rw [remove_eq]
    split
    · split
      · exact hinv
      · exact k1
    · exact k1
  · obtain ⟨hs1, hnf, hs3⟩ := hs
    have hlen := abs_len hinv
    have e := k3 hs1
    -- `dcrit` has moved exactly when the plain-list machine says so
    have hd : (if dcritRuns v c i ks then (if c.mercurius then dcritErased c.dcrit c.N i else c.dcrit)
               else c.dcrit) =
        if (removeCore v c i ks).2 = Out.removed ∧ c.mercurius = true then dcritErased c.dcrit c.N i
        else c.dcrit := by
      by_cases hm : c.mercurius = true
      · by_cases hrem : (removeCore v c i ks).2 = Out.removed
        · simp only [hrem, hm, dcritRuns_of_removed v c i ks hrem, and_self, if_true]
        · simp only [hrem, hm, false_and, if_false, if_true]
          split
          · rename_i hrun
            -- the prologue has run although nothing is removed: it must not have changed anything
            have hW : v.dcritWithParticles = false := by
              cases hW : v.dcritWithParticles
              · rfl
              · simp [dcritRuns, hW, hrem] at hrun
            have hrb : ¬ rangeBad c i = true := fun hrb => by
              obtain ⟨_, hrf⟩ := dcritRuns_rangeBad v c i ks hrun hrb
              simpa [hW, hrf, hm, hrb] using hnf.2
            obtain ⟨h0, h1⟩ := not_rangeBad_iff.mp hrb
            have hone : c.N = 1 → dcritErased c.dcrit c.N i = c.dcrit := fun hN1 => by
              rw [hN1]; exact dcritErased_one _ _ h0 (by omega)
            have hs3' : c.dcrit = [] ∨ c.N = 1 ∨ (c.nVar = 0 ∧ c.treeRoot = false) := by
              simpa [hW, hm, hrb] using hs3
            rcases hs3' with h | h | h
            · simp [dcritErased, h]
            · exact hone h
            · by_cases hN1 : c.N = 1
              · exact hone hN1
              · have := Spec.removeCore_removed (abs c) i ks h0 (by rw [hlen]; exact h1)
                  (by rw [hlen]; exact hN1) h.1 h.2
                rw [← e] at this
                exact absurd this hrem
          · rfl
      · simp [hm]
    rw [remove_eq_of_noFault v c i ks hnf, hd]
    unfold Spec.remove
    rw [← e]
    simp only [hlen]
    by_cases hP : (removeCore v c i ks).2 = Out.removed ∧ c.mercurius = true
    · rw [if_pos hP, if_pos (show _ ∧ (abs c).mercurius = true from hP)]; rfl
    · rw [if_neg hP, if_neg (show ¬ (_ ∧ (abs c).mercurius = true) from hP),
        ← removeCore_keeps_dcrit v c i ks]

theorem remove_refused (v : Variant) (c : State) (i : Int) (ks : Bool) (o : Out)
    (hd : v.dcritWithParticles = true ∨ c.mercurius = false)
    (e : removeCore v c i ks = (c, o)) (ho : o ≠ Out.removed) : remove v c i ks = (c, o) := by
  rw [remove_eq]
  split
  · rename_i hrun
    rcases hd with hW | hm
    · simp [dcritRuns, hW, e, ho] at hrun
    · rw [dcritShift_not_merc v c i hm, e]
  · exact e

/-- requests that are refused leave the state as it is, `dcrit` included — in every variant, as long as the range
    check or the tree test comes first where it matters and the prologue does not run before the refusal -/
theorem remove_invalid (v : Variant) (c : State) (index : Int) (ks : Bool)
    (hd : v.dcritWithParticles = true ∨ c.mercurius = false) :
    ((index < 0 ∨ index ≥ (c.N : Int)) → (v.rangeFirst = true ∨ c.N ≠ 1) →
      remove v c index ks = (c, Out.errRange)) ∧
    (0 ≤ index → index < (c.N : Int) → c.N ≠ 1 → c.nVar ≠ 0 → remove v c index ks = (c, Out.errMegno)) ∧
    (0 ≤ index → index < (c.N : Int) → c.N ≠ 1 → c.nVar = 0 → (ks || c.forceSorted) = true →
      c.treeRoot = true → v.treeFirst = true → remove v c index ks = (c, Out.errTreeSorted)) := by
  refine ⟨fun h hs => ?_, fun h0 h1 hN hv => ?_, fun h0 h1 hN hv hk ht hf => ?_⟩
  · apply remove_refused v c index ks _ hd _ (by simp)
    rw [removeCore_eq, if_pos ((rangeBad_iff c index).mpr h)]
    rcases hs with hs | hs <;> simp [hs]
  · apply remove_refused v c index ks _ hd _ (by simp)
    rw [removeCore_of_valid v c index ks h0 h1 hN]
    simp [removeRest, hv]
  · apply remove_refused v c index ks _ hd _ (by simp)
    rw [removeCore_of_valid v c index ks h0 h1 hN]
    simp [removeRest, hv, hk, removeSorted, ht, hf]

/-- the form in which most consequences use it -/
theorem remove_core_shape (v : Variant) (c : State) (i : Int) (ks : Bool) (hnf : NoFaultRemove v c i) :
    ∃ d, remove v c i ks = ({ (removeCore v c i ks).1 with dcrit := d }, (removeCore v c i ks).2) :=
  ⟨_, remove_eq_of_noFault v c i ks hnf⟩

theorem set_dropLast_perm {α} (l : List α) (i : Nat) (a : α) (hi : i < l.length)
    (h : l.getLast? = some a) : ((l.set i a).dropLast).Perm (l.eraseIdx i) := by
  obtain ⟨ini, rfl⟩ := List.getLast?_eq_some_iff.mp h
  simp only [List.length_append, List.length_singleton] at hi
  by_cases hlast : i < ini.length
  · rw [List.set_append, if_pos hlast, List.dropLast_concat, List.eraseIdx_append_of_lt_length hlast]
    rw [List.set_eq_take_append_cons_drop, if_pos hlast, List.eraseIdx_eq_take_drop_succ]
    exact List.perm_middle.trans (List.perm_append_singleton a _).symm
  · have : i = ini.length := by omega
    subst this
    rw [List.set_append, if_neg (by omega), List.eraseIdx_append_of_length_le (by omega)]
    simp

theorem cons_eraseIdx_perm {α} (l : List α) (i : Nat) (h : i < l.length) : (l[i] :: l.eraseIdx i).Perm l := by
  induction l generalizing i with
  | nil => simp at h
  | cons y t ih =>
    cases i with
    | zero => simp
    | succ j =>
      have hj : j < t.length := by simpa using h
      simp only [List.getElem_cons_succ, List.eraseIdx_cons_succ]
      exact (List.Perm.swap y (t[j]'hj) _).trans ((ih j hj).cons y)

theorem filter_eraseIdx_of_not {α} (f : α → Bool) : ∀ (l : List α) (i : Nat) (x : α),
    l[i]? = some x → f x = false → (l.eraseIdx i).filter f = l.filter f := by
  intro l
  induction l with
  | nil => intro i x h; simp at h
  | cons y t ih =>
    intro i x h hf
    cases i with
    | zero => simp at h; subst h; simp [List.filter_cons, hf]
    | succ j =>
      simp at h
      simp only [List.eraseIdx_cons_succ, List.filter_cons]
      rw [ih j x h hf]

/-! ### tree mode, second phase: the tree update evicts the flagged particles -/

def unfl (p : P) : Bool := !p.flagged

def live (c : State) : List P := (c.mem.take c.N).filter unfl

theorem evict_spec (c : State) (hinv : Inv c) (q : Nat) (hf : isFlaggedAt c q = true) :
    ∃ c', evict c q = some c' ∧ Inv c' ∧ c' = { c with mem := c'.mem, N := c'.N } ∧ (live c').Perm (live c) := by
  have hle := hinv.le
  simp only [isFlaggedAt, Bool.and_eq_true, decide_eq_true_eq] at hf
  obtain ⟨hq, hfl⟩ := hf
  have hql : q < c.mem.length := by omega
  rw [List.getElem?_eq_getElem hql] at hfl
  obtain ⟨last, e1, e2, e3⟩ := take_moveLast c.mem c.N q hle hq
  unfold evict
  rw [if_neg (by omega)]
  simp only [e1, writeAt, if_pos hql]
  refine ⟨_, rfl, ?_, rfl, ?_⟩
  · have := hinv.1; have := hinv.2; simp [Inv]; omega
  · simp only [live, e3]
    have hq' : (c.mem.take c.N)[q]? = some c.mem[q] := by
      rw [List.getElem?_take_of_lt hq]; exact List.getElem?_eq_getElem hql
    rw [← filter_eraseIdx_of_not unfl _ q _ hq' (by simp [unfl, hfl])]
    exact (set_dropLast_perm _ q last (by rw [List.length_take_of_le hle]; exact hq) e2).filter unfl

theorem evictAll_spec : ∀ (visit : List Nat) (c : State), Inv c →
    evictAll c visit ≠ some none ∧
    ∀ c', evictAll c visit = some (some c') →
      Inv c' ∧ c' = { c with mem := c'.mem, N := c'.N } ∧ (live c').Perm (live c) := by
  intro visit
  induction visit with
  | nil =>
    intro c hinv
    refine ⟨by simp [evictAll], fun c' h => ?_⟩
    simp [evictAll] at h; subst h
    exact ⟨hinv, rfl, List.Perm.refl _⟩
  | cons q rest ih =>
    intro c hinv
    unfold evictAll
    by_cases hf : isFlaggedAt c q = true
    · rw [if_pos hf]
      obtain ⟨c1, e1, i1, s1, p1⟩ := evict_spec c hinv q hf
      rw [e1]
      simp only []
      obtain ⟨a, b⟩ := ih c1 i1
      refine ⟨a, fun c' h => ?_⟩
      obtain ⟨i2, s2, p2⟩ := b c' h
      refine ⟨i2, ?_, p2.trans p1⟩
      rw [s2, s1]
    · rw [if_neg hf]
      exact ⟨by simp, fun c' h => by simp at h⟩

theorem filter_unfl_of_none (l : List P) (h : l.any (·.flagged) = false) : l.filter unfl = l := by
  rw [List.filter_eq_self]
  intro a ha
  rw [List.any_eq_false] at h
  have := h a ha
  simp [unfl, this]

/-- the `N_active` clause of the tree update (finding F4h) -/
def NoShapeTreeUpdate (v : Variant) (c : State) : Prop :=
  v.evictClamp = true ∨ c.nActive ≤ ((live c).length : Int)

/-- the tree update as it is: refused, or the flagged particles are gone and `N_active` is clamped only with
    `v.evictClamp` -/
theorem treeUpdate_spec (v : Variant) (c : State) (hinv : Inv c) (visit : List Nat) :
    Inv (treeUpdate v c visit).1 ∧ (treeUpdate v c visit).2 ≠ Out.fault ∧
    (((treeUpdate v c visit).2 = Out.errIndex ∧ (treeUpdate v c visit).1 = c) ∨
     ((treeUpdate v c visit).2 = Out.done ∧
      (abs (treeUpdate v c visit).1).ps.Perm ((abs c).ps.filter (fun p => !p.flagged)) ∧
      abs (treeUpdate v c visit).1 =
        { abs c with ps := (abs (treeUpdate v c visit).1).ps, treeRoot := true,
                     active := if v.evictClamp then clampActive c.nActive (treeUpdate v c visit).1.N
                               else c.nActive })) := by
  obtain ⟨nf, hall⟩ := evictAll_spec visit c hinv
  unfold treeUpdate
  cases he : evictAll c visit with
  | none => exact ⟨hinv, by simp, Or.inl ⟨rfl, rfl⟩⟩
  | some r =>
    cases r with
    | none => exact absurd he nf
    | some c' =>
      obtain ⟨i2, s2, p2⟩ := hall c' he
      simp only []
      split
      · exact ⟨hinv, by simp, Or.inl ⟨rfl, rfl⟩⟩
      · rename_i hany
        have hps : c'.mem.take c'.N = live c' := (filter_unfl_of_none _ (by simpa using hany)).symm
        refine ⟨i2, by simp, Or.inr ⟨rfl, ?_, ?_⟩⟩
        · show (c'.mem.take c'.N).Perm (live c)
          rw [hps]; exact p2
        · simp only [abs]; rw [s2]

theorem treeUpdate_refines (v : Variant) (c : State) (hinv : Inv c) (visit : List Nat)
    (hs : NoShapeTreeUpdate v c) :
    SpecStep (abs c) (.treeUpdate visit) (treeUpdate v c visit).2 (abs (treeUpdate v c visit).1) := by
  obtain ⟨a, _, d⟩ := treeUpdate_spec v c hinv visit
  rcases d with ⟨h1, h2⟩ | ⟨h1, h2, h3⟩
  · exact Or.inl ⟨h1, by rw [h2]⟩
  · refine Or.inr ⟨h1, h2, ?_⟩
    have hN := abs_len a
    -- outside the shape of F4h the clamp changes nothing
    have hcl : (if v.evictClamp = true then clampActive c.nActive (treeUpdate v c visit).1.N else c.nActive) =
        clampActive c.nActive (treeUpdate v c visit).1.N := by
      rcases hs with h | h
      · rw [if_pos h]
      · have : (live c).length = (treeUpdate v c visit).1.N := by rw [← hN]; exact h2.length_eq.symm
        rw [this] at h
        rw [show clampActive c.nActive (treeUpdate v c visit).1.N = c.nActive from if_neg (by omega), ite_self]
    rw [hcl] at h3
    rw [hN]; exact h3

theorem filter_modify_flag {α} (g : α → Bool) (f : α → α) (hg : ∀ x, g (f x) = false) :
    ∀ (l : List α) (i : Nat), i < l.length → (l.modify i f).filter g = (l.eraseIdx i).filter g := by
  intro l
  induction l with
  | nil => intro i h; simp at h
  | cons y t ih =>
    intro i h
    cases i with
    | zero => simp [List.filter_cons, hg]
    | succ j =>
      simp only [List.modify_succ_cons, List.eraseIdx_cons_succ, List.filter_cons]
      rw [ih j (by simpa using h)]

theorem add_spec (c : State) (hinv : Inv c) (p : P) (g : Geo) :
    Inv (add c p g).1 ∧ (add c p g).2 ≠ .fault ∧
    (c.staleLeaf = false → (abs (add c p g).1, (add c p g).2) = (abs c).add p g) := by
  obtain ⟨a, b, d, hm, _⟩ := addCore_spec c hinv p g
  unfold add
  simp only []
  by_cases hc : (addCore c p g).2 = Out.ok ∨ (addCore c p g).2 = Out.errSameCoords
  · rw [if_pos hc]
    refine ⟨by unfold addTail; split <;> exact a, b, fun hs => ?_⟩
    have e := d hs
    have e2 : (addCore c p g).2 = ((abs c).addCore p g).2 := congrArg Prod.snd e
    have e1 : abs (addCore c p g).1 = ((abs c).addCore p g).1 := congrArg Prod.fst e
    unfold Spec.add
    simp only []
    rw [← e2, if_pos hc, ← e1]
    have hma : (abs c).mercurius = c.mercurius := rfl
    rw [hma]
    unfold addTail
    by_cases hmm : c.mercurius = true
    · rw [if_pos (hm.trans hmm), if_pos hmm]; rfl
    · rw [if_neg (by rw [hm]; exact hmm), if_neg hmm]
  · rw [if_neg hc]
    refine ⟨a, b, fun hs => ?_⟩
    have e := d hs
    have e2 : (addCore c p g).2 = ((abs c).addCore p g).2 := congrArg Prod.snd e
    unfold Spec.add
    simp only []
    rw [← e2, if_neg hc]
    exact e

theorem integratorStep_spec (c : State) (hinv : Inv c) (vals : List Nat) :
    Inv (integratorStep c vals).1 ∧ (integratorStep c vals).2 ≠ .fault ∧
    (abs (integratorStep c vals).1, (integratorStep c vals).2) = (abs c).integratorStep vals := by
  have hlen := abs_len hinv
  unfold integratorStep Spec.integratorStep
  rw [hlen]
  have hma : (abs c).mercurius = c.mercurius := rfl
  rw [hma]
  split
  · exact ⟨hinv, by simp, rfl⟩
  · exact ⟨hinv, by simp, rfl⟩

theorem abs_lookup (c : State) (t : List Entry) : abs { c with lookup := t } = abs c := rfl

theorem lookupOK_of_res (c : State) (h : Nat) (o : Out) (hr : LookupRes c h o) :
    (abs c).LookupOK h o := by
  rcases hr.cases with ⟨i, rfl, hi, p, hp, hh⟩ | ⟨rfl, hr⟩
  · exact ⟨p, by simp only [abs]; rw [List.getElem?_take, if_pos hi]; exact hp, hh⟩
  · intro p hp
    simp only [abs] at hp
    obtain ⟨i, hi⟩ := List.getElem?_of_mem hp
    have := take_get hi
    exact hr i p this.1 this.2

theorem particleByHash_step (srt : Sorter) (hv : srt.Valid) (c : State) (hinv : Inv c) (h : Nat) :
    Inv (particleByHash srt c h).1 ∧ (particleByHash srt c h).2 ≠ .fault ∧
    abs (particleByHash srt c h).1 = abs c ∧ (abs c).LookupOK h (particleByHash srt c h).2 := by
  obtain ⟨h1, h2⟩ := particleByHash_spec srt hv c hinv.le h
  have hok := lookupOK_of_res c h _ h2
  refine ⟨?_, ?_, ?_, hok⟩
  · rcases h1 with e | ⟨t, e⟩ <;> rw [e] <;> exact hinv
  · intro hf; rw [hf] at h2; exact h2
  · rcases h1 with e | ⟨t, e⟩ <;> rw [e]
    rfl

theorem removeAll_spec (v : Variant) (c : State) :
    Inv (removeAll v c).1 ∧ (removeAll v c).2 ≠ .fault ∧
    ((v.resetTree = true ∨ c.treeRoot = false) →
      (abs (removeAll v c).1, (removeAll v c).2) = (abs c).removeAll) := by
  refine ⟨by simp [removeAll, Inv], by simp [removeAll], fun hs => ?_⟩
  have : (if v.resetTree = true then false else c.treeRoot) = false := by
    rcases hs with h | h <;> simp [h]
  simp [removeAll, Spec.removeAll, abs, this]

theorem setHash_spec (c : State) (hinv : Inv c) (idx h : Nat) :
    Inv (setHash c idx h).1 ∧ (setHash c idx h).2 ≠ .fault ∧
    (abs (setHash c idx h).1, (setHash c idx h).2) = (abs c).setHash idx h := by
  have hlen := abs_len hinv
  have hle := hinv.le
  unfold setHash Spec.setHash
  rw [hlen]
  by_cases hi : idx < c.N
  · have hil : idx < c.mem.length := by omega
    rw [if_pos hi, if_pos hi, List.getElem?_eq_getElem hil]
    refine ⟨by simp [Inv]; exact hinv, by simp, ?_⟩
    simp [abs, take_flag c.mem c.N idx (fun p => { p with hash := h }) hil]
  · rw [if_neg hi, if_neg hi]
    exact ⟨hinv, by simp, rfl⟩

theorem setActive_spec (c : State) (hinv : Inv c) (k : Int) :
    Inv (setActive c k).1 ∧ (setActive c k).2 ≠ .fault ∧
    (abs (setActive c k).1, (setActive c k).2) = (abs c).setActive k := by
  have hlen := abs_len hinv
  unfold setActive Spec.setActive
  rw [hlen]
  by_cases hk : -1 ≤ k ∧ k ≤ (c.N : Int)
  · rw [if_pos hk, if_pos hk]; exact ⟨hinv, by simp, rfl⟩
  · rw [if_neg hk, if_neg hk]; exact ⟨hinv, by simp, rfl⟩

/-- the operation is not one of the call shapes in which variant `v` departs from the
    documented behaviour -/
def NoShape (v : Variant) (c : State) : Op → Prop
  | .add _ _ => c.staleLeaf = false
  | .remove i ks => NoShapeRemove v c i ks
  | .removeByHash _ ks => ∀ i : Nat, i < c.N → NoShapeRemove v c (i : Int) ks
  | .removeAll => v.resetTree = true ∨ c.treeRoot = false
  | .treeUpdate _ => NoShapeTreeUpdate v c
  | _ => True

/-- the operation cannot leave the allocated storage in variant `v` (finding F4g is the only way to) -/
def NoFault (v : Variant) (c : State) : Op → Prop
  | .remove i _ => NoFaultRemove v c i
  | .removeByHash _ _ => ∀ i : Nat, i < c.N → NoFaultRemove v c (i : Int)
  | _ => True

theorem removeByHash_spec (v : Variant) (srt : Sorter) (hv : srt.Valid) (c : State) (hinv : Inv c)
    (h : Nat) (ks : Bool) :
    Inv (removeByHash v srt c h ks).1 ∧
    ((∀ i : Nat, i < c.N → NoFaultRemove v c (i : Int)) → (removeByHash v srt c h ks).2 ≠ .fault) ∧
    ((∀ i : Nat, i < c.N → NoShapeRemove v c (i : Int) ks) →
      SpecStep (abs c) (.removeByHash h ks) (removeByHash v srt c h ks).2 (abs (removeByHash v srt c h ks).1)) := by
  obtain ⟨h1, h2⟩ := particleByHash_spec srt hv c hinv.le h
  obtain ⟨b1, b2, b3, b4⟩ := particleByHash_step srt hv c hinv h
  unfold removeByHash
  generalize hres : particleByHash srt c h = res at *
  obtain ⟨c', o⟩ := res
  simp only at h1 h2 b1 b2 b3 b4
  rcases h2.cases with ⟨i, rfl, h2⟩ | ⟨rfl, -⟩
  · obtain ⟨r1, r2, r3⟩ := remove_spec v c' b1 (i : Int) ks
    refine ⟨r1, fun hs => ?_, fun hs => ?_⟩
    · apply r2
      rcases h1 with e | ⟨t, e⟩ <;> rw [e] <;> exact hs i h2.1
    · have hns : NoShapeRemove v c' (i : Int) ks := by
        -- the lookup table is not among what the call shapes speak of
        rcases h1 with e | ⟨t, e⟩ <;> rw [e] <;> exact hs i h2.1
      have := r3 hns
      rw [b3] at this
      obtain ⟨p, hp, hh⟩ := b4
      exact Or.inr ⟨i, p, hp, hh, this⟩
  · refine ⟨b1, fun _ => by simp, fun _ => Or.inl ⟨b4, rfl, b3⟩⟩

theorem step_spec (v : Variant) (srt : Sorter) (hv : srt.Valid) (c : State) (hinv : Inv c) (op : Op) :
    Inv (step v srt c op).1 ∧ (NoFault v c op → (step v srt c op).2 ≠ .fault) ∧
    (NoShape v c op → SpecStep (abs c) op (step v srt c op).2 (abs (step v srt c op).1)) := by
  -- `step`, `NoFault`, `NoShape` and `SpecStep` unfold to what the lemma of each operation says
  cases op with
  | add p g =>
    have ⟨a, b, d⟩ := add_spec c hinv p g
    exact ⟨a, fun _ => b, d⟩
  | remove i ks => exact remove_spec v c hinv i ks
  | removeByHash h ks => exact removeByHash_spec v srt hv c hinv h ks
  | lookup h =>
    have ⟨a, b, d, e⟩ := particleByHash_step srt hv c hinv h
    exact ⟨a, fun _ => b, fun _ => ⟨d, e⟩⟩
  | setHash i h =>
    have ⟨a, b, d⟩ := setHash_spec c hinv i h
    exact ⟨a, fun _ => b, fun _ => d⟩
  | setActive k =>
    have ⟨a, b, d⟩ := setActive_spec c hinv k
    exact ⟨a, fun _ => b, fun _ => d⟩
  | removeAll =>
    have ⟨a, b, d⟩ := removeAll_spec v c
    exact ⟨a, fun _ => b, d⟩
  | treeUpdate visit =>
    have ⟨a, b, _⟩ := treeUpdate_spec v c hinv visit
    exact ⟨a, fun _ => b, treeUpdate_refines v c hinv visit⟩
  | integratorStep vals =>
    have ⟨a, b, d⟩ := integratorStep_spec c hinv vals
    exact ⟨a, fun _ => b, fun _ => d⟩

def NoShapeRun (v : Variant) : State → List (Sorter × Op) → Prop
  | _, [] => True
  | c, (srt, op) :: rest => NoShape v c op ∧ NoShapeRun v (step v srt c op).1 rest

def NoFaultRun (v : Variant) : State → List (Sorter × Op) → Prop
  | _, [] => True
  | c, (srt, op) :: rest => NoFault v c op ∧ NoFaultRun v (step v srt c op).1 rest

theorem run_spec (v : Variant) : ∀ (ops : List (Sorter × Op)) (c : State), Inv c →
    (∀ x ∈ ops, x.1.Valid) →
    Inv (run v c ops).1 ∧ (NoFaultRun v c ops → ∀ o ∈ (run v c ops).2, o ≠ Out.fault) ∧
    (NoShapeRun v c ops → SpecRun (abs c) (ops.map (·.2)) (run v c ops).2 (abs (run v c ops).1)) := by
  intro ops
  induction ops with
  | nil => intro c hinv _; exact ⟨hinv, fun _ => by simp [run], fun _ => SpecRun.nil _⟩
  | cons x rest ih =>
    intro c hinv hv
    obtain ⟨srt, op⟩ := x
    obtain ⟨a, b, d⟩ := step_spec v srt (hv (srt, op) (by simp)) c hinv op
    obtain ⟨a', b', d'⟩ := ih (step v srt c op).1 a (fun x hx => hv x (by simp [hx]))
    simp only [run, List.map_cons]
    refine ⟨a', fun hf => ?_, fun hs => ?_⟩
    · intro o ho
      simp at ho
      rcases ho with rfl | ho
      · exact b hf.1
      · exact b' hf.2 o ho
    · exact SpecRun.cons (d hs.1) (d' hs.2)

theorem removeCore_stale (v : Variant) (hr : v.resetTree = true) (c : State) (i : Int) (ks : Bool)
    (hs : c.staleLeaf = false) : (removeCore v c i ks).1.staleLeaf = false := by
  rw [removeCore_eq]; unfold removeShortcut
  simp only [hr, if_true]
  -- every branch leaves `staleLeaf` alone, sets it to `false`, or is `removeRest`
  repeat' split
  all_goals first | exact hs | rfl | exact (removeRest_stale v c i _).trans hs

theorem remove_stale (v : Variant) (hr : v.resetTree = true) (c : State) (i : Int) (ks : Bool)
    (hs : c.staleLeaf = false) : (remove v c i ks).1.staleLeaf = false := by
  have hcore := removeCore_stale v hr c i ks hs
  rw [remove_eq]
  split
  · split
    · exact hs
    · exact hcore
  · exact hcore

theorem add_stale (c : State) (hinv : Inv c) (p : P) (g : Geo)
    (hs : c.staleLeaf = false) : (add c p g).1.staleLeaf = false := by
  have hcore := (addCore_spec c hinv p g).2.2.2.2 hs
  unfold add
  simp only []
  split
  · unfold addTail; split <;> exact hcore
  · exact hcore

theorem lookup_stale (srt : Sorter) (hv : srt.Valid) (c : State) (hinv : Inv c) (h : Nat) :
    (particleByHash srt c h).1.staleLeaf = c.staleLeaf := by
  rcases (particleByHash_spec srt hv c hinv.le h).1 with e | ⟨t, e⟩ <;> rw [e]

theorem step_stale (v : Variant) (hr : v.resetTree = true) (srt : Sorter) (hv : srt.Valid) (c : State)
    (hinv : Inv c) (op : Op) (hs : c.staleLeaf = false) : (step v srt c op).1.staleLeaf = false := by
  cases op with
  | add p g => exact add_stale c hinv p g hs
  | remove i ks => exact remove_stale v hr c i ks hs
  | removeByHash h ks =>
    have hl := lookup_stale srt hv c hinv h
    simp only [step, removeByHash]
    generalize particleByHash srt c h = res at hl
    obtain ⟨c', o⟩ := res
    simp only at hl
    -- only `found` goes on to `remove`; every other answer returns the state of the lookup
    cases o <;> simp only [] <;> first | exact hl.trans hs | exact remove_stale v hr c' _ ks (hl.trans hs)
  | lookup h => exact (lookup_stale srt hv c hinv h).trans hs
  | setHash i h =>
    simp only [step, setHash]
    split
    · cases c.mem[i]? <;> exact hs
    · exact hs
  | setActive k => simp only [step, setActive]; split <;> exact hs
  | removeAll => simp [step, removeAll, hr]
  | treeUpdate visit =>
    simp only [step, treeUpdate]
    cases he : evictAll c visit with
    | none => exact hs
    | some r =>
      cases r with
      | none => exact hs
      | some c' =>
        simp only []
        split
        · exact hs
        · simp only []; rw [((evictAll_spec visit c hinv).2 c' he).2.1]; exact hs
  | integratorStep vals => simp only [step, integratorStep]; split <;> exact hs

theorem noShape_repaired (c : State) (hs : c.staleLeaf = false) (op : Op) :
    NoShape Variant.repaired c op := by
  cases op <;> simp only [NoShape]
  · exact Or.inl rfl
  · exact hs
  · exact NoShapeRemove.repaired _ _ _
  · intro i _; exact NoShapeRemove.repaired _ _ _
  · exact Or.inl rfl

theorem noFault_bounded (v : Variant) (hb : v.dcritBounded = true) (hw : v.dcritWithParticles = true ∨ v.rangeFirst = true)
    (c : State) (op : Op) : NoFault v c op := by
  have h : ∀ i, NoFaultRemove v c i := fun i => ⟨Or.inl hb, by rcases hw with h | h; exact Or.inl h; exact Or.inr (Or.inl h)⟩
  cases op <;> simp only [NoFault]
  · exact h _
  · intro i _; exact h _

theorem noFaultRun_bounded (v : Variant) (hb : v.dcritBounded = true)
    (hw : v.dcritWithParticles = true ∨ v.rangeFirst = true) :
    ∀ (ops : List (Sorter × Op)) (c : State), NoFaultRun v c ops := by
  intro ops
  induction ops with
  | nil => intro c; trivial
  | cons x rest ih => intro c; obtain ⟨srt, op⟩ := x; exact ⟨noFault_bounded v hb hw c op, ih _⟩

theorem noShapeRun_repaired : ∀ (ops : List (Sorter × Op)) (c : State), Inv c → c.staleLeaf = false →
    (∀ x ∈ ops, x.1.Valid) → NoShapeRun Variant.repaired c ops := by
  intro ops
  induction ops with
  | nil => intros; trivial
  | cons x rest ih =>
    intro c hinv hs hv
    obtain ⟨srt, op⟩ := x
    have hvs := hv (srt, op) (by simp)
    exact ⟨noShape_repaired c hs op,
      ih _ (step_spec _ srt hvs c hinv op).1 (step_stale _ rfl srt hvs c hinv op hs)
        (fun x hx => hv x (by simp [hx]))⟩

/-- the active count, when set, does not exceed the number of particles -/
def Spec.ActOK (s : Spec) : Prop := -1 ≤ s.active ∧ s.active ≤ (s.ps.length : Int)

theorem clampActive_le (a : Int) (n : Nat) : clampActive a n ≤ n := by
  unfold clampActive; split <;> omega

theorem clampActive_ge (a : Int) (n : Nat) (h : -1 ≤ a) : -1 ≤ clampActive a n := by
  unfold clampActive; split <;> omega

theorem Spec.removeCore_actOK (s : Spec) (h : s.ActOK) (i : Int) (ks : Bool) : (s.removeCore i ks).1.ActOK := by
  unfold Spec.removeCore
  by_cases hr : i < 0 ∨ i ≥ (s.ps.length : Int)
  · rw [if_pos hr]; exact h
  · rw [if_neg hr]
    by_cases h1 : s.ps.length = 1
    · rw [if_pos h1]
      exact ⟨clampActive_ge _ _ h.1, by simpa using clampActive_le s.active 0⟩
    · rw [if_neg h1]
      unfold Spec.removeMany
      have h1' := h.1; have h2' := h.2
      by_cases hv : s.nVar ≠ 0
      · rw [if_pos hv]; exact h
      · rw [if_neg hv]
        by_cases hk : (ks || s.forceSorted) = true
        · rw [if_pos hk]
          cases s.treeRoot
          · simp only [Spec.ActOK, List.length_eraseIdx, Bool.false_eq_true, if_false]
            split <;> split <;> omega
          · exact h
        · rw [if_neg hk]
          cases s.treeRoot
          · simp only [Bool.false_eq_true, if_false]
            cases s.ps.getLast? with
            | none => exact h
            | some l =>
              simp only [Spec.ActOK, List.length_dropLast, List.length_set]
              exact ⟨clampActive_ge _ _ h.1, clampActive_le _ _⟩
          · simp only [Spec.ActOK, List.length_modify, if_true]; exact h

theorem Spec.remove_actOK (s : Spec) (h : s.ActOK) (i : Int) (ks : Bool) : (s.remove i ks).1.ActOK := by
  have hc := Spec.removeCore_actOK s h i ks
  unfold Spec.remove
  simp only []
  split <;> exact hc

theorem Spec.add_actOK (s : Spec) (h : s.ActOK) (p : P) (g : Geo) : (s.add p g).1.ActOK := by
  have hc : (s.addCore p g).1.ActOK := by
    unfold Spec.addCore
    -- a branch either returns `s` or appends one particle
    repeat' split
    all_goals first | exact h | exact ⟨h.1, by have := h.2; simp only [List.length_append, List.length_singleton]; omega⟩
  unfold Spec.add
  simp only []
  split
  · split <;> exact hc
  · exact hc

theorem specStep_actOK (s s' : Spec) (op : Op) (o : Out) (hst : SpecStep s op o s') (h : s.ActOK) :
    s'.ActOK := by
  cases op with
  | treeUpdate visit =>
    rcases hst with ⟨_, rfl⟩ | ⟨_, _, e⟩
    · exact h
    · rw [e]; exact ⟨clampActive_ge _ _ h.1, clampActive_le _ _⟩
  | integratorStep vals =>
    obtain rfl : s' = (s.integratorStep vals).1 := congrArg Prod.fst hst
    unfold Spec.integratorStep
    split <;> exact h
  | add p g =>
    obtain rfl : s' = (s.add p g).1 := congrArg Prod.fst hst
    exact Spec.add_actOK s h p g
  | remove i ks =>
    obtain rfl : s' = (s.remove i ks).1 := congrArg Prod.fst hst
    exact Spec.remove_actOK s h i ks
  | removeByHash hh ks =>
    rcases hst with ⟨_, _, rfl⟩ | ⟨i, p, _, _, e⟩
    · exact h
    · obtain rfl : s' = (s.remove i ks).1 := congrArg Prod.fst e
      exact Spec.remove_actOK s h _ ks
  | lookup hh => rw [hst.1]; exact h
  | setHash i hh =>
    obtain rfl : s' = (s.setHash i hh).1 := congrArg Prod.fst hst
    unfold Spec.setHash
    split
    · exact ⟨h.1, by simpa only [List.length_modify] using h.2⟩
    · exact h
  | setActive k =>
    obtain rfl : s' = (s.setActive k).1 := congrArg Prod.fst hst
    unfold Spec.setActive
    split
    · assumption
    · exact h
  | removeAll =>
    obtain rfl : s' = s.removeAll.1 := congrArg Prod.fst hst
    exact ⟨Int.le_refl _, by simp [Spec.removeAll]⟩

theorem specRun_actOK (s s' : Spec) (ops : List Op) (os : List Out) (hr : SpecRun s ops os s')
    (h : s.ActOK) : s'.ActOK := by
  induction hr with
  | nil => exact h
  | cons hst _ ih => exact ih (specStep_actOK _ _ _ _ hst h)

/-- `-1 ≤ N_active ≤ N` along every history without the excluded call shapes -/
theorem run_active_le (v : Variant) (ops : List (Sorter × Op)) (c : State) (hinv : Inv c)
    (hsort : ∀ x ∈ ops, x.1.Valid) (hshape : NoShapeRun v c ops)
    (ha : -1 ≤ c.nActive ∧ c.nActive ≤ (c.N : Int)) :
    -1 ≤ (run v c ops).1.nActive ∧ (run v c ops).1.nActive ≤ ((run v c ops).1.N : Int) := by
  obtain ⟨hi, _, hr⟩ := run_spec v ops c hinv hsort
  have := specRun_actOK _ _ _ _ (hr hshape) (by simp only [Spec.ActOK, abs_len hinv]; exact ha)
  simp only [Spec.ActOK, abs_len hi] at this
  exact this

end RV.Particles
