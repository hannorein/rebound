import RV.Proofs.Field
import RV.Model.Kepler
import Mathlib.Algebra.Order.Archimedean.Basic
import Mathlib.Algebra.Order.Field.Basic
import Mathlib.Tactic.Linarith
/- termination of the argument-halving loop of stumpff_cs3 / stumpff_cs over an
   Archimedean ordered field (helper for RV/Props/C03.lean) -/
set_option linter.unusedSectionVars false
namespace RV.Kepler
open RV
variable {K : Type} [Field K] [LinearOrder K] [IsStrictOrderedRing K]

/-- comparisons of an ordered field as the operation-only class the model is written over -/
instance ordScalarO : ScalarO K :=
  { (fieldScalar : Scalar K) with lt := fun a b => decide (a < b), le := fun a b => decide (a ≤ b) }

theorem halve_succ (abs : K → K) (thr div : K) (fin : K → Bool) (hfin : ∀ x, fin x = true)
    (fuel : Nat) (z : K) (n : Nat) :
    halve abs thr div fin (fuel + 1) z n =
      if thr < abs z then halve abs thr div fin fuel (z / div) (n + 1) else some (z, n) := by
  simp only [halve, ScalarO.lt, hfin, Bool.and_true, decide_eq_true_eq]

theorem halve_exact (thr div : K) (fin : K → Bool) (hfin : ∀ x, fin x = true) (hdiv : div ≠ 0) (k : Nat) :
    ∀ (fuel : Nat) (z : K) (n : Nat), (∀ j < k, thr < |z / div ^ j|) → ¬ thr < |z / div ^ k| →
      k + 1 ≤ fuel → halve (fun x => |x|) thr div fin fuel z n = some (z / div ^ k, n + k) := by
  induction k with
  | zero =>
    intro fuel z n _ hk hf
    obtain ⟨f, rfl⟩ : ∃ f, fuel = f + 1 := ⟨fuel - 1, by omega⟩
    rw [halve_succ _ _ _ _ hfin]
    simp only [pow_zero, div_one] at hk ⊢
    rw [if_neg hk]; rfl
  | succ k ih =>
    intro fuel z n hj hk hf
    obtain ⟨f, rfl⟩ : ∃ f, fuel = f + 1 := ⟨fuel - 1, by omega⟩
    rw [halve_succ _ _ _ _ hfin]
    have h0 : thr < |z| := by simpa using hj 0 (by omega)
    rw [if_pos h0]
    have e : ∀ j, z / div / div ^ j = z / div ^ (j + 1) := by
      intro j; rw [pow_succ]; field_simp
    rw [ih f (z / div) (n + 1) (fun j hjk => by rw [e]; exact hj (j + 1) (by omega))
      (by rw [e]; exact hk) (by omega), e]
    congr 2; omega

variable [Archimedean K]

/-- the halving loop terminates for every argument: with `n` = the least number of
    divisions that brings `|z|` down to the threshold -/
theorem halve_terminates (thr div : K) (fin : K → Bool) (hfin : ∀ x, fin x = true)
    (hthr : 0 < thr) (hdiv : 1 < div) (z : K) :
    ∃ n : Nat, (∀ fuel, n + 1 ≤ fuel → ∀ n0, halve (fun x => |x|) thr div fin fuel z n0 = some (z / div ^ n, n0 + n)) ∧
      |z / div ^ n| ≤ thr ∧ (∀ j < n, thr * div ^ j < |z|) := by
  have hd0 : (0 : K) < div := lt_trans zero_lt_one hdiv
  obtain ⟨m, hm⟩ := pow_unbounded_of_one_lt (|z| / thr) hdiv
  have hex : ∃ k : Nat, ¬ thr < |z / div ^ k| := by
    refine ⟨m, ?_⟩
    rw [abs_div, abs_of_pos (pow_pos hd0 m), not_lt, div_le_iff₀ (pow_pos hd0 m)]
    have := (div_lt_iff₀ hthr).1 hm
    linarith
  classical
  refine ⟨Nat.find hex, ?_, ?_, ?_⟩
  · intro fuel hf n0
    exact halve_exact thr div fin hfin (ne_of_gt hd0) (Nat.find hex) fuel z n0
      (fun j hj => not_not.1 (Nat.find_min hex hj)) (Nat.find_spec hex) hf
  · exact not_lt.1 (Nat.find_spec hex)
  · intro j hj
    have := not_not.1 (Nat.find_min hex hj)
    rw [abs_div, abs_of_pos (pow_pos hd0 j), lt_div_iff₀ (pow_pos hd0 j)] at this
    exact this

end RV.Kepler
