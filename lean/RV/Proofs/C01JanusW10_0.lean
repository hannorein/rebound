import RV.Proofs.C01WordInt
import RV.Model.Advertised
import RV.Gen.C01Janus
/- C01 / JANUS order 10 on all A/B words, shards 0–3 of 8: each the 255 words of length 3..10 that start with its prefix, and
   the prefix's own prefixes (decided on the integer tries of `C01WordInt`) -/
namespace RV.C01.Janus
open RV.C01 RV.C01.Gen RV.C01.Adv
theorem words_10_shard0 : ∀ s ∈ janusStep.lookup 10, WordOrderOn s (List.replicate 11 10) [false, false, false] 0 tolJanus := by
  decide +kernel
theorem words_10_shard1 : ∀ s ∈ janusStep.lookup 10, WordOrderOn s (List.replicate 11 10) [false, false, true] 0 tolJanus := by
  decide +kernel
theorem words_10_shard2 : ∀ s ∈ janusStep.lookup 10, WordOrderOn s (List.replicate 11 10) [false, true, false] 0 tolJanus := by
  decide +kernel
theorem words_10_shard3 : ∀ s ∈ janusStep.lookup 10, WordOrderOn s (List.replicate 11 10) [false, true, true] 0 tolJanus := by
  decide +kernel
end RV.C01.Janus
