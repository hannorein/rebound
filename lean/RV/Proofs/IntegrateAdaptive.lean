import RV.Proofs.Integrate
/-
  C08, adaptive integrators with exact_finish_time = 1: the LAST_STEP / RUNNING state machine
  terminates and ends inside the 1e-12 window with a full step size restored.
-/
set_option linter.unusedSectionVars false
namespace RV.Integrate
open RV
variable {K : Type} [Field K] [LinearOrder K] [IsStrictOrderedRing K]

/-- what the state machine needs to know about an adaptive integrator running in direction `sg`:
    called with a step of size at most `B` pointing in direction `sg`, it proposes a next step in the
    same direction and either rejects the whole step (`t`, `dt_last_done` untouched, proposal at
    least `δ` — only the first `R` calls may do that) or advances time by `dt_last_done`, which points in
    direction `sg`, is no longer than the step it was called with (IAS15 retries inside the step with
    smaller steps) and is at least `δ` long unless it is the complete step it was asked to do; the
    proposal is at least `δ` (min_dt) unless the step just completed was itself a requested step shorter
    than `δ` (IAS15 limits the growth to four times the step just done, so after a last step cut to
    fit `tmax` the proposal may stay below `min_dt`). -/
def IsAdaptive (step : StepFn K) (sg δ : K) (R : Nat) (B : K) : Prop :=
  ∀ k t dt dld, 0 < dt * sg → dt * sg ≤ B →
    0 < (step k t dt dld).dt * sg ∧
    ((k < R ∧ (step k t dt dld).t = t ∧ (step k t dt dld).dld = dld ∧ δ ≤ (step k t dt dld).dt * sg) ∨
     ((step k t dt dld).t = t + (step k t dt dld).dld ∧ 0 < (step k t dt dld).dld * sg ∧
      (step k t dt dld).dld * sg ≤ dt * sg ∧
      (δ ≤ (step k t dt dld).dld * sg ∨ (step k t dt dld).dld = dt) ∧
      (δ ≤ (step k t dt dld).dt * sg ∨ ((step k t dt dld).dld = dt ∧ dt * sg < δ))))

/-- invariant when `reb_check_exit` is entered -/
structure AInv (tmax sg δ : K) (s : Sim K) (lf : K) : Prop where
  st : s.status = -1 ∨ s.status = -2
  ex : s.exactFinish = 1
  pos : 0 < s.dt * sg
  dt : δ ≤ s.dt * sg ∨ s.t = tmax
  rem : 0 ≤ (tmax - s.t) * sg
  run : s.status = -1 → 0 < (tmax - s.t) * sg
  dld : s.dtLastDone = 0 ∨ δ ≤ s.dtLastDone * sg ∨ s.t = tmax
  lf : δ ≤ lf * sg

/-- invariant when the step is called -/
structure BInv (tmax sg δ : K) (s : Sim K) (lf : K) : Prop where
  st : s.status = -1 ∨ s.status = -2
  ex : s.exactFinish = 1
  pos : 0 < s.dt * sg
  kind : (s.dt * sg < (tmax - s.t) * sg ∧ δ ≤ s.dt * sg) ∨ (s.status = -2 ∧ s.dt = tmax - s.t)
  run : s.status = -1 → s.dt * sg < (tmax - s.t) * sg
  dld : s.dtLastDone = 0 ∨ δ ≤ s.dtLastDone * sg
  lf : δ ≤ lf * sg

/-- a step recorded in the history of a run towards `tmax`: never against the direction of
    integration, never past `tmax` -/
def MonoBeat (tmax sg : K) (b : Beat K) : Prop := b.t0 * sg ≤ b.t1 * sg ∧ b.t1 * sg ≤ tmax * sg

theorem eq_of_mul_dir_zero {a sg : K} (hsg : sg = 1 ∨ sg = -1) (h : a * sg = 0) : a = 0 := by
  rcases hsg with rfl | rfl <;> simpa using h

/-- `reb_check_exit` under the invariant: either SUCCESS inside the window, or on to the next step -/
theorem check_adaptive (tmax sg δ : K) (hsg : sg = 1 ∨ sg = -1) (s : Sim K) (lf : K)
    (f : Flags) (hf : f.Clear) (inv : AInv tmax sg δ s lf) :
    (∃ s', checkExit s tmax false lf f = .ret s' lf ∧ s'.status = 0 ∧
        (s'.t = tmax ∨ |s'.t - tmax| < tscale tmax) ∧ s'.hist = s.hist ∧ s'.exactFinish = 1) ∨
    (∃ s1 lf1, checkExit s tmax false lf f = .ret s1 lf1 ∧ BInv tmax sg δ s1 lf1 ∧ s1.t = s.t ∧
        s1.hist = s.hist ∧ s1.dtLastDone = s.dtLastDone) := by
  have hc : copysign 1 s.dt = sg := copysign_one_dir hsg inv.pos
  rw [checkExit_run s tmax lf f inv.st hf.errMsg hf.n_ne]
  simp only [inv.ex, if_true, hc]
  by_cases hnear : tmax * sg ≤ (s.t + s.dt) * sg
  · simp only [hnear, if_true]
    by_cases ht : s.t = tmax
    · left
      simp only [ht, if_true]
      exact ⟨_, rfl, rfl, Or.inl rfl, rfl, rfl⟩
    · simp only [ht, if_false]
      have hrem : 0 < (tmax - s.t) * sg := by
        rcases lt_or_eq_of_le inv.rem with h | h
        · exact h
        · exfalso; apply ht
          have := eq_of_mul_dir_zero hsg h.symm
          linarith
      rcases inv.st with hst | hst
      · -- RUNNING -> LAST_STEP
        right
        have h2 : ¬ s.status = -2 := by rw [hst]; norm_num
        simp only [h2, if_false]
        refine ⟨_, _, rfl, ?_, rfl, rfl, rfl⟩
        refine ⟨Or.inr rfl, rfl, hrem, Or.inr ⟨rfl, rfl⟩, ?_, ?_, ?_⟩
        · intro h; norm_num at h
        · rcases inv.dld with h | h | h
          · exact Or.inl h
          · exact Or.inr h
          · exact absurd h ht
        · by_cases h0 : s.dtLastDone = 0
          · simp [h0]; exact inv.lf
          · simp only [ne_eq, h0, not_false_eq_true, if_true]
            rcases inv.dld with h | h | h
            · exact absurd h h0
            · exact h
            · exact absurd h ht
      · -- already LAST_STEP
        simp only [hst, if_true]
        by_cases hw : |s.t - tmax| < tscale tmax
        · left
          simp only [hw, if_true]
          exact ⟨_, rfl, rfl, Or.inr hw, rfl, rfl⟩
        · right
          simp only [hw, if_false]
          refine ⟨_, _, rfl, ?_, rfl, rfl, rfl⟩
          refine ⟨Or.inr rfl, rfl, hrem, Or.inr ⟨rfl, rfl⟩, ?_, ?_, inv.lf⟩
          · intro h; norm_num at h
          · rcases inv.dld with h | h | h
            · exact Or.inl h
            · exact Or.inr h
            · exact absurd h ht
  · simp only [hnear, if_false]
    right
    have hfar : s.dt * sg < (tmax - s.t) * sg := by
      have := not_le.mp hnear; linarith
    have hpos : 0 < s.dt * sg := inv.pos
    have hne : s.t ≠ tmax := by
      intro h; rw [h] at hfar; simp at hfar; linarith
    have hdtδ : δ ≤ s.dt * sg := by
      rcases inv.dt with h | h
      · exact h
      · exact absurd h hne
    have hdld : s.dtLastDone = 0 ∨ δ ≤ s.dtLastDone * sg := by
      rcases inv.dld with h | h | h
      · exact Or.inl h
      · exact Or.inr h
      · exact absurd h hne
    rcases inv.st with hst | hst
    · have h2 : ¬ s.status = -2 := by rw [hst]; norm_num
      simp only [h2, if_false]
      exact ⟨_, _, rfl, ⟨Or.inl hst, inv.ex, hpos, Or.inl ⟨hfar, hdtδ⟩, fun _ => hfar, hdld, inv.lf⟩, rfl, rfl, rfl⟩
    · simp only [hst, if_true]
      exact ⟨_, _, rfl, ⟨Or.inl rfl, rfl, hpos, Or.inl ⟨hfar, hdtδ⟩, fun _ => hfar, hdld, inv.lf⟩, rfl, rfl, rfl⟩

/-- one step under the invariant: the invariant is re-established and the potential
    `N + (R − k)` drops (`N·δ` bounds the remaining distance, `R − k` the rejections still allowed) -/
theorem step_adaptive (step : StepFn K) (tmax sg δ : K) (R : Nat)
    (hδ : 0 < δ) (B : K) (had : IsAdaptive step sg δ R B) (k : Nat) (s1 : Sim K) (lf1 : K) (N : Nat)
    (b : BInv tmax sg δ s1 lf1) (hN : (tmax - s1.t) * sg ≤ N * δ) (hB : (tmax - s1.t) * sg ≤ B) :
    ∃ N' : Nat, AInv tmax sg δ (stepped step k s1) lf1 ∧
      (tmax - (stepped step k s1).t) * sg ≤ N' * δ ∧ N' + (R - (k + 1)) + 1 ≤ N + (R - k) ∧
      (tmax - (stepped step k s1).t) * sg ≤ B ∧
      MonoBeat tmax sg ⟨s1.t, s1.dt, (stepped step k s1).t, (stepped step k s1).dt,
        (stepped step k s1).dtLastDone, s1.status⟩ := by
  have hle : s1.dt * sg ≤ (tmax - s1.t) * sg := by
    rcases b.kind with h | h
    · exact h.1.le
    · rw [h.2]
  obtain ⟨hdt', hcase⟩ := had k s1.t s1.dt s1.dtLastDone b.pos (le_trans hle hB)
  have hrem : 0 < (tmax - s1.t) * sg := lt_of_lt_of_le b.pos hle
  rcases hcase with ⟨hk, ht, hd, hprop⟩ | ⟨ht, hp, hple, hmin, hprop⟩
  · refine ⟨N, ⟨by simpa using b.st, by simpa using b.ex, by simpa using hdt', Or.inl (by simpa using hprop), ?_, ?_, ?_, b.lf⟩, ?_, by omega, ?_, ?_⟩
    · rw [stepped_t, ht]; exact hrem.le
    · intro h; rw [stepped_t, ht]; exact hrem
    · rw [stepped_dld, hd]
      rcases b.dld with h | h
      · exact Or.inl h
      · exact Or.inr (Or.inl h)
    · rw [stepped_t, ht]; exact hN
    · rw [stepped_t, ht]; exact hB
    · simp only [MonoBeat, stepped_t, ht]
      exact ⟨le_refl _, by linarith⟩
  · have hN1 : 1 ≤ N := by
      by_contra h
      have : N = 0 := by omega
      rw [this] at hN; simp at hN; linarith
    have hcast : ((N - 1 : ℕ) : K) = (N : K) - 1 := by rw [Nat.cast_sub hN1]; simp
    have hδp : δ ≤ (step k s1.t s1.dt s1.dtLastDone).dld * sg ∨
        ((step k s1.t s1.dt s1.dtLastDone).dld = s1.dt ∧ s1.dt = tmax - s1.t) := by
      rcases hmin with h | h
      · exact Or.inl h
      · rcases b.kind with hk | hk
        · left; rw [h]; exact hk.2
        · right; exact ⟨h, hk.2⟩
    have hrem' : 0 ≤ (tmax - (s1.t + (step k s1.t s1.dt s1.dtLastDone).dld)) * sg := by linarith
    have hprop' : δ ≤ (stepped step k s1).dt * sg ∨ (stepped step k s1).t = tmax := by
      rcases hprop with h | ⟨h1, h2⟩
      · left; simpa using h
      · right
        rcases b.kind with hk | hk
        · exact absurd hk.2 (not_le.mpr h2)
        · rw [stepped_t, ht, h1, hk.2]; ring
    refine ⟨N - 1, ⟨by simpa using b.st, by simpa using b.ex, by simpa using hdt', hprop', ?_, ?_, ?_, b.lf⟩, ?_, by omega, ?_, ?_⟩
    · rw [stepped_t, ht]; exact hrem'
    · intro h
      rw [stepped_t, ht]
      have := b.run (by simpa using h)
      linarith
    · rw [stepped_dld, stepped_t, ht]
      rcases hδp with h | ⟨h1, h2⟩
      · exact Or.inr (Or.inl h)
      · right; right; rw [h1, h2]; ring
    · rw [stepped_t, ht, hcast]
      rcases hδp with h | ⟨h1, h2⟩
      · linarith
      · rw [h1, h2]
        have : (0 : K) ≤ ((N : K) - 1) * δ :=
          mul_nonneg (sub_nonneg.mpr (by exact_mod_cast hN1)) hδ.le
        have e : (tmax - (s1.t + (tmax - s1.t))) * sg = 0 := by ring
        rw [e]; exact this
    · rw [stepped_t, ht]; linarith
    · simp only [MonoBeat, stepped_t, ht]
      exact ⟨by linarith, by linarith⟩

/-- the adaptive loop terminates inside the window -/
theorem loop_adaptive (step : StepFn K) (env : Nat → Flags) (henv : ∀ k, (env k).Clear)
    (tmax sg δ : K) (R : Nat) (hsg : sg = 1 ∨ sg = -1) (hδ : 0 < δ) (B : K) (had : IsAdaptive step sg δ R B) :
    ∀ (m N k : Nat) (s : Sim K) (lf : K), AInv tmax sg δ s lf → (tmax - s.t) * sg ≤ N * δ →
      (tmax - s.t) * sg ≤ B → N + (R - k) ≤ m → ∀ fuel, m + 1 ≤ fuel →
      ∃ s' lf', loop step env tmax false fuel k s lf = (.done s', lf') ∧ s'.status = 0 ∧
        (s'.t = tmax ∨ |s'.t - tmax| < tscale tmax) ∧ δ ≤ lf' * sg ∧ s'.exactFinish = 1 ∧
        (∀ b ∈ s'.hist, b ∈ s.hist ∨ MonoBeat tmax sg b) := by
  intro m
  induction m with
  | zero =>
    intro N k s lf inv hN hB hm fuel hfuel
    obtain ⟨f, rfl⟩ : ∃ f, fuel = f + 1 := ⟨fuel - 1, by omega⟩
    rcases check_adaptive tmax sg δ hsg s lf (env k) (henv k) inv with
      ⟨s', hce, h0, hw, hh, hx⟩ | ⟨s1, lf1, hce, b, ht1, hh1, hd1⟩
    · exact ⟨s', lf, loop_of_ret_done step env tmax false f k s s' lf lf hce (by rw [h0]; norm_num),
        h0, hw, inv.lf, hx, fun b hb => Or.inl (hh ▸ hb)⟩
    · obtain ⟨N', _, _, hmeas, _⟩ := step_adaptive step tmax sg δ R hδ B had k s1 lf1 N b (by rw [ht1]; exact hN) (by rw [ht1]; exact hB)
      omega
  | succ m ih =>
    intro N k s lf inv hN hB hm fuel hfuel
    obtain ⟨f, rfl⟩ : ∃ f, fuel = f + 1 := ⟨fuel - 1, by omega⟩
    rcases check_adaptive tmax sg δ hsg s lf (env k) (henv k) inv with
      ⟨s', hce, h0, hw, hh, hx⟩ | ⟨s1, lf1, hce, b, ht1, hh1, hd1⟩
    · exact ⟨s', lf, loop_of_ret_done step env tmax false f k s s' lf lf hce (by rw [h0]; norm_num),
        h0, hw, inv.lf, hx, fun b hb => Or.inl (hh ▸ hb)⟩
    · obtain ⟨N', inv', hN', hmeas, hB', hmono⟩ :=
        step_adaptive step tmax sg δ R hδ B had k s1 lf1 N b (by rw [ht1]; exact hN) (by rw [ht1]; exact hB)
      have hneg : s1.status < 0 := by rcases b.st with h | h <;> rw [h] <;> norm_num
      rw [loop_of_ret_neg step env tmax false f k s s1 lf lf1 hce hneg,
        stepAndBeat_clear step k s1 (env (k + 1)) (henv (k + 1))]
      obtain ⟨s', lf', hl, h0, hw, hlf, hx, hhist⟩ := ih N' (k + 1) (stepped step k s1) lf1 inv' hN' hB' (by omega) f (by omega)
      refine ⟨s', lf', hl, h0, hw, hlf, hx, ?_⟩
      intro b' hb'
      rcases hhist b' hb' with h | h
      · rw [stepped_hist, List.mem_cons] at h
        rcases h with h | h
        · right; rw [h]; exact hmono
        · left; rw [← hh1]; exact h
      · right; exact h

end RV.Integrate
