import RV.Proofs.C01Bs
import Mathlib.Algebra.Order.Field.Rat
import Mathlib.Tactic.Ring
import Mathlib.Tactic.Linarith
/-
  C01 / BS: the extrapolation is linear in the table, hence — with `Bs.monomials` — exact for **every** polynomial of
  degree ≤ k in the abscissa h² = (H/n)², for every row k ≤ 8 the code can reach (sequence_length = 9).
-/
namespace RV.C01.BsLinear
open RV.C01 RV.C01.Gbs

def lin (a : Rat) (l1 l2 : List Rat) : List Rat := List.zipWith (fun u v => u + a * v) l1 l2

theorem go_linear (a xk : Rat) (xs : List Rat) : ∀ (d1 d2 : List Rat) (C1 C2 : Rat),
    go xk xs (lin a d1 d2) (C1 + a * C2) = lin a (go xk xs d1 C1) (go xk xs d2 C2) := by
  induction xs with
  | nil => intro d1 d2 C1 C2; cases d1 <;> cases d2 <;> simp [go, lin]
  | cons xi xs ih =>
    intro d1 d2 C1 C2
    cases d1 with
    | nil => simp [go, lin]
    | cons u d1 =>
      cases d2 with
      | nil => simp [go, lin]
      | cons v d2 =>
        have hC : xi / (xi - xk) * (C1 + a * C2 - (u + a * v)) = xi / (xi - xk) * (C1 - u) + a * (xi / (xi - xk) * (C2 - v)) := by ring
        have hD : xk / (xi - xk) * (C1 + a * C2 - (u + a * v)) = xk / (xi - xk) * (C1 - u) + a * (xk / (xi - xk) * (C2 - v)) := by ring
        simp only [go, lin, List.zipWith_cons_cons]
        rw [hC, hD]
        have := ih d1 d2 (xi / (xi - xk) * (C1 - u)) (xi / (xi - xk) * (C2 - v))
        simp only [lin] at this
        rw [this]

theorem table_linear (a : Rat) (x T U : Nat → Rat) : ∀ k, table x (fun i => T i + a * U i) k = lin a (table x T k) (table x U k) := by
  intro k
  induction k with
  | zero => simp [table, lin]
  | succ k ih =>
    simp only [table]
    rw [ih, go_linear]
    simp [lin]

theorem length_go (xk : Rat) (xs : List Rat) : ∀ (ds : List Rat) (C : Rat), xs.length = ds.length → (go xk xs ds C).length = ds.length := by
  induction xs with
  | nil => intro ds C h; cases ds <;> simp_all [go]
  | cons xi xs ih =>
    intro ds C h
    cases ds with
    | nil => simp at h
    | cons d ds => simp only [go, List.length_cons]; rw [ih ds _ (by simpa using h)]

theorem length_xsDown (x : Nat → Rat) (k : Nat) : (xsDown x k).length = k + 1 := by
  induction k with
  | zero => rfl
  | succ k ih => simp [xsDown, ih]

theorem length_table (x T : Nat → Rat) (k : Nat) : (table x T k).length = k + 1 := by
  induction k with
  | zero => rfl
  | succ k ih =>
    simp only [table, List.length_cons]
    rw [length_go _ _ _ _ (by rw [length_xsDown, ih]), ih]

theorem sumL_lin (a : Rat) : ∀ (l1 l2 : List Rat), l1.length = l2.length → sumL (lin a l1 l2) = sumL l1 + a * sumL l2 := by
  intro l1
  induction l1 with
  | nil => intro l2 h; cases l2 <;> simp_all [sumL, lin]
  | cons u l1 ih =>
    intro l2 h
    cases l2 with
    | nil => simp at h
    | cons v l2 =>
      simp only [lin, List.zipWith_cons_cons, sumL]
      have := ih l2 (by simpa using h)
      simp only [lin] at this
      rw [this]; ring

theorem extrap_linear (a : Rat) (x T U : Nat → Rat) (k : Nat) :
    extrap x (fun i => T i + a * U i) k = extrap x T k + a * extrap x U k := by
  unfold extrap
  rw [table_linear, sumL_lin _ _ _ (by rw [length_table, length_table])]

/-- generalisation of `extrap_exact` over the starting power `m`, for the induction on `a` -/
theorem extrap_exact_from (k : Nat) (hk : k ∈ List.range 9) : ∀ (a : List Rat) (m : Nat), m + a.length ≤ k + 1 →
    extrap coeff (fun i => polyFrom a m (coeff i)) k = if m = 0 then a.headD 0 else 0 := by
  have hmono := (Bs.monomials k hk).1
  have hzero := (Bs.monomials k hk).2.2
  intro a
  induction a with
  | nil => intro m _; simp only [polyFrom]; rw [hzero]; simp
  | cons a0 as ih =>
    intro m hm
    simp only [polyFrom]
    rw [extrap_linear a0 coeff (fun i => polyFrom as (m + 1) (coeff i)) (fun i => coeff i ^ m) k]
    have h1 := ih (m + 1) (by simp only [List.length_cons] at hm; omega)
    rw [h1]
    have hm' : m ∈ List.range (k + 1) := by
      simp only [List.length_cons] at hm
      exact List.mem_range.mpr (by omega)
    rw [hmono m hm']
    by_cases h0 : m = 0
    · subst h0; simp
    · simp [h0]

/-- **exactness**: if the modified-midpoint results are a polynomial of degree ≤ k in the abscissa
    (`T i = Σ_j a_j · coeff(i)^j`, at most k+1 coefficients), row k of the extrapolation returns its value at 0 -/
theorem extrap_exact (k : Nat) (hk : k ∈ List.range 9) (a : List Rat) (ha : a.length ≤ k + 1) :
    extrap coeff (fun i => polyFrom a 0 (coeff i)) k = a.headD 0 := by
  have := extrap_exact_from k hk a 0 (by omega)
  simpa using this
end RV.C01.BsLinear
