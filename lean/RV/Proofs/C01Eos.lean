import RV.Model.Advertised
import RV.Gen.C01Eos
/- C01 / EOS: the nine splitting schemes, as outer scheme Φ0 (reb_integrator_eos_part2 + synchronize) and as inner
   scheme Φ1 with n sub-steps (reb_integrator_eos_drift_shell0) -/
namespace RV.C01.Eos
open RV.C01 RV.C01.Gen RV.C01.Adv

def partsOf (ty : Nat) : Option (List Op × List Op × List Op × List Op × List Op × List Op) := eosParts.lookup ty
def preLen (ty : Nat) : Nat := match partsOf ty with | some p => p.1.length | none => 0

theorem counts : eosCounts = [("types", 9), ("tables", 18), ("literals", 70)] ∧ eosOuter.map (·.1) = [0, 1, 2, 3, 4, 5, 6, 7, 8] ∧
    eosInner.length = 36 ∧ eosParts.length = 9 ∧ eosOuterTwoUnsync.length = 9 := by decide +kernel

theorem consistent : (∀ e ∈ eosOuter, Consistent e.2 tolEOS) ∧ (∀ e ∈ eosInner, Consistent e.2 tolEOS) := by decide +kernel

/-- every scheme is `pre ∘ K ∘ pre⁻¹` with a palindromic kernel (`pre` empty for the unprocessed ones) -/
theorem symmetric : ∀ e ∈ eosOuter, SplitSym e.2 (preLen e.1) := by decide +kernel

theorem fresh : (∀ e ∈ eosOuter, Fresh e.2) ∧ (∀ e ∈ eosInner, Fresh e.2) := by decide +kernel

theorem unsync : ∀ e ∈ eosOuter, ∀ two ∈ eosOuterTwoUnsync.lookup e.1, norm two = norm (e.2 ++ e.2) := by decide +kernel

/-- the `n`-loop of `drift_shell0` is `pre ; head ; (body ; merge)ⁿ⁻¹ ; body ; tail ; post` with all coefficients
    divided by `n`, for the unrolled `n = 1, 2, 3, 4` -/
theorem inner_loop_model : ∀ e ∈ eosInner, ∀ p ∈ partsOf e.1.1,
    innerSched p.1 p.2.1 p.2.2.1 p.2.2.2.1 p.2.2.2.2.1 p.2.2.2.2.2 e.1.2 = e.2 := by decide +kernel

/-- merging the sub-steps is exact: `merge = head + tail`; and as inner scheme with `n = 1` each type is the same
    scheme as when used as outer scheme -/
theorem inner_merge : (∀ e ∈ eosParts, norm e.2.2.2.2.1 = norm (e.2.2.2.2.2.1 ++ e.2.2.1)) ∧
    (∀ e ∈ eosOuter, ∀ i ∈ eosInner.lookup (e.1, 1), norm i = norm e.2) := by decide +kernel

/-- hypotheses of the all-`n` theorem (RV.Proofs.C01EosAllN), for every type: exact merging, cancelling processors, one
    sub-step consistent -/
theorem all_n_hypotheses : ∀ e ∈ eosParts,
    driftSum e.2.2.2.2.1 = driftSum e.2.2.1 + driftSum e.2.2.2.2.2.1 ∧ comSum e.2.2.2.2.1 = comSum e.2.2.1 + comSum e.2.2.2.2.2.1 ∧
    kickSum e.2.2.2.2.1 = kickSum e.2.2.1 + kickSum e.2.2.2.2.2.1 ∧
    driftSum e.2.1 + driftSum e.2.2.2.2.2.2 = 0 ∧ comSum e.2.1 + comSum e.2.2.2.2.2.2 = 0 ∧ kickSum e.2.1 + kickSum e.2.2.2.2.2.2 = 0 ∧
    Consistent (e.2.2.1 ++ e.2.2.2.1 ++ e.2.2.2.2.2.1) tolEOS := by decide +kernel

theorem advertised_known : ∀ e ∈ eosOuter, (eos.lookup e.1).isSome := by decide +kernel
end RV.C01.Eos
