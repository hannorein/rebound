import RV.Proofs.Collision
import RV.Proofs.CollisionFix
/-
  helper lemmas for RV/Props/C13.lean: the merge and hard-sphere resolvers in exact
  arithmetic (ordered field), and conservation sums over the particle array across
  merge + removal.
-/
set_option linter.unusedSectionVars false
set_option linter.unusedSimpArgs false
namespace RV.Collision
open RV
variable {K : Type} [Field K] [LinearOrder K] [IsStrictOrderedRing K]

theorem sum_set (l : List K) (i : Nat) (hi : i < l.length) (a : K) :
    (l.set i a).sum = l.sum - l[i] + a := by
  induction l generalizing i with
  | nil => simp at hi
  | cons x r ih =>
    cases i with
    | zero => simp; ring
    | succ i =>
      simp only [List.set_cons_succ, List.sum_cons, List.getElem_cons_succ]
      rw [ih i (by simpa using hi)]; ring

theorem sum_eraseIdx (l : List K) (i : Nat) (hi : i < l.length) :
    (l.eraseIdx i).sum = l.sum - l[i] := by
  induction l generalizing i with
  | nil => simp at hi
  | cons x r ih =>
    cases i with
    | zero => simp
    | succ i =>
      simp only [List.eraseIdx_cons_succ, List.sum_cons, List.getElem_cons_succ]
      rw [ih i (by simpa using hi)]; ring

theorem sum_rmList (ks : Bool) (l : List K) (i : Nat) (hi : i < l.length) :
    (rmList ks l i).sum = l.sum - l[i] := by
  unfold rmList
  cases ks
  · simp only [Bool.false_eq_true, if_false]
    have hne : l ≠ [] := by intro h; subst h; simp at hi
    rw [List.getLast?_eq_some_getLast hne]
    simp only
    have hd := List.dropLast_concat_getLast hne
    generalize l.getLast hne = z at *
    generalize l.dropLast = d at *
    subst hd
    by_cases hid : i < d.length
    · rw [List.set_append_left _ _ hid, List.dropLast_concat, sum_set d i hid]
      simp [List.getElem_append_left hid]; ring
    · have hlen : i = d.length := by simp at hi; omega
      subst hlen
      simp
  · simp only [if_true]; exact sum_eraseIdx l i hi

def total (f : Part K → K) (ps : List (Part K)) : K := (ps.map f).sum

theorem total_set (f : Part K → K) (ps : List (Part K)) (i : Nat) (hi : i < ps.length) (p : Part K) :
    total f (ps.set i p) = total f ps - f ps[i] + f p := by
  unfold total
  rw [List.map_set, sum_set _ i (by simpa using hi)]; simp

theorem total_rmList (f : Part K → K) (ks : Bool) (ps : List (Part K)) (i : Nat) (hi : i < ps.length) :
    total f (rmList ks ps i) = total f ps - f ps[i] := by
  unfold total
  rw [rmList_map, sum_rmList ks _ i (by simpa using hi)]; simp

/-- the seven quantities whose array totals a merger has to conserve: mass, momentum (3),
    mass-weighted position (3) -/
def conservedQ : List (Part K → K) :=
  [fun p => p.m, fun p => p.m * p.vx, fun p => p.m * p.vy, fun p => p.m * p.vz,
   fun p => p.m * p.x, fun p => p.m * p.y, fun p => p.m * p.z]

theorem feq_iff (a b : K) : feq a b = true ↔ a = b := by
  unfold feq
  simp only [sco_le, Bool.and_eq_true, decide_eq_true_eq]
  exact ⟨fun ⟨h1, h2⟩ => le_antisymm h1 h2, fun h => by subst h; exact ⟨le_refl _, le_refl _⟩⟩

theorem mergePair_massive (mid : Bool) (cbrtF : K → K) (t : K) (pi pj : Part K) (hm : pi.m + pj.m ≠ 0) :
    mergePair mid cbrtF t pi pj = mergePair false cbrtF t pi pj := by
  have : feq (pi.m + pj.m) (0 : K) = false := by
    rw [Bool.eq_false_iff]; intro h; exact hm ((feq_iff _ _).mp h)
  unfold mergePair
  simp only [sc_hadd, sc_zero, this, Bool.and_false, Bool.false_eq_true, if_false, Bool.false_and]

theorem mergePair_additive (mid : Bool) (cbrtF : K → K) (t : K) (pi pj : Part K) (hm : pi.m + pj.m ≠ 0) :
    ∀ f ∈ (conservedQ : List (Part K → K)), f (mergePair mid cbrtF t pi pj) = f pi + f pj := by
  rw [mergePair_massive mid cbrtF t pi pj hm]
  -- mass times a mass-weighted mean
  have key : ∀ a b : K, (pi.m + pj.m) * ((a * pi.m + b * pj.m) * (1 / (pi.m + pj.m)))
      = pi.m * a + pj.m * b := fun a b => by field_simp
  intro f hf
  simp only [conservedQ, List.mem_cons, List.not_mem_nil, or_false] at hf
  rcases hf with rfl | rfl | rfl | rfl | rfl | rfl | rfl
  · rfl
  all_goals exact key _ _

/-- the mutual potential enters `Ei - Ef` additively, whatever the merged particle is -/
theorem mergeEnergy_pot (sqrtF : K → K) (G : K) (pot : Bool) (pi pj pm : Part K) :
    mergeEnergy sqrtF G pot pi pj pm = mergeEnergy sqrtF G false pi pj pm -
      (if pot then G * pi.m * pj.m /
        sqrtF ((pi.x - pj.x)*(pi.x - pj.x) + (pi.y - pj.y)*(pi.y - pj.y) + (pi.z - pj.z)*(pi.z - pj.z)) else 0) := by
  cases pot
  · exact (sub_zero _).symm
  · simp only [mergeEnergy, sc_hadd, sc_hsub, sc_hmul, sc_hdiv, sc_hneg, Bool.false_eq_true, if_false,
      if_true]
    rw [neg_mul, neg_mul, neg_div, ← sub_eq_add_neg, sub_right_comm]

theorem mergePair_id (mid : Bool) (cbrtF : K → K) (t : K) (pi pj : Part K) :
    (mergePair mid cbrtF t pi pj).id = pi.id ∧ (mergePair mid cbrtF t pi pj).lc = t := by
  unfold mergePair; split <;> exact ⟨rfl, rfl⟩

/-- total array sum after a merge step: index `i` replaced by the merged particle, index `j`
    removed -/
theorem total_merge (f : Part K → K) (ks : Bool) (ps : List (Part K)) (i j : Nat) (hij : i ≠ j)
    (hi : i < ps.length) (hj : j < ps.length) (p : Part K) (hadd : f p = f ps[i] + f ps[j]) :
    total f (rmList ks (ps.set i p) j) = total f ps := by
  have hj' : j < (ps.set i p).length := by simpa using hj
  rw [total_rmList f ks _ j hj', total_set f ps i hi p, hadd]
  have : (ps.set i p)[j] = ps[j] := by
    rw [List.getElem_set]; simp [hij]
  rw [this]; ring

/-- axis of the impulse in the original frame: `(cosφ, sinφ cosθ, sinφ sinθ)` -/
def axisDot (st ct sp cp : K) (vx vy vz : K) : K := cp*vx + sp*(ct*vy + st*vz)

theorem hsVn_eq (st ct sp cp : K) (q : Rel K) :
    hsVn st ct sp cp q = axisDot st ct sp cp q.vx21 q.vy21 q.vz21 := by
  simp [hsVn, axisDot]

theorem hsMindv_zero (rr : K) (p1 p2 : Part K) : hsMindv 0 rr p1 p2 = 0 := by
  unfold hsMindv
  simp only [sc_hadd, sc_hsub, sc_hmul, sc_hdiv, sc_one, sco_lt, gt_iff', mul_zero, zero_mul,
    lt_self_iff_false, decide_false, Bool.false_eq_true, if_false]

/-- without a minimum collision velocity an approaching pair gets `dvx2 = −(1+ε)·vₙ` -/
theorem hsDvx2_unclamped (eps rr vn : K) (p1 p2 : Part K) (hvn : vn ≤ 0) (heps : 0 ≤ 1 + eps) :
    hsDvx2 eps 0 rr vn p1 p2 = -(1 + eps) * vn := by
  unfold hsDvx2
  simp only [hsMindv_zero, sc_hadd, sc_hmul, sc_hneg, sc_one, sco_lt, decide_eq_true_eq]
  have : ¬ (-(1 + eps) * vn < 0) := by
    apply not_lt.mpr
    have : 0 ≤ (1 + eps) * (-vn) := mul_nonneg heps (by linarith)
    linarith
  rw [if_neg this]

/-- the clamp only ever increases the impulse -/
theorem hsDvx2_ge (eps mcv rr vn : K) (p1 p2 : Part K) :
    -(1 + eps) * vn ≤ hsDvx2 eps mcv rr vn p1 p2 := by
  unfold hsDvx2
  simp only [sc_hadd, sc_hmul, sc_hneg, sc_one, sco_lt, decide_eq_true_eq]
  generalize hsMindv mcv rr p1 p2 = mindv
  by_cases h : -(1 + eps) * vn < mindv
  · rw [if_pos h]; exact h.le
  · rw [if_neg h]

theorem axis_unit (st ct sp cp : K) (hθ : st*st + ct*ct = 1) (hφ : sp*sp + cp*cp = 1) :
    cp*cp + (sp*ct)*(sp*ct) + (sp*st)*(sp*st) = 1 := by
  linear_combination (sp*sp) * hθ + hφ

/-- kinetic energy of a pair, seen from a frame moving with velocity `-g` relative to the first
    particle's, after an impulse `d` along the unit axis `(cp, sp·ct, sp·st)` shared in the ratio
    of the masses: it changes by `μ·d·(2vₙ + d)` with the reduced mass `μ` and the normal
    component `vₙ` of the relative velocity (pure algebra).  Elastic: `d = −2vₙ`. -/
theorem bounce_energy (m1 m2 st ct sp cp d v1x v1y v1z v2x v2y v2z gx gy gz vn : K)
    (hvn : vn = cp*(v1x + gx - v2x) + sp*(ct*(v1y + gy - v2y) + st*(v1z + gz - v2z)))
    (hθ : st*st + ct*ct = 1) (hφ : sp*sp + cp*cp = 1) (hM : m1 + m2 ≠ 0) :
    m1 * ((v1x + m2/(m1+m2)*(cp*d) + gx)^2 + (v1y + m2/(m1+m2)*(ct*(sp*d)) + gy)^2
          + (v1z + m2/(m1+m2)*(st*(sp*d)) + gz)^2)
      + m2 * ((v2x - m1/(m1+m2)*(cp*d))^2 + (v2y - m1/(m1+m2)*(ct*(sp*d)))^2
          + (v2z - m1/(m1+m2)*(st*(sp*d)))^2)
    = m1 * ((v1x + gx)^2 + (v1y + gy)^2 + (v1z + gz)^2) + m2 * (v2x^2 + v2y^2 + v2z^2)
      + m1*m2/(m1+m2) * d * (2 * vn + d) := by
  subst hvn
  have hu := axis_unit st ct sp cp hθ hφ
  field_simp
  linear_combination (m1 * m2 * d^2 * (m1 + m2)) * hu

theorem hsApply_fst (st ct sp cp dvx2 t : K) (p1 p2 : Part K) :
    let n := hsApply false st ct sp cp dvx2 t p1 p2 p1 p2
    n.1.vx = p1.vx + p2.m/(p1.m+p2.m)*(cp*dvx2) ∧
    n.1.vy = p1.vy + p2.m/(p1.m+p2.m)*(ct*(sp*dvx2)) ∧
    n.1.vz = p1.vz + p2.m/(p1.m+p2.m)*(st*(sp*dvx2)) ∧
    n.2.vx = p2.vx - p1.m/(p1.m+p2.m)*(cp*dvx2) ∧
    n.2.vy = p2.vy - p1.m/(p1.m+p2.m)*(ct*(sp*dvx2)) ∧
    n.2.vz = p2.vz - p1.m/(p1.m+p2.m)*(st*(sp*dvx2)) ∧
    n.1.m = p1.m ∧ n.2.m = p2.m ∧ n.1.x = p1.x ∧ n.1.y = p1.y ∧ n.1.z = p1.z ∧
    n.2.x = p2.x ∧ n.2.y = p2.y ∧ n.2.z = p2.z ∧ n.1.id = p1.id ∧ n.2.id = p2.id := by
  simp [hsApply]

theorem hsApply_massive (eqm : Bool) (st ct sp cp dvx2 t : K) (p1 p2 t1 t2 : Part K)
    (hM : p1.m + p2.m ≠ 0) :
    hsApply eqm st ct sp cp dvx2 t p1 p2 t1 t2 = hsApply false st ct sp cp dvx2 t p1 p2 t1 t2 := by
  have : feq (p1.m + p2.m) (0 : K) = false := by
    rw [Bool.eq_false_iff]; intro h; exact hM ((feq_iff _ _).mp h)
  unfold hsApply
  simp only [sc_hadd, sc_zero, this, Bool.and_false, Bool.false_eq_true, if_false, Bool.false_and]

end RV.Collision
