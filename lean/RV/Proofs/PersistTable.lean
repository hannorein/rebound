import RV.Model.Persist
/-
  Decidable checks on a concrete descriptor table + struct layout (evaluated by `decide +kernel` on the
  generated RV/Gen/C05Descriptors.lean in RV/Props/C05.lean, every run).
-/
namespace RV.Persist

def layoutSorted : List Member → Bool
  | a :: b :: r => (a.off + a.size ≤ b.off) && layoutSorted (b :: r)
  | _ => true

def indexed : List Member → Nat → Bool
  | [], _ => true
  | m :: r, i => m.idx == i && indexed r (i + 1)

/-- members are listed by index and lie, in order and without overlap, inside the struct -/
def layoutOK (ms : List Member) (structSize : Nat) : Bool :=
  indexed ms 0 && layoutSorted ms &&
  (match ms.getLast? with
   | some m => m.off + m.size ≤ structSize
   | none => true)

def rowPersists (psz : Nat) (d : Desc) (i : Nat) : Bool :=
  match simpleSize psz d.dtype with
  | some _ => d.mem == i
  | none =>
    match d.dtype with
    | .pointer | .pointerAligned | .pointerFixed => d.mem == i
    | .dp7 => d.mem ≤ i && i < d.mem + 7
    | _ => false

def persisted (psz : Nat) (tbl : List Desc) (i : Nat) : Bool := (live tbl).any (fun d => rowPersists psz d i)

/-- **coverage**: every member is persisted, or classified transient, or a recorded gap -/
def coverageOK (psz : Nat) (tbl : List Desc) (ms : List Member) (transient gaps : List Nat) : Bool :=
  ms.all (fun m => persisted psz tbl m.idx || transient.contains m.idx || gaps.contains m.idx)

/-- members of `ms` that are neither persisted nor classified (for the error message / model counter-example) -/
def uncovered (psz : Nat) (tbl : List Desc) (ms : List Member) (transient gaps : List Nat) : List Nat :=
  (ms.filter (fun m => !(persisted psz tbl m.idx || transient.contains m.idx || gaps.contains m.idx))).map (·.idx)

/-- a member classified transient is not persisted at the same time (stale classification) -/
def transientFresh (psz : Nat) (tbl : List Desc) (transient : List Nat) : Bool :=
  transient.all (fun i => !persisted psz tbl i)

def kindCompat : DType → MKind → Bool
  | .double, .f64 => true
  | .int, .i32 => true
  | .int, .enum32 => true
  | .uint, .u32 => true
  | .uint32, .u32 => true
  | .int64, .i64 => true
  | .uint64, .u64 => true
  | .vec3d, .vec3d => true
  | .particle4, .parr => true
  | _, _ => false

def isPtr (ms : List Member) (i : Nat) : Bool :=
  match ms[i]? with
  | some m => m.kind == .ptr && m.size == 8
  | none => false

def isCounterMember (ms : List Member) (i : Nat) : Bool :=
  match ms[i]? with
  | some m => m.kind == .u32 && m.size == 4
  | none => false

def offOf (ms : List Member) (i : Nat) : Nat :=
  match ms[i]? with
  | some m => m.off
  | none => 0

/-- the dtype of a row matches the C type of the member it addresses: same size (what the writer copies is
    exactly the member), same kind; pointer rows address a pointer and an `unsigned int` counter -/
def rowOK (psz : Nat) (ms : List Member) (d : Desc) : Bool :=
  match simpleSize psz d.dtype with
  | some sz =>
    (match ms[d.mem]? with
     | some m => m.size == sz && kindCompat d.dtype m.kind
     | none => false)
  | none =>
    match d.dtype with
    | .pointer | .pointerAligned => isPtr ms d.mem && isCounterMember ms d.nMem && d.elemSize != 0
    | .pointerFixed => isPtr ms d.mem && d.elemSize != 0
    | .dp7 =>
      (List.range 7).all (fun k => isPtr ms (d.mem + k) && offOf ms (d.mem + k) == offOf ms d.mem + 8 * k) &&
      isCounterMember ms d.nMem && d.elemSize != 0 && d.elemSize % 7 == 0
    | _ => true

def rowsOK (psz : Nat) (ms : List Member) (tbl : List Desc) : Bool := (live tbl).all (rowOK psz ms)

/-- the members that the rows persist, row by row (no member is persisted by two rows iff this list has no
    duplicate: `nodupNat (dataMems …)`) -/
def dataMems (psz : Nat) (tbl : List Desc) : List Nat :=
  (live tbl).flatMap (fun d =>
    match simpleSize psz d.dtype with
    | some _ => [d.mem]
    | none =>
      match d.dtype with
      | .pointer | .pointerAligned | .pointerFixed => [d.mem]
      | .dp7 => (List.range 7).map (fun k => d.mem + k)
      | _ => [])

def nodupNat : List Nat → Bool
  | [] => true
  | a :: r => !r.contains a && nodupNat r

/-- the element size of an array row is the size of its element struct as compiled -/
def elemSizesOK (tbl : List Desc) (rowElems : List (Nat × ElemLayout)) : Bool :=
  rowElems.all (fun p => tbl.all (fun d => d.id != p.1 ||
    (match d.dtype with
     | .pointer | .pointerAligned | .pointerFixed => d.elemSize == p.2.size
     | _ => true)))

/-- members of an element do not overlap and lie inside it -/
def elemSorted : List EMember → Bool
  | a :: b :: r => (a.off + a.size ≤ b.off) && elemSorted (b :: r)
  | _ => true

def elemOK (l : ElemLayout) : Bool :=
  elemSorted l.members &&
  (match l.members.getLast? with
   | some m => m.off + m.size ≤ l.size
   | none => true)

def hasPtr (l : ElemLayout) : Bool := l.members.any (fun m => m.kind == .ptr || m.kind == .fptr)

/-- ids of persisted payloads whose element struct contains a pointer member -/
def ptrPayloadIds (rowElems : List (Nat × ElemLayout)) : List Nat :=
  (rowElems.filter (fun p => hasPtr p.2)).map (·.1)

/-- ... and which reb_binary_diff compares with memcmp (no member-wise compare spec) -/
def memcmpPtrIds (tbl : List Desc) (rowElems : List (Nat × ElemLayout)) : List Nat :=
  (ptrPayloadIds rowElems).filter (fun id => tbl.any (fun d => d.id == id && d.cmp == 0))

/-- a member-wise compare spec covers every non-pointer member of the element struct and no pointer -/
def specCovers (c : CmpSpec) (l : ElemLayout) : Bool :=
  c.size == l.size &&
  l.members.all (fun m => (m.kind == .ptr || m.kind == .fptr) !=
    c.members.any (fun x => x.off == m.off && x.size == m.size))

/-- every function-pointer member (a callback the user must re-attach after a load) sets the warning flag of the
    stream, or is exempt for a stated reason, or is a recorded gap -/
def callbacksFlagged (ms : List Member) (flagged exempt gaps : List Nat) : Bool :=
  ms.all (fun m => m.kind != .fptr || flagged.contains m.idx || exempt.contains m.idx || gaps.contains m.idx)

def unflaggedCallbacks (ms : List Member) (flagged exempt : List Nat) : List Nat :=
  (ms.filter (fun m => m.kind == .fptr && !(flagged.contains m.idx || exempt.contains m.idx))).map (·.idx)

/-- the flag the writer stores: some flagged callback is set -/
def fpFlagOf (flagged : List Nat) (isSet : Nat → Bool) : Bool := flagged.any isSet

def tableIdsNodup (tbl : List Desc) : Bool := nodupNat ((live tbl).map (·.id))

theorem nodup_of_nodupNat (l : List Nat) : nodupNat l = true → l.Nodup := by
  induction l with
  | nil => intro _; exact List.nodup_nil
  | cons a r ih =>
    intro h
    simp only [nodupNat, Bool.and_eq_true, Bool.not_eq_true'] at h
    refine List.nodup_cons.mpr ⟨?_, ih h.2⟩
    intro hm
    have : r.contains a = true := List.contains_iff_mem.mpr hm
    rw [this] at h
    exact absurd h.1 (by simp)

/-! ### evaluating the checks

The checks above are quadratic as written (`List.contains` inside `List.all`), and each comparison of two
numbers through `DecidableEq Nat` costs the kernel hundreds of steps.  A list of member indices is therefore
turned into a bit mask once; membership is then a single `Nat.testBit`, which the kernel computes natively. -/

def bits (l : List Nat) : Nat := l.foldr (fun i s => s ||| 1 <<< i) 0

theorem testBit_bits (l : List Nat) (i : Nat) : (bits l).testBit i = l.contains i := by
  induction l with
  | nil => simp [bits]
  | cons a r ih =>
    rw [List.contains_cons, ← ih, bits, List.foldr_cons, Nat.testBit_or, Nat.one_shiftLeft, Nat.testBit_two_pow,
      Bool.or_comm, decide_eq_decide.mpr eq_comm]
    rfl

/-- `nodupNat` in one pass: `s` is the mask of the entries seen so far -/
def nodupBits : List Nat → Nat → Bool
  | [], _ => true
  | a :: r, s => !s.testBit a && nodupBits r (s ||| 1 <<< a)

theorem nodupNat_of_bits (l : List Nat) (s : Nat) (h : nodupBits l s = true) :
    nodupNat l = true ∧ ∀ a ∈ l, s.testBit a = false := by
  induction l generalizing s with
  | nil => simp [nodupNat]
  | cons a r ih =>
    simp only [nodupBits, Bool.and_eq_true, Bool.not_eq_true'] at h
    obtain ⟨hr, hs⟩ := ih _ h.2
    simp only [Nat.testBit_or, Nat.one_shiftLeft, Nat.testBit_two_pow, Bool.or_eq_false_iff,
      decide_eq_false_iff_not] at hs
    refine ⟨?_, ?_⟩
    · simp only [nodupNat, hr, Bool.and_true, Bool.not_eq_true', List.contains_eq_mem, decide_eq_false_iff_not]
      exact fun hm => (hs a hm).2 rfl
    · intro b hb
      rcases List.mem_cons.mp hb with rfl | hb
      · exact h.1
      · exact (hs b hb).1

theorem persisted_eq_contains (psz : Nat) (tbl : List Desc) (i : Nat) :
    persisted psz tbl i = (dataMems psz tbl).contains i := by
  rw [persisted, dataMems, List.contains_eq_any_beq, List.any_flatMap]
  congr 1
  funext d
  unfold rowPersists
  cases d.dtype <;> simp [simpleSize, BEq.comm (a := i)]
  rw [Bool.eq_iff_iff]
  simp
  exact ⟨fun h => ⟨i - d.mem, by omega⟩, by omega⟩

theorem filter_not_subset {α β : Type} [BEq β] [LawfulBEq β] (l : List α) (p : α → Bool) (g : α → β) (f : List β) :
    (l.filter (fun a => !p a)).map g ⊆ f ↔ l.all (fun a => p a || f.contains (g a)) = true := by
  simp only [List.subset_def, List.mem_map, List.mem_filter, Bool.not_eq_true', List.all_eq_true, Bool.or_eq_true,
    List.contains_iff_mem]
  refine ⟨fun h x hx => ?_, fun h a ⟨x, ⟨hx, hp⟩, e⟩ => ?_⟩
  · cases hp : p x
    · exact .inr (h ⟨x, ⟨hx, hp⟩, rfl⟩)
    · exact .inl rfl
  · exact e ▸ (h x hx).resolve_left (by simp [hp])

theorem uncovered_subset_iff (psz : Nat) (tbl : List Desc) (ms : List Member) (transient gaps : List Nat) :
    uncovered psz tbl ms transient [] ⊆ gaps ↔ coverageOK psz tbl ms transient gaps = true := by
  simp only [uncovered, coverageOK, List.contains_nil, Bool.or_false]
  exact filter_not_subset ..

end RV.Persist
