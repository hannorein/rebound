/-
  Lemmas about the byte-level model `RV/Model/Bin.lean`:
  little-endian integers, field headers, strict parser, delta encoder (position logic =
  look-up specification), payload-level reader.
-/
import RV.Model.Bin
namespace RV.Bin

theorem shorter_eq (r : Bytes) (n : Nat) : shorter r n = decide (r.length < n) := by
  induction r generalizing n with
  | nil => cases n <;> simp [shorter]
  | cons a r ih => cases n <;> simp [shorter, ih]

theorem de_cons_mod (n : Nat) (r : Bytes) (h : de r = n / 256) : de (n % 256 :: r) = n := by
  rw [de, h]; exact Nat.mod_add_div n 256

theorem de_le32 (n : Nat) (h : n < 4294967296) : de (le32 n) = n := by
  have h0 : de [] = n / 256 / 256 / 256 / 256 := by
    simp only [Nat.div_div_eq_div_mul, Nat.reduceMul]; exact (Nat.div_eq_of_lt h).symm
  have := de_cons_mod n _ (de_cons_mod _ _ (de_cons_mod _ _ (de_cons_mod _ _ h0)))
  simp only [Nat.div_div_eq_div_mul, Nat.reduceMul] at this
  exact this

theorem de_le64 (n : Nat) (h : n < 18446744073709551616) : de (le64 n) = n := by
  have h0 : de [] = n / 256 / 256 / 256 / 256 / 256 / 256 / 256 / 256 := by
    simp only [Nat.div_div_eq_div_mul, Nat.reduceMul]; exact (Nat.div_eq_of_lt h).symm
  have := de_cons_mod n _ (de_cons_mod _ _ (de_cons_mod _ _ (de_cons_mod _ _
    (de_cons_mod _ _ (de_cons_mod _ _ (de_cons_mod _ _ (de_cons_mod _ _ h0)))))))
  simp only [Nat.div_div_eq_div_mul, Nat.reduceMul] at this
  exact this

@[simp] theorem le32_length (n : Nat) : (le32 n).length = 4 := rfl
@[simp] theorem le64_length (n : Nat) : (le64 n).length = 8 := rfl
@[simp] theorem hdrBytes_length (ty sz : Nat) : (hdrBytes ty sz).length = 16 := rfl
@[simp] theorem endBytes_length : endBytes.length = 16 := rfl
@[simp] theorem trailerBytes_length (a b c : Nat) : (trailerBytes a b c).length = 12 := rfl

theorem readHdr_short (r : Bytes) (h : r.length < 16) : readHdr r = none := by
  simp [readHdr, shorter_eq, h]

theorem readHdr_hdr (ty sz : Nat) (r : Bytes) (h1 : ty < 4294967296)
    (h2 : sz < 18446744073709551616) : readHdr (hdrBytes ty sz ++ r) = some (ty, sz, r) := by
  have hs : shorter (hdrBytes ty sz ++ r) 16 = false := by simp [shorter_eq]
  have : readHdr (hdrBytes ty sz ++ r) = some (de (le32 ty), de (le64 sz), r) := by rw [readHdr, hs]; rfl
  rw [this, de_le32 ty h1, de_le64 sz h2]

structure Field.WF (f : Field) : Prop where
  size_eq : f.size = f.data.length
  ty_lt : f.ty < 4294967296
  size_lt : f.size < 18446744073709551616
  ty_ne_end : f.ty ≠ END

def WFs (fs : List Field) : Prop := ∀ f ∈ fs, f.WF

theorem WFs_cons {f : Field} {fs : List Field} : WFs (f :: fs) ↔ f.WF ∧ WFs fs := by
  simp [WFs]

theorem encFs_append (a b : List Field) : encFs (a ++ b) = encFs a ++ encFs b := by
  induction a with
  | nil => rfl
  | cons f a ih => simp [encFs, ih]

theorem encF_length (f : Field) : (encF f).length = 16 + f.data.length := by
  simp [encF]

theorem encFs_length_ge (fs : List Field) : 16 * fs.length ≤ (encFs fs).length := by
  induction fs with
  | nil => simp [encFs]
  | cons f fs ih => simp [encFs, encF_length]; omega

theorem readHdr_encF (f : Field) (r : Bytes) (h : f.WF) :
    readHdr (encF f ++ r) = some (f.ty, f.size, f.data ++ r) := by
  simp only [encF, List.append_assoc]
  exact readHdr_hdr _ _ _ h.ty_lt h.size_lt

theorem readHdr_end (r : Bytes) : readHdr (endBytes ++ r) = some (END, 0, r) := by
  exact readHdr_hdr END 0 r (by decide) (by decide)

theorem parseFs_enc (fs : List Field) (rest : Bytes) (h : WFs fs) (fuel : Nat)
    (hf : fs.length < fuel) :
    parseFs fuel (encFs fs ++ endBytes ++ rest) = some (fs, rest) := by
  induction fs generalizing fuel with
  | nil =>
    cases fuel with
    | zero => omega
    | succ n => simp [parseFs, encFs, readHdr_end]
  | cons f fs ih =>
    cases fuel with
    | zero => omega
    | succ n =>
      obtain ⟨hw, hws⟩ := WFs_cons.mp h
      have hl : fs.length < n := by simp at hf; omega
      simp only [encFs, List.append_assoc, parseFs]
      rw [readHdr_encF f _ hw]
      simp only [hw.ty_ne_end, if_false, shorter_eq]
      simp only [hw.size_eq, List.drop_left, List.take_left]
      have := ih hws n hl
      simp only [List.append_assoc] at this
      rw [this]
      have := hw.size_eq
      cases f; simp_all

theorem parse_enc (fs : List Field) (rest : Bytes) (h : WFs fs) :
    parse (encFs fs ++ endBytes ++ rest) = some fs := by
  have hl := encFs_length_ge fs
  unfold parse
  rw [parseFs_enc fs rest h]
  · rfl
  · simp; omega

def ids (l : List Field) : List Nat := l.map (·.ty)

theorem get_cons (st : State) (k k' : Nat) (d : Bytes) :
    State.get ((k', d) :: st) k = if k = k' then some d else State.get st k := by
  unfold State.get
  rw [List.lookup_cons]
  by_cases h : k = k'
  · simp [h]
  · have : (k == k') = false := by simp [h]
    simp [this, h]

theorem get_applyF_not_mem (st : State) (fs : List Field) (k : Nat)
    (h : ∀ f ∈ fs, f.ty ≠ k) : (applyF st fs).get k = st.get k := by
  induction fs generalizing st with
  | nil => rfl
  | cons g r ih =>
    simp only [applyF]
    rw [ih _ (fun f hf => h f (List.mem_cons_of_mem _ hf)), get_cons]
    have := h g (List.mem_cons_self ..)
    simp [Ne.symm this]

theorem get_applyF_mem (st : State) (fs : List Field) (k : Nat) (d : Bytes)
    (hex : ∃ f ∈ fs, f.ty = k) (hu : ∀ f ∈ fs, f.ty = k → f.data = d) :
    (applyF st fs).get k = some d := by
  induction fs generalizing st with
  | nil => obtain ⟨f, hf, _⟩ := hex; cases hf
  | cons g r ih =>
    simp only [applyF]
    by_cases hr : ∃ f' ∈ r, f'.ty = k
    · exact ih _ hr (fun f hf e => hu f (List.mem_cons_of_mem _ hf) e)
    · have hno : ∀ f' ∈ r, f'.ty ≠ k := fun f' h' e => hr ⟨f', h', e⟩
      rw [get_applyF_not_mem _ _ _ hno, get_cons]
      obtain ⟨f, hf, hty⟩ := hex
      rcases List.mem_cons.mp hf with rfl | hfr
      · simp [hty, ← hu f (List.mem_cons_self ..) hty]
      · exact absurd hty (hno f hfr)

theorem findF_fst (ty : Nat) (b : List Field) :
    (findF ty b).map (·.1) = b.find? (fun g => decide (g.ty = ty)) := by
  induction b with
  | nil => rfl
  | cons g r ih =>
    simp only [findF, List.find?_cons]
    by_cases h : g.ty = ty
    · simp [h]
    · simp [h, ih]

theorem findF_some (ty : Nat) (b : List Field) (g : Field) (r : List Field)
    (h : findF ty b = some (g, r)) : g ∈ b ∧ g.ty = ty ∧ r <:+ b := by
  induction b with
  | nil => simp [findF] at h
  | cons x xs ih =>
    simp only [findF] at h
    by_cases hx : x.ty = ty
    · simp only [hx, if_true, Option.some.injEq, Prod.mk.injEq] at h
      obtain ⟨rfl, rfl⟩ := h
      exact ⟨List.mem_cons_self .., hx, List.suffix_cons _ _⟩
    · simp only [hx, if_false] at h
      obtain ⟨h1, h2, h3⟩ := ih h
      exact ⟨List.mem_cons_of_mem _ h1, h2, h3.trans (List.suffix_cons _ _)⟩

theorem find_of_mem_nodup (b : List Field) (g : Field) (hn : (ids b).Nodup) (hg : g ∈ b) :
    b.find? (fun x => decide (x.ty = g.ty)) = some g := by
  induction b with
  | nil => cases hg
  | cons x xs ih =>
    simp only [ids, List.map_cons, List.nodup_cons] at hn
    rcases List.mem_cons.mp hg with rfl | hgx
    · simp
    · have hne : x.ty ≠ g.ty := by
        intro e
        apply hn.1
        rw [e]
        exact List.mem_map_of_mem hgx
      simp only [List.find?_cons, hne, decide_false]
      exact ih hn.2 hgx

theorem locate_props (ty : Nat) (b r2 : List Field) (hs : r2 <:+ b) (g : Field) (r : List Field)
    (h : locate ty b r2 = some (g, r)) : g ∈ b ∧ g.ty = ty ∧ r <:+ b := by
  cases r2 with
  | nil => exact findF_some ty b g r h
  | cons x r2' =>
    simp only [locate] at h
    by_cases hx : x.ty = ty
    · simp only [hx, if_true, Option.some.injEq, Prod.mk.injEq] at h
      obtain ⟨rfl, rfl⟩ := h
      exact ⟨hs.subset (List.mem_cons_self ..), hx, (List.suffix_cons _ _).trans hs⟩
    · simp only [hx, if_false] at h
      exact findF_some ty b g r h

theorem locate_fst (ty : Nat) (b r2 : List Field) (hn : (ids b).Nodup) (hs : r2 <:+ b) :
    (locate ty b r2).map (·.1) = b.find? (fun g => decide (g.ty = ty)) := by
  cases r2 with
  | nil => exact findF_fst ty b
  | cons g r2' =>
    simp only [locate]
    by_cases h : g.ty = ty
    · simp only [h, if_true, Option.map_some]
      rw [← h]; exact (find_of_mem_nodup b g hn (hs.subset (List.mem_cons_self ..))).symm
    · simp only [h, if_false]
      exact findF_fst ty b

theorem loop1F_spec (v : Variant) (cmp : Nat → Bytes → Bytes → Bool) (a b r2 : List Field)
    (hn : (ids b).Nodup) (hs : r2 <:+ b) :
    loop1F v cmp b a r2 =
      a.flatMap (fun f => match b.find? (fun g => decide (g.ty = f.ty)) with
                      | none => [vanished v f]
                      | some g => if sameF cmp f g then [] else [g]) := by
  induction a generalizing r2 with
  | nil => rfl
  | cons f a' ih =>
    have h1 := locate_fst f.ty b r2 hn hs
    simp only [loop1F, List.flatMap_cons]
    cases hl : locate f.ty b r2 with
    | none =>
      rw [hl] at h1
      rw [← h1]
      simp only [Option.map_none, List.cons_append, List.nil_append]
      rw [ih b (List.suffix_refl b)]
    | some p =>
      obtain ⟨g, r2'⟩ := p
      rw [hl] at h1
      rw [← h1]
      simp only [Option.map_some]
      rw [ih r2' (locate_props f.ty b r2 hs g r2' hl).2.2]

theorem findF_isSome (ty : Nat) (a : List Field) :
    (findF ty a).isSome = a.any (fun f => decide (f.ty = ty)) := by
  induction a with
  | nil => rfl
  | cons x xs ih =>
    simp only [findF, List.any_cons]
    by_cases h : x.ty = ty
    · simp [h]
    · simp [h, ih]

theorem loop2F_spec (a b r1 : List Field) (hs : r1 <:+ a) :
    loop2F a b r1 = b.filter (fun g => !(a.any (fun f => decide (f.ty = g.ty)))) := by
  induction b generalizing r1 with
  | nil => rfl
  | cons g b' ih =>
    simp only [loop2F, List.filter_cons]
    cases hal : aligned g.ty r1 with
    | some r1' =>
      cases r1 with
      | nil => simp [aligned] at hal
      | cons f r1'' =>
        simp only [aligned] at hal
        by_cases hty : f.ty = g.ty
        · simp only [hty, if_true, Option.some.injEq] at hal
          have hf : f ∈ a := hs.subset (List.mem_cons_self ..)
          have hany : a.any (fun f => decide (f.ty = g.ty)) = true := by
            rw [List.any_eq_true]; exact ⟨f, hf, by simp [hty]⟩
          simp only [hany, Bool.not_true, Bool.false_eq_true, if_false]
          rw [← hal]
          exact ih r1'' ((List.suffix_cons f r1'').trans hs)
        · simp [hty] at hal
    | none =>
      simp only
      rw [ih a (List.suffix_refl a), findF_isSome]
      cases a.any (fun f => decide (f.ty = g.ty)) <;> simp

/-- with unique ids in `b`, "field at the aligned position, else scan from the start" is a look-up -/
theorem diffF_eq_spec (v : Variant) (cmp : Nat → Bytes → Bytes → Bool) (a b : List Field)
    (hn : (ids b).Nodup) : diffF v cmp a b = diffSpec v cmp a b := by
  unfold diffF diffSpec
  rw [loop1F_spec v cmp a b b hn (List.suffix_refl b), loop2F_spec a b a (List.suffix_refl a)]
  rfl

def CmpExact (cmp : Nat → Bytes → Bytes → Bool) : Prop := ∀ ty p q, cmp ty p q = true → p = q

theorem unique_of_nodup (b : List Field) (hn : (ids b).Nodup) (g g' : Field) (hg : g ∈ b)
    (hg' : g' ∈ b) (e : g'.ty = g.ty) : g' = g := by
  have h1 := find_of_mem_nodup b g hn hg
  have h2 := find_of_mem_nodup b g' hn hg'
  rw [e, h1] at h2
  exact (Option.some.inj h2).symm

theorem mem_diffSpec_cases (v : Variant) (cmp : Nat → Bytes → Bytes → Bool) (a b : List Field)
    (e : Field) (h : e ∈ diffSpec v cmp a b) :
    (∃ f ∈ a, e = vanished v f ∧ ∀ g ∈ b, g.ty ≠ f.ty) ∨
    (∃ f ∈ a, e ∈ b ∧ e.ty = f.ty ∧ sameF cmp f e = false) ∨
    (e ∈ b ∧ ∀ f ∈ a, f.ty ≠ e.ty) := by
  unfold diffSpec at h
  rcases List.mem_append.mp h with h | h
  · obtain ⟨f, hf, he⟩ := List.mem_flatMap.mp h
    cases hfind : b.find? (fun g => decide (g.ty = f.ty)) with
    | none =>
      rw [hfind] at he
      simp only [List.mem_singleton] at he
      left
      refine ⟨f, hf, he, ?_⟩
      intro g hg
      have := List.find?_eq_none.mp hfind g hg
      simpa using this
    | some g =>
      rw [hfind] at he
      simp only at he
      by_cases hs : sameF cmp f g = true
      · simp [hs] at he
      · simp only [hs, if_false, List.mem_singleton, Bool.false_eq_true] at he
        right; left
        have hm := List.mem_of_find?_eq_some hfind
        have ht := List.find?_some hfind
        subst he
        exact ⟨f, hf, hm, by simpa using ht, by simpa using hs⟩
  · right; right
    have := List.mem_filter.mp h
    refine ⟨this.1, ?_⟩
    intro f hf hty
    have h2 := this.2
    simp only [Bool.not_eq_true', List.any_eq_false] at h2
    have := h2 f hf
    simp [hty] at this

theorem vanished_mem (v : Variant) (cmp : Nat → Bytes → Bytes → Bool) (a b : List Field)
    (f : Field) (hf : f ∈ a) (hno : ∀ g ∈ b, g.ty ≠ f.ty) : vanished v f ∈ diffSpec v cmp a b := by
  unfold diffSpec
  apply List.mem_append_left
  apply List.mem_flatMap.mpr
  refine ⟨f, hf, ?_⟩
  have : b.find? (fun g => decide (g.ty = f.ty)) = none := by
    apply List.find?_eq_none.mpr
    intro g hg; simpa using hno g hg
  rw [this]; simp

theorem changed_mem (v : Variant) (cmp : Nat → Bytes → Bytes → Bool) (a b : List Field)
    (hn : (ids b).Nodup) (f g : Field) (hf : f ∈ a) (hg : g ∈ b) (hty : g.ty = f.ty)
    (hs : sameF cmp f g = false) : g ∈ diffSpec v cmp a b := by
  unfold diffSpec
  apply List.mem_append_left
  apply List.mem_flatMap.mpr
  refine ⟨f, hf, ?_⟩
  have := find_of_mem_nodup b g hn hg
  rw [hty] at this
  rw [this]; simp [hs]

theorem new_mem (v : Variant) (cmp : Nat → Bytes → Bytes → Bool) (a b : List Field)
    (g : Field) (hg : g ∈ b) (hno : ∀ f ∈ a, f.ty ≠ g.ty) : g ∈ diffSpec v cmp a b := by
  unfold diffSpec
  apply List.mem_append_right
  apply List.mem_filter.mpr
  refine ⟨hg, ?_⟩
  simp only [Bool.not_eq_true', List.any_eq_false]
  intro f hf; simpa using hno f hf

theorem diffSpec_eq_of_ty (v : Variant) (cmp : Nat → Bytes → Bytes → Bool) (a b : List Field)
    (hb : (ids b).Nodup) (e g : Field) (he : e ∈ diffSpec v cmp a b) (hg : g ∈ b) (hty : e.ty = g.ty) :
    e = g := by
  rcases mem_diffSpec_cases v cmp a b e he with ⟨f, _, rfl, hno⟩ | ⟨_, _, heb, _, _⟩ | ⟨heb, _⟩
  · exact absurd hty.symm (hno g hg)
  · exact unique_of_nodup b hb g e hg heb hty
  · exact unique_of_nodup b hb g e hg heb hty

theorem diffSpec_same (v : Variant) (cmp : Nat → Bytes → Bytes → Bool) (a b : List Field)
    (ha : (ids a).Nodup) (hb : (ids b).Nodup) (f g : Field) (hf : f ∈ a) (hg : g ∈ b) (hty : f.ty = g.ty)
    (hs : sameF cmp f g = true) : ∀ e ∈ diffSpec v cmp a b, e.ty ≠ g.ty := by
  intro e he hek
  obtain rfl := diffSpec_eq_of_ty v cmp a b hb e g he hg hek
  rcases mem_diffSpec_cases v cmp a b e he with ⟨f', _, rfl, hno⟩ | ⟨f', hf', _, hty', hsf⟩ | ⟨_, hno⟩
  · exact hno _ hg rfl
  · obtain rfl := unique_of_nodup a ha f f' hf hf' (hty'.symm.trans hty.symm)
    rw [hs] at hsf; cases hsf
  · exact hno f hf hty

theorem val_def (st : State) (k : Nat) : st.val k = (st.get k).getD [] := rfl

/-- **Delta-codec law** (field level): loading `a`, then the delta `diff a b`, gives — id by id,
    "absent" and "empty" identified — what loading `b` gives. -/
theorem delta_law_fields_gen (v : Variant) (cmp : Nat → Bytes → Bytes → Bool)
    (init : State) (a b : List Field) (ha : (ids a).Nodup) (hb : (ids b).Nodup)
    (hinit : ∀ f ∈ a, (∀ g ∈ b, g.ty ≠ f.ty) → init.val f.ty = [])
    (k : Nat) :
    (applyF (applyF init a) (diffF v cmp a b)).val k = (applyF init b).val k ∨
    ∃ f ∈ a, ∃ g ∈ b, f.ty = k ∧ g.ty = k ∧ sameF cmp f g = true ∧
      (applyF (applyF init a) (diffF v cmp a b)).val k = f.data ∧ (applyF init b).val k = g.data := by
  -- split on whether `k` occurs in `b`, then in `a`; in each case the last entry for `k` in `a ++ diff` is
  -- found by `get_applyF_mem` / `get_applyF_not_mem`
  rw [diffF_eq_spec v cmp a b hb, val_def, val_def]
  by_cases hkb : ∃ g ∈ b, g.ty = k
  · obtain ⟨g, hg, hgk⟩ := hkb
    have hR : (applyF init b).get k = some g.data :=
      get_applyF_mem init b k g.data ⟨g, hg, hgk⟩
        (fun g' hg' e => by rw [unique_of_nodup b hb g g' hg hg' (e.trans hgk.symm)])
    rw [hR]
    have hD : ∀ e ∈ diffSpec v cmp a b, e.ty = k → e.data = g.data := fun e he hek => by
      rw [diffSpec_eq_of_ty v cmp a b hb e g he hg (hek.trans hgk.symm)]
    by_cases hka : ∃ f ∈ a, f.ty = k
    · obtain ⟨f, hf, hfk⟩ := hka
      cases hs : sameF cmp f g with
      | false =>
        have hm := changed_mem v cmp a b hb f g hf hg (hgk.trans hfk.symm) hs
        left
        rw [get_applyF_mem _ _ k g.data ⟨g, hm, hgk⟩ hD]
      | true =>
        have hno := diffSpec_same v cmp a b ha hb f g hf hg (hfk.trans hgk.symm) hs
        rw [hgk] at hno
        rw [get_applyF_not_mem _ _ _ hno]
        rw [get_applyF_mem init a k f.data ⟨f, hf, hfk⟩
          (fun f' hf' e => by rw [unique_of_nodup a ha f f' hf hf' (e.trans hfk.symm)])]
        right
        exact ⟨f, hf, g, hg, hfk, hgk, hs, rfl, rfl⟩
    · have hnoa : ∀ f ∈ a, f.ty ≠ g.ty := fun f hf e => hka ⟨f, hf, e.trans hgk⟩
      have hm := new_mem v cmp a b g hg hnoa
      left
      rw [get_applyF_mem _ _ k g.data ⟨g, hm, hgk⟩ hD]
  · have hnob : ∀ g ∈ b, g.ty ≠ k := fun g hg e => hkb ⟨g, hg, e⟩
    left
    rw [get_applyF_not_mem init b k hnob]
    by_cases hka : ∃ f ∈ a, f.ty = k
    · obtain ⟨f, hf, hfk⟩ := hka
      have hnob' : ∀ g ∈ b, g.ty ≠ f.ty := fun g hg e => hnob g hg (e.trans hfk)
      have hm := vanished_mem v cmp a b f hf hnob'
      have hD : ∀ e ∈ diffSpec v cmp a b, e.ty = k → e.data = [] := by
        intro e he hek
        rcases mem_diffSpec_cases v cmp a b e he with ⟨f', hf', rfl, _⟩ | ⟨f', hf', heb, _, _⟩ | ⟨heb, _⟩
        · rfl
        · exact absurd hek (hnob e heb)
        · exact absurd hek (hnob e heb)
      have hvk : (vanished v f).ty = k := hfk
      rw [get_applyF_mem _ _ k [] ⟨vanished v f, hm, hvk⟩ hD]
      have := hinit f hf hnob'
      rw [val_def, hfk] at this
      simp [this]
    · have hnoa : ∀ f ∈ a, f.ty ≠ k := fun f hf e => hka ⟨f, hf, e⟩
      have hno : ∀ e ∈ diffSpec v cmp a b, e.ty ≠ k := by
        intro e he hek
        rcases mem_diffSpec_cases v cmp a b e he with ⟨f', hf', rfl, _⟩ | ⟨f', hf', heb, _, _⟩ | ⟨heb, _⟩
        · exact hnoa f' hf' hek
        · exact hnob e heb hek
        · exact hnob e heb hek
      rw [get_applyF_not_mem _ _ _ hno, get_applyF_not_mem _ _ _ hnoa]

theorem delta_law_fields (v : Variant) (cmp : Nat → Bytes → Bytes → Bool) (hc : CmpExact cmp)
    (init : State) (a b : List Field) (ha : (ids a).Nodup) (hb : (ids b).Nodup)
    (hinit : ∀ f ∈ a, (∀ g ∈ b, g.ty ≠ f.ty) → init.val f.ty = [])
    (k : Nat) :
    (applyF (applyF init a) (diffF v cmp a b)).val k = (applyF init b).val k := by
  rcases delta_law_fields_gen v cmp init a b ha hb hinit k with h | ⟨f, _, g, _, _, _, hs, e1, e2⟩
  · exact h
  · simp only [sameF, Bool.and_eq_true] at hs
    rw [e1, e2, hc _ _ _ hs.2]

def NoHeader (fs : List Field) : Prop := ∀ f ∈ fs, f.ty ≠ HEADER

theorem inputFields_enc (fs : List Field) (rest : Bytes) (st : State) (h : WFs fs)
    (hh : NoHeader fs) (fuel : Nat) (hf : fs.length < fuel) :
    inputFields fuel (encFs fs ++ (endBytes ++ rest)) st = applyF st fs := by
  induction fs generalizing fuel st with
  | nil =>
    cases fuel with
    | zero => omega
    | succ n => simp [inputFields, encFs, readHdr_end, applyF]
  | cons f fs ih =>
    cases fuel with
    | zero => omega
    | succ n =>
      obtain ⟨hw, hws⟩ := WFs_cons.mp h
      have hl : fs.length < n := by simp at hf; omega
      have hnh : f.ty ≠ HEADER := hh f (List.mem_cons_self ..)
      simp only [encFs, List.append_assoc, inputFields]
      rw [readHdr_encF f _ hw]
      simp only [hw.ty_ne_end, hnh, if_false, hw.size_eq, List.drop_left, List.take_left, applyF]
      exact ih _ hws (fun g hg => hh g (List.mem_cons_of_mem _ hg)) n hl

theorem applyB_enc (fs : List Field) (rest : Bytes) (st : State) (h : WFs fs) (hh : NoHeader fs) :
    applyB st (encFs fs ++ (endBytes ++ rest)) = applyF st fs := by
  unfold applyB
  apply inputFields_enc fs rest st h hh
  have := encFs_length_ge fs
  simp; omega

def Vanishes (a b : List Field) : Prop := ∃ f ∈ a, f.size ≠ 0 ∧ ∀ g ∈ b, g.ty ≠ f.ty

theorem vanished_WF (v : Variant) (f : Field) (hw : f.WF) (h : v.f1 = true ∨ f.size = 0) :
    (vanished v f).WF := by
  have hs : (vanished v f).size = 0 := by rcases h with h | h <;> simp [vanished, h]
  exact ⟨hs, hw.ty_lt, by rw [hs]; decide, hw.ty_ne_end⟩

theorem diffSpec_WF (v : Variant) (cmp : Nat → Bytes → Bytes → Bool) (a b : List Field)
    (ha : WFs a) (hb : WFs b) (hv : v.f1 = true ∨ ¬ Vanishes a b) : WFs (diffSpec v cmp a b) := by
  intro e he
  rcases mem_diffSpec_cases v cmp a b e he with ⟨f, hf, rfl, hno⟩ | ⟨f, hf, heb, _, _⟩ | ⟨heb, _⟩
  · exact vanished_WF v f (ha f hf) (hv.imp_right fun hv => Decidable.not_not.mp fun hne => hv ⟨f, hf, hne, hno⟩)
  · exact hb e heb
  · exact hb e heb

theorem diffSpec_NoHeader (v : Variant) (cmp : Nat → Bytes → Bytes → Bool) (a b : List Field)
    (ha : NoHeader a) (hb : NoHeader b) : NoHeader (diffSpec v cmp a b) := by
  intro e he
  rcases mem_diffSpec_cases v cmp a b e he with ⟨f, hf, rfl, hno⟩ | ⟨f, hf, heb, _, _⟩ | ⟨heb, _⟩
  · exact ha f hf
  · exact hb e heb
  · exact hb e heb

end RV.Bin
