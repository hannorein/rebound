/-
  Bridge between the field-level persistence model of C05 (RV/Model/Persist.lean: descriptor table, streams as
  lists of (id, payload) over `UInt8`) and the byte-level model of C06/C07 (RV/Model/Bin.lean: 64-byte header,
  16-byte field headers, END marker, trailer over `List Nat`).

  Adapter: a `Persist.Field = Nat × List UInt8` becomes the `Bin.Field` with the same id, `size = payload length`,
  and the payload bytes as naturals (`UInt8.toNat`; back with `UInt8.ofNat`).  Assumed of a stream: ids < 2³²,
  payload lengths < 2⁶⁴, the id of the END row is 9999 (`Bin.END`).  Nothing else.
-/
import RV.Proofs.Bin
import RV.Proofs.PersistStream
namespace RV.BinPersist
open RV

def toBin (f : Persist.Field) : Bin.Field := ⟨f.1, f.2.length, f.2.map (·.toNat)⟩
def toP (f : Bin.Field) : Persist.Field := (f.ty, f.data.map UInt8.ofNat)

theorem toP_toBin (f : Persist.Field) : toP (toBin f) = f := by
  obtain ⟨id, pl⟩ := f
  simp only [toP, toBin, List.map_map]
  congr 1
  conv_rhs => rw [← List.map_id pl]
  apply List.map_congr_left
  intro b _
  simp

/-- what the byte stream needs of a field list (END excluded) -/
def StreamOK (fs : List Persist.Field) : Prop :=
  ∀ f ∈ fs, f.1 < 4294967296 ∧ f.2.length < 18446744073709551616 ∧ f.1 ≠ Bin.END

theorem toBin_WFs (fs : List Persist.Field) (h : StreamOK fs) : Bin.WFs (fs.map toBin) := by
  intro g hg
  obtain ⟨f, hf, rfl⟩ := List.mem_map.mp hg
  obtain ⟨h1, h2, h3⟩ := h f hf
  exact ⟨by simp [toBin], h1, h2, h3⟩

/-- the byte stream of a field list: header, encoded fields, END marker, zero trailer
    (= `reb_simulation_save_to_stream`, output.c:475-619) -/
def streamBytes (hdr : Bin.Bytes) (fs : List Persist.Field) : Bin.Bytes := Bin.encStream hdr (fs.map toBin)

/-- the field list of a byte stream (what the reader loop sees before END) -/
def fieldsOfBytes (bytes : Bin.Bytes) : Option (List Persist.Field) :=
  (Bin.parse (bytes.drop 64)).map (·.map toP)

theorem streamBytes_drop (hdr : Bin.Bytes) (hh : hdr.length = 64) (fs : List Persist.Field) :
    (streamBytes hdr fs).drop 64 = Bin.encFs (fs.map toBin) ++ (Bin.endBytes ++ Bin.trailerBytes 0 0 0) := by
  unfold streamBytes Bin.encStream
  rw [List.append_assoc, List.append_assoc, ← hh]; simp

theorem fields_of_stream (hdr : Bin.Bytes) (hh : hdr.length = 64) (fs : List Persist.Field) (h : StreamOK fs) :
    fieldsOfBytes (streamBytes hdr fs) = some fs := by
  unfold fieldsOfBytes
  rw [streamBytes_drop hdr hh, ← List.append_assoc, Bin.parse_enc _ _ (toBin_WFs fs h)]
  simp only [Option.map_some, List.map_map, Option.some.injEq]
  conv_rhs => rw [← List.map_id fs]
  apply List.map_congr_left
  intro f _
  exact toP_toBin f

theorem decodeFields_body (psz : Nat) (sp : Persist.Special) (tbl : List Persist.Desc)
    (st : Persist.Sim × List Persist.Warning) (fs : List Persist.Field) :
    Persist.decodeFields psz sp tbl st (Persist.body sp fs) = Persist.decodeFields psz sp tbl st fs := by
  induction fs generalizing st with
  | nil => rfl
  | cons f r ih =>
    simp only [Persist.body, Persist.decodeFields]
    by_cases h : f.1 = sp.endId
    · simp [h, Persist.decodeFields]
    · simp only [h, if_false, Persist.decodeFields]
      exact ih _

/-- byte-level save: the serialisation of simulation `s` as the writer produces it -/
def encodeBytes (hdr : Bin.Bytes) (psz : Nat) (sp : Persist.Special) (tbl : List Persist.Desc) (s : Persist.Sim)
    (fp : Bool) : Bin.Bytes :=
  streamBytes hdr (Persist.body sp (Persist.encode psz sp tbl s fp))

/-- byte-level load: parse the byte stream, run the reader loop of C05 on its fields -/
def decodeBytes (psz : Nat) (sp : Persist.Special) (tbl : List Persist.Desc) (init : Persist.Sim) (bytes : Bin.Bytes) :
    Option (Persist.Sim × List Persist.Warning) :=
  (fieldsOfBytes bytes).map (Persist.decodeFields psz sp tbl (init, []))

/-- **C05's codec lifts to bytes**: loading the byte stream the writer produces is the field-level decode of the
    field-level encode — so every theorem of C05 about `decodeFields (encode s)` is a theorem about the real byte
    stream (the one drv_c06 reproduces byte for byte) -/
theorem decodeBytes_encodeBytes (hdr : Bin.Bytes) (hh : hdr.length = 64) (psz : Nat) (sp : Persist.Special)
    (tbl : List Persist.Desc) (s init : Persist.Sim) (fp : Bool)
    (hs : StreamOK (Persist.body sp (Persist.encode psz sp tbl s fp))) :
    decodeBytes psz sp tbl init (encodeBytes hdr psz sp tbl s fp)
      = some (Persist.decodeFields psz sp tbl (init, []) (Persist.encode psz sp tbl s fp)) := by
  unfold decodeBytes encodeBytes
  rw [fields_of_stream hdr hh _ hs]
  simp only [Option.map_some, decodeFields_body]

/-- any source simulation: the loaded struct is `restore` (source value at every persisted location, `init`
    elsewhere), warnings = the callback reminder only -/
theorem bytes_decode_encode (hdr : Bin.Bytes) (hh : hdr.length = 64) {psz : Nat} {sp : Persist.Special}
    {tbl : List Persist.Desc} (ok : Persist.TableOK psz sp tbl) (s init : Persist.Sim) (fp : Bool)
    (hwf : Persist.WF psz tbl s)
    (hs : StreamOK (Persist.body sp (Persist.encode psz sp tbl s fp))) :
    decodeBytes psz sp tbl init (encodeBytes hdr psz sp tbl s fp)
      = some (Persist.restore psz tbl init s, if fp then [.pointers] else []) := by
  rw [decodeBytes_encodeBytes hdr hh psz sp tbl s init fp hs, Persist.decode_encode ok s init fp hwf]

end RV.BinPersist
