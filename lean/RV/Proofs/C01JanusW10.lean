import RV.Proofs.C01JanusW10_0
import RV.Proofs.C01JanusW10_4
/- C01 / JANUS order 10 on every shard; the shard sizes add up to the 2047 words of the full trie -/
namespace RV.C01.Janus
open RV.C01 RV.C01.Gen RV.C01.Adv
def prefixes3 : List (List Bool) := [false, true].flatMap fun a => [false, true].flatMap fun b => [false, true].map fun c => [a, b, c]
/-- each shard holds 258 words (255 below its prefix + the 3 prefixes of the prefix incl. the empty word), the full trie 2047:
    8·255 words of length ≥ 3 plus the 7 words of length ≤ 2 -/
theorem words_10_cover : (∀ u ∈ prefixes3, sizeT (mkTPath (List.replicate 11 10) u 11 0 0 1) = 258) ∧
    sizeT (mkT (List.replicate 11 10) 11 0 0 1) = 2047 ∧ 8 * 255 + 7 = 2047 := by decide +kernel
theorem words_10_all : ∀ u ∈ prefixes3, ∀ s ∈ janusStep.lookup 10, WordOrderOn s (List.replicate 11 10) u 0 tolJanus := by
  intro u hu
  simp only [prefixes3, List.flatMap_cons, List.flatMap_nil, List.map_cons, List.map_nil, List.append_nil, List.cons_append,
    List.nil_append, List.mem_cons, List.not_mem_nil, or_false] at hu
  rcases hu with rfl | rfl | rfl | rfl | rfl | rfl | rfl | rfl
  · exact words_10_shard0
  · exact words_10_shard1
  · exact words_10_shard2
  · exact words_10_shard3
  · exact words_10_shard4
  · exact words_10_shard5
  · exact words_10_shard6
  · exact words_10_shard7
end RV.C01.Janus
