import RV.Proofs.C01WordInt
import RV.Model.Advertised
import RV.Gen.C01Janus
/- C01 / JANUS: the orders 2, 4, 6, 8 checked directly in the free algebra on two letters (all 2ⁿ words of every length
   n ≤ order); the 10th-order scheme up to length 6 (all 2047 words of length ≤ 10: `words_10_all` in C01JanusW10; its order as a
   composition: `composition_order`).
   `decide` on `WordOrder` runs the integer tries of `C01WordInt`. -/
namespace RV.C01.Janus
open RV.C01 RV.C01.Gen RV.C01.Adv

theorem words_2_4_6 : ∀ o ∈ [2, 4, 6], ∀ s ∈ janusStep.lookup o, WordOrder s (List.replicate (o + 1) o) 0 tolJanus := by
  decide +kernel
theorem words_8 : ∀ s ∈ janusStep.lookup 8, WordOrder s (List.replicate 9 8) 0 tolJanus := by decide +kernel
theorem words_10_partial : ∀ s ∈ janusStep.lookup 10, WordOrder s (List.replicate 7 6) 0 tolJanus := by decide +kernel
end RV.C01.Janus
