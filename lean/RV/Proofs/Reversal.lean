import RV.Model.Reversal
import RV.Proofs.Field
/-
  Exact-arithmetic reversal of the symmetric schemes of RV/Model/Reversal.lean:
  `step(-dt) ∘ step(dt) = id` over any field, for an arbitrary position-dependent force.
-/
namespace RV.Reversal
open RV
variable {K : Type} [Field K]

theorem lfP_back_pos (dt : K) (p : LfP K) (a : V3 K) :
    (lfDriftP (-dt) (lfDriftP dt (lfKickP dt (lfDriftP dt p) a))).x = (lfDriftP dt p).x := by
  dsimp only [lfDriftP, lfKickP]
  congr 1 <;> ring

theorem lfP_back (dt : K) (p : LfP K) (a : V3 K) :
    lfDriftP (-dt) (lfKickP (-dt) (lfDriftP (-dt) (lfDriftP dt (lfKickP dt (lfDriftP dt p) a))) a) = p := by
  obtain ⟨⟨x, y, z⟩, ⟨vx, vy, vz⟩⟩ := p
  dsimp only [lfDriftP, lfKickP]
  congr 2 <;> ring

theorem lfPart2_back (dt : K) :
    ∀ (s0 : List (LfP K)) (A : List (V3 K)) (s' : List (LfP K)),
      lfPart2 dt (lfDrift dt s0) A = some s' →
      (lfDrift (-dt) s').map (·.x) = (lfDrift dt s0).map (·.x) ∧
      lfPart2 (-dt) (lfDrift (-dt) s') A = some s0
  | [], [], s', h => by
    simp only [lfDrift, List.map_nil, lfPart2] at h
    injection h with h; subst h
    exact ⟨rfl, rfl⟩
  | p :: r, a :: ar, s', h => by
    simp only [lfDrift, List.map_cons] at h
    unfold lfPart2 at h
    split at h
    · rename_i r' hr
      injection h with h; subst h
      obtain ⟨ih1, ih2⟩ := lfPart2_back dt r ar r' hr
      simp only [lfDrift] at ih1 ih2
      refine ⟨?_, ?_⟩
      · simp only [lfDrift, List.map_cons, ih1, lfP_back_pos]
      · simp only [lfDrift, List.map_cons]
        unfold lfPart2
        rw [ih2]
        simp only [lfP_back]
    · exact absurd h (by simp)
  | [], _ :: _, s', h => by simp [lfDrift, lfPart2] at h
  | _ :: _, [], s', h => by simp [lfDrift, lfPart2] at h

theorem lfStep_reverse (acc : List (V3 K) → List (V3 K)) (dt : K) (s s' : List (LfP K))
    (h : lfStep acc dt s = some s') : lfStep acc (-dt) s' = some s := by
  unfold lfStep at h ⊢
  obtain ⟨h1, h2⟩ := lfPart2_back dt s _ s' h
  simp only [h1]
  exact h2

/-- the constants `reb_integrator_sei_init` produces for `-dt` when `sin`, `tan` are odd -/
def SeiC.rev (c : SeiC K) : SeiC K :=
  { c with sindt := -c.sindt, tandt := -c.tandt, sindtz := -c.sindtz, tandtz := -c.tandtz }

theorem seiInit_neg (sn tn : K → K) (hs : ∀ a, sn (-a) = -sn a) (ht : ∀ a, tn (-a) = -tn a)
    (omega omegaZ dt : K) :
    seiInit sn tn omega omegaZ (-dt) = (seiInit sn tn omega omegaZ dt).rev := by
  simp only [seiInit, SeiC.rev, sc_hmul, sc_hdiv, sc_hneg, sc_ofNat, neg_neg]
  have e1 : omega * (dt / ((2 : ℕ) : K)) = -(omega * (-dt / ((2 : ℕ) : K))) := by ring
  have e2 : omega * (dt / ((4 : ℕ) : K)) = -(omega * (-dt / ((4 : ℕ) : K))) := by ring
  have e3 : omegaZ * (dt / ((2 : ℕ) : K)) = -(omegaZ * (-dt / ((2 : ℕ) : K))) := by ring
  have e4 : omegaZ * (dt / ((4 : ℕ) : K)) = -(omegaZ * (-dt / ((4 : ℕ) : K))) := by ring
  rw [e1, e2, e3, e4, hs, ht, hs, ht]

/-- the tan–sin–tan shear decomposition of a rotation, as `operator_H012` applies it -/
def shear (s t a b : K) : K × K := (a - t * b - t * (s * (a - t * b) + b), s * (a - t * b) + b)

theorem shear_back (s t a b : K) : shear (-s) (-t) (shear s t a b).1 (shear s t a b).2 = (a, b) := by
  simp only [shear, Prod.mk.injEq]; constructor <;> ring

/-- the last lines of `operator_H012`: back from the guiding-centre quantities `aO`, `bO` and the
    epicyclic and vertical pairs `r`, `rz`, with the azimuthal drift `d` -/
def seiOut (ω ωz aO bO d : K) (r rz : K × K) : LfP K :=
  ⟨⟨(r.1 + aO) / ω, (r.2 * 2 + bO) / ω - d, rz.1 / ωz⟩, ⟨r.2, -r.1 * 2 - 3 / 2 * aO, rz.2⟩⟩

theorem seiH012_eq (dt : K) (c : SeiC K) (p : LfP K) :
    seiH012 dt c p =
      let aO := 2 * p.v.y + 4 * p.x.x * c.omega
      let bO := p.x.y * c.omega - 2 * p.v.x
      seiOut c.omega c.omegaZ aO bO (3 / 4 * aO * dt)
        (shear c.sindt c.tandt (p.x.x * c.omega - aO) ((p.x.y * c.omega - bO) / 2))
        (shear c.sindtz c.tandtz (p.x.z * c.omegaZ) p.v.z) := rfl

/-- on such a state `operator_H012` shears the two pairs again, keeps `aO` and moves `bO` by the drift -/
theorem seiH012_seiOut (dt : K) (c : SeiC K) (h2 : (2 : K) ≠ 0) (ho : c.omega ≠ 0) (hz : c.omegaZ ≠ 0)
    (aO bO d : K) (r rz : K × K) :
    seiH012 dt c (seiOut c.omega c.omegaZ aO bO d r rz) =
      seiOut c.omega c.omegaZ aO (bO - d * c.omega) (3 / 4 * aO * dt)
        (shear c.sindt c.tandt r.1 r.2) (shear c.sindtz c.tandtz rz.1 rz.2) := by
  have ea : 2 * (-r.1 * 2 - 3 / 2 * aO) + 4 * ((r.1 + aO) / c.omega) * c.omega = aO := by field_simp; ring
  have eb : ((r.2 * 2 + bO) / c.omega - d) * c.omega - 2 * r.2 = bO - d * c.omega := by field_simp; ring
  rw [seiH012_eq]
  dsimp only [seiOut]
  rw [ea, eb, div_mul_cancel₀ _ hz, div_mul_cancel₀ _ ho, add_sub_cancel_right, sub_mul, div_mul_cancel₀ _ ho,
    sub_sub_sub_cancel_right, add_sub_cancel_right, mul_div_cancel_right₀ _ h2]

theorem seiH012_back (dt : K) (c : SeiC K) (h2 : (2 : K) ≠ 0) (ho : c.omega ≠ 0) (hz : c.omegaZ ≠ 0)
    (p : LfP K) : seiH012 (-dt) c.rev (seiH012 dt c p) = p := by
  have h4 : (4 : K) ≠ 0 := by rw [show (4 : K) = 2 * 2 by norm_num]; exact mul_ne_zero h2 h2
  rw [seiH012_eq dt c p]
  dsimp only
  rw [show c.omega = c.rev.omega from rfl, show c.omegaZ = c.rev.omegaZ from rfl, seiH012_seiOut (-dt) c.rev h2 ho hz]
  dsimp only [SeiC.rev]
  rw [shear_back, shear_back]
  obtain ⟨⟨x, y, z⟩, ⟨vx, vy, vz⟩⟩ := p
  simp only [seiOut, LfP.mk.injEq, V3.mk.injEq]
  refine ⟨⟨?_, ?_, ?_⟩, ?_, ?_, trivial⟩ <;> field_simp <;> ring

theorem seiH012_pos_kick (dt : K) (p : LfP K) (a : V3 K) : (lfKickP dt p a).x = p.x := rfl

theorem lfKickP_back (dt : K) (p : LfP K) (a : V3 K) : lfKickP (-dt) (lfKickP dt p a) a = p := by
  obtain ⟨x, ⟨vx, vy, vz⟩⟩ := p
  dsimp only [lfKickP]
  congr 2 <;> ring

theorem seiPart2_back (dt : K) (c : SeiC K) (h2 : (2 : K) ≠ 0) (ho : c.omega ≠ 0) (hz : c.omegaZ ≠ 0) :
    ∀ (s1 : List (LfP K)) (A : List (V3 K)) (s' : List (LfP K)),
      seiPart2 dt c s1 A = some s' →
      (s'.map (seiH012 (-dt) c.rev)).map (·.x) = s1.map (·.x) ∧
      seiPart2 (-dt) c.rev (s'.map (seiH012 (-dt) c.rev)) A = some (s1.map (seiH012 (-dt) c.rev))
  | [], [], s', h => by
    simp only [seiPart2] at h
    injection h with h; subst h
    exact ⟨rfl, rfl⟩
  | p :: r, a :: ar, s', h => by
    unfold seiPart2 at h
    split at h
    · rename_i r' hr
      injection h with h; subst h
      obtain ⟨ih1, ih2⟩ := seiPart2_back dt c h2 ho hz r ar r' hr
      refine ⟨?_, ?_⟩
      · simp only [List.map_cons, ih1, seiH012_back dt c h2 ho hz, seiH012_pos_kick]
      · simp only [List.map_cons]
        unfold seiPart2
        rw [ih2]
        simp only [seiH012_back dt c h2 ho hz, lfKickP_back]
    · exact absurd h (by simp)
  | [], _ :: _, s', h => by simp [seiPart2] at h
  | _ :: _, [], s', h => by simp [seiPart2] at h

theorem seiStep_reverse (acc : List (V3 K) → List (V3 K)) (dt : K) (c : SeiC K)
    (h2 : (2 : K) ≠ 0) (ho : c.omega ≠ 0) (hz : c.omegaZ ≠ 0) (s s' : List (LfP K))
    (h : seiStep acc dt c s = some s') : seiStep acc (-dt) c.rev s' = some s := by
  unfold seiStep at h ⊢
  obtain ⟨h1, h2'⟩ := seiPart2_back dt c h2 ho hz _ _ s' h
  simp only [h1]
  rw [h2']
  congr 1
  rw [List.map_map]
  conv_rhs => rw [← List.map_id s]
  apply List.map_congr_left
  intro p _
  exact seiH012_back dt c h2 ho hz p

theorem opRun_append {O S : Type} (φ : O → S → S) (l₁ l₂ : List O) (s : S) :
    opRun φ (l₁ ++ l₂) s = opRun φ l₂ (opRun φ l₁ s) := by
  induction l₁ generalizing s with
  | nil => rfl
  | cons a r ih => simp only [List.cons_append, opRun, ih]

theorem opRun_inv_reverse {O S : Type} (φ : O → S → S) (ng : O → O) (hφ : ∀ o s, φ (ng o) (φ o s) = s)
    (l : List O) (s : S) : opRun φ ((l.map ng).reverse) (opRun φ l s) = s := by
  induction l generalizing s with
  | nil => rfl
  | cons a r ih => simp only [List.map_cons, List.reverse_cons, opRun, opRun_append, ih, hφ]

theorem opRun_palindrome {O S : Type} (φ : O → S → S) (ng : O → O) (hφ : ∀ o s, φ (ng o) (φ o s) = s)
    (l : List O) (hl : l.reverse = l) (s : S) : opRun φ (l.map ng) (opRun φ l s) = s := by
  have := opRun_inv_reverse φ ng hφ l s
  rwa [← List.map_reverse, hl] at this

theorem splitRun_eq_opRun {S C : Type} (A B : C → S → S) (l : List (Bool × C)) (s : S) :
    splitRun A B l s = opRun (fun p => bif p.1 then B p.2 else A p.2) l s := by
  induction l generalizing s with
  | nil => rfl
  | cons a r ih => obtain ⟨b, c⟩ := a; cases b <;> exact ih _

theorem iter_succ_right {S : Type} (f : S → S) (n : Nat) (s : S) : iter f (n + 1) s = f (iter f n s) := by
  induction n generalizing s with
  | zero => rfl
  | succ n ih => exact ih (f s)

theorem iter_inverse {S : Type} (f g : S → S) (h : ∀ s, g (f s) = s) (n : Nat) (s : S) :
    iter g n (iter f n s) = s := by
  induction n generalizing s with
  | zero => rfl
  | succ n ih =>
    rw [iter_succ_right f n s]
    show iter g n (g (f (iter f n s))) = s
    rw [h, ih]

/-- n unsynchronised steps followed by a synchronisation are n synchronized steps, if two half Kepler drifts make a full one -/
theorem unsafe_eq_safe {S C : Type} (kepler inter : C → S → S) (half : C → C) (τ : C)
    (hadd : ∀ s, kepler (half τ) (kepler (half τ) s) = kepler τ s) (n : Nat) (x : S) :
    uSync kepler half τ (iter (uStep kepler inter half τ) n ⟨x, false⟩) = ⟨iter (whStep kepler inter half τ) n x, false⟩ := by
  cases n with
  | zero => rfl
  | succ n =>
    have key : ∀ n, iter (uStep kepler inter half τ) (n + 1) ⟨x, false⟩ =
        ⟨inter τ (kepler (half τ) (iter (whStep kepler inter half τ) n x)), true⟩ := by
      intro n
      induction n with
      | zero => rfl
      | succ n ih =>
        rw [iter_succ_right, ih, iter_succ_right (whStep kepler inter half τ) n x]
        simp only [uStep, if_true, whStep, hadd]
    rw [key n, iter_succ_right (whStep kepler inter half τ) n x]
    simp only [uSync, if_true, whStep]

end RV.Reversal
