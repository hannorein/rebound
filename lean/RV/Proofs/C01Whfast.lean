import RV.Proofs.C01WordInt
import RV.Model.Advertised
import RV.Gen.C01Whfast
/-
  C01 / WHFast: corrector tables, kernels and the full option lattice, decided in exact rational arithmetic on
  lean/RV/Gen/C01Whfast.lean (regenerated from src/integrator_whfast.c on every run).  The word conditions of the
  files building on this one are decided on the integer tries of `C01WordInt`.
-/
namespace RV.C01.Whfast
open RV.C01 RV.C01.Gen RV.C01.Adv

/-- the operators of one synchronized step for (coordinates, kernel, corrector, corrector2), assembled the way the
    translator verified the source's own sequence decomposes -/
def stepOf (cfg : Nat × Nat × Nat × Nat) : Option (List Op) := do
  let core ← whCore.lookup (cfg.1, cfg.2.1)
  let c1p ← if cfg.2.2.1 = 0 then some [] else whCorr.lookup (cfg.2.2.1, true)
  let c1m ← if cfg.2.2.1 = 0 then some [] else whCorr.lookup (cfg.2.2.1, false)
  let c2p := if cfg.2.2.2 = 0 then [] else whCorr2_p
  let c2m := if cfg.2.2.2 = 0 then [] else whCorr2_m
  some (c1p ++ c2p ++ core ++ c2m ++ c1m)

def twoOf (cfg : Nat × Nat × Nat × Nat) : Option (List Op) := do
  let core ← whCoreTwo.lookup (cfg.1, cfg.2.1)
  let c1p ← if cfg.2.2.1 = 0 then some [] else whCorr.lookup (cfg.2.2.1, true)
  let c1m ← if cfg.2.2.1 = 0 then some [] else whCorr.lookup (cfg.2.2.1, false)
  let c2p := if cfg.2.2.2 = 0 then [] else whCorr2_p
  let c2m := if cfg.2.2.2 = 0 then [] else whCorr2_m
  some (c1p ++ c2p ++ core ++ c2m ++ c1m)


/-- number of operators applied before the kernel part of the step: first corrector, then second corrector -/
def preLen (cfg : Nat × Nat × Nat × Nat) : Nat :=
  (match whCorr.lookup (cfg.2.2.1, true) with | some c => if cfg.2.2.1 = 0 then 0 else c.length | none => 0) +
  (if cfg.2.2.2 = 0 then 0 else whCorr2_p.length)

theorem counts : whCounts = [("a", 8), ("b", 19), ("accepted", 64), ("rejected", 128)] ∧ whA.length = 8 ∧
    whB.map (fun p => (p.1, p.2.length)) = corrConditions ∧ whCorr.length = 10 ∧ whCore.length = 7 := by decide +kernel

/-- the source accepts exactly the documented option lattice, and a step is available for each member -/
theorem lattice : whAccepted = whLattice ∧ ∀ cfg ∈ whAccepted, (stepOf cfg).isSome ∧ (twoOf cfg).isSome := by
  decide +kernel

/-- `a_k = k·a₁`, `a₁² = 7/40`, `corrector2_b = a₁/12` -/
theorem table_a : (∀ k ∈ List.range 8, Near (whA.getD k 0) (((k : Rat) + 1) * whA.getD 0 0) tolWH) ∧
    Near (whA.getD 0 0 ^ 2) (7/40) tolWH ∧ Near (12 * whC2B) (whA.getD 0 0) tolWH := by decide +kernel

/-- the targets `μ_k` are the Taylor coefficients of `((x/2)/sinh(x/2) − 1)/x`:
    `(Σ cᵢ x^{2i})·(Σ sⱼ x^{2j}) = 1` up to `x¹⁶` -/
theorem targets_generating_function : ∀ n ∈ List.range 9,
    sumQ ((List.range (n + 1)).map (fun i => cschCoeff i * sinhcCoeff (n - i))) = (if n = 0 then 1 else 0) := by
  decide +kernel

/-- first correctors: odd moments `Σ κⱼ tⱼᵏ = μ_k` for the first 1, 2, 3, 5, 8 odd `k`, even moments vanish -/
theorem corrector_moments : ∀ oc ∈ corrConditions, ∀ s ∈ whCorr.lookup (oc.1, true),
    (∀ i ∈ List.range oc.2, Near (moment s (2 * i + 1)) (corrMu.getD i 0) tolWH) ∧
    (∀ i ∈ List.range (oc.2 + 1), Near (moment s (2 * i)) 0 tolWH) ∧
    Near (driftSum s) 0 tolWH ∧ Near (kickSum s) 0 tolWH := by decide +kernel

/-- the inverse first corrector is the inverse: reversed order, negated coefficients -/
theorem corrector_inverse : ∀ oc ∈ corrConditions, ∀ p ∈ whCorr.lookup (oc.1, true), ∀ m ∈ whCorr.lookup (oc.1, false),
    norm m = invG (norm p) := by decide +kernel

/-- `reb_whfast_jump_step` does nothing in Jacobi and barycentric coordinates (decided by executing its body) -/
theorem jump_noop : whJumpNoop = [(0, true), (1, false), (2, false), (3, true)] := by decide +kernel

theorem fresh : ∀ cfg ∈ whAccepted, ∀ s ∈ stepOf cfg, Fresh s := by decide +kernel

end RV.C01.Whfast
