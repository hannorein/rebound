import RV.Proofs.CompareStream
import RV.Proofs.PersistStream
/-
  A copy (load ∘ encode, including the post-load fix-ups) compares equal to its source.
-/
namespace RV.Persist

section finish
variable (sp : Special) (pl vl : ElemLayout) (pSim vSim self : Nat) (x : Sim)

/-- the particle array after the fix-ups: pointer members zeroed, then the `sim` back pointer set -/
def fixParticles (b : Bytes) : Bytes :=
  fillSlots pl.size [(pSim, 8)] (addrByte self pSim pl.size) (fillSlots pl.size (ptrSlots pl) (fun _ => 0) b)

/-- `finish`, member by member: `ri_whfast512.recalculate_constants := 1`, `N_allocated := N` -/
theorem finish_mem_eq (m : Nat) :
    (finish sp pl vl pSim vSim self x).mem m =
      if m = sp.recalcMem then encLE 4 1 else if m = sp.nAllocMem then x.mem sp.nMem else x.mem m := by
  unfold finish
  cases x.heap sp.varCfgMem <;> dsimp only <;> split <;> rfl

/-- `finish`, allocation by allocation: the `sim` pointers of var_config are set, then the pointers of the particle
    array are cleared and its `sim` pointers set -/
theorem finish_heap_eq (m : Nat) :
    (finish sp pl vl pSim vSim self x).heap m =
      let h := if m = sp.varCfgMem then
          (x.heap m).map (fillSlots vl.size [(vSim, 8)] (addrByte self vSim vl.size)) else x.heap m
      if m = sp.particlesMem then h.map (fixParticles pl pSim self) else h := by
  unfold finish fixParticles
  -- both matches of `finish` are resolved by cases; what is left are updates of single locations
  cases hv : x.heap sp.varCfgMem <;> dsimp only <;> split <;> rename_i hp <;>
    simp only [Sim.setMem, Sim.setHeap] at hp ⊢ <;> split_ifs at hp ⊢ <;> simp_all

theorem finish_mem (m : Nat) (hA : m ≠ sp.nAllocMem) (hC : m ≠ sp.recalcMem) :
    (finish sp pl vl pSim vSim self x).mem m = x.mem m := by
  rw [finish_mem_eq, if_neg hC, if_neg hA]

theorem finish_heap (m : Nat) (hP : m ≠ sp.particlesMem) (hV : m ≠ sp.varCfgMem) :
    (finish sp pl vl pSim vSim self x).heap m = x.heap m := by
  rw [finish_heap_eq]
  simp only [if_neg hP, if_neg hV]

theorem finish_heap_particles (hPV : sp.particlesMem ≠ sp.varCfgMem) :
    (finish sp pl vl pSim vSim self x).heap sp.particlesMem =
      (x.heap sp.particlesMem).map (fixParticles pl pSim self) := by
  rw [finish_heap_eq]
  simp only [if_neg hPV, if_true]

/-- the variational configurations after the fix-ups: the `sim` back pointer of every element set to `self` -/
def fixVarCfg (b : Bytes) : Bytes := fillSlots vl.size [(vSim, 8)] (addrByte self vSim vl.size) b

theorem finish_heap_varcfg (hPV : sp.particlesMem ≠ sp.varCfgMem) :
    (finish sp pl vl pSim vSim self x).heap sp.varCfgMem = (x.heap sp.varCfgMem).map (fixVarCfg vl vSim self) := by
  rw [finish_heap_eq]
  simp only [if_neg hPV.symm, if_true]
  rfl

end finish

theorem fillSlots_take (esz : Nat) (slots : List (Nat × Nat)) (fill : Nat → UInt8) (b : Bytes) (n : Nat) :
    (fillSlots esz slots fill b).take n = fillSlots esz slots fill (b.take n) := by
  apply List.ext_getElem?
  intro (j : Nat)
  rw [List.getElem?_take, fillSlots_getElem?, fillSlots_getElem?, List.getElem?_take]
  by_cases h : j < n <;> simp [h]

theorem fillSlots_self (esz : Nat) (slots : List (Nat × Nat)) (b : Bytes) :
    fillSlots esz slots (fun i => b.getD i 0) b = b := by
  apply List.ext_getElem?
  intro (j : Nat)
  rw [fillSlots_getElem?]
  cases h : b[j]? with
  | none => simp
  | some v =>
    simp only [Option.map_some]
    have : b.getD j 0 = v := by simp [List.getD, h]
    rw [this]; simp

theorem payloadDiffer_fill_right (specs : List CmpSpec) (d : Desc) (k : Nat) (c : CmpSpec)
    (slots : List (Nat × Nat)) (f : Nat → UInt8) (a b : Bytes)
    (h : d.cmp = k + 1) (hs : specs[k]? = some c) (hclear : specClear c slots = true) (hpos : 0 < c.size) :
    payloadDiffer specs (some d) a (fillSlots c.size slots f b) = payloadDiffer specs (some d) a b := by
  have := payloadDiffer_fillSlots specs d k c slots (fun i => a.getD i 0) f a b h hs hclear hpos
  rwa [fillSlots_self] at this

/-! ### side conditions tying the fix-up members to the table (decidable on a concrete table) -/

structure FixOK (psz : Nat) (sp : Special) (specs : List CmpSpec) (tbl : List Desc) (pl : ElemLayout) (pSim : Nat) :
    Prop where
  pv : sp.particlesMem ≠ sp.varCfgMem
  simple : ∀ d ∈ live tbl, ∀ sz, simpleSize psz d.dtype = some sz → d.mem ≠ sp.nAllocMem ∧ d.mem ≠ sp.recalcMem
  ptr : ∀ d ∈ live tbl, (d.dtype = .pointer ∨ d.dtype = .pointerAligned) →
      d.nMem ≠ sp.nAllocMem ∧ d.nMem ≠ sp.recalcMem ∧
      (d.mem = sp.particlesMem → ∃ k c, d.cmp = k + 1 ∧ specs[k]? = some c ∧ c.size = pl.size ∧ 0 < c.size ∧
        specClear c (ptrSlots pl) = true ∧ specClear c [(pSim, 8)] = true ∧ descForType tbl d.id = some d)
  fixed : ∀ d ∈ live tbl, d.dtype = .pointerFixed → d.mem ≠ sp.particlesMem ∧ d.mem ≠ sp.varCfgMem
  dp7 : ∀ d ∈ live tbl, d.dtype = .dp7 → d.nMem ≠ sp.nAllocMem ∧ d.nMem ≠ sp.recalcMem ∧
      ¬ (d.mem ≤ sp.particlesMem ∧ sp.particlesMem < d.mem + 7) ∧ ¬ (d.mem ≤ sp.varCfgMem ∧ sp.varCfgMem < d.mem + 7)

theorem fieldSize_congr' (a b : Sim) (d : Desc) (h : a.mem d.nMem = b.mem d.nMem) :
    fieldSize a d = fieldSize b d := fieldSize_congr a b d h

theorem finish_rows (psz : Nat) (sp : Special) (specs : List CmpSpec) (tbl : List Desc) (pl vl : ElemLayout)
    (pSim vSim self : Nat) (x : Sim) (ok : FixOK psz sp specs tbl pl pSim)
    (hvar : ∀ d ∈ live tbl, (d.dtype = .pointer ∨ d.dtype = .pointerAligned) → d.mem = sp.varCfgMem → fieldSize x d = 0)
    (hself : ∀ d ∈ live tbl, ∀ p, encodeField psz x d = [(d.id, p)] →
      payloadDiffer specs (descForType tbl d.id) p p = false ∨ wallOf tbl d.id = true)
    (d : Desc) (hd : d ∈ live tbl) :
    RowRel specs tbl (encodeField psz x) (encodeField psz (finish sp pl vl pSim vSim self x)) d := by
  -- rows whose emission is unchanged
  have same : encodeField psz (finish sp pl vl pSim vSim self x) d = encodeField psz x d →
      RowRel specs tbl (encodeField psz x) (encodeField psz (finish sp pl vl pSim vSim self x)) d := by
    intro he
    rcases encodeField_shape psz x d with h | ⟨p, h⟩
    · left; exact ⟨h, by rw [he, h]⟩
    · right; exact ⟨p, p, h, by rw [he, h], hself d hd p h⟩
  by_cases hP : (d.dtype = .pointer ∨ d.dtype = .pointerAligned) ∧ d.mem = sp.particlesMem
  · -- the particle array
    obtain ⟨hdt, hP⟩ := hP
    obtain ⟨hA, hC, hpart⟩ := ok.ptr d hd hdt
    obtain ⟨k, c, hcmp, hspec, hcs, hpos, hcl1, hcl2, hdesc⟩ := hpart hP
    have hfs : fieldSize (finish sp pl vl pSim vSim self x) d = fieldSize x d :=
      fieldSize_congr _ _ d (finish_mem sp pl vl pSim vSim self x d.nMem hA hC)
    unfold RowRel
    rw [encodeField_pointer _ d hdt, encodeField_pointer _ d hdt, hfs]
    by_cases hz : fieldSize x d = 0
    · left; simp [hz]
    · right
      refine ⟨_, _, if_neg hz, if_neg hz, ?_⟩
      have hb : heapBytes (finish sp pl vl pSim vSim self x) d.mem = fixParticles pl pSim self (heapBytes x d.mem) := by
        rw [hP, heapBytes, finish_heap_particles sp pl vl pSim vSim self x ok.pv, heapBytes]
        cases x.heap sp.particlesMem <;> simp [fixParticles, fillSlots]
      refine (hself d hd _ (by rw [encodeField_pointer _ d hdt, if_neg hz])).imp_left fun h => ?_
      rw [hdesc] at h ⊢
      rw [hb, fixParticles, fillSlots_take, fillSlots_take, ← hcs,
        payloadDiffer_fill_right specs d k c _ _ _ _ hcmp hspec hcl2 hpos,
        payloadDiffer_fill_right specs d k c _ _ _ _ hcmp hspec hcl1 hpos]
      exact h
  by_cases hV : (d.dtype = .pointer ∨ d.dtype = .pointerAligned) ∧ d.mem = sp.varCfgMem
  · -- var_config: empty by hypothesis (F5)
    obtain ⟨hdt, hV⟩ := hV
    obtain ⟨hA, hC, _⟩ := ok.ptr d hd hdt
    left
    rw [encodeField_zero _ d (hdt.imp_right .inl) (hvar d hd hdt hV), encodeField_zero _ d (hdt.imp_right .inl)]
    · exact ⟨rfl, rfl⟩
    · rw [fieldSize_congr _ _ d (finish_mem sp pl vl pSim vSim self x d.nMem hA hC)]
      exact hvar d hd hdt hV
  -- every other row reads nothing that the fix-ups write
  apply same
  apply encodeField_congr
  · intro sz hs
    obtain ⟨hA, hC⟩ := ok.simple d hd sz hs
    exact finish_mem sp pl vl pSim vSim self x _ hA hC
  · rintro (h | h | h)
    · exact finish_mem sp pl vl pSim vSim self x _ (ok.ptr d hd (.inl h)).1 (ok.ptr d hd (.inl h)).2.1
    · exact finish_mem sp pl vl pSim vSim self x _ (ok.ptr d hd (.inr h)).1 (ok.ptr d hd (.inr h)).2.1
    · exact finish_mem sp pl vl pSim vSim self x _ (ok.dp7 d hd h).1 (ok.dp7 d hd h).2.1
  · rintro (h | h | h)
    · exact finish_heap sp pl vl pSim vSim self x _ (fun e => hP ⟨.inl h, e⟩) (fun e => hV ⟨.inl h, e⟩)
    · exact finish_heap sp pl vl pSim vSim self x _ (fun e => hP ⟨.inr h, e⟩) (fun e => hV ⟨.inr h, e⟩)
    · exact finish_heap sp pl vl pSim vSim self x _ (ok.fixed d hd h).1 (ok.fixed d hd h).2
  · intro h k hk
    obtain ⟨_, _, h1, h2⟩ := ok.dp7 d hd h
    exact finish_heap sp pl vl pSim vSim self x _ (by omega) (by omega)

/-! ### the side conditions as a Boolean check (evaluated on the generated table by `decide +kernel`) -/

def fixRowOK (psz : Nat) (sp : Special) (specs : List CmpSpec) (tbl : List Desc) (pl : ElemLayout) (pSim : Nat)
    (d : Desc) : Bool :=
  match simpleSize psz d.dtype with
  | some _ => d.mem != sp.nAllocMem && d.mem != sp.recalcMem
  | none =>
    match d.dtype with
    | .pointer | .pointerAligned =>
      d.nMem != sp.nAllocMem && d.nMem != sp.recalcMem &&
      (d.mem != sp.particlesMem ||
        (match d.cmp with
         | 0 => false
         | k + 1 =>
           match specs[k]? with
           | some c => c.size == pl.size && decide (0 < c.size) && specClear c (ptrSlots pl) &&
                        specClear c [(pSim, 8)] && decide (descForType tbl d.id = some d)
           | none => false))
    | .pointerFixed => d.mem != sp.particlesMem && d.mem != sp.varCfgMem
    | .dp7 =>
      d.nMem != sp.nAllocMem && d.nMem != sp.recalcMem &&
      !(decide (d.mem ≤ sp.particlesMem) && decide (sp.particlesMem < d.mem + 7)) &&
      !(decide (d.mem ≤ sp.varCfgMem) && decide (sp.varCfgMem < d.mem + 7))
    | _ => true

def fixOKb (psz : Nat) (sp : Special) (specs : List CmpSpec) (tbl : List Desc) (pl : ElemLayout) (pSim : Nat) : Bool :=
  sp.particlesMem != sp.varCfgMem && (live tbl).all (fixRowOK psz sp specs tbl pl pSim)

theorem fixOK_of_b (psz : Nat) (sp : Special) (specs : List CmpSpec) (tbl : List Desc) (pl : ElemLayout) (pSim : Nat)
    (h : fixOKb psz sp specs tbl pl pSim = true) : FixOK psz sp specs tbl pl pSim := by
  simp only [fixOKb, Bool.and_eq_true, List.all_eq_true, bne_iff_ne] at h
  obtain ⟨hpv, hall⟩ := h
  refine ⟨hpv, fun d hd sz hs => ?_, fun d hd hdt => ?_, fun d hd hdt => ?_, fun d hd hdt => ?_⟩ <;>
    have hr := hall d hd <;> unfold fixRowOK at hr
  · simpa [hs] using hr
  · rcases hdt with e | e <;>
    · simp only [e, simpleSize, Bool.and_eq_true, Bool.or_eq_true, bne_iff_ne] at hr
      obtain ⟨⟨hA, hC⟩, hP⟩ := hr
      refine ⟨hA, hC, fun hmem => ?_⟩
      replace hP := hP.resolve_left (not_not_intro hmem)
      split at hP
      · cases hP
      · rename_i k hk
        split at hP
        · rename_i c hc
          simp only [Bool.and_eq_true, decide_eq_true_eq, beq_iff_eq] at hP
          exact ⟨k, c, hk, hc, hP.1.1.1.1, hP.1.1.1.2, hP.1.1.2, hP.1.2, hP.2⟩
        · cases hP
  · simpa [hdt, simpleSize] using hr
  · simp [hdt, simpleSize] at hr
    omega

end RV.Persist
