import RV.Proofs.VarAux
import RV.Gen.C16Deriv
/- what the element-derivative theorems of RV/Props/C16.lean share: the generated derivative functions (RV/Gen/C16Deriv,
   translated from src/derivatives.c and tied bitwise to the compiled functions) are the ε-parts of the
   element → Cartesian maps `palMap` / `orbMap` run on dual numbers.  Here: the embeddings of constants and varied
   elements into `Dual K` and `Dual (Dual K)`, what the lifted libm functions do on them, the rotation
   `palOut` that ends `palMap`, and the two unfolding steps. -/
set_option linter.unusedSectionVars false
namespace RV.Var
open RV RV.Gen.C16Deriv
variable {K : Type} [Field K] [CharZero K]

def epsP7 (r : P7 (Dual K)) : P7 K := ⟨r.m.eps, r.x.eps, r.y.eps, r.z.eps, r.vx.eps, r.vy.eps, r.vz.eps⟩
def cst (x : K) : Dual K := Dual.const x
def var1 (x : K) : Dual K := ⟨x, 1⟩

section liftlemmas
variable {F : Type} [Scalar F]
theorem lift_sin (o : DOps F) (sgn : F → F) (a : Dual F) : (o.lift sgn).sin a = ⟨o.sin a.re, o.cos a.re * a.eps⟩ := rfl
theorem lift_cos (o : DOps F) (sgn : F → F) (a : Dual F) : (o.lift sgn).cos a = ⟨o.cos a.re, -(o.sin a.re * a.eps)⟩ := rfl
theorem lift_sqrt (o : DOps F) (sgn : F → F) (a : Dual F) :
    (o.lift sgn).sqrt a = ⟨o.sqrt a.re, a.eps / (Scalar.ofNat 2 * o.sqrt a.re)⟩ := rfl
theorem lift_fabs (o : DOps F) (sgn : F → F) (a : Dual F) : (o.lift sgn).fabs a = ⟨o.fabs a.re, sgn a.re * a.eps⟩ := rfl
theorem sgnLift_re (sgn : F → F) (a : Dual F) : (sgnLift sgn a).re = sgn a.re := rfl
theorem sgnLift_eps (sgn : F → F) (a : Dual F) : (sgnLift sgn a).eps = Scalar.zero := rfl
end liftlemmas

set_option hygiene false in
/-- both sides are closed terms in the scalar operations: the dual-number arithmetic unfolds definitionally, and only the
    clean-up of `0 *` / `* 1` needs rewriting.  `sc_hmul` and its like (the field's own operations for those of `Scalar K`)
    are instantiated at the ambient `K`: left general they are tried, and fail slowly by unfolding instances, at every
    operation on `Dual K` as well. -/
macro "deriv_unfold" "[" ds:Lean.Parser.Tactic.simpLemma,* "]" : tactic => `(tactic| (
  dsimp only [$[$ds],*, palMap, orbMap, epsP7, cst, var1, dlit, two, lift_sin, lift_cos, lift_sqrt, lift_fabs,
    Dual.add_re, Dual.add_eps, Dual.sub_re, Dual.sub_eps, Dual.mul_re, Dual.mul_eps, Dual.div_re, Dual.div_eps,
    Dual.neg_re, Dual.neg_eps, Dual.const_re, Dual.const_eps, Dual.one_re, Dual.one_eps, Dual.ofNat_re, Dual.ofNat_eps,
    Dual.zero_re, Dual.zero_eps, sc_zero (K := K), sc_one (K := K), sc_hadd (K := K), sc_hsub (K := K), sc_hmul (K := K),
    sc_hdiv (K := K), sc_hneg (K := K), sc_ofNat (K := K)]
  push_cast
  simp only [P7.mk.injEq, mul_zero, zero_mul, add_zero, zero_add, sub_zero, mul_one, one_mul, neg_zero, zero_div, sub_self]))

/-! how `G` is eliminated: the C code takes the square root of `G (m+M)/a` (Pal) or of `G (m+M)/a/(1-e²)` (classical),
    the theorems assume that it squares back, so `G` is a rational function of the root and the other elements -/
omit [CharZero K] in
theorem eq_of_sq_eq_div {G T a x : K} (hT : T ≠ 0) (ha : a ≠ 0) (h : x * x = G * T / a) : G = x * x * a / T := by
  field_simp at h ⊢; linear_combination -h
omit [CharZero K] in
theorem eq_of_sq_eq_div₂ {G T a E x : K} (hT : T ≠ 0) (ha : a ≠ 0) (hE : E ≠ 0) (h : x * x = G * T / a / E) :
    G = x * x * a * E / T := by
  field_simp at h ⊢; linear_combination -h

/-- one component: an identity of rational functions in the atoms.  `field_simp` normalises `e * e` to `e ^ 2` and looks for
    its side conditions in that form: hence the `he' : 1 - e ^ 2 ≠ 0` in the classical-element proofs.  There the velocity
    components contain `√(1-e²)`: `rw [← hE]` writes `1 - e²` as the square of that root, so that both sides are rational in it. -/
macro "field_id" : tactic => `(tactic| first | trivial | (field_simp <;> ring1) | ring1)
macro "deriv_finish" : tactic => `(tactic| (refine ⟨?_, ?_, ?_, ?_, ?_, ?_, ?_⟩ <;> field_id))

def epsP72 (r : P7 (Dual2 K)) : P7 K := ⟨r.m.eps.eps, r.x.eps.eps, r.y.eps.eps, r.z.eps.eps, r.vx.eps.eps, r.vy.eps.eps, r.vz.eps.eps⟩
def c2 (x : K) : Dual2 K := ⟨⟨x, 0⟩, ⟨0, 0⟩⟩
/-- varied along ε₁ -/
def v1 (x : K) : Dual2 K := ⟨⟨x, 1⟩, ⟨0, 0⟩⟩
/-- varied along ε₂ -/
def v2 (x : K) : Dual2 K := ⟨⟨x, 0⟩, ⟨1, 0⟩⟩
/-- varied along both (second derivative with respect to one parameter) -/
def v12 (x : K) : Dual2 K := ⟨⟨x, 1⟩, ⟨1, 0⟩⟩
def lift2 (o : DOps K) (sgn : K → K) : DOps (Dual2 K) := (o.lift sgn).lift (sgnLift sgn)

theorem dual2_ext {a b : Dual2 K} (h1 : a.re.re = b.re.re) (h2 : a.re.eps = b.re.eps) (h3 : a.eps.re = b.eps.re)
    (h4 : a.eps.eps = b.eps.eps) : a = b := by
  obtain ⟨⟨_, _⟩, ⟨_, _⟩⟩ := a; obtain ⟨⟨_, _⟩, ⟨_, _⟩⟩ := b; simp_all

/-! `c2` embeds `K` in the 2-jets as a subfield closed under the lifted functions, so the part of `orbMap` / `palMap`
    that does not involve a varied element is computed in `K` and never expanded into its four components. -/
theorem c2_add (x y : K) : c2 x + c2 y = c2 (x + y) := by apply dual2_ext <;> simp [c2]
theorem c2_sub (x y : K) : c2 x - c2 y = c2 (x - y) := by apply dual2_ext <;> simp [c2]
theorem c2_mul (x y : K) : c2 x * c2 y = c2 (x * y) := by apply dual2_ext <;> simp [c2]
theorem c2_div (x y : K) : c2 x / c2 y = c2 (x / y) := by apply dual2_ext <;> simp [c2]
theorem c2_neg (x : K) : -c2 x = c2 (-x) := by apply dual2_ext <;> simp [c2]
theorem c2_one : (Scalar.one : Dual2 K) = c2 1 := rfl
theorem c2_ofNat (n : Nat) : (Scalar.ofNat n : Dual2 K) = c2 (n : K) := rfl
theorem lift2_sin_c2 (o : DOps K) (sgn : K → K) (x : K) : (lift2 o sgn).sin (c2 x) = c2 (o.sin x) := by
  apply dual2_ext <;> simp [c2, lift2, lift_sin, lift_cos]
theorem lift2_cos_c2 (o : DOps K) (sgn : K → K) (x : K) : (lift2 o sgn).cos (c2 x) = c2 (o.cos x) := by
  apply dual2_ext <;> simp [c2, lift2, lift_sin, lift_cos]
theorem lift2_sqrt_c2 (o : DOps K) (sgn : K → K) (x : K) : (lift2 o sgn).sqrt (c2 x) = c2 (o.sqrt x) := by
  apply dual2_ext <;> simp [c2, lift2, lift_sqrt]
theorem lift2_fabs_c2 (o : DOps K) (sgn : K → K) (x : K) : (lift2 o sgn).fabs (c2 x) = c2 (o.fabs x) := by
  apply dual2_ext <;> simp [c2, lift2, lift_fabs, sgnLift_eps]

/-! `palMap` ends with a rotation of the orbital-plane coordinates `(ξ, η)`, `(ξ', η')` into the reference frame, and the
    generated functions end with the same rotation of their derivatives of `ξ, η, ξ', η'`.  While `ix`, `iy` are not varied the
    rotation is `K`-linear, so the derivative of `palMap` is the rotation of the derivatives: four identities about the
    plane coordinates are left, each about half the size of a Cartesian component. -/
section
variable {F : Type} [Scalar F]
def palOut (m xi eta dxi deta ix iy iz : F) : P7 F :=
  let W := eta*ix - xi*iy
  let dW := deta*ix - dxi*iy
  ⟨m, xi + dlit 5 10*iy*W, eta - dlit 5 10*ix*W, dlit 5 10*iz*W, dxi + dlit 5 10*iy*dW, deta - dlit 5 10*ix*dW, dlit 5 10*iz*dW⟩
theorem palMap_eq_palOut (o : DOps F) (G m M a lam k h ix iy p q : F) :
    palMap o G m M a lam k h ix iy p q
      = palOut m (a*(o.cos (lam + p) + p/(two - (Scalar.one - o.sqrt (Scalar.one - h*h - k*k)))*h - k))
          (a*(o.sin (lam + p) - p/(two - (Scalar.one - o.sqrt (Scalar.one - h*h - k*k)))*k - h))
          (o.sqrt (G*(m + M)/a)/(Scalar.one - q)*(-o.sin (lam + p) + q/(two - (Scalar.one - o.sqrt (Scalar.one - h*h - k*k)))*h))
          (o.sqrt (G*(m + M)/a)/(Scalar.one - q)*(o.cos (lam + p) - q/(two - (Scalar.one - o.sqrt (Scalar.one - h*h - k*k)))*k))
          ix iy (o.sqrt (o.fabs ((Scalar.ofNat 4 : F) - ix*ix - iy*iy))) := rfl
end

omit [CharZero K] in
/-- the mass enters `palMap` through the velocities only: in the derivatives with respect to `m` the generated functions set the
    position components to 0 and rotate the velocity components alone -/
theorem palOut_vel (dx de ix iy iz : K) :
    (⟨Scalar.zero, Scalar.ofNat 0, Scalar.ofNat 0, Scalar.ofNat 0, dx + dlit 5 10*iy*(de*ix - dx*iy), de - dlit 5 10*ix*(de*ix - dx*iy),
      dlit 5 10*iz*(de*ix - dx*iy)⟩ : P7 K) = palOut 0 0 0 dx de ix iy iz := by
  simp [palOut, sc_ofNat, sc_zero]

/-- first order; `IZ` is the square root `palMap` takes of `4 - ix² - iy²` (`palIz_eps`) -/
theorem epsP7_palOut (m ix iy : K) (IZ X E DX DE : Dual K) (hz : IZ.eps = 0) :
    epsP7 (palOut (cst m) X E DX DE (cst ix) (cst iy) IZ) = palOut 0 X.eps E.eps DX.eps DE.eps ix iy IZ.re := by
  obtain ⟨iz, _⟩ := IZ
  obtain rfl : _ = (0:K) := hz
  dsimp only [palOut, epsP7, cst, dlit, Dual.add_re, Dual.add_eps, Dual.sub_re, Dual.sub_eps, Dual.mul_re, Dual.mul_eps, Dual.div_re,
    Dual.div_eps, Dual.ofNat_re, Dual.ofNat_eps, Dual.zero_re, Dual.zero_eps, Dual.const_re, Dual.const_eps, sc_zero (K := K),
    sc_hadd (K := K), sc_hsub (K := K), sc_hmul (K := K), sc_hdiv (K := K), sc_ofNat (K := K)]
  push_cast
  simp only [mul_zero, zero_mul, add_zero, zero_add, sub_zero, zero_div]

theorem palIz_eps (o : DOps K) (sgn : K → K) (ix iy : K) :
    ((o.lift sgn).sqrt ((o.lift sgn).fabs ((Scalar.ofNat 4 : Dual K) - cst ix * cst ix - cst iy * cst iy))).eps = 0 := by
  dsimp only [lift_sqrt, lift_fabs, cst, Dual.sub_eps, Dual.mul_eps, Dual.mul_re, Dual.sub_re, Dual.const_re, Dual.const_eps,
    Dual.ofNat_eps, sc_zero (K := K), sc_hadd (K := K), sc_hsub (K := K), sc_hmul (K := K), sc_hdiv (K := K), sc_ofNat (K := K)]
  simp only [mul_zero, zero_mul, add_zero, sub_zero, zero_div]

theorem epsP72_palOut (ix iy iz : K) (m X E DX DE : Dual2 K) :
    epsP72 (palOut m X E DX DE (c2 ix) (c2 iy) (c2 iz))
      = palOut m.eps.eps X.eps.eps E.eps.eps DX.eps.eps DE.eps.eps ix iy iz := by
  dsimp only [palOut, epsP72, c2, dlit, Dual.add_re, Dual.add_eps, Dual.sub_re, Dual.sub_eps, Dual.mul_re, Dual.mul_eps, Dual.div_re,
    Dual.div_eps, Dual.ofNat_re, Dual.ofNat_eps, Dual.zero_re, Dual.zero_eps, sc_zero (K := K), sc_hadd (K := K), sc_hsub (K := K),
    sc_hmul (K := K), sc_hdiv (K := K), sc_ofNat (K := K)]
  push_cast
  simp only [mul_zero, zero_mul, add_zero, zero_add, sub_zero, zero_div]

set_option hygiene false in
/-- as `deriv_unfold`, after the constant part has been collapsed by the `c2` lemmas.  `palMap` is left as `palOut …`, already
    differentiated by `epsP72_palOut` where `ix`, `iy` are constants; a proof that compares Cartesian components instead names
    `palOut` among the definitions to unfold. -/
macro "deriv2_unfold" "[" ds:Lean.Parser.Tactic.simpLemma,* "]" : tactic => `(tactic| (
  simp only [orbMap, palMap_eq_palOut, epsP72_palOut, dlit, two, c2_one, c2_ofNat, lift2_sin_c2, lift2_cos_c2, lift2_sqrt_c2, lift2_fabs_c2,
    c2_add, c2_sub, c2_mul, c2_div, c2_neg]
  dsimp only [$[$ds],*, epsP72, c2, v1, v2, v12, lift2, dlit, two, lift_sin, lift_cos, lift_sqrt, lift_fabs, sgnLift_re, sgnLift_eps,
    Dual.add_re, Dual.add_eps, Dual.sub_re, Dual.sub_eps, Dual.mul_re, Dual.mul_eps, Dual.div_re, Dual.div_eps,
    Dual.neg_re, Dual.neg_eps, Dual.const_re, Dual.const_eps, Dual.one_re, Dual.one_eps, Dual.ofNat_re, Dual.ofNat_eps,
    Dual.zero_re, Dual.zero_eps, sc_zero (K := K), sc_one (K := K), sc_hadd (K := K), sc_hsub (K := K), sc_hmul (K := K),
    sc_hdiv (K := K), sc_hneg (K := K), sc_ofNat (K := K)]
  push_cast
  simp only [P7.mk.injEq, mul_zero, zero_mul, add_zero, zero_add, sub_zero, mul_one, one_mul, neg_zero, zero_div, sub_self]))

end RV.Var
