import RV.Proofs.Field
import RV.Model.Gravity
import Mathlib.Analysis.Calculus.Deriv.MeanValue
import Mathlib.Analysis.Calculus.Deriv.Pow
import Mathlib.Tactic.Positivity
/-
  The polynomial changeover functions of integrator_mercurius.c over ℝ: derivative
  factorisations  L' = 30 y²(1−y)²,  630 y⁴(1−y)⁴,  2772 y⁵(1−y)⁵  and monotonicity on [0,1].
-/
namespace RV.Gravity
open RV

theorem polyMercury_real (y : ℝ) : polyMercury y = 10 * y ^ 3 - 15 * y ^ 4 + 6 * y ^ 5 := by
  simp only [polyMercury, sc_hmul, sc_hadd, sc_hsub, sc_ofNat]; push_cast; ring
theorem polyC4_real (y : ℝ) :
    polyC4 y = 70 * y ^ 9 - 315 * y ^ 8 + 540 * y ^ 7 - 420 * y ^ 6 + 126 * y ^ 5 := by
  simp only [polyC4, sc_hmul, sc_hadd, sc_hsub, sc_ofNat]; push_cast; ring
theorem polyC5_real (y : ℝ) :
    polyC5 y = -(252 * y ^ 11) + 1386 * y ^ 10 - 3080 * y ^ 9 + 3465 * y ^ 8 - 1980 * y ^ 7 + 462 * y ^ 6 := by
  simp only [polyC5, sc_hmul, sc_hadd, sc_hsub, sc_hneg, sc_ofNat]; push_cast; ring

theorem hasDeriv_mercury (y : ℝ) : HasDerivAt (fun y : ℝ => polyMercury y) (30 * y ^ 2 * (1 - y) ^ 2) y := by
  have hf : (fun y : ℝ => polyMercury y) = fun y => 10 * y ^ 3 - 15 * y ^ 4 + 6 * y ^ 5 := by
    funext y; exact polyMercury_real y
  rw [hf]
  have := (((hasDerivAt_pow 3 y).const_mul 10).sub ((hasDerivAt_pow 4 y).const_mul 15)).add
    ((hasDerivAt_pow 5 y).const_mul 6)
  exact this.congr_deriv (by norm_num; ring)

theorem hasDeriv_C4 (y : ℝ) : HasDerivAt (fun y : ℝ => polyC4 y) (630 * y ^ 4 * (1 - y) ^ 4) y := by
  have hf : (fun y : ℝ => polyC4 y)
      = fun y => 70 * y ^ 9 - 315 * y ^ 8 + 540 * y ^ 7 - 420 * y ^ 6 + 126 * y ^ 5 := by
    funext y; exact polyC4_real y
  rw [hf]
  have := ((((((hasDerivAt_pow 9 y).const_mul 70).sub ((hasDerivAt_pow 8 y).const_mul 315)).add
    ((hasDerivAt_pow 7 y).const_mul 540)).sub ((hasDerivAt_pow 6 y).const_mul 420)).add
    ((hasDerivAt_pow 5 y).const_mul 126))
  exact this.congr_deriv (by norm_num; ring)

theorem hasDeriv_C5 (y : ℝ) : HasDerivAt (fun y : ℝ => polyC5 y) (2772 * y ^ 5 * (1 - y) ^ 5) y := by
  have hf : (fun y : ℝ => polyC5 y)
      = fun y => -(252 * y ^ 11) + 1386 * y ^ 10 - 3080 * y ^ 9 + 3465 * y ^ 8 - 1980 * y ^ 7 + 462 * y ^ 6 := by
    funext y; exact polyC5_real y
  rw [hf]
  have := (((((((hasDerivAt_pow 11 y).const_mul 252).neg).add ((hasDerivAt_pow 10 y).const_mul 1386)).sub
    ((hasDerivAt_pow 9 y).const_mul 3080)).add ((hasDerivAt_pow 8 y).const_mul 3465)).sub
    ((hasDerivAt_pow 7 y).const_mul 1980)).add ((hasDerivAt_pow 6 y).const_mul 462)
  exact this.congr_deriv (by norm_num; ring)

theorem monotone_of_deriv (f : ℝ → ℝ) (f' : ℝ → ℝ) (h : ∀ y, HasDerivAt f (f' y) y)
    (hpos : ∀ y, 0 < y → y < 1 → 0 ≤ f' y) : MonotoneOn f (Set.Icc 0 1) := by
  apply monotoneOn_of_deriv_nonneg (convex_Icc 0 1)
  · exact fun y _ => (h y).continuousAt.continuousWithinAt
  · exact fun y _ => (h y).differentiableAt.differentiableWithinAt
  · intro y hy
    rw [interior_Icc] at hy
    rw [(h y).deriv]
    exact hpos y hy.1 hy.2

end RV.Gravity
