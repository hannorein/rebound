import RV.Model.Janus
/-
  Reversal of the JANUS model (appendix A6 of DESIGN.md).  No Mathlib needed.

  * every elementary map `D_c`, `K_b` has the exact partial inverse `D_{-c}`, `K_{-b}`
    (sign symmetry of `* /`, odd truncation, `BitVec 64` addition is a group; `K` does not
    move positions, `D` does not move velocities);
  * negating `dt` negates every coefficient of the step position by position;
  * the list of elementary maps of one step is a palindrome when `gg` is (commutativity of `+`);
  * hence `ops(-dt) = ((ops dt).map inv).reverse`, and running `l` then `(l.map inv).reverse`
    is the identity; `n` steps by induction.
-/
set_option linter.unusedSectionVars false
namespace RV.Janus
open RV JFloat

variable {F : Type} [JFloat F]

/-- IEEE-754 sign-symmetry laws used by the reversal proof — hypotheses, not axioms.
    (round-to-nearest is symmetric under negation, so `*` and `/` commute with `-`; `+` is
    commutative; the C cast truncates toward zero, so it is odd.) -/
structure JLaws (F : Type) [JFloat F] : Prop where
  mul_neg_left : ∀ a b : F, mul (neg a) b = neg (mul a b)
  mul_neg_right : ∀ a b : F, mul a (neg b) = neg (mul a b)
  div_neg_left : ∀ a b : F, div (neg a) b = neg (div a b)
  add_comm : ∀ a b : F, add a b = add b a
  trunc_neg : ∀ a : F, truncToInt (neg a) = (truncToInt a).map (fun t => -t)

theorem add_neg_cancel64 (x t : I64) : x + t + -t = x := by
  rw [← BitVec.sub_eq_add_neg, BitVec.add_sub_cancel]

/-- `n`-fold iteration of a partial map `f`, given by its two recursion equations, is undone by the
    `n`-fold iteration of a partial inverse `g` -/
theorem optIter_reverse {S : Type} (f g : S → Option S) (F G : Nat → S → Option S)
    (hF : ∀ n s, F (n + 1) s = (f s).bind (F n)) (hF0 : ∀ s, F 0 s = some s)
    (hG : ∀ n s, G (n + 1) s = (g s).bind (G n)) (hG0 : ∀ s, G 0 s = some s)
    (hfg : ∀ s s', f s = some s' → g s' = some s) :
    ∀ n s s', F n s = some s' → G n s' = some s := by
  have hGr : ∀ n s, G (n + 1) s = (G n s).bind g := by
    intro n
    induction n with
    | zero => intro s; rw [hG, hG0, Option.bind_some]; cases g s with
      | none => rfl
      | some t => exact hG0 t
    | succ n ih => intro s; rw [hG, hG n]; cases g s with
      | none => rfl
      | some t => exact ih t
  intro n
  induction n with
  | zero => intro s s' h; rw [hF0] at h; cases h; exact hG0 s
  | succ n ih =>
    intro s s' h
    rw [hF] at h
    cases h1 : f s with
    | none => rw [h1] at h; cases h
    | some t => rw [h1] at h; rw [hGr, ih t s' h]; exact hfg s t h1

/-! ### elementary maps are partial bijections -/

def Op.inv : Op F → Op F
  | .drift c => .drift (neg c)
  | .kick b => .kick (neg b)

theorem driftP_some {c sp sv : F} {p p' : PInt} (h : driftP c sp sv p = some p') :
    ∃ dx dy dz, truncToInt (div (mul (mul c (ofInt p.vx)) sv) sp) = some dx ∧
      truncToInt (div (mul (mul c (ofInt p.vy)) sv) sp) = some dy ∧
      truncToInt (div (mul (mul c (ofInt p.vz)) sv) sp) = some dz ∧
      p' = { p with x := p.x + dx, y := p.y + dy, z := p.z + dz } := by
  unfold driftP at h
  split at h
  · rename_i dx dy dz hx hy hz
    exact ⟨dx, dy, dz, hx, hy, hz, (Option.some.inj h).symm⟩
  · cases h

theorem kickP_some {b sv : F} {p p' : PInt} {a : V3 F} (h : kickP b sv p a = some p') :
    ∃ dx dy dz, truncToInt (div (mul b a.x) sv) = some dx ∧ truncToInt (div (mul b a.y) sv) = some dy ∧
      truncToInt (div (mul b a.z) sv) = some dz ∧
      p' = { p with vx := p.vx + dx, vy := p.vy + dy, vz := p.vz + dz } := by
  unfold kickP at h
  split at h
  · rename_i dx dy dz hx hy hz
    exact ⟨dx, dy, dz, hx, hy, hz, (Option.some.inj h).symm⟩
  · cases h

/-- a relation between input and output of `drift` holds if the one-particle map builds it up -/
theorem drift_induction {c sp sv : F} {P : List PInt → List PInt → Prop} (nil : P [] [])
    (cons : ∀ p p' r r', driftP c sp sv p = some p' → drift c sp sv r = some r' → P r r' → P (p :: r) (p' :: r')) :
    ∀ s s', drift c sp sv s = some s' → P s s'
  | [], s', h => by cases h; exact nil
  | p :: r, s', h => by
    unfold drift at h
    split at h
    · rename_i p' r' hp hr
      cases h
      exact cons p p' r r' hp hr (drift_induction nil cons r r' hr)
    · cases h

/-- the same for `kickL` (one acceleration per particle) -/
theorem kickL_induction {b sv : F} {P : List PInt → List (V3 F) → List PInt → Prop} (nil : P [] [] [])
    (cons : ∀ p p' a r ar r', kickP b sv p a = some p' → kickL b sv r ar = some r' → P r ar r' →
      P (p :: r) (a :: ar) (p' :: r')) :
    ∀ s A s', kickL b sv s A = some s' → P s A s'
  | [], [], s', h => by cases h; exact nil
  | p :: r, a :: ar, s', h => by
    unfold kickL at h
    split at h
    · rename_i p' r' hp hr
      cases h
      exact cons p p' a r ar r' hp hr (kickL_induction nil cons r ar r' hr)
    · cases h
  | [], _ :: _, s', h => by cases h
  | _ :: _, [], s', h => by cases h

theorem driftP_inv (L : JLaws F) (c sp sv : F) (p p' : PInt)
    (h : driftP c sp sv p = some p') : driftP (neg c) sp sv p' = some p := by
  obtain ⟨dx, dy, dz, hx, hy, hz, rfl⟩ := driftP_some h
  unfold driftP
  simp only [L.mul_neg_left, L.div_neg_left, L.trunc_neg, hx, hy, hz, Option.map_some, add_neg_cancel64]

theorem drift_inv (L : JLaws F) (c sp sv : F) :
    ∀ (s s' : List PInt), drift c sp sv s = some s' → drift (neg c) sp sv s' = some s :=
  drift_induction rfl fun p p' r r' hp _ ih => by rw [drift, driftP_inv L c sp sv p p' hp, ih]

theorem driftP_vel (c sp sv : F) (p p' : PInt) (h : driftP c sp sv p = some p') :
    p'.vx = p.vx ∧ p'.vy = p.vy ∧ p'.vz = p.vz := by
  obtain ⟨dx, dy, dz, -, -, -, rfl⟩ := driftP_some h
  exact ⟨rfl, rfl, rfl⟩

theorem kickP_pos (b sv : F) (p p' : PInt) (a : V3 F) (h : kickP b sv p a = some p') :
    p'.x = p.x ∧ p'.y = p.y ∧ p'.z = p.z := by
  obtain ⟨dx, dy, dz, -, -, -, rfl⟩ := kickP_some h
  exact ⟨rfl, rfl, rfl⟩

theorem kickP_inv (L : JLaws F) (b sv : F) (p p' : PInt) (a : V3 F)
    (h : kickP b sv p a = some p') : kickP (neg b) sv p' a = some p := by
  obtain ⟨dx, dy, dz, hx, hy, hz, rfl⟩ := kickP_some h
  unfold kickP
  simp only [L.mul_neg_left, L.div_neg_left, L.trunc_neg, hx, hy, hz, Option.map_some, add_neg_cancel64]

/-- a kick leaves the positions, hence the doubles the force routine sees, unchanged -/
theorem kickL_positions (b sv sp : F) :
    ∀ (s : List PInt) (A : List (V3 F)) (s' : List PInt), kickL b sv s A = some s' →
      positions sp s' = positions sp s :=
  kickL_induction rfl fun p p' a r ar r' hp _ ih => by
    obtain ⟨e1, e2, e3⟩ := kickP_pos b sv p p' a hp
    simp only [positions, List.map_cons] at ih ⊢
    rw [ih, e1, e2, e3]

theorem kickL_inv (L : JLaws F) (b sv : F) :
    ∀ (s : List PInt) (A : List (V3 F)) (s' : List PInt), kickL b sv s A = some s' →
      kickL (neg b) sv s' A = some s :=
  kickL_induction rfl fun p p' a r ar r' hp _ ih => by rw [kickL, kickP_inv L b sv p p' a hp, ih]

theorem kick_inv (L : JLaws F) (cfg : Cfg F) (b : F) (s s' : List PInt)
    (h : kick cfg b s = some s') : kick cfg (neg b) s' = some s := by
  unfold kick at h ⊢
  rw [kickL_positions b cfg.scaleVel cfg.scalePos s _ s' h]
  exact kickL_inv L b cfg.scaleVel s _ s' h

theorem op_inv (L : JLaws F) (cfg : Cfg F) (op : Op F) (s s' : List PInt)
    (h : op.apply cfg s = some s') : op.inv.apply cfg s' = some s := by
  cases op with
  | drift c => exact drift_inv L c cfg.scalePos cfg.scaleVel s s' h
  | kick b => exact kick_inv L cfg b s s' h

theorem run_append (cfg : Cfg F) (l₁ l₂ : List (Op F)) (s : List PInt) :
    run cfg (l₁ ++ l₂) s = (run cfg l₁ s).bind (run cfg l₂) := by
  induction l₁ generalizing s with
  | nil => rfl
  | cons op r ih =>
    simp only [List.cons_append, run]
    cases h : op.apply cfg s with
    | none => rfl
    | some s' => exact ih s'

theorem run_inv_reverse (L : JLaws F) (cfg : Cfg F) (l : List (Op F)) (s s' : List PInt)
    (h : run cfg l s = some s') : run cfg ((l.map Op.inv).reverse) s' = some s := by
  induction l generalizing s with
  | nil =>
    simp only [run] at h; injection h with h; subst h; rfl
  | cons op r ih =>
    simp only [run] at h
    cases h1 : op.apply cfg s with
    | none => rw [h1] at h; exact absurd h (by simp)
    | some s1 =>
      rw [h1] at h
      simp only [List.map_cons, List.reverse_cons, run_append, ih s1 h, Option.bind_some, run,
        op_inv L cfg op s s1 h1]

/-! ### negating `dt` negates every coefficient, position by position -/

theorem stageLoop_neg (L : JLaws F) (s : Scheme F) (dt : F) (n : Nat) :
    ∀ i, stageLoop s (neg dt) i n = (stageLoop s dt i n).map (List.map Op.inv) := by
  induction n with
  | zero => intro i; rfl
  | succ n ih =>
    intro i
    unfold stageLoop
    rw [ih (i + 1)]
    cases gg s (i - 1) <;> cases gg s i <;> cases stageLoop s dt (i + 1) n <;>
      simp [Op.inv, L.mul_neg_right, L.div_neg_left]

theorem stepOps_neg (L : JLaws F) (s : Scheme F) (dt : F) :
    stepOps s (neg dt) = (stepOps s dt).map (List.map Op.inv) := by
  unfold stepOps
  rw [stageLoop_neg L]
  cases gg s 0 <;> cases stageLoop s dt 1 (s.stages - 1) <;> cases gg s (s.stages - 1) <;>
    simp [Op.inv, L.mul_neg_right, L.div_neg_left]

/-- the list `d 0, k 0, d 1, k 1, …, k (S-1), d S`, read off by position `0 … 2S` -/
def alt {α : Type} (d k : Nat → α) (i : Nat) : α := if i % 2 = 1 then k (i / 2) else d (i / 2)

theorem map_alt_succ {α : Type} (d k : Nat → α) (i n : Nat) :
    (List.range' (2 * i) (2 * (n + 1))).map (alt d k)
      = d i :: k i :: (List.range' (2 * (i + 1)) (2 * n)).map (alt d k) := by
  have e0 : alt d k (2 * i) = d i := by
    rw [alt, if_neg (by omega), Nat.mul_div_cancel_left i (by decide)]
  have e1 : alt d k (2 * i + 1) = k i := by
    rw [alt, if_pos (by omega), show (2 * i + 1) / 2 = i by omega]
  rw [show 2 * (n + 1) = 2 * n + 1 + 1 from rfl, List.range'_succ, List.range'_succ, List.map_cons,
    List.map_cons, e0, e1]
  rfl

theorem map_alt_full {α : Type} (d k : Nat → α) (S : Nat) (hS : 1 ≤ S) :
    (List.range' 0 (2 * S + 1)).map (alt d k)
      = d 0 :: k 0 :: ((List.range' 2 (2 * (S - 1))).map (alt d k) ++ [d S]) := by
  obtain ⟨n, rfl⟩ : ∃ n, S = n + 1 := ⟨S - 1, by omega⟩
  rw [List.range'_concat, List.map_append, map_alt_succ d k 0 n, List.map_singleton, alt, if_neg (by omega),
    show (0 + 1 * (2 * (n + 1))) / 2 = n + 1 by omega]
  rfl

theorem map_range'_reverse {α : Type} (f : Nat → α) (n : Nat) (hf : ∀ k, k ≤ n → f (n - k) = f k) :
    ((List.range' 0 (n + 1)).map f).reverse = (List.range' 0 (n + 1)).map f := by
  apply List.ext_getElem
  · simp
  · intro i h1 h2
    simp only [List.length_reverse, List.length_map, List.length_range'] at h1
    simp only [List.getElem_reverse, List.getElem_map, List.getElem_range', List.length_map,
      List.length_range', Nat.zero_add, Nat.one_mul]
    have : n + 1 - 1 - i = n - i := by omega
    rw [this]
    exact hf i (by omega)

theorem alt_palindrome {α : Type} (d k : Nat → α) (S : Nat) (hd : ∀ j, j ≤ S → d (S - j) = d j)
    (hk : ∀ j, j < S → k (S - 1 - j) = k j) :
    ((List.range' 0 (2 * S + 1)).map (alt d k)).reverse = (List.range' 0 (2 * S + 1)).map (alt d k) := by
  refine map_range'_reverse _ _ fun i hi => ?_
  unfold alt
  by_cases p : i % 2 = 1
  · rw [if_pos p, if_pos (by omega), show (2 * S - i) / 2 = S - 1 - i / 2 by omega, hk _ (by omega)]
  · rw [if_neg p, if_neg (by omega), show (2 * S - i) / 2 = S - i / 2 by omega, hd _ (by omega)]

/-! ### the list of one step is a palindrome when `gg` is -/

/-- `gg` is defined on all stages and reads the same from both ends -/
structure Palin (s : Scheme F) : Prop where
  stages_pos : 1 ≤ s.stages
  defined : ∀ i, i < s.stages → ∃ g, gg s i = some g
  mirror : ∀ i, i < s.stages → gg s (s.stages - 1 - i) = gg s i

/-- the drift before stage `j` (`j = S`: the closing drift) of a step, for a total gamma function -/
def driftAt (g : Nat → F) (dt : F) (S j : Nat) : Op F :=
  .drift (div (mul (if j = 0 then g 0 else if j = S then g (S - 1) else add (g (j - 1)) (g j)) dt) two)

theorem stageLoop_eq (s : Scheme F) (dt : F) (g : Nat → F)
    (hg : ∀ i, i < s.stages → gg s i = some (g i)) (n : Nat) :
    ∀ i, 1 ≤ i → i + n ≤ s.stages → stageLoop s dt i n
      = some ((List.range' (2 * i) (2 * n)).map (alt (driftAt g dt s.stages) fun j => .kick (mul (g j) dt))) := by
  induction n with
  | zero => intro i _ _; rfl
  | succ n ih =>
    intro i h1 h2
    rw [stageLoop, hg (i - 1) (by omega), hg i (by omega), ih (i + 1) (by omega) (by omega), map_alt_succ,
      driftAt, if_neg (by omega), if_neg (by omega)]

theorem stepOps_eq (s : Scheme F) (dt : F) (g : Nat → F) (hpos : 1 ≤ s.stages)
    (hg : ∀ i, i < s.stages → gg s i = some (g i)) :
    stepOps s dt
      = some ((List.range' 0 (2 * s.stages + 1)).map (alt (driftAt g dt s.stages) fun j => .kick (mul (g j) dt))) := by
  have e0 : driftAt g dt s.stages 0 = .drift (div (mul (g 0) dt) two) := by rw [driftAt, if_pos rfl]
  have eS : driftAt g dt s.stages s.stages = .drift (div (mul (g (s.stages - 1)) dt) two) := by
    rw [driftAt, if_neg (by omega), if_pos rfl]
  rw [stepOps, hg 0 (by omega), hg (s.stages - 1) (by omega),
    stageLoop_eq s dt g hg (s.stages - 1) 1 (by omega) (by omega), map_alt_full _ _ _ hpos, e0, eS]

theorem stepOps_palindrome (L : JLaws F) (s : Scheme F) (hp : Palin s) (dt : F) (ops : List (Op F))
    (h : stepOps s dt = some ops) : ops.reverse = ops := by
  -- a total gamma function agreeing with `gg` on the stages
  let g : Nat → F := fun i => match gg s i with | some x => x | none => dt
  have hg : ∀ i, i < s.stages → gg s i = some (g i) := by
    intro i hi
    obtain ⟨x, hx⟩ := hp.defined i hi
    simp only [g, hx]
  have hm : ∀ i, i < s.stages → g (s.stages - 1 - i) = g i := by
    intro i hi
    have := hp.mirror i hi
    simp only [g, this]
  have hS := hp.stages_pos
  rw [stepOps_eq s dt g hS hg] at h
  injection h with h
  subst h
  refine alt_palindrome _ _ _ (fun j hj => ?_) fun j hj => by rw [hm j hj]
  unfold driftAt
  by_cases j0 : j = 0
  · subst j0
    rw [Nat.sub_zero, if_neg (by omega), if_pos rfl, if_pos rfl, ← hm 0 hS, Nat.sub_zero]
  · by_cases jS : j = s.stages
    · subst jS
      rw [Nat.sub_self, if_pos rfl, if_neg j0, if_pos rfl, ← hm 0 hS, Nat.sub_zero]
    · rw [if_neg (by omega), if_neg (by omega), if_neg j0, if_neg jS, L.add_comm, ← hm j (by omega),
        ← hm (j - 1) (by omega), show s.stages - 1 - (j - 1) = s.stages - j by omega,
        show s.stages - j - 1 = s.stages - 1 - j by omega]

theorem step_reverse (L : JLaws F) (cfg : Cfg F) (s : Scheme F) (hp : Palin s) (dt : F)
    (st st' : List PInt) (h : step cfg s dt st = some st') : step cfg s (neg dt) st' = some st := by
  unfold step at h ⊢
  rw [stepOps_neg L]
  cases ho : stepOps s dt with
  | none => rw [ho] at h; exact absurd h (by simp)
  | some ops =>
    rw [ho] at h
    simp only [Option.map_some]
    have hpal := stepOps_palindrome L s hp dt ops ho
    have := run_inv_reverse L cfg ops st st' h
    rw [← List.map_reverse, hpal] at this
    exact this

theorem steps_reverse (L : JLaws F) (cfg : Cfg F) (s : Scheme F) (hp : Palin s) (dt : F) (n : Nat) :
    ∀ (st st' : List PInt), steps cfg s dt n st = some st' → steps cfg s (neg dt) n st' = some st :=
  optIter_reverse _ _ (steps cfg s dt) (steps cfg s (neg dt))
    (fun n st => by rw [steps]; cases step cfg s dt st <;> rfl) (fun _ => rfl)
    (fun n st => by rw [steps]; cases step cfg s (neg dt) st <;> rfl) (fun _ => rfl)
    (step_reverse L cfg s hp dt) n

/-! ### the recalculation flag: an undisturbed run never re-derives the grid state -/

theorem drift_length (c sp sv : F) :
    ∀ (s s' : List PInt), drift c sp sv s = some s' → s'.length = s.length :=
  drift_induction rfl fun _ _ _ _ _ _ ih => congrArg (· + 1) ih

theorem kickL_length (b sv : F) :
    ∀ (s : List PInt) (A : List (V3 F)) (s' : List PInt), kickL b sv s A = some s' → s'.length = s.length :=
  kickL_induction rfl fun _ _ _ _ _ _ _ _ ih => congrArg (· + 1) ih

theorem run_length (cfg : Cfg F) (l : List (Op F)) :
    ∀ (s s' : List PInt), run cfg l s = some s' → s'.length = s.length := by
  induction l with
  | nil => intro s s' h; simp only [run] at h; injection h with h; rw [h]
  | cons op r ih =>
    intro s s' h
    simp only [run] at h
    cases h1 : op.apply cfg s with
    | none => rw [h1] at h; exact absurd h (by simp)
    | some s1 =>
      rw [h1] at h
      have e1 : s1.length = s.length := by
        cases op with
        | drift c => exact drift_length c _ _ s s1 h1
        | kick b => exact kickL_length b _ s _ s1 h1
      rw [ih s1 s' h, e1]

theorem step_length (cfg : Cfg F) (s : Scheme F) (dt : F) (st st' : List PInt)
    (h : step cfg s dt st = some st') : st'.length = st.length := by
  unfold step at h
  cases ho : stepOps s dt with
  | none => rw [ho] at h; exact absurd h (by simp)
  | some ops => rw [ho] at h; exact run_length cfg ops st st' h

/-- flag clear and `N_allocated == N`: `part1` does not touch the grid state -/
theorem part1Sync_clean (sp sv : F) (js : JState) (hr : js.recalc = false)
    (hn : js.nAllocated = js.pInt.length) :
    part1Sync sp sv (toDouble sp sv js.pInt) js = some js := by
  unfold part1Sync
  simp [hr, hn, toDouble]

/-- an undisturbed run of the full step (flag, `N_allocated`, doubles) is the run of `step` on the
    grid state; the flag stays clear -/
theorem stepsFull_eq (cfg : Cfg F) (s : Scheme F) (dt : F) (n : Nat) :
    ∀ (js : JState), js.recalc = false → js.nAllocated = js.pInt.length →
      stepsFull cfg s dt n js = (steps cfg s dt n js.pInt).map (fun st => { js with pInt := st }) := by
  induction n with
  | zero => intro js _ _; rfl
  | succ n ih =>
    intro js hr hn
    unfold stepsFull stepFull
    rw [part1Sync_clean cfg.scalePos cfg.scaleVel js hr hn]
    simp only [steps]
    cases h1 : step cfg s dt js.pInt with
    | none => rfl
    | some st1 =>
      simp only []
      have hl := step_length cfg s dt js.pInt st1 h1
      rw [ih { js with pInt := st1 } hr (by simp only []; rw [hl]; exact hn)]

theorem steps_length (cfg : Cfg F) (s : Scheme F) (dt : F) (n : Nat) :
    ∀ (st st' : List PInt), steps cfg s dt n st = some st' → st'.length = st.length := by
  induction n with
  | zero => intro st st' h; simp only [steps] at h; injection h with h; rw [h]
  | succ n ih =>
    intro st st' h
    rw [steps] at h
    cases h1 : step cfg s dt st with
    | none => rw [h1] at h; exact absurd h (by simp)
    | some st1 =>
      rw [h1] at h
      dsimp only at h
      rw [ih st1 st' h, step_length cfg s dt st st1 h1]

/-! ### velocity-dependent forces: the model with `accV` restricts to the position-only model -/

theorem positions_of_toDouble (sp sv : F) (s : List PInt) :
    (toDouble sp sv s).map (fun d => (⟨d.x, d.y, d.z⟩ : V3 F)) = positions sp s := by
  simp only [toDouble, positions, List.map_map]
  rfl

theorem runV_eq_run (cfg : Cfg F) (accV : List (PDbl F) → List (V3 F))
    (h : ∀ d, accV d = cfg.acc (d.map (fun q => (⟨q.x, q.y, q.z⟩ : V3 F)))) (l : List (Op F)) :
    ∀ st, runV cfg accV l st = run cfg l st := by
  induction l with
  | nil => intro st; rfl
  | cons op r ih =>
    intro st
    have e : op.applyV cfg accV st = op.apply cfg st := by
      cases op with
      | drift c => rfl
      | kick b =>
        show kickL b cfg.scaleVel st (accV _) = kickL b cfg.scaleVel st (cfg.acc _)
        rw [h, positions_of_toDouble]
    simp only [runV, run, e]
    cases op.apply cfg st with
    | none => rfl
    | some s' => exact ih s'

theorem stepsV_eq_steps (cfg : Cfg F) (accV : List (PDbl F) → List (V3 F))
    (h : ∀ d, accV d = cfg.acc (d.map (fun q => (⟨q.x, q.y, q.z⟩ : V3 F)))) (s : Scheme F) (dt : F) (n : Nat) :
    ∀ st, stepsV cfg accV s dt n st = steps cfg s dt n st := by
  have hs : ∀ st, stepV cfg accV s dt st = step cfg s dt st := by
    intro st
    unfold stepV step
    cases stepOps s dt with
    | none => rfl
    | some ops => exact runV_eq_run cfg accV h ops st
  induction n with
  | zero => intro st; rfl
  | succ n ih =>
    intro st
    simp only [stepsV, steps, hs]
    cases step cfg s dt st with
    | none => rfl
    | some st1 => exact ih st1

/-! ### palindromes from the index function alone -/

/-- the scheme a table denotes, its constants read through an arbitrary `f` -/
def schemeOf {F α : Type} (f : α → F) (order stages : Nat) (gamma : List α) : Scheme F :=
  ⟨order, stages, gamma.map f⟩


/-- the finite fact decided per table: `gg` stays inside `gamma[len]` and its index is mirror
    symmetric on the stages -/
def IndexPalin (stages len : Nat) : Prop :=
  1 ≤ stages ∧ ∀ i, i < stages →
    ggIndex stages i < len ∧ ggIndex stages (stages - 1 - i) = ggIndex stages i

instance (stages len : Nat) : Decidable (IndexPalin stages len) := by
  unfold IndexPalin; exact inferInstance

theorem palin_of_index (s : Scheme F) (h : IndexPalin s.stages s.gamma.length) : Palin s where
  stages_pos := h.1
  defined := by
    intro i hi
    have hb := (h.2 i hi).1
    exact ⟨s.gamma[ggIndex s.stages i], by simp [gg, hb]⟩
  mirror := by
    intro i hi
    simp only [gg, (h.2 i hi).2]

/-! ### a concrete instance of the laws: three-decimal fixed point numbers as "doubles",
    every operation rounding toward zero -/

@[instance_reducible] def intJFloat : JFloat Int where
  add := (· + ·)
  mul a b := (a * b).tdiv 1000
  div a b := (a * 1000).tdiv b
  neg := (- ·)
  two := 2000
  ofInt i := i.toInt * 1000
  truncToInt a := if (a.tdiv 1000).natAbs < 2 ^ 63 then some (BitVec.ofInt 64 (a.tdiv 1000)) else none

theorem intLaws : @JLaws Int intJFloat :=
  @JLaws.mk Int intJFloat
    (fun a b => by
      show ((-a) * b).tdiv 1000 = -((a * b).tdiv 1000)
      rw [Int.neg_mul, Int.neg_tdiv])
    (fun a b => by
      show (a * (-b)).tdiv 1000 = -((a * b).tdiv 1000)
      rw [Int.mul_neg, Int.neg_tdiv])
    (fun a b => by
      show ((-a) * 1000).tdiv b = -((a * 1000).tdiv b)
      rw [Int.neg_mul, Int.neg_tdiv])
    (fun a b => Int.add_comm a b)
    (fun a => by
      show (if ((-a).tdiv 1000).natAbs < 2 ^ 63 then some (BitVec.ofInt 64 ((-a).tdiv 1000)) else none) =
        (if (a.tdiv 1000).natAbs < 2 ^ 63 then some (BitVec.ofInt 64 (a.tdiv 1000)) else none).map
          (fun t => -t)
      rw [Int.neg_tdiv, Int.natAbs_neg]
      split
      · simp [BitVec.ofInt_neg]
      · rfl)

end RV.Janus
