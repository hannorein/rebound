import RV.Proofs.GravityEnc
/-
  TRACE (gravity.c:755-990): the interaction mode is the MERCURIUS mode-0 nest with
  `if (current_Ks[j*N+i]) continue;`; the Kepler mode is the encounter routine with
  `if (!current_Ks[mj*N+mi]) continue;`.  A skipped pair is a pair of weight 0.
-/
set_option linter.unusedSimpArgs false
namespace RV.Gravity
open RV
variable {K : Type} [Field K]

/-- the loops only ever evaluate the weight on ordered pairs `(i,j)` with `j < i` -/
theorem boxC_congr (pref pref' : K → Nat → Nat → K) (h : ∀ s i j, j < i → pref s i j = pref' s i j)
    (cfg : Cfg K) (N : Nat) (m : Nat → K) (x : Nat → V3 K) (gb : V3 K) (k : Nat) :
    boxC pref cfg N m x gb k = boxC pref' cfg N m x gb k := by
  unfold boxC
  congr 1
  · apply Finset.sum_congr rfl; intro i hi
    apply Finset.sum_congr rfl; intro j hj
    have := Finset.mem_Ico.mp hj
    simp only [pairC, roleI, roleJ, h _ i j (by omega)]
  · apply Finset.sum_congr rfl; intro i hi
    apply Finset.sum_congr rfl; intro j hj
    have := Finset.mem_Ico.mp hi
    have := Finset.mem_Ico.mp hj
    simp only [pairC, roleI, roleJ, h _ i j (by omega)]

/-- weight of the interaction mode: the pair `(i,j)`, `j<i`, is skipped when `current_Ks[j*N+i]` -/
def prefMask (pref : K → Nat → Nat → K) (ks : Nat → Nat → Bool) (s : K) (i j : Nat) : K :=
  if ks j i = true then 0 else pref s i j

/-- the same weights as symmetric functions of the unordered pair (mask read at (min,max)) -/
def prefMaskS (pref : K → Nat → Nat → K) (ks : Nat → Nat → Bool) (s : K) (i j : Nat) : K :=
  if ks (min i j) (max i j) = true then 0 else pref s i j
def prefKeepS (pref : K → Nat → Nat → K) (ks : Nat → Nat → Bool) (s : K) (i j : Nat) : K :=
  if ks (min i j) (max i j) = true then pref s i j else 0

theorem accTrace0_get (pref : K → Nat → Nat → K) (ks : Nat → Nat → Bool) (cfg : Cfg K) {N : Nat}
    (m : Nat → K) (x : Nat → V3 K) (hNa : cfg.nActive ≤ N) {k : Nat} (hk : k < N) :
    (accTrace0 pref ks cfg (mkPs N m x))[k]?
      = some (boxC (prefMask pref ks) ⟨cfg.nActive, cfg.tpType, 2, cfg.soft⟩ N m x 0 k) := by
  have hstep : ∀ (both : Bool) (i j : Nat), i < N → j < N →
      Additive (fun acc => if ks j i = true then acc
        else pairStep pref (cfg.soft * cfg.soft) (mkPs N m x) V3.zero both acc i j)
        (pairC (prefMask pref ks) (cfg.soft * cfg.soft) m x 0 both i j) := by
    intro both i j hi hj
    by_cases hs : ks j i = true
    · simp only [hs, if_true]
      refine additive_congr additive_id ?_
      intro k; simp [pairC, roleI, roleJ, prefMask, hs]
    · simp only [hs, if_false]
      refine additive_congr (additive_pairStep pref (cfg.soft * cfg.soft) m x 0 both hi hj) ?_
      intro k; simp [pairC, roleI, roleJ, prefMask, hs]
  have h : Additive (fun acc =>
      forRange (max cfg.nActive 2) N
        (forRange 2 cfg.nActive acc fun acc i =>
          forRange 1 i acc fun acc j =>
            if ks j i = true then acc else pairStep pref (cfg.soft * cfg.soft) (mkPs N m x) V3.zero true acc i j)
        fun acc i =>
          forRange 1 cfg.nActive acc fun acc j =>
            if ks j i = true then acc else pairStep pref (cfg.soft * cfg.soft) (mkPs N m x) V3.zero cfg.tpType acc i j)
      (boxC (prefMask pref ks) ⟨cfg.nActive, cfg.tpType, 2, cfg.soft⟩ N m x 0) := by
    unfold boxC
    simp only [startI_2, startJ_2]
    refine additive_comp
      (f := fun acc => forRange 2 cfg.nActive acc fun acc i =>
        forRange 1 i acc fun acc j =>
          if ks j i = true then acc else pairStep pref (cfg.soft * cfg.soft) (mkPs N m x) V3.zero true acc i j)
      (g := fun acc => forRange (max cfg.nActive 2) N acc fun acc i =>
        forRange 1 cfg.nActive acc fun acc j =>
          if ks j i = true then acc else pairStep pref (cfg.soft * cfg.soft) (mkPs N m x) V3.zero cfg.tpType acc i j) ?_ ?_
    · apply additive_forRange; intro i hi1 hi2
      apply additive_forRange; intro j hj1 hj2
      exact hstep true i j (by omega) (by omega)
    · apply additive_forRange; intro i hi1 hi2
      apply additive_forRange; intro j hj1 hj2
      exact hstep cfg.tpType i j (by omega) (by omega)
  have := additive_from_zero h N k hk
  simp only [accTrace0, mkPs_size, sc_hmul]
  exact this

theorem prefMask_agree (pref : K → Nat → Nat → K) (ks : Nat → Nat → Bool) :
    ∀ s i j, j < i → prefMask pref ks s i j = prefMaskS pref ks s i j := by
  intro s i j h
  simp [prefMask, prefMaskS, Nat.min_eq_right (Nat.le_of_lt h), Nat.max_eq_left (Nat.le_of_lt h)]

theorem prefMaskS_symm (pref : K → Nat → Nat → K) (hsym : ∀ s i j, pref s i j = pref s j i)
    (ks : Nat → Nat → Bool) : ∀ s i j, prefMaskS pref ks s i j = prefMaskS pref ks s j i := by
  intro s i j
  simp [prefMaskS, Nat.min_comm i j, Nat.max_comm i j, hsym s i j]

theorem prefKeepS_symm (pref : K → Nat → Nat → K) (hsym : ∀ s i j, pref s i j = pref s j i)
    (ks : Nat → Nat → Bool) : ∀ s i j, prefKeepS pref ks s i j = prefKeepS pref ks s j i := by
  intro s i j
  simp [prefKeepS, Nat.min_comm i j, Nat.max_comm i j, hsym s i j]

/-- Kepler-mode weight on the identity map agrees with the symmetric "kept pairs" weight -/
theorem prefEnc_keep_agree (pref : K → Nat → Nat → K) (ks : Nat → Nat → Bool) :
    ∀ s i j, j < i → prefEnc pref (fun mi mj => !(ks mj mi)) id s i j = prefKeepS pref ks s i j := by
  intro s i j h
  simp only [prefEnc, prefKeepS, id, Nat.min_eq_right (Nat.le_of_lt h), Nat.max_eq_left (Nat.le_of_lt h)]
  cases ks j i <;> simp

end RV.Gravity
