/-
  Restart after a crash: appending to a damaged archive.  Under NoFakeTrailer (the writer's recovery logic
  finds the end of the last intact blob) the restarted append writes exactly what the append to the intact
  archive writes, at the same place; what is left behind it is a stale tail no reader reaches.
-/
import RV.Proofs.BinWriter
import RV.Proofs.BinSnap
namespace RV.Bin

/-- NoFakeTrailer as a proposition -/
def Recovers (img : Bytes) (lastIntact : Nat) : Prop := noFakeTrailer img lastIntact = true

theorem recovers_iff (img : Bytes) (L : Nat) :
    Recovers img L ↔ ∃ so fld c, recoverOf img = some (so, L, fld, c) ∧ (fld.drop 4).take 4 = [0, 0, 0, 0] := by
  unfold Recovers noFakeTrailer
  cases h : recoverOf img with
  | none => simp
  | some q =>
    obtain ⟨so, last, fld, c⟩ := q
    simp only [Bool.and_eq_true, beq_iff_eq, Option.some.injEq, Prod.mk.injEq]
    constructor
    · rintro ⟨rfl, hp⟩; exact ⟨so, fld, c, ⟨rfl, rfl, rfl, rfl⟩, hp⟩
    · rintro ⟨so', fld', c', ⟨_, rfl, rfl, _⟩, hp⟩; exact ⟨rfl, hp⟩

theorem archPre_form (hdr : Bytes) (fs0 : List Field) (ds : List (List Field)) :
    ∃ Z, archPre hdr fs0 ds = hdr ++ (encFs fs0 ++ (endBytes ++ Z)) := ⟨chainPre 0 0 ds, rfl⟩

/-- **restart theorem (one restart)**: on a damaged archive whose recovery ends at the last intact trailer
    (NoFakeTrailer), the restarted append writes, at the position of that trailer, exactly the bytes it would
    write on the intact archive.  Hence `∃ tail, append damaged s' = append intact s' ++ tail`: the restarted
    archive is the uninterrupted one followed by a stale tail (what the interrupted write left beyond the
    new end) -/
theorem append_damaged (v : Variant) (cmp : Nat → Bytes → Bytes → Bool) (hdr : Bytes) (fs0 : List Field)
    (ds : List (List Field)) (h : ArchOK hdr fs0 ds) (X : Bytes)
    (hX : X.take 8 = le32 ds.length ++ le32 (lastPrev 0 ds))
    (hrec : Recovers (Damaged hdr fs0 ds X) ((archPre hdr fs0 ds).length + 12))
    (h2 t2 : Bytes) (b : List Field) (hh2 : h2.length = 64) (hb : WFs b)
    (hL : blobLen (diffF v cmp fs0 b) < 2147483648) (hn : ds.length + 1 < 4294967296) :
    append v cmp (Damaged hdr fs0 ds X) (h2 ++ (encFs b ++ (endBytes ++ t2)))
      = some (archI hdr fs0 (ds ++ [diffF v cmp fs0 b]) ++ X.drop (pendingData ds (diffF v cmp fs0 b)).length) := by
  obtain ⟨so, fld, c, hro, hpad⟩ := (recovers_iff _ _).mp hrec
  unfold append
  rw [appendPlan_of_recover v cmp hdr fs0 ds h X hX so fld c hro hpad h2 t2 b hh2 hb hL hn]
  simp only [Damaged, overwrite_append, archI_concat, Option.some.injEq]
  simp [pendingData, finIntact, List.append_assoc]

theorem snapshot_tail (init : State) (hdr : Bytes) (fs0 : List Field) (ds : List (List Field))
    (h : ArchOK hdr fs0 ds) (tail : Bytes) (k : Nat) (hk : k < ds.length + 1) :
    snapshot init (archI hdr fs0 ds ++ tail) ((archEntries fs0 ds).map (·.off)) k
      = snapshot init (archI hdr fs0 ds) ((archEntries fs0 ds).map (·.off)) k := by
  rw [archI_tail, archI]
  cases k with
  | zero => rw [snapshot0_archG _ init hdr fs0 ds h, snapshot0_archG _ init hdr fs0 ds h]
  | succ j =>
    have hget : ds[j]? = some ds[j] := List.getElem?_eq_getElem (by omega)
    rw [snapshot_archG _ init hdr fs0 ds h j _ hget, snapshot_archG _ init hdr fs0 ds h j _ hget]

/-- **one crash / restart cycle**.  `F = archI hdr fs0 ds ++ tail0` (a well-formed archive, possibly followed by
    the stale tail of an earlier cycle), the append of `dn` to it (which writes `pendingData ds dn` at the last
    trailer) dies after `k` bytes (any `k`, also 0 and also the complete write `k = |data|` of a snapshot that
    is then taken again), the process restarts and appends `b`.  Under NoFakeTrailer for the image, the
    restarted archive is the archive of the uninterrupted run followed by a stale tail. -/
theorem crash_restart (v : Variant) (cmp : Nat → Bytes → Bytes → Bool) (hdr : Bytes) (fs0 : List Field)
    (ds : List (List Field)) (h : ArchOK hdr fs0 ds) (tail0 : Bytes) (dn : List Field) (k : Nat)
    (hrec : Recovers (crash (archI hdr fs0 ds ++ tail0) (archPre hdr fs0 ds).length (pendingData ds dn) k)
              ((archPre hdr fs0 ds).length + 12))
    (h2 t2 : Bytes) (b : List Field) (hh2 : h2.length = 64) (hb : WFs b)
    (hL : blobLen (diffF v cmp fs0 b) < 2147483648) (hn : ds.length + 1 < 4294967296) :
    ∃ tail, append v cmp (crash (archI hdr fs0 ds ++ tail0) (archPre hdr fs0 ds).length (pendingData ds dn) k)
              (h2 ++ (encFs b ++ (endBytes ++ t2)))
      = some (archI hdr fs0 (ds ++ [diffF v cmp fs0 b]) ++ tail) := by
  -- the image is `archPre ++ X`
  have hF : archI hdr fs0 ds ++ tail0 = archPre hdr fs0 ds ++ (finIntact ds.length (lastPrev 0 ds) ++ tail0) := by
    rw [archI, archG_split]; simp [List.append_assoc]
  have himg : crash (archI hdr fs0 ds ++ tail0) (archPre hdr fs0 ds).length (pendingData ds dn) k
      = Damaged hdr fs0 ds ((pendingData ds dn).take k ++
          (finIntact ds.length (lastPrev 0 ds) ++ tail0).drop ((pendingData ds dn).take k).length) := by
    rw [hF, crash, overwrite_append]; rfl
  rw [himg] at hrec ⊢
  have hA : (pendingData ds dn).take 8 = le32 ds.length ++ le32 (lastPrev 0 ds) := rfl
  have hB : (finIntact ds.length (lastPrev 0 ds) ++ tail0).take 8 = le32 ds.length ++ le32 (lastPrev 0 ds) := rfl
  have hlenK : ((pendingData ds dn).take k).length = min k (pendingData ds dn).length := by simp
  have hX8 : ((pendingData ds dn).take k ++
      (finIntact ds.length (lastPrev 0 ds) ++ tail0).drop ((pendingData ds dn).take k).length).take 8
      = le32 ds.length ++ le32 (lastPrev 0 ds) := by
    rw [hlenK]
    have : (pendingData ds dn).take k = (pendingData ds dn).take (min k (pendingData ds dn).length) := by
      rw [List.take_eq_take_iff]; simp
    rw [this]
    exact mix_take8 _ _ _ rfl hA hB _
  exact ⟨_, append_damaged v cmp hdr fs0 ds h _ hX8 hrec h2 t2 b hh2 hb hL hn⟩

theorem restarted_index (v : Variant) (hdr : Bytes) (fs0 : List Field) (ds : List (List Field)) (d : List Field)
    (h : ArchOK hdr fs0 (ds ++ [d])) (tail : Bytes) :
    index v (archI hdr fs0 (ds ++ [d]) ++ tail) = index v (archI hdr fs0 (ds ++ [d])) :=
  index_tail v hdr fs0 _ h tail

/-- one crash/restart cycle of a run: the append of the delta `crashed` dies after `k` bytes, the restarted
    process appends the serialisation `s` -/
structure Cycle where
  crashed : List Field
  k : Nat
  s : Bytes × List Field × Bytes

/-- the file after a sequence of cycles (`ds` = deltas of the snapshots completed so far) -/
def runCycles (v : Variant) (cmp : Nat → Bytes → Bytes → Bool) (hdr : Bytes) (fs0 : List Field) :
    List (List Field) → Bytes → List Cycle → Option Bytes
  | _, F, [] => some F
  | ds, F, c :: r =>
    match append v cmp (crash F (archPre hdr fs0 ds).length (pendingData ds c.crashed) c.k) (streamOf c.s) with
    | none => none
    | some F' => runCycles v cmp hdr fs0 (ds ++ [diffF v cmp fs0 c.s.2.1]) F' r

/-- the hypotheses along a run: NoFakeTrailer for every crash image, well-formed serialisations -/
def CyclesOK (v : Variant) (cmp : Nat → Bytes → Bytes → Bool) (hdr : Bytes) (fs0 : List Field) :
    List (List Field) → Bytes → List Cycle → Prop
  | _, _, [] => True
  | ds, F, c :: r =>
    Recovers (crash F (archPre hdr fs0 ds).length (pendingData ds c.crashed) c.k) ((archPre hdr fs0 ds).length + 12) ∧
    c.s.1.length = 64 ∧ WFs c.s.2.1 ∧ BlobOK (diffF v cmp fs0 c.s.2.1) ∧
    blobLen (diffF v cmp fs0 c.s.2.1) < 2147483648 ∧ ds.length + 1 < 4294967296 ∧
    ∀ F', append v cmp (crash F (archPre hdr fs0 ds).length (pendingData ds c.crashed) c.k) (streamOf c.s) = some F' →
      CyclesOK v cmp hdr fs0 (ds ++ [diffF v cmp fs0 c.s.2.1]) F' r

end RV.Bin
