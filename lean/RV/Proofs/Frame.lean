import RV.Proofs.Field
import RV.Model.Frame
import Mathlib.Algebra.Order.Field.Basic
import Mathlib.Algebra.BigOperators.Group.List.Basic
import Mathlib.Tactic.Linarith
import Mathlib.Tactic.Positivity
import Mathlib.Tactic.NormNum
/-
  About RV/Model/Frame.lean.  (1) `reb_simulation_com` in closed form (`com_fold`, `com_closed`) and how the mass
  sums behave under a shift.  (2) The truncated polynomial algebras `Dual` = K[ε]/(ε²) and `D2` = K[εa,εb]/(εa²,εb²):
  the variational shifts of `move_to_com` are the ε- and εa·εb-coefficients of the centre of mass over them
  (`shift1_eq_dual`, `shift2_eq_d2`).  (3) `ScalarO` instances on `Dual`, `D2`, so that `moveToHel` itself runs on them.
-/
set_option linter.unusedSectionVars false
namespace RV.Frame
open RV

section
variable {K : Type} [Field K] [LinearOrder K]

/-- exact-arithmetic instance of the ordered operation class: the order of the field -/
instance exactO : ScalarO K where
  toScalar := fieldScalar
  lt a b := decide (a < b)
  le a b := decide (a ≤ b)

@[simp] theorem o_lt (a b : K) : ScalarO.lt a b = decide (a < b) := rfl
@[simp] theorem o_le (a b : K) : ScalarO.le a b = decide (a ≤ b) := rfl

def msum (l : List (K × K)) : K := (l.map (fun p => p.1)).sum
def mxsum (l : List (K × K)) : K := (l.map (fun p => p.1 * p.2)).sum

@[simp] theorem msum_nil : msum ([] : List (K × K)) = 0 := rfl
@[simp] theorem mxsum_nil : mxsum ([] : List (K × K)) = 0 := rfl
@[simp] theorem msum_cons (p : K × K) (l : List (K × K)) : msum (p :: l) = p.1 + msum l := by
  simp [msum]
@[simp] theorem mxsum_cons (p : K × K) (l : List (K × K)) : mxsum (p :: l) = p.1 * p.2 + mxsum l := by
  simp [mxsum]
end

section
variable {K : Type} [Field K] [LinearOrder K] [IsStrictOrderedRing K]

theorem msum_nonneg (l : List (K × K)) (h : ∀ p ∈ l, 0 ≤ p.1) : 0 ≤ msum l := by
  induction l with
  | nil => simp
  | cons a r ih =>
    rw [msum_cons]
    have := h a (by simp)
    have := ih (fun p hp => h p (by simp [hp]))
    linarith

/-- the running-mean recurrence of `reb_particle_com_of_pair`, from any consistent state -/
theorem com_fold (M X : K) (ps : List (K × K)) (hM : 0 ≤ M) (h0 : M = 0 → X = 0)
    (hm : ∀ p ∈ ps, 0 ≤ p.1) :
    ps.foldl comPair (M, X) =
      (M + msum ps, if 0 < M + msum ps then (X * M + mxsum ps) / (M + msum ps) else 0) := by
  induction ps generalizing M X with
  | nil =>
    simp only [List.foldl_nil, msum_nil, mxsum_nil, add_zero]
    rcases lt_or_eq_of_le hM with hpos | hz
    · rw [if_pos hpos]; congr 1; field_simp
    · rw [if_neg (by rw [← hz]; exact lt_irrefl _), h0 hz.symm]
  | cons a r ih =>
    obtain ⟨m, x⟩ := a
    have hm0 : 0 ≤ m := hm (m, x) (by simp)
    have hr : ∀ p ∈ r, 0 ≤ p.1 := fun p hp => hm p (by simp [hp])
    rw [List.foldl_cons]
    by_cases hpos : 0 < M + m
    · have e : comPair (M, X) (m, x) = (M + m, (X * M + x * m) / (M + m)) := by
        simp only [comPair, o_lt, sc_zero, sc_hadd, sc_hmul, sc_hdiv]
        rw [if_pos (by simpa using hpos)]
      rw [e, ih (M + m) _ (le_of_lt hpos) (fun h => absurd h (ne_of_gt hpos)) hr]
      have hne : M + m ≠ 0 := ne_of_gt hpos
      simp only [msum_cons, mxsum_cons]
      have e1 : M + m + msum r = M + (m + msum r) := by ring
      have e2 : (X * M + x * m) / (M + m) * (M + m) + mxsum r = X * M + (m * x + mxsum r) := by
        field_simp; ring
      rw [e1, e2]
    · have hz : M + m = 0 := le_antisymm (not_lt.mp hpos) (by linarith)
      have hMz : M = 0 := by linarith
      have hmz : m = 0 := by linarith
      have e : comPair (M, X) (m, x) = (0, 0) := by
        simp only [comPair, o_lt, sc_zero, sc_hadd, sc_hmul, sc_hdiv]
        rw [if_neg (by simpa using hpos), hMz, hmz]; simp
      rw [e, ih 0 0 (le_refl _) (fun _ => rfl) hr]
      simp only [msum_cons, mxsum_cons, hMz, hmz]
      simp

/-- `reb_simulation_com` in closed form (all masses non-negative) -/
theorem com_closed (ps : List (K × K)) (hm : ∀ p ∈ ps, 0 ≤ p.1) :
    com ps = (msum ps, if 0 < msum ps then mxsum ps / msum ps else 0) := by
  have := com_fold (0 : K) 0 ps (le_refl _) (fun _ => rfl) hm
  simp only [zero_add, mul_zero] at this
  simpa only [com, sc_zero] using this

theorem mxsum_shift (l : List (K × K)) (c : K) :
    mxsum (l.map (fun p => (p.1, p.2 - c))) = mxsum l - c * msum l := by
  induction l with
  | nil => simp
  | cons p r ih => simp only [List.map_cons, mxsum_cons, msum_cons, ih]; ring

theorem msum_map_snd (l : List (K × K)) (f : K × K → K) :
    msum (l.map (fun p => (p.1, f p))) = msum l := by
  induction l with
  | nil => simp
  | cons p r ih => simp only [List.map_cons, msum_cons, ih]

end

section
variable {K : Type} [Field K] [LinearOrder K]

theorem moveToHel_cons (m0 x0 : K) (r : List (K × K)) :
    moveToHel ((m0, x0) :: r) = (m0, 0) :: r.map (fun p => (p.1, p.2 - x0)) := by
  simp [moveToHel]

theorem zipWith_cancel (f g : K → K → K) (hfg : ∀ x y, g (f x y) y = x) (xs ys : List K)
    (h : xs.length = ys.length) : List.zipWith g (List.zipWith f xs ys) ys = xs := by
  induction xs generalizing ys with
  | nil => simp
  | cons a r ih =>
    cases ys with
    | nil => simp at h
    | cons b t =>
      simp only [List.zipWith_cons_cons, List.length_cons, add_left_inj] at h ⊢
      rw [ih t h, hfg]

end

section
variable {K : Type} [Field K]

theorem foldl_eq_sum {α : Type} (step : K → α → K) (g : α → K) (h : ∀ s r, step s r = s + g r)
    (l : List α) (s0 : K) : l.foldl step s0 = s0 + (l.map g).sum := by
  induction l generalizing s0 with
  | nil => simp
  | cons a r ih => rw [List.foldl_cons, ih, h]; simp [add_assoc]

theorem sumBy_eq {α : Type} [LinearOrder K] (f : α → K) (l : List α) : sumBy f l = (l.map f).sum := by
  unfold sumBy
  rw [foldl_eq_sum (fun a r => a + f r) f (fun s r => by simp) l]
  simp

/-- a component that is additive comes out of a sum written as a `foldr` -/
theorem foldr_proj {S : Type} (add : S → S → S) (zero : S) (π : S → K) (hadd : ∀ a b, π (add a b) = π a + π b)
    (hzero : π zero = 0) (l : List S) : π (l.foldr add zero) = (l.map π).sum := by
  induction l with
  | nil => simpa using hzero
  | cons a r ih => rw [List.foldr_cons, hadd, ih, List.map_cons, List.sum_cons]

/-! ### dual numbers `K[ε]/(ε²)`: the ε-coefficient of a rational expression evaluated on
    `x + ε dx` is its directional derivative -/
/-- `RV.Dual` (RV/Model/Dual.lean) is the same algebra over the operation class `Scalar`; this one is over a
    field, in the field's notation, and is what the statements of C20 about `comDual` are written with -/
structure Dual (K : Type) where
  re : K
  eps : K

namespace Dual
def add (a b : Dual K) : Dual K := ⟨a.re + b.re, a.eps + b.eps⟩
def sub (a b : Dual K) : Dual K := ⟨a.re - b.re, a.eps - b.eps⟩
def mul (a b : Dual K) : Dual K := ⟨a.re * b.re, a.re * b.eps + a.eps * b.re⟩
/-- quotient in `K[ε]/(ε²)` (for `b.re ≠ 0`) -/
def div (a b : Dual K) : Dual K := ⟨a.re / b.re, (a.eps * b.re - a.re * b.eps) / (b.re * b.re)⟩
def zero : Dual K := ⟨0, 0⟩
def sum (l : List (Dual K)) : Dual K := l.foldr add zero

theorem div_mul_cancel (a b : Dual K) (h : b.re ≠ 0) : mul (div a b) b = a := by
  cases a; cases b
  simp only [mul, div] at h ⊢
  congr 1 <;> field_simp
  ring

theorem sum_re (l : List (Dual K)) : (sum l).re = (l.map (·.re)).sum :=
  foldr_proj add zero (·.re) (fun _ _ => rfl) rfl l

theorem sum_eps (l : List (Dual K)) : (sum l).eps = (l.map (·.eps)).sum :=
  foldr_proj add zero (·.eps) (fun _ _ => rfl) rfl l
end Dual

/-- centre of mass `Σ m̃ x̃ / Σ m̃` of the system `(m + ε dm, x + ε dx)` over the dual numbers -/
def comDual (rows : List (Row1 K)) : Dual K :=
  Dual.div (Dual.sum (rows.map (fun r => Dual.mul ⟨r.m, r.dm⟩ ⟨r.x, r.dx⟩)))
           (Dual.sum (rows.map (fun r => (⟨r.m, r.dm⟩ : Dual K))))

def rowsMass (rows : List (Row1 K)) : K := (rows.map (·.m)).sum

theorem sum_mul_left {α : Type} (l : List α) (f : α → K) (c : K) :
    (l.map (fun r => c * f r)).sum = c * (l.map f).sum := by
  induction l with
  | nil => simp
  | cons a r ih => simp only [List.map_cons, List.sum_cons, ih]; ring

theorem sum_add2 {α : Type} (l : List α) (f1 f2 : α → K) :
    (l.map (fun r => f1 r + f2 r)).sum = (l.map f1).sum + (l.map f2).sum := by
  induction l with
  | nil => simp
  | cons a r ih => simp only [List.map_cons, List.sum_cons, ih]; ring

end

section
variable {K : Type} [Field K] [LinearOrder K]

/-- the first-order `com_shift` of `reb_simulation_move_to_com` is the ε-coefficient of the
    centre of mass over the dual numbers, i.e. the derivative of the centre of mass along
    the variation -/
theorem shift1_eq_dual (rows : List (Row1 K)) (hM : rowsMass rows ≠ 0) :
    shift1 (rowsMass rows) rows = (comDual rows).eps := by
  unfold shift1
  rw [sumBy_eq]
  set M := rowsMass rows with hMd
  set dm := (rows.map (fun r => r.dm)).sum with hdm
  rw [foldl_eq_sum (shift1Step M dm)
    (fun r => (1 / M) * (r.m * r.dx) + (1 / M) * (r.x * r.dm) + (-(dm / (M * M))) * (r.x * r.m))
    (fun s r => by simp only [shift1Step, sc_hadd, sc_hsub, sc_hmul, sc_hdiv]; field_simp; ring)]
  simp only [sum_add2, sum_mul_left]
  simp only [comDual, Dual.div, Dual.sum_re, Dual.sum_eps, List.map_map, Function.comp_def, Dual.mul,
    sc_zero, zero_add]
  rw [sum_add2]
  have e1 : (rows.map (fun r : Row1 K => r.m)).sum = M := rfl
  have e2 : (rows.map (fun r : Row1 K => r.dm)).sum = dm := rfl
  have e3 : (rows.map (fun r : Row1 K => r.m * r.x)).sum = (rows.map (fun r : Row1 K => r.x * r.m)).sum := by
    congr 1; apply List.map_congr_left; intro r _; ring
  have e4 : (rows.map (fun r : Row1 K => r.dm * r.x)).sum = (rows.map (fun r : Row1 K => r.x * r.dm)).sum := by
    congr 1; apply List.map_congr_left; intro r _; ring
  rw [e1, e2, e3, e4]
  field_simp
  ring

end

/-! ### second order: `K[εa, εb]/(εa², εb²)`; the εa·εb coefficient of a rational expression
    evaluated on `x + εa xa + εb xb + εa εb xab` is its mixed second derivative -/
section
variable {K : Type} [Field K]

structure D2 (K : Type) where
  c0 : K
  ca : K
  cb : K
  cab : K

namespace D2
def add (a b : D2 K) : D2 K := ⟨a.c0 + b.c0, a.ca + b.ca, a.cb + b.cb, a.cab + b.cab⟩
def mul (a b : D2 K) : D2 K :=
  ⟨a.c0 * b.c0, a.c0 * b.ca + a.ca * b.c0, a.c0 * b.cb + a.cb * b.c0,
   a.c0 * b.cab + a.ca * b.cb + a.cb * b.ca + a.cab * b.c0⟩
/-- inverse in the truncated polynomial algebra (for `b.c0 ≠ 0`) -/
def inv (b : D2 K) : D2 K :=
  ⟨1 / b.c0, -b.ca / (b.c0 * b.c0), -b.cb / (b.c0 * b.c0),
   2 * b.ca * b.cb / (b.c0 * b.c0 * b.c0) - b.cab / (b.c0 * b.c0)⟩
def div (a b : D2 K) : D2 K := mul a (inv b)
def zero : D2 K := ⟨0, 0, 0, 0⟩
def sum (l : List (D2 K)) : D2 K := l.foldr add zero

theorem div_mul_cancel (a b : D2 K) (h : b.c0 ≠ 0) : mul (div a b) b = a := by
  cases a; cases b
  simp only [mul, div, inv] at h ⊢
  congr 1 <;> field_simp <;> ring

theorem sum_c0 (l : List (D2 K)) : (sum l).c0 = (l.map (·.c0)).sum :=
  foldr_proj add zero (·.c0) (fun _ _ => rfl) rfl l
theorem sum_ca (l : List (D2 K)) : (sum l).ca = (l.map (·.ca)).sum :=
  foldr_proj add zero (·.ca) (fun _ _ => rfl) rfl l
theorem sum_cb (l : List (D2 K)) : (sum l).cb = (l.map (·.cb)).sum :=
  foldr_proj add zero (·.cb) (fun _ _ => rfl) rfl l
theorem sum_cab (l : List (D2 K)) : (sum l).cab = (l.map (·.cab)).sum :=
  foldr_proj add zero (·.cab) (fun _ _ => rfl) rfl l
end D2

/-- centre of mass `Σ m̃ x̃ / Σ m̃` with `m̃ = m + εa ma + εb mb + εa εb ddm` etc. -/
def comD2 (rows : List (Row2 K)) : D2 K :=
  D2.div (D2.sum (rows.map (fun r => D2.mul ⟨r.m, r.ma, r.mb, r.ddm⟩ ⟨r.x, r.xa, r.xb, r.ddx⟩)))
         (D2.sum (rows.map (fun r => (⟨r.m, r.ma, r.mb, r.ddm⟩ : D2 K))))

def rows2Mass (rows : List (Row2 K)) : K := (rows.map (·.m)).sum

end

section
variable {K : Type} [Field K] [LinearOrder K]

/-- the second-order `com_shift` of `reb_simulation_move_to_com` is the εa·εb coefficient of
    the centre of mass over `K[εa, εb]/(εa², εb²)`: the mixed second derivative of the centre
    of mass along the two variations -/
theorem shift2_eq_d2 (rows : List (Row2 K)) (hM : rows2Mass rows ≠ 0) :
    shift2 (rows2Mass rows) rows = (comD2 rows).cab := by
  unfold shift2
  rw [sumBy_eq, sumBy_eq, sumBy_eq]
  set M := rows2Mass rows with hMd
  set dma := (rows.map (fun r => r.ma)).sum with hdma
  set dmb := (rows.map (fun r => r.mb)).sum with hdmb
  set ddm := (rows.map (fun r => r.ddm)).sum with hddm
  rw [foldl_eq_sum (shift2Step M dma dmb ddm)
    (fun r => (1 / M) * (r.m * r.ddx) + (1 / M) * (r.mb * r.xa) + (-(dmb / (M * M))) * (r.m * r.xa)
      + (1 / M) * (r.ma * r.xb) + (1 / M) * (r.ddm * r.x) + (-(dmb / (M * M))) * (r.ma * r.x)
      + (-(dma / (M * M))) * (r.m * r.xb) + (-(dma / (M * M))) * (r.mb * r.x)
      + (2 * dma * dmb / (M * M * M)) * (r.m * r.x) + (-(ddm / (M * M))) * (r.m * r.x))
    (fun s r => by
      simp only [shift2Step, two', sc_hadd, sc_hsub, sc_hmul, sc_hdiv, sc_ofNat]
      field_simp
      push_cast
      ring)]
  simp only [sum_add2, sum_mul_left]
  simp only [comD2, D2.div, D2.mul, D2.inv, D2.sum_c0, D2.sum_ca, D2.sum_cb, D2.sum_cab, List.map_map,
    Function.comp_def, sc_zero, zero_add, sum_add2]
  have e1 : (rows.map (fun r : Row2 K => r.m)).sum = M := rfl
  have e2 : (rows.map (fun r : Row2 K => r.ma)).sum = dma := rfl
  have e3 : (rows.map (fun r : Row2 K => r.mb)).sum = dmb := rfl
  have e4 : (rows.map (fun r : Row2 K => r.ddm)).sum = ddm := rfl
  rw [e1, e2, e3, e4]
  field_simp
  ring

end

/-! ### the frame-shift model itself on dual numbers: the ε-parts of its outputs are the derivative
    of the map, i.e. what a consistent transformation of variational particles has to be -/
section
variable {K : Type} [Field K] [LinearOrder K]

/-- operations of `K[ε]/(ε²)`; comparisons look at the real part (an infinitesimal does not change
    the branch taken) -/
instance dualScalarO : ScalarO (Dual K) where
  zero := ⟨0, 0⟩
  one := ⟨1, 0⟩
  add := Dual.add
  sub := Dual.sub
  mul := Dual.mul
  div := Dual.div
  neg a := ⟨-a.re, -a.eps⟩
  ofNat n := ⟨(n : K), 0⟩
  lt a b := decide (a.re < b.re)
  le a b := decide (a.re ≤ b.re)

/-- real particles `(m, x)` with their first-order variation `(dm, dx)` as dual numbers -/
def dualOf (r : Row1 K) : Dual K × Dual K := (⟨r.m, r.dm⟩, ⟨r.x, r.dx⟩)

theorem moveToHel_dual (rows : List (Row1 K)) :
    (moveToHel (rows.map dualOf)).map (fun p => p.2.re) = (moveToHel (rows.map (fun r => (r.m, r.x)))).map (·.2) ∧
    (moveToHel (rows.map dualOf)).map (fun p => p.2.eps) = moveToHelVar true (rows.map (·.dx)) ∧
    (moveToHel (rows.map dualOf)).map (fun p => p.1) = rows.map (fun r => (⟨r.m, r.dm⟩ : Dual K)) := by
  cases rows with
  | nil => simp [moveToHel, moveToHelVar]
  | cons a r =>
    simp only [List.map_cons, moveToHel, moveToHelVar, dualOf, if_true, List.map_map, Function.comp_def]
    refine ⟨?_, ?_, ?_⟩
    · simp only [List.cons.injEq]
      refine ⟨rfl, ?_⟩
      apply List.map_congr_left; intro b _; rfl
    · simp only [List.cons.injEq]
      refine ⟨rfl, ?_⟩
      apply List.map_congr_left; intro b _; rfl
    · trivial

theorem moveToHelVar_asfound (vars : List K) : moveToHelVar false vars = vars := by
  cases vars <;> simp [moveToHelVar]

end

section
variable {K : Type} [Field K] [LinearOrder K]

instance d2ScalarO : ScalarO (D2 K) where
  zero := ⟨0, 0, 0, 0⟩
  one := ⟨1, 0, 0, 0⟩
  add := D2.add
  sub a b := ⟨a.c0 - b.c0, a.ca - b.ca, a.cb - b.cb, a.cab - b.cab⟩
  mul := D2.mul
  div := D2.div
  neg a := ⟨-a.c0, -a.ca, -a.cb, -a.cab⟩
  ofNat n := ⟨(n : K), 0, 0, 0⟩
  lt a b := decide (a.c0 < b.c0)
  le a b := decide (a.c0 ≤ b.c0)

def d2Of (r : Row2 K) : D2 K × D2 K := (⟨r.m, r.ma, r.mb, r.ddm⟩, ⟨r.x, r.xa, r.xb, r.ddx⟩)

/-- second order: the map `x_i − x_0` is linear, so the εa·εb parts are shifted the same way -/
theorem moveToHel_d2 (rows : List (Row2 K)) :
    (moveToHel (rows.map d2Of)).map (fun p => p.2.c0) = (moveToHel (rows.map (fun r => (r.m, r.x)))).map (·.2) ∧
    (moveToHel (rows.map d2Of)).map (fun p => p.2.cab) = moveToHelVar true (rows.map (·.ddx)) ∧
    (moveToHel (rows.map d2Of)).map (fun p => p.2.ca) = moveToHelVar true (rows.map (·.xa)) := by
  cases rows with
  | nil => simp [moveToHel, moveToHelVar]
  | cons a r =>
    simp only [List.map_cons, moveToHel, moveToHelVar, d2Of, if_true, List.map_map, Function.comp_def]
    refine ⟨?_, ?_, ?_⟩ <;>
    · simp only [List.cons.injEq]
      refine ⟨rfl, ?_⟩
      apply List.map_congr_left; intro b _; rfl

end
end RV.Frame
