import RV.Proofs.Integrate
/-
  C08, whole calls without exact finishing: the final state of one call (`integrate_nonexact`) and the
  call whose target is the present time (`integrate_noop`), from which the split clause of RV/Props/C08.lean
  is assembled; the NaN-target check in exact arithmetic; a sample ℚ state used by the evaluated examples.
-/
namespace RV.Integrate
open RV
variable {K : Type} [Field K] [LinearOrder K] [IsStrictOrderedRing K]

/-- one call without exact finishing, all members of the final state -/
theorem integrate_nonexact (step : StepFn K) (hfix : IsFixed step) (env : Nat → Flags)
    (henv : ∀ k, (env k).Clear) (s0 : Sim K) (tmax sg d : K) (n : Nat)
    (hst : s0.status ≠ -3 ∧ s0.status ≠ -4) (hex : s0.exactFinish ≠ 1)
    (hdt : s0.dt ≠ 0) (hne : tmax ≠ s0.t)
    (hsg : sg = dirOf s0.t tmax) (hd : d = sg * |s0.dt|)
    (hfirst : ∀ j : Nat, j < n → (s0.t + j * d) * sg < tmax * sg)
    (hpast : tmax * sg ≤ (s0.t + n * d) * sg) :
    ∀ fuel, n + 1 ≤ fuel → ∃ s', integrate step env fuel s0 tmax false = .done s' ∧
      s'.t = s0.t + n * d ∧ s'.status = 0 ∧ s'.stepsDone = s0.stepsDone + n ∧ s'.dt = d ∧
      s'.exactFinish = s0.exactFinish ∧ stepSeq s' = seqOf s0.t d n ++ stepSeq s0 := by
  intro fuel hfuel
  subst hsg hd
  have hsg := dirOf_cases s0.t tmax
  have hpos : 0 < |s0.dt| := abs_pos.mpr hdt
  have hdsg := dirOf_mul_mul s0.t tmax |s0.dt|
  have hs := start_ne s0 tmax (env 0) (henv 0) hst hne
  obtain ⟨s', h1, h2, h3, h4, h5, h6, h7, h8⟩ :=
    loop_nonexact step hfix env henv tmax (dirOf s0.t tmax * |s0.dt|) (dirOf s0.t tmax) hsg
      (by rw [hdsg]; exact hpos) n
      { s0 with dt := dirOf s0.t tmax * |s0.dt|, dtLastDone := 0, status := -1 } 0
      (dirOf s0.t tmax * |s0.dt|) rfl hex rfl hfirst hpast fuel hfuel
  have hex' : ¬ s'.exactFinish = 1 := by rw [h6]; exact hex
  refine ⟨finish s' (dirOf s0.t tmax * |s0.dt|), integrate_of_loop_done step env fuel s0 _ s' tmax _ _ false hs h1,
    ?_⟩
  rw [finish_eq]
  exact ⟨h2, h4, h5, (if_neg hex').trans h3, h6, h8⟩

theorem dirOf_of_pos {t a sg : K} (hsg : sg = 1 ∨ sg = -1) (h : 0 < (a - t) * sg) : dirOf t a = sg := by
  unfold dirOf
  rcases hsg with rfl | rfl
  · have : t < a := by linarith
    simp [this]
  · have : ¬ t < a := by push Not; linarith
    simp [this]

/-- `tmax = t`: nothing happens (any exact_finish_time) -/
theorem integrate_noop (step : StepFn K) (env : Nat → Flags) (h0 : (env 0).Clear)
    (s0 : Sim K) (hst : s0.status ≠ -3 ∧ s0.status ≠ -4) :
    ∀ fuel, 1 ≤ fuel → integrate step env fuel s0 s0.t false =
      .done { s0 with status := 0, dtLastDone := 0, syncs := s0.syncs + 1 } := by
  intro fuel hfuel
  obtain ⟨f, rfl⟩ : ∃ f, fuel = f + 1 := ⟨fuel - 1, by omega⟩
  have hs := start_eq s0 s0.t (env 0) h0 hst rfl
  have hc : ∀ x : K, 0 ≤ x * copysign 1 x := by
    intro x
    rw [copysign_def]
    have h1 : ¬ ((1 : K) < 0) := by norm_num
    by_cases hx : x < 0
    · simp [h1, hx]; linarith
    · simp [h1, hx]; exact not_lt.mp hx
  have hce : checkExit { s0 with dtLastDone := 0, status := -1 } s0.t false s0.dt (env 0) =
      .ret { s0 with dtLastDone := 0, status := 0 } s0.dt := by
    rw [checkExit_run _ s0.t s0.dt (env 0) (Or.inl rfl) h0.errMsg h0.n_ne]
    have h1 : s0.t * copysign 1 s0.dt ≤ (s0.t + s0.dt) * copysign 1 s0.dt := by
      have := hc s0.dt; linarith
    by_cases hex : s0.exactFinish = 1
    · simp [hex, h1]
    · simp [hex]
  have hl := loop_of_ret_done step env s0.t false f 0 _ _ s0.dt s0.dt hce (by norm_num)
  rw [integrate_of_loop_done step env (f + 1) s0 _ _ s0.t _ _ false hs hl]
  by_cases hex : s0.exactFinish = 1
  · simp [finish, hex]
  · simp [finish, hex]

/-- in exact arithmetic there is no NaN: the argument check never fires -/
theorem integrateN_eq (guard : Bool) (step : StepFn K) (env : Nat → Flags) (fuel : Nat) (s : Sim K) (tmax : K)
    (inf : Bool) : integrateN guard step env fuel s tmax inf = integrate step env fuel s tmax inf := by
  unfold integrateN; simp

/-- a concrete simulation on ℚ used by the kernel-evaluated instances in RV/Props/C08.lean:
    `t = 0`, `dt = 10`, RUNNING, exact_finish_time = 0, empty history -/
def demoSim : Sim ℚ :=
  { t := 0, dt := 10, dtLastDone := 0, status := stRUNNING, exactFinish := 0, stepsDone := 0,
    nOdes := 0, isBS := false, syncs := 0, hist := [] }

end RV.Integrate
