import RV.Model.OrbitArgs
/-
  C11 (i): both argument validators factor through their counters; the counters of a
  presence pattern are related generically (`count = 0 ↔ no member present`).  The two
  decision chains share their first tests (counters, `sim`, `a`, `P`); where these pass, the
  remaining tests (pericentre argument, longitudes) are compared by evaluating the 2⁹
  combinations of flags.
-/
set_option linter.constructorNameAsVariable false
namespace RV.OrbitArgs

theorem count_eq_zero (p : Presence) (l : List Arg) : (count p l = 0) ↔ l.any p.get = false := by
  induction l with
  | nil => simp [count]
  | cons a r ih =>
    cases h : p.get a <;> simp [count, h, ih]

theorem notNone_eq (p : Presence) (l : List Arg) : notNone p l = decide (count p l > 0) := by
  simp only [notNone]
  cases h : count p l <;> simp

theorem count_cons_pos (p : Presence) (a : Arg) (l : List Arg) :
    decide (count p (a :: l) > 0) = (p.get a || decide (count p l > 0)) := by
  cases h : p.get a <;> simp [count, h]
  omega

theorem core_agree : ∀ (zc zo zn zp sim primary a P omega pomega f M E l theta T : Bool),
    cCore zc zo zn zp (f.toNat + (M.toNat + (E.toNat + (l.toNat + (theta.toNat + (T.toNat + 0))))))
      ⟨sim, primary, a, P, omega, pomega, f, M, E, l, theta, T⟩ =
    pyCore zn zp zc zo (2 - (omega.toNat + (pomega.toNat + 0)))
      (6 - (f.toNat + (M.toNat + (E.toNat + (l.toNat + (theta.toNat + (T.toNat + 0)))))))
      ⟨sim, primary, a, P, omega, pomega, f, M, E, l, theta, T⟩ := by
  intro zc zo zn zp sim primary a P
  -- `primary` only ends up in the plan: kept universally quantified, so that what is left is a closed
  -- statement about 9 Booleans
  revert primary
  -- the tests on the counters, `sim`, `a` and `P` come first and are the same in both chains: where
  -- one of them decides, both sides reduce to the same answer; in the four cases where all of them pass,
  -- the tests on the remaining flags are compared by evaluating the 2⁹ combinations
  cases zc <;> cases zo <;> cases zn <;> cases zp <;> cases sim <;> cases a <;> cases P <;>
    first | (intros; rfl) | decide +kernel

theorem ite_ne {α : Type} {c : Prop} [Decidable c] {x y z : α} (hx : x ≠ z) (hy : y ≠ z) :
    ite c x y ≠ z := by
  split <;> assumption

/-- error 7 comes from the first test only -/
theorem cCore_ne_palMix (zc zo zp : Bool) (n : Nat) (fl : Flags) :
    cCore zc zo false zp n fl ≠ .error .palMix := by
  rw [cCore, Bool.false_and, if_neg Bool.false_ne_true]
  repeat' apply ite_ne
  all_goals exact fun h => nomatch h

/-- a classical plan comes from the last branch only: the two tests before it have failed -/
theorem cCore_classical {zc zo zn zp : Bool} {n : Nat} {fl : Flags} {u pg : Bool} {pe : Peri} {lo : Lon}
    (h : cCore zc zo zn zp n fl = .ok (.classical u pg pe lo)) :
    n ≤ 1 ∧ ¬ (fl.omega = true ∧ fl.pomega = true) := by
  refine ⟨Nat.not_lt.mp fun hn => ?_, fun ho => ?_⟩ <;> revert h <;> unfold cCore
  · rw [if_pos hn]
    repeat' apply ite_ne
    all_goals exact fun h => nomatch h
  · rw [if_pos (show (fl.omega && fl.pomega) = true by rw [ho.1, ho.2]; rfl)]
    repeat' apply ite_ne
    all_goals exact fun h => nomatch h

/-- with `primary` counted in the C `Nnonpal`, the chains differ exactly when a primary and
    a Pal element are present and no other non-Pal element is -/
theorem core_differ : ∀ (zc zo zn zp sim primary a P omega pomega f M E l theta T : Bool),
    (cCore zc zo (primary || zn) zp (f.toNat + (M.toNat + (E.toNat + (l.toNat + (theta.toNat + (T.toNat + 0))))))
      ⟨sim, primary, a, P, omega, pomega, f, M, E, l, theta, T⟩ ≠
    pyCore zn zp zc zo (2 - (omega.toNat + (pomega.toNat + 0)))
      (6 - (f.toNat + (M.toNat + (E.toNat + (l.toNat + (theta.toNat + (T.toNat + 0)))))))
      ⟨sim, primary, a, P, omega, pomega, f, M, E, l, theta, T⟩) ↔
    (primary = true ∧ zp = true ∧ zn = false) := by
  intro zc zo zn zp sim primary a P omega pomega f M E l theta T
  rw [← core_agree]
  -- the extra member is seen by the first test, `nonpalPos && palPos`, only
  cases primary <;> cases zn <;> cases zp <;> simp
  · rfl
  · exact fun h => cCore_ne_palMix _ _ _ _ _ (Eq.symm h)

theorem cValidate_eq (t : Tab) (p : Presence) :
    cValidate t p = cCore (decide (count p t.cart > 0)) (decide (count p t.orb > 0))
      (decide (count p t.nonpal > 0)) (decide (count p t.pal > 0)) (count p t.long) (flags p) := rfl

theorem pyValidate_eq (t : Tab) (p : Presence) :
    pyValidate t p = pyCore (decide (count p t.nonpal > 0)) (decide (count p t.pal > 0))
      (decide (count p t.cart > 0)) (decide (count p t.orb > 0))
      (countNone p [.omega, .pomega]) (countNone p t.long) (flags p) := by
  simp only [pyValidate, notNone_eq]

/-- the two front ends agree for whatever membership lists of the four sign counters, as long as both
    use the same lists and the longitudes are the documented six -/
theorem agree_of_long (t : Tab) (h : t.long = stdTab.long) (p : Presence) : cValidate t p = pyValidate t p := by
  rw [cValidate_eq, pyValidate_eq, h]
  exact core_agree _ _ _ _ p.sim p.primary p.a p.P p.omega p.pomega p.f p.M p.E p.l p.theta p.T

theorem agree_std (p : Presence) : cValidate stdTab p = pyValidate stdTab p := agree_of_long stdTab rfl p

theorem differ_iff_counts (p : Presence) :
    cValidate cTabPrimaryNonpal p ≠ pyValidate stdTab p ↔
      (p.primary = true ∧ decide (count p stdTab.pal > 0) = true ∧
        decide (count p stdTab.nonpal > 0) = false) := by
  rw [cValidate_eq, pyValidate_eq]
  have h : decide (count p cTabPrimaryNonpal.nonpal > 0) =
      (p.primary || decide (count p stdTab.nonpal > 0)) := count_cons_pos p .primary _
  rw [h]
  exact core_differ _ _ _ _ p.sim p.primary p.a p.P p.omega p.pomega p.f p.M p.E p.l p.theta p.T

def palAny (p : Presence) : Bool := p.h || p.k || p.ix || p.iy
/-- any of the elements error 7 names -/
def nonpalAny (p : Presence) : Bool :=
  p.e || p.inc || p.Omega || p.omega || p.pomega || p.f || p.M || p.E || p.theta || p.T

theorem count_pos_any (p : Presence) (l : List Arg) :
    decide (count p l > 0) = l.any p.get := by
  cases h : l.any p.get
  · have := (count_eq_zero p l).mpr h
    simp [this]
  · have : ¬ count p l = 0 := by rw [count_eq_zero]; simp [h]
    simp; omega

theorem pal_pos (p : Presence) : decide (count p stdTab.pal > 0) = palAny p := by
  rw [count_pos_any]; simp [stdTab, Presence.get, palAny, Bool.or_assoc]

theorem nonpal_pos (p : Presence) : decide (count p stdTab.nonpal > 0) = nonpalAny p := by
  rw [count_pos_any]; simp [stdTab, Presence.get, nonpalAny, Bool.or_assoc]

/-- any orbital argument (the members of `Norb` / `orbi`) -/
def orbAny (p : Presence) : Bool :=
  p.primary || p.a || p.P || p.e || p.inc || p.Omega || p.omega || p.pomega || p.f || p.M ||
    p.E || p.l || p.theta || p.T

theorem orb_pos (p : Presence) : decide (count p stdTab.orb > 0) = orbAny p := by
  rw [count_pos_any]; simp [stdTab, Presence.get, orbAny, Bool.or_assoc]

theorem core_cart (zc zo zn zp : Bool) (nl : Nat) (fl : Flags) :
    cCore zc zo zn zp nl fl = .ok .cartesian ↔ ((zn && zp) = false ∧ zo = false) := by
  unfold cCore
  cases zc <;> cases zo <;> cases zn <;> cases zp <;> simp
  all_goals
    repeat' apply ite_ne
    all_goals exact fun h => nomatch h

end RV.OrbitArgs
