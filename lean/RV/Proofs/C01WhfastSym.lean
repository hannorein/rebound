import RV.Proofs.C01Whfast
/- C01 / WHFast: consistency and symmetry of every member of the option lattice -/
namespace RV.C01.Whfast
open RV.C01 RV.C01.Gen RV.C01.Adv
theorem consistent : ∀ cfg ∈ whAccepted, ∀ s ∈ stepOf cfg,
    Consistent s tolWH ∧ (cfg.1 = 1 ∨ cfg.1 = 2 → jumpSum s = 1) := by decide +kernel


/-- without second corrector (or with it, if the generated flag `whCorr2IsInverse` says that it is followed by its exact
    inverse) and for the default, modified-kick and lazy kernels every configuration is
    `χ ∘ K ∘ χ⁻¹`: `χ` = the first corrector, `χ⁻¹` literally its reverse with negated coefficients, `K` a palindrome -/
theorem symmetric_partial : ∀ cfg ∈ whAccepted, (cfg.2.2.2 = 0 ∨ whCorr2IsInverse = true) → cfg.2.1 ≠ 2 →
    ∀ s ∈ stepOf cfg, SplitSym s (preLen cfg) := by
  decide +kernel

/-- the flag generated by the translator is what the operator lists say -/
theorem corrector2_flag : whCorr2IsInverse = decide (norm whCorr2_m = invG (norm whCorr2_p)) := by decide +kernel

theorem composition_kernel_not_symmetric : ∀ core ∈ whCore.lookup (0, 2), ¬ Palindrome core := by decide +kernel

/-- finding F18: with `corrector2 = 1` the operators after the kernel are not the inverse of those before it, in any
    configuration — `reb_whfast_apply_corrector2(r, -1.)` is not the inverse of `reb_whfast_apply_corrector2(r, 1.)` -/
theorem symmetric_fails_with_corrector2 : whCorr2IsInverse = false →
    ∀ cfg ∈ whAccepted, cfg.2.2.2 = 1 → ∀ s ∈ stepOf cfg, ¬ SplitSym s (preLen cfg) := by
  decide +kernel
/-- F18 in the free algebra: second corrector followed by its "inverse" is not the identity: the coefficient of the
    words with two `B`s and two `A`s deviates by more than 1/1000 (stated for a source with `whCorr2IsInverse = false`; with
    the flag `true` the last conjunct certifies the identity to length 6 instead) -/
theorem corrector2_not_inverse : WordIdentity (whCorr2_p ++ whCorr2_m) [4, 4, 3] κWH tolWH ∧
    (whCorr2IsInverse = false → ¬ WordIdentity (whCorr2_p ++ whCorr2_m) [4, 4, 4] κWH (1/1000)) ∧
    (whCorr2IsInverse = true → WordIdentity (whCorr2_p ++ whCorr2_m) [6, 6, 6, 6] κWH tolWH) := by decide +kernel

/-- two unsynchronised steps + synchronize = two synchronized steps (as words in the operator groups) -/
theorem unsync_partial : ∀ cfg ∈ whAccepted, (cfg.2.2.2 = 0 ∨ whCorr2IsInverse = true) → ∀ s ∈ stepOf cfg, ∀ two ∈ twoOf cfg,
    norm two = norm (s ++ s) := by decide +kernel

end RV.C01.Whfast
