import RV.Proofs.Sync
/-
  C09 for SABA: dataflow (bitwise) part.
-/
namespace RV.Sync
variable {T PJ X V A : Type}

theorem closed_sabaCorr (t : Nat) (m : Int) : Closed (sabaCorrOps t m) := by
  unfold sabaCorrOps
  split <;> exact closed_of_forall fun _ _ _ _ _ => by simp [transferList, transfer, Comps.le]

theorem closed_sabaStage (row i1 i2 : Nat) :
    Closed [.kepler (.sabaC row i1 1), .com (.sabaC row i1 1), .posJacobiAll, .updateAcc,
            .interaction (.sabaD row i2)] :=
  closed_of_forall fun _ _ _ _ _ => by simp [transferList, transfer, Comps.le]

theorem closed_sabaStages (row stages fuel j : Nat) : Closed (sabaStageOps row stages fuel j) := by
  induction fuel generalizing j with
  | zero => exact closed_nil
  | succ n ih =>
    unfold sabaStageOps
    split
    · exact closed_append (closed_sabaStage _ _ _) (ih _)
    · exact closed_nil

/-- everything of a SABA step after the first drift -/
def sabaTail (c : SabaConfig) : List Prim :=
  [.toInertial, .updateAcc, .interaction (.sabaD (c.type % 0x100) 0)] ++
  sabaStageOps (c.type % 0x100) (sabaStages c.type) (sabaStages c.type) 1 ++
  (if c.type ≥ 0x100 then [.kepler (.sabaC (c.type % 0x100) 0 1), .com (.sabaC (c.type % 0x100) 0 1)] else [])

theorem closed_sabaTail (c : SabaConfig) : Closed (sabaTail c) :=
  closed_append (closed_append (closed_of_forall fun _ _ _ _ _ => by simp [transferList, transfer, Comps.le])
    (closed_sabaStages _ _ _ _))
    (closed_ite _ (closed_drift _ _) closed_nil)

/-- the drift of SABA's part1 -/
def sabaDrift (c : SabaConfig) (isSync : Bool) : List Prim :=
  if c.type ≥ 0x100 then
    sabaCorrOps c.type (if isSync then 1 else 2) ++
      [.kepler (.sabaC (c.type % 0x100) 0 1), .com (.sabaC (c.type % 0x100) 0 1)]
  else if isSync then [.kepler (.sabaC (c.type % 0x100) 0 1), .com (.sabaC (c.type % 0x100) 0 1)]
  else [.kepler (.sabaC (c.type % 0x100) 0 2), .com (.sabaC (c.type % 0x100) 0 2)]

theorem closed_sabaDrift (c : SabaConfig) (b : Bool) : Closed (sabaDrift c b) := by
  unfold sabaDrift
  split
  · exact closed_append (closed_sabaCorr _ _) (closed_drift _ _)
  · split <;> exact closed_drift _ _

theorem closed_sabaInit (b : Bool) : Closed [.sabaInit b, .init] :=
  closed_of_forall fun _ _ _ _ _ => by simp [transferList, transfer, Comps.le]

theorem sabaStepOps_unsafe (c : SabaConfig) (hs : c.safe = false) (g : Flags)
    (hg : g.allocated = true) (hr : g.isSync = false → g.recalc = false) :
    sabaStepOps c g =
      ([.sabaInit (c.type ≥ 0x100), .init] ++ (if g.recalc then [Prim.fromInertial] else []) ++
        sabaDrift c (g.isSync || (g.recalc && c.p1fix)) ++ sabaTail c ++ [.advT (.frac 1 1)],
       { isSync := false, recalc := false, allocated := true }) := by
  obtain ⟨isSync, recalc, allocated⟩ := g
  simp only at hg; subst hg
  simp only at hr
  cases isSync <;> cases recalc <;> cases hp : c.p1fix <;>
    simp_all [sabaStepOps, sabaPart1Ops, sabaPart2Ops, initF, sabaDrift, sabaTail, List.append_assoc]

theorem sabaStepOps_initF (c : SabaConfig) (f : Flags) : sabaStepOps c (initF f) = sabaStepOps c f := by
  unfold sabaStepOps sabaPart1Ops; rw [initF_idem]

/-- dataflow of a SABA step in unsafe mode: the new `pj` is a function of the old `pj` alone,
    provided coordinates are not being recalculated from unsynchronised particles -/
theorem saba_step_pj_determined (c : SabaConfig) (hs : c.safe = false) (g : Flags)
    (hg : g.allocated = true) (hr : g.isSync = false → g.recalc = false) :
    (transferList (sabaStepOps c g).1 ⟨true, g.isSync, g.isSync, false, false, false⟩).pj = true := by
  rw [sabaStepOps_unsafe c hs g hg hr]
  have tailc : ∀ b, Closed (sabaDrift c b ++ sabaTail c ++ [Prim.advT (.frac 1 1)]) := fun b =>
    closed_append (closed_append (closed_sabaDrift c b) (closed_sabaTail c)) (closed_advT _)
  cases hi : g.isSync
  · have hr' := hr hi
    simp only [hr', if_false, Bool.false_eq_true, List.append_nil, Bool.false_and, Bool.or_self]
    have := (closed_append (closed_sabaInit (decide (c.type ≥ 0x100))) (tailc false)).pj (L := ⟨true, false, false, false, false, false⟩) rfl
    simpa [List.append_assoc] using this
  · have e : ∀ l : List Prim, [Prim.sabaInit (decide (c.type ≥ 0x100)), Prim.init] ++ l ++ sabaDrift c true ++ sabaTail c ++
        [Prim.advT (.frac 1 1)] = ([Prim.sabaInit (decide (c.type ≥ 0x100)), Prim.init] ++ l) ++
        (sabaDrift c true ++ sabaTail c ++ [Prim.advT (.frac 1 1)]) := by
      intro l; simp [List.append_assoc]
    simp only [Bool.true_or]
    rw [e, transferList_append]
    apply (tailc true).pj
    cases g.recalc <;> simp [transferList, transfer]

/-- body of SABA's synchronize between save and restore -/
def sabaSyncMid (c : SabaConfig) : List Prim :=
  (if c.type ≥ 0x100 then sabaCorrOps c.type 1
   else [.kepler (.sabaC (c.type % 0x100) 0 1), .com (.sabaC (c.type % 0x100) 0 1)]) ++ [.toInertialAll]

theorem savePJ_not_mem_sabaSyncMid (c : SabaConfig) : Prim.savePJ ∉ sabaSyncMid c := by
  unfold sabaSyncMid sabaCorrOps
  split
  · split <;> simp
  · simp

theorem closed_sabaSyncMid (c : SabaConfig) : Closed (sabaSyncMid c) :=
  closed_append (closed_ite _ (closed_sabaCorr _ _) (closed_drift _ _))
    (closed_of_forall fun _ _ _ _ _ => by simp [transferList, transfer, Comps.le])

theorem sabaSyncOps_keep (c : SabaConfig) (hk : c.keep = true) (f : Flags) :
    sabaSyncOps c f = (if f.isSync then (if c.copyInside then [] else [Prim.savePJ])
      else [Prim.savePJ] ++ sabaSyncMid c ++ [Prim.restorePJ], f) := by
  unfold sabaSyncOps sabaSyncMid
  cases f.isSync <;> simp [hk]

theorem sabaSyncOps_nokeep_isSync (c : SabaConfig) (hk : c.keep = false) (f : Flags) :
    (sabaSyncOps c f).2.isSync = true := by
  unfold sabaSyncOps; cases hf : f.isSync <;> simp [hk, hf]

theorem saba_exec_sync_keep_pj (S : Sem T PJ X V A) (c : SabaConfig) (hk : c.keep = true) (f : Flags)
    (s : St PJ X V A) : (exec S (sabaSyncOps c f).1 s).pj = s.pj := by
  rw [sabaSyncOps_keep c hk]
  cases f.isSync
  · simp only [if_false, Bool.false_eq_true]
    rw [exec_append, exec_append]
    simp only [exec, denote]
    rw [exec_saved S _ (savePJ_not_mem_sabaSyncMid c)]
  · cases c.copyInside <;> rfl

/-- after an unsynchronised `synchronize` positions and velocities are functions of `pj` -/
theorem saba_sync_posvel (c : SabaConfig) (hk : c.keep = true) (f : Flags) (hs : f.isSync = false)
    (L : Comps) (hl : L.pj = true) :
    (transferList (sabaSyncOps c f).1 L).pj = true ∧ (transferList (sabaSyncOps c f).1 L).pos = true ∧
    (transferList (sabaSyncOps c f).1 L).vel = true := by
  rw [sabaSyncOps_keep c hk]
  simp only [hs, if_false, Bool.false_eq_true]
  have hpv : ∀ L : Comps, L.pj = true →
      (transferList (sabaSyncMid c) L).pos = true ∧ (transferList (sabaSyncMid c) L).vel = true := by
    intro L hl
    unfold sabaSyncMid
    rw [transferList_append]
    have := (closed_ite (c.type ≥ 0x100) (closed_sabaCorr c.type 1)
      (closed_drift (.sabaC (c.type % 0x100) 0 1) (.sabaC (c.type % 0x100) 0 1))).pj hl
    exact ⟨this, this⟩
  obtain ⟨h1, h2⟩ := transfer_cached (closed_sabaSyncMid c) hpv true L hl
  exact ⟨h1.1 hl, h2⟩

def sabaApply (S : Sem T PJ X V A) (c : SabaConfig) (o : Op (X × V)) (x : Flags × St PJ X V A) :
    Flags × St PJ X V A :=
  let r := sabaOpOps c x.1 o
  let s := exec S r.1 x.2
  (r.2, match o with | .poke v => { s with pos := v.1, vel := v.2 } | _ => s)

def sabaRun (S : Sem T PJ X V A) (c : SabaConfig) :
    List (Op (X × V)) → Flags × St PJ X V A → Flags × St PJ X V A
  | [], x => x
  | o :: os, x => sabaRun S c os (sabaApply S c o x)

/-- SABA's part1 as found (`p1sync = false`) recalculates coordinates *without* synchronising
    first: the interleaving argument needs that this never happens on an unsynchronised state
    (true after any step; the user could violate it by setting the flag by hand) -/
def SRel (x y : Flags × St PJ X V A) : Prop :=
  Rel x y ∧ ((initF x.1).isSync = false → (initF x.1).recalc = false)

theorem SRel.symm {x y : Flags × St PJ X V A} (h : SRel x y) : SRel y x :=
  ⟨h.1.symm, by rw [← h.1.1]; exact h.2⟩
theorem SRel.trans {x y z : Flags × St PJ X V A} (a : SRel x y) (b : SRel y z) : SRel x z :=
  ⟨a.1.trans b.1, a.2⟩

theorem srel_step (S : Sem T PJ X V A) (c : SabaConfig) (hs : c.safe = false)
    {x y : Flags × St PJ X V A} (h : SRel x y) :
    SRel (sabaApply S c .step x) (sabaApply S c .step y) := by
  obtain ⟨⟨h1, h2, h3⟩, h4⟩ := h
  show SRel ((sabaStepOps c x.1).2, exec S (sabaStepOps c x.1).1 x.2)
    ((sabaStepOps c y.1).2, exec S (sabaStepOps c y.1).1 y.2)
  rw [← sabaStepOps_initF c x.1, ← sabaStepOps_initF c y.1, ← h1]
  have hg := initF_allocated x.1
  generalize initF x.1 = g at *
  have hd := saba_step_pj_determined c hs g hg h4
  have ha : agree ⟨true, g.isSync, g.isSync, false, false, false⟩ x.2 y.2 :=
    agree_pj_posvel _ h2 h3
  have := agree_exec S (sabaStepOps c g).1 _ _ _ ha
  refine ⟨⟨rfl, this.1 hd, ?_⟩, ?_⟩ <;> rw [sabaStepOps_unsafe c hs g hg h4] <;> simp [initF]

theorem srel_sync (S : Sem T PJ X V A) (c : SabaConfig) (hk : c.keep = true)
    (x : Flags × St PJ X V A) (hx : (initF x.1).isSync = false → (initF x.1).recalc = false) :
    SRel x (sabaApply S c .synchronize x) := by
  show SRel x ((sabaSyncOps c x.1).2, exec S (sabaSyncOps c x.1).1 x.2)
  refine ⟨⟨?_, ?_, ?_⟩, hx⟩
  · rw [sabaSyncOps_keep c hk]
  · exact (saba_exec_sync_keep_pj S c hk x.1 x.2).symm
  · intro hh
    rw [initF_isSync] at hh
    rw [sabaSyncOps_keep c hk]; simp only [hh, if_true]
    cases c.copyInside <;> exact ⟨rfl, rfl⟩

theorem srel_sync_obs (S : Sem T PJ X V A) (c : SabaConfig) (hk : c.keep = true)
    {x y : Flags × St PJ X V A} (h : SRel x y) (hxy : x.1.isSync = y.1.isSync) :
    (sabaApply S c .synchronize x).2.pj = (sabaApply S c .synchronize y).2.pj ∧
    (sabaApply S c .synchronize x).2.pos = (sabaApply S c .synchronize y).2.pos ∧
    (sabaApply S c .synchronize x).2.vel = (sabaApply S c .synchronize y).2.vel := by
  show (exec S (sabaSyncOps c x.1).1 x.2).pj = (exec S (sabaSyncOps c y.1).1 y.2).pj ∧
    (exec S (sabaSyncOps c x.1).1 x.2).pos = (exec S (sabaSyncOps c y.1).1 y.2).pos ∧
    (exec S (sabaSyncOps c x.1).1 x.2).vel = (exec S (sabaSyncOps c y.1).1 y.2).vel
  have hi := initF_isSync x.1
  have e : (sabaSyncOps c x.1).1 = (sabaSyncOps c y.1).1 := by
    rw [sabaSyncOps_keep c hk, sabaSyncOps_keep c hk, hxy]
  rw [← e]
  cases hs : x.1.isSync
  · have := agree_exec S (sabaSyncOps c x.1).1 _ _ _ (agree_pj h.1.2.1)
    have hp := saba_sync_posvel c hk x.1 hs ⟨true, false, false, false, false, false⟩ rfl
    exact ⟨this.1 hp.1, this.2.1 hp.2.1, this.2.2.1 hp.2.2⟩
  · rw [sabaSyncOps_keep c hk]; simp only [hs, if_true]
    have := h.1.2.2 (by rw [hi]; exact hs)
    cases c.copyInside <;> exact ⟨h.1.2.1, this.1, this.2⟩

theorem srel_run (S : Sem T PJ X V A) (c : SabaConfig) (hk : c.keep = true) (hs : c.safe = false)
    (σ : List (Op (X × V))) (hσ : ∀ o ∈ σ, o.benign = true) (x y : Flags × St PJ X V A)
    (h : SRel x y) : SRel (sabaRun S c σ x) (sabaRun S c (σ.filter Op.isStep) y) :=
  run_filter_sim (sabaApply S c) (sabaApply S c) (fun o x y ho h => by
    cases o with
    | step => exact srel_step S c hs h
    | synchronize => exact (srel_sync S c hk x h.2).symm.trans h
    | read => exact h
    | setRecalc | poke _ => cases ho) σ hσ x y h

def Op.notSetRecalc {X} : Op X → Bool | .setRecalc => false | _ => true

theorem srel_poke (S : Sem T PJ X V A) (c : SabaConfig) (v : X × V) {x y : Flags × St PJ X V A}
    (h : SRel x y) : SRel (sabaApply S c (.poke v) x) (sabaApply S c (.poke v) y) :=
  ⟨⟨h.1.1, h.1.2.1, fun _ => ⟨rfl, rfl⟩⟩, h.2⟩

/-- SABA: the interleaving theorem with particle edits in the alphabet (not `setRecalc`: SABA
    recalculates from unsynchronised particles, see `SRel`) -/
theorem srel_run_all (S : Sem T PJ X V A) (c : SabaConfig) (hk : c.keep = true) (hs : c.safe = false)
    (σ : List (Op (X × V))) (hσ : ∀ o ∈ σ, Op.notSetRecalc o = true) (x y : Flags × St PJ X V A)
    (h : SRel x y) : SRel (sabaRun S c σ x) (sabaRun S c (σ.filter Op.isKept) y) :=
  run_filter_sim (sabaApply S c) (sabaApply S c) (fun o x y ho h => by
    cases o with
    | step => exact srel_step S c hs h
    | synchronize => exact (srel_sync S c hk x h.2).symm.trans h
    | read => exact h
    | setRecalc => cases ho
    | poke v => exact srel_poke S c v h) σ hσ x y h

end RV.Sync
