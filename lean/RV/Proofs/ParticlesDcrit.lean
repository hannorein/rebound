import RV.Proofs.ParticlesCore
/-
  The MERCURIUS side array `dcrit` around the core removal: the prologue of
  reb_simulation_remove_particle as a wrapper of `removeCore`, which never reads `dcrit`.
-/
namespace RV.Particles

/-- the call shape of finding F4g: `dcrit` does not cover all particles and the shift loop runs past its end -/
def Overrun (c : State) (index : Int) : Prop :=
  c.mercurius = true ∧ 0 < c.dcrit.length ∧ index < (c.dcrit.length : Int) ∧ c.dcrit.length < c.N

instance (c : State) (i : Int) : Decidable (Overrun c i) := inferInstanceAs (Decidable (_ ∧ _))

theorem dcritShift_shape (v : Variant) (c c1 : State) (i : Int) (h : dcritShift v c i = some c1) :
    c1 = { c with dcrit := c1.dcrit } := by
  unfold dcritShift at h
  split at h
  · simp only [] at h
    generalize shiftLoop c.dcrit i.toNat _ = r at h
    cases r with
    | none => simp at h
    | some d => simp at h; subst h; rfl
  · simp at h; subst h; rfl

theorem dcritShift_spec (v : Variant) (c : State) (i : Int) (h0 : 0 ≤ i) (h1 : i < (c.N : Int))
    (hno : v.dcritBounded = true ∨ ¬ Overrun c i) :
    dcritShift v c i = some { c with dcrit := if c.mercurius then dcritErased c.dcrit c.N i else c.dcrit } := by
  unfold dcritShift
  by_cases hc : (c.mercurius && decide (0 < c.dcrit.length) && decide (i < (c.dcrit.length : Int))) = true
  · rw [if_pos hc]
    simp only [Bool.and_eq_true, decide_eq_true_eq] at hc
    obtain ⟨⟨hm, hpos⟩, hlt⟩ := hc
    -- the loop bound is `min N dcrit.length`
    have hm1 : (if v.dcritBounded = true then min c.N c.dcrit.length else c.N) = min c.N c.dcrit.length := by
      by_cases hb : v.dcritBounded = true
      · rw [if_pos hb]
      · have hle : c.N ≤ c.dcrit.length :=
          Nat.le_of_not_lt fun h => hno.resolve_left hb ⟨hm, hpos, hlt, h⟩
        rw [if_neg hb]; omega
    simp only [hm1, shiftLoop_eq (min c.N c.dcrit.length - 1 - i.toNat) c.dcrit i.toNat
      (min c.N c.dcrit.length) (by omega) (Nat.min_le_right _ _)]
    rw [if_pos hm]; unfold dcritErased; rw [if_pos ⟨hpos, hlt⟩]
  · rw [if_neg hc]
    by_cases hmm : c.mercurius = true
    · simp only [hmm, Bool.true_and, Bool.and_eq_true, decide_eq_true_eq] at hc
      unfold dcritErased
      rw [if_pos hmm, if_neg hc]
    · rw [if_neg hmm]

theorem dcritErased_one (d : List Nat) (i : Int) (h0 : 0 ≤ i) (h1 : i < 1) : dcritErased d 1 i = d := by
  unfold dcritErased
  split
  · rename_i h
    have hi : i.toNat = 0 := by omega
    have hm : min 1 d.length = 1 := by omega
    simp only [hm, hi]
    cases d with
    | nil => simp at h
    | cons a t => simp
  · rfl

/-! ### what the removal after the range check neither reads nor writes -/

theorem removeSorted_frame (v : Variant) (c : State) (d : List Nat) (s : Bool) (i : Int) :
    removeSorted v { c with dcrit := d, staleLeaf := s } i =
      ({ (removeSorted v c i).1 with dcrit := d, staleLeaf := s }, (removeSorted v c i).2) := by
  unfold removeSorted
  dsimp only
  split
  · rfl
  · split
    · rfl
    · split <;> rfl

theorem removeUnsorted_frame (v : Variant) (c : State) (d : List Nat) (s : Bool) (i : Int) :
    removeUnsorted v { c with dcrit := d, staleLeaf := s } i =
      ({ (removeUnsorted v c i).1 with dcrit := d, staleLeaf := s }, (removeUnsorted v c i).2) := by
  unfold removeUnsorted
  dsimp only
  split
  · split <;> rfl
  · split
    · rfl
    · split <;> rfl

theorem removeRest_frame (v : Variant) (c : State) (d : List Nat) (s : Bool) (i : Int) (ks : Bool) :
    removeRest v { c with dcrit := d, staleLeaf := s } i ks =
      ({ (removeRest v c i ks).1 with dcrit := d, staleLeaf := s }, (removeRest v c i ks).2) := by
  unfold removeRest
  dsimp only
  split
  · rfl
  · split
    · exact removeSorted_frame v c d s i
    · exact removeUnsorted_frame v c d s i

theorem removeRest_stale (v : Variant) (c : State) (i : Int) (ks : Bool) :
    (removeRest v c i ks).1.staleLeaf = c.staleLeaf :=
  congrArg (·.1.staleLeaf) (removeRest_frame v c c.dcrit c.staleLeaf i ks)

theorem removeCore_dcrit (v : Variant) (c : State) (d : List Nat) (i : Int) (ks : Bool) :
    removeCore v { c with dcrit := d } i ks =
      ({ (removeCore v c i ks).1 with dcrit := d }, (removeCore v c i ks).2) := by
  rw [removeCore_eq, removeCore_eq]
  show (if rangeBad c i = true then _ else if c.N = 1 then _
    else removeRest v { c with dcrit := d, staleLeaf := c.staleLeaf } i (ks || c.forceSorted)) = _
  split
  · split <;> rfl
  · split
    · rfl
    · rw [removeRest_frame, ← removeRest_stale v c i (ks || c.forceSorted)]

theorem removeCore_keeps_dcrit (v : Variant) (c : State) (i : Int) (ks : Bool) :
    (removeCore v c i ks).1.dcrit = c.dcrit :=
  congrArg (·.1.dcrit) (removeCore_dcrit v c c.dcrit i ks)

end RV.Particles
