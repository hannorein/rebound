import RV.Proofs.TreeArrReinsert
/-
  `updateA_spec`: the whole `reb_simulation_update_tree` on (array, forest) for an arbitrary root-index function:
  walk of all root trees, renumbering, re-insertion.
-/
namespace RV.C15
open RV RV.Tree RV.Boundary RV.TreeArr

variable {K : Type} [Field K] [LinearOrder K] [IsStrictOrderedRing K] {α : Type}

/-- every particle the sweep keeps passed the keep test in some cell -/
theorem sweepP_kept (ps : Nat → Pt K) (keep : Nat → Cell K → Bool) (hk : ∀ q c, keep q c = true → In (ps q) c) :
    ∀ (t : T K) (c : Cell K), Geo c t → ∀ q ∈ leaves (sweepP keep t).1, ∃ c', keep q c' = true := by
  intro t
  induction t with
  | nil => intro c _ q hq; simp [sweepP, leaves] at hq
  | leaf c0 g q0 =>
    intro c _ q hq
    by_cases hi : keep q0 c0 = true
    · simp [sweepP, hi, leaves] at hq; subst hq; exact ⟨c0, hi⟩
    · simp [sweepP, hi, leaves] at hq
  | node c0 g n ch ih =>
    intro c h q hq
    obtain ⟨hc, hgeo⟩ := h
    subst hc
    have hwf := fun o => (sweepP_spec ps keep hk (ch o) _ (hgeo o)).1
    obtain ⟨_, hp⟩ := rebuild_spec ps c0 g (fun o => (sweepP keep (ch o)).1) hwf
    simp only [sweepP] at hq
    have := hp.mem_iff.mp hq
    simp only [List.mem_flatMap] at this
    obtain ⟨o, _, hqo⟩ := this
    exact ih o _ (hgeo o) q hqo

/-- the loop over the root boxes = pure sweeps + one eviction sequence -/
theorem walkForest_eq (pos : α → Pt K) (flagged : α → Bool) (arr0 : List α) (forest : List (T K))
    (hn : (forest.flatMap leaves).Nodup) (hb : ∀ x ∈ forest.flatMap leaves, x < arr0.length) :
    walkForest pos flagged forest ⟨arr0, [], []⟩ =
      some (forest.map (fun t => (sweepP (keepOf pos flagged arr0) t).1),
            evState flagged arr0 (forest.flatMap fun t => (sweepP (keepOf pos flagged arr0) t).2)) := by
  set keep := keepOf pos flagged arr0
  have := mapStL_spec (fun t s => walkA pos flagged t s) (evState flagged arr0)
    (fun t => (sweepP keep t).1) (fun t => (sweepP keep t).2) forest [] (by
      intro l1 t l2 hl
      have hsub : List.Sublist (l1.flatMap (fun t => (sweepP keep t).2) ++ leaves t) (forest.flatMap leaves) := by
        rw [hl]
        simp only [List.flatMap_append, List.flatMap_cons]
        apply List.Sublist.append (flatMap_sublist _ _ (fun t => sweepP_sublist keep t) _)
        exact List.sublist_append_left _ _
      have := walkA_eq pos flagged arr0 t (l1.flatMap (fun t => (sweepP keep t).2)) (hn.sublist hsub)
        (fun x hx => hb x (hsub.subset hx))
      simpa using this)
  simpa [walkForest, evState] using this


theorem nodup_map_on {β γ : Type} (f : β → γ) : ∀ (l : List β), (∀ x ∈ l, ∀ y ∈ l, f x = f y → x = y) → l.Nodup → (l.map f).Nodup := by
  intro l
  induction l with
  | nil => intro _ _; simp
  | cons a l ih =>
    intro h hn
    rw [List.nodup_cons] at hn
    simp only [List.map_cons, List.nodup_cons, List.mem_map, not_exists, not_and]
    refine ⟨?_, ih (fun x hx y hy => h x (by simp [hx]) y (by simp [hy])) hn.2⟩
    intro x hx hfx
    have := h x (by simp [hx]) a (by simp) hfx
    subst this
    exact hn.1 hx

/-- `reb_simulation_update_tree` on (particle array, forest), as repaired (re-insertion after the walk) -/
theorem updateA_spec (pos : α → Pt K) (flagged inBox : α → Bool) (ri : Pt K → Nat) (rc : Nat → Cell K) (fuel : Nat)
    (forest0 : List (T K)) (arr0 : List α) (forest1 : List (T K)) (arr1 : List α)
    (hgeo : ∀ r (h : r < forest0.length), Geo (rc r) forest0[r])
    (hbij : List.Perm (forest0.flatMap leaves) (List.range arr0.length))
    (hbox : ∀ p ∈ arr0, flagged p = false →
      inBox p = true ∧ ri (pos p) < forest0.length ∧ In (pos p) (rc (ri (pos p))))
    (h : updateA pos flagged inBox ri rc fuel forest0 arr0 = some (.ok (forest1, arr1))) :
    arr1 = (evState flagged arr0 (forest0.flatMap fun t => (sweepP (keepOf pos flagged arr0) t).2)).arr ++
           (evState flagged arr0 (forest0.flatMap fun t => (sweepP (keepOf pos flagged arr0) t).2)).ev ∧
    List.Perm arr1 (arr0.filter (fun p => !flagged p)) ∧
    forest1.length = forest0.length ∧
    ForestOK (psOf pos arr1) rc forest1 arr1.length := by
  set keep := keepOf pos flagged arr0 with hkeep
  set E := forest0.flatMap (fun t => (sweepP keep t).2) with hE
  set st := evState flagged arr0 E with hst
  set ps0 := psOf pos arr0 with hps0
  have hn : (forest0.flatMap leaves).Nodup := hbij.nodup_iff.mpr List.nodup_range
  have hb : ∀ x ∈ forest0.flatMap leaves, x < arr0.length :=
    fun x hx => List.mem_range.mp (hbij.mem_iff.mp hx)
  have hwalk := walkForest_eq pos flagged arr0 forest0 hn hb
  have hEsub : List.Sublist E (forest0.flatMap leaves) := flatMap_sublist _ _ (fun t => sweepP_sublist keep t) _
  have inv := ArrInv_evState flagged arr0 E (hn.sublist hEsub) (fun e he => hb e (hEsub.subset he))
  rw [← hst] at inv
  have hk : ∀ q c, keep q c = true → In (ps0 q) c := by
    intro q c hq
    simp only [hkeep, keepOf] at hq
    cases hp : arr0[q]? with
    | none => simp [hp] at hq
    | some p =>
      simp only [hp, Bool.and_eq_true] at hq
      simp only [hps0, psOf, hp]
      exact (inside_iff _ _).mp hq.1
  have hgeo' : ∀ t ∈ forest0, ∃ c, Geo c t := by
    intro t ht
    obtain ⟨r, hr, rfl⟩ := List.getElem_of_mem ht
    exact ⟨rc r, hgeo r hr⟩
  set keptLeaves := forest0.flatMap (fun t => leaves (sweepP keep t).1) with hkl
  have hpall : List.Perm (keptLeaves ++ E) (forest0.flatMap leaves) := by
    refine (flatMap_append_perm _ _ _).symm.trans ?_
    apply flatMap_perm_congr_mem
    intro t ht
    obtain ⟨c, hc⟩ := hgeo' t ht
    exact (sweepP_spec ps0 keep hk t c hc).2
  have hnall : (keptLeaves ++ E).Nodup := hpall.nodup_iff.mpr hn
  have hkb : ∀ q ∈ keptLeaves, q < arr0.length ∧ q ∉ E := by
    intro q hq
    refine ⟨hb q (hpall.subset (by simp [hq])), ?_⟩
    intro hqe
    exact (List.nodup_append.mp hnall).2.2 q hq q hqe rfl
  have hσ : ∀ q ∈ keptLeaves, applyLog st.log q < st.arr.length ∧ psOf pos st.arr (applyLog st.log q) = ps0 q := by
    intro q hq
    obtain ⟨h1, h2⟩ := hkb q hq
    obtain ⟨g1, g2⟩ := inv.get q h1 h2
    exact ⟨g1, by simp only [hps0, psOf, g2]⟩
  -- the kept forest, renumbered
  set kept' := (forest0.map (fun t => (sweepP keep t).1)).map (relabel (applyLog st.log)) with hkept
  have hlenk : kept'.length = forest0.length := by simp [hkept]
  have hleaves' : kept'.flatMap leaves = keptLeaves.map (applyLog st.log) := by
    simp only [hkept, hkl, List.map_map, List.flatMap_map, List.map_flatMap]
    congr 1
    funext t
    exact leaves_relabel _ _
  have hlen : keptLeaves.length = st.arr.length := by
    have h1 := hpall.length_eq
    have h2 := hbij.length_eq
    have h3 := inv.len
    simp only [List.length_append, List.length_range] at h1 h2
    omega
  have hokk : ForestOK (psOf pos st.arr) rc kept' st.arr.length := by
    constructor
    · intro r hr
      have hr0 : r < forest0.length := by rw [← hlenk]; exact hr
      have hget : kept'[r] = relabel (applyLog st.log) (sweepP keep forest0[r]).1 := by
        simp [hkept]
      rw [hget]
      apply WF_relabel ps0 _ _ _ _ (sweepP_spec ps0 keep hk forest0[r] (rc r) (hgeo r hr0)).1
      intro q hq
      apply (hσ q _).2
      rw [hkl, List.mem_flatMap]
      exact ⟨forest0[r], List.getElem_mem hr0, hq⟩
    · rw [hleaves']
      apply perm_range_of_nodup
      · apply nodup_map_on _ _ _ (List.nodup_append.mp hnall).1
        intro x hx y hy hxy
        exact inv.inj x y (hkb x hx).1 (hkb y hy).1 (hkb x hx).2 (hkb y hy).2 hxy
      · intro x hx
        obtain ⟨q, hq, rfl⟩ := List.mem_map.mp hx
        exact (hσ q hq).1
      · simp [hlen]
  -- the buffered particles are non-flagged members of the original array
  have hevmem : ∀ p ∈ st.ev, p ∈ arr0 ∧ flagged p = false := by
    intro p hp
    rw [inv.ev, List.mem_filter, List.mem_filterMap] at hp
    obtain ⟨⟨e, _, he⟩, hf⟩ := hp
    exact ⟨List.mem_of_getElem? he, by simpa using hf⟩
  unfold updateA at h
  rw [hwalk] at h
  simp only [Option.some.injEq] at h
  obtain ⟨ha, hl, hok⟩ := reinsertA_spec pos inBox ri rc fuel st.ev kept' st.arr forest1 arr1 hokk
    (fun p hp => by
      obtain ⟨h1, h2⟩ := hevmem p hp
      rw [hlenk]
      exact hbox p h1 h2) h
  -- every particle left in the array by the walk is not flagged
  have hall : ∀ x ∈ st.arr, flagged x = false := by
    intro x hx
    obtain ⟨j, hj, rfl⟩ := List.getElem_of_mem hx
    have hjr : j ∈ keptLeaves.map (applyLog st.log) := by
      have := hokk.2
      rw [hleaves'] at this
      exact this.mem_iff.mpr (List.mem_range.mpr hj)
    obtain ⟨q, hq, hqj⟩ := List.mem_map.mp hjr
    obtain ⟨h1, h2⟩ := hkb q hq
    obtain ⟨_, g2⟩ := inv.get q h1 h2
    rw [hqj, List.getElem?_eq_getElem hj] at g2
    rw [hkl, List.mem_flatMap] at hq
    obtain ⟨t, ht, hqt⟩ := hq
    obtain ⟨c, hc⟩ := hgeo' t ht
    obtain ⟨c', hc'⟩ := sweepP_kept ps0 keep hk t c hc q hqt
    simp only [hkeep, keepOf, ← g2, Bool.and_eq_true] at hc'
    simpa using hc'.2
  refine ⟨ha, ?_, by rw [hl, hlenk], hok⟩
  rw [ha]
  have hfil : (st.arr ++ E.filterMap fun e => arr0[e]?).filter (fun p => !flagged p) = st.arr ++ st.ev := by
    rw [List.filter_append, inv.ev]
    congr 1
    apply List.filter_eq_self.mpr
    intro x hx
    simp [hall x hx]
  rw [← hfil]
  exact inv.perm.filter _


end RV.C15
