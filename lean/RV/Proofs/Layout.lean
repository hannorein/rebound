import RV.Model.Layout
/-
  C18 — what the matcher of RV/Model/Layout.lean establishes, for ARBITRARY tables
  (this is the unbounded half; RV/Props/C18.lean then evaluates the matcher on the tables
  generated from the code).  Mathlib-free.
-/
set_option linter.unusedSimpArgs false
namespace RV.Layout

theorem nameEq_iff (a b : Name) : nameEq a b = true ↔ a = b := by
  induction a generalizing b with
  | nil => cases b <;> simp [nameEq]
  | cons x r ih =>
    cases b with
    | nil => simp [nameEq]
    | cons y r' => simp [nameEq, ih, Nat.beq_eq_true_eq]

theorem stripPrefix_iff (p s rest : Name) : stripPrefix p s = some rest ↔ s = p ++ rest := by
  induction p generalizing s with
  | nil => simp [stripPrefix, eq_comm]
  | cons a p ih =>
    cases s with
    | nil => simp [stripPrefix]
    | cons b s =>
      simp only [stripPrefix]
      by_cases hab : Nat.beq a b = true
      · have : a = b := Nat.eq_of_beq_eq_true hab
        subst this
        simp [ih]
      · have hne : a ≠ b := fun e => hab (e ▸ Nat.beq_refl a)
        simp [hab]
        intro e
        exact fun _ => hne e.symm

theorem means_iff (pre name e : Name) :
    means pre name e = true ↔ ∃ rest, e = pre ++ rest ∧ norm rest = norm name := by
  unfold means
  constructor
  · intro h
    split at h
    · rename_i rest hs
      exact ⟨rest, (stripPrefix_iff _ _ _).1 hs, (nameEq_iff _ _).1 h⟩
    · cases h
  · rintro ⟨rest, he, hn⟩
    have := (stripPrefix_iff pre e rest).2 he
    rw [this]
    exact (nameEq_iff _ _).2 hn

theorem splitN_spec {α : Type} (n : Nat) (l a b : List α) (h : splitN n l = some (a, b)) :
    a ++ b = l ∧ a.length = n := by
  induction n generalizing l a b with
  | zero => simp [splitN] at h; obtain ⟨rfl, rfl⟩ := h; simp
  | succ n ih =>
    cases l with
    | nil => simp [splitN] at h
    | cons x r =>
      simp only [splitN] at h
      split at h
      · rename_i a' b' hs
        simp at h
        obtain ⟨rfl, rfl⟩ := h
        obtain ⟨e1, e2⟩ := ih r a' b' hs
        simp [e1, e2]
      · cases h

/-- `pairUp` returns the ctypes fields in order, each with a non-empty run, and the runs followed by
    the left-over members are exactly the C members, in order: nothing skipped, nothing used twice -/
theorem pairUp_spec (py c : List Field) (prs : List (Field × List Field)) (rest : List Field)
    (h : pairUp py c = some (prs, rest)) :
    prs.map Prod.fst = py ∧ (prs.map Prod.snd).flatten ++ rest = c ∧
    ∀ pr ∈ prs, pr.2.length = span pr.1 (pr.2.headD default) ∧ pr.2 ≠ [] := by
  induction py generalizing c prs rest with
  | nil => simp [pairUp] at h; obtain ⟨rfl, rfl⟩ := h; simp
  | cons p ps ih =>
    cases c with
    | nil => simp [pairUp] at h
    | cons c cs =>
      simp only [pairUp] at h
      split at h
      · cases h
      · rename_i n hn
        split at h
        · cases h
        · rename_i run rest' hsp
          split at h
          · cases h
          · rename_i prs' left hp
            simp at h
            obtain ⟨rfl, rfl⟩ := h
            obtain ⟨e1, e2, e3⟩ := ih rest' prs' left hp
            obtain ⟨s1, s2⟩ := splitN_spec n cs run rest' hsp
            refine ⟨by simp [e1], ?_, ?_⟩
            · simp [List.flatten, List.append_assoc, e2, s1]
            · intro pr hpr
              simp at hpr
              rcases hpr with rfl | hpr
              · simp [s2, hn]
              · exact e3 pr hpr

/-- consecutive members of size `es` starting at `off`, each compatible with `ek` -/
def RunAt (cm : ClassMap) (ek : Kind) (es : Nat) : Nat → List Field → Prop
  | _, [] => True
  | off, c :: cs => c.off = off ∧ c.size = es ∧ kindOk cm c.kind ek = true ∧ RunAt cm ek es (off + es) cs

theorem runOk_iff (cm : ClassMap) (ek : Kind) (es off : Nat) (run : List Field) :
    runOk cm ek es off run = true ↔ RunAt cm ek es off run := by
  induction run generalizing off with
  | nil => simp [runOk, RunAt]
  | cons c cs ih => simp [runOk, RunAt, ih, and_assoc]

/-- a ctypes field and the run of C members it is paired with are the same bytes with the same type:
    either one member with equal offset, equal size and compatible kind (a one-element ctypes array may
    stand for a scalar), or a ctypes array of `n` elements laid exactly over `n` consecutive equal members -/
def Covers (cm : ClassMap) (p : Field) (run : List Field) : Prop :=
  (∃ c, run = [c] ∧ c.off = p.off ∧ c.size = p.size ∧
      (kindOk cm c.kind p.kind = true ∨ ∃ ek, p.kind = .arr ek 1 ∧ kindOk cm c.kind ek = true)) ∨
  (∃ ek n es, p.kind = .arr ek n ∧ n ≠ 0 ∧ run.length = n ∧ p.size = n * es ∧ RunAt cm ek es p.off run)

theorem pairWhy_none_covers (cm : ClassMap) (pr : Field × List Field) (hne : pr.2 ≠ [])
    (h : pairWhy cm pr = none) : Covers cm pr.1 pr.2 := by
  obtain ⟨p, run⟩ := pr
  simp only at hne h ⊢
  match run, hne with
  | [c], _ =>
    simp only [pairWhy] at h
    split at h; · cases h
    rename_i h1
    split at h; · cases h
    rename_i h2
    have e1 : c.off = p.off := by simpa using h1
    have e2 : c.size = p.size := by simpa using h2
    split at h
    · rename_i hk
      exact Or.inl ⟨c, rfl, e1, e2, Or.inl hk⟩
    · split at h
      · rename_i ek n hkind
        split at h
        · rename_i hc
          simp only [Bool.and_eq_true, beq_iff_eq] at hc
          obtain ⟨⟨_, hn⟩, hk⟩ := hc
          subst hn
          exact Or.inl ⟨c, rfl, e1, e2, Or.inr ⟨ek, hkind, hk⟩⟩
        · cases h
      · cases h
  | c :: d :: r, _ =>
    simp only [pairWhy] at h
    split at h
    · rename_i ek n hkind
      split at h
      · rename_i hc
        simp only [Bool.and_eq_true, bne_iff_ne, ne_eq, beq_iff_eq] at hc
        obtain ⟨⟨⟨hn, hl⟩, hs⟩, hr⟩ := hc
        exact Or.inr ⟨ek, n, p.size / n, hkind, hn, hl, hs, (runOk_iff _ _ _ _ _).1 hr⟩
      · cases h
    · cases h

theorem badPairs_nil (cm : ClassMap) (s : Name) (prs : List (Field × List Field))
    (h : badPairs cm s prs = []) : ∀ pr ∈ prs, pairWhy cm pr = none := by
  induction prs with
  | nil => simp
  | cons pr r ih =>
    simp only [badPairs] at h
    split at h
    · rename_i hw
      intro x hx
      simp at hx
      rcases hx with rfl | hx
      · exact hw
      · exact ih h x hx
    · cases h

/-- two lists of equal length related element by element -/
inductive Forall₂ {α β : Type} (R : α → β → Prop) : List α → List β → Prop
  | nil : Forall₂ R [] []
  | cons {a b l₁ l₂} : R a b → Forall₂ R l₁ l₂ → Forall₂ R (a :: l₁) (b :: l₂)

theorem Forall₂.length_eq {α β : Type} {R : α → β → Prop} {l₁ : List α} {l₂ : List β}
    (h : Forall₂ R l₁ l₂) : l₁.length = l₂.length := by
  induction h with
  | nil => rfl
  | cons _ _ ih => simp [ih]

theorem Forall₂.get {α β : Type} {R : α → β → Prop} {l₁ : List α} {l₂ : List β}
    (h : Forall₂ R l₁ l₂) (i : Nat) (h₁ : i < l₁.length) (h₂ : i < l₂.length) : R l₁[i] l₂[i] := by
  induction h generalizing i with
  | nil => simp at h₁
  | cons hab _ ih =>
    cases i with
    | zero => simpa using hab
    | succ j => simpa using ih j (by simpa using h₁) (by simpa using h₂)

theorem forall₂_of_pairs {R : Field → List Field → Prop} (prs : List (Field × List Field))
    (h : ∀ pr ∈ prs, R pr.1 pr.2) : Forall₂ R (prs.map Prod.fst) (prs.map Prod.snd) := by
  induction prs with
  | nil => exact Forall₂.nil
  | cons pr r ih =>
    simp only [List.map_cons]
    exact Forall₂.cons (h pr (by simp)) (ih (fun x hx => h x (by simp [hx])))

/-- **Soundness of the matcher, for arbitrary tables.**  If `layoutBad` reports nothing, the C members
    split — in order, without gaps or reuse — into one run per ctypes field, each field `Covers` its run
    (same offset, same size, compatible kind), and no C member is left over unless the class is allowed
    to mirror a prefix. -/
theorem layoutBad_nil_sound (cm : ClassMap) (pfx : Bool) (s : Name) (py c : List Field)
    (h : layoutBad cm pfx s py c = []) :
    ∃ runs : List (List Field), Forall₂ (Covers cm) py runs ∧
      (runs.flatten = c ∨ (pfx = true ∧ ∃ tail, runs.flatten ++ tail = c)) := by
  unfold layoutBad at h
  split at h
  · cases h
  · rename_i prs rest hp
    obtain ⟨e1, e2, e3⟩ := pairUp_spec py c prs rest hp
    have hb : badPairs cm s prs = [] := (List.append_eq_nil_iff.1 h).1
    have hr := (List.append_eq_nil_iff.1 h).2
    have hw := badPairs_nil cm s prs hb
    refine ⟨prs.map Prod.snd, ?_, ?_⟩
    · rw [← e1]
      exact forall₂_of_pairs prs (fun pr hpr => pairWhy_none_covers cm pr (e3 pr hpr).2 (hw pr hpr))
    · cases rest with
      | nil => left; simpa using e2
      | cons r rs =>
        simp only at hr
        split at hr
        · rename_i hpfx
          exact Or.inr ⟨hpfx, r :: rs, e2⟩
        · cases hr

/-- a class checked without the prefix allowance mirrors every C member -/
theorem layoutBad_nil_exact (cm : ClassMap) (s : Name) (py c : List Field)
    (h : layoutBad cm false s py c = []) :
    ∃ runs : List (List Field), Forall₂ (Covers cm) py runs ∧ runs.flatten = c := by
  obtain ⟨runs, h1, h2⟩ := layoutBad_nil_sound cm false s py c h
  refine ⟨runs, h1, ?_⟩
  rcases h2 with h2 | ⟨h2, _⟩
  · exact h2
  · cases h2

theorem kindOk_int (cm : ClassMap) (s : Bool) (n : Nat) (p : Kind) (h : kindOk cm (.int s n) p = true) :
    p = .int s n := by
  cases p <;> simp [kindOk] at h
  obtain ⟨rfl, rfl⟩ := h; rfl

theorem kindOk_f64 (cm : ClassMap) (p : Kind) (h : kindOk cm .f64 p = true) : p = .f64 := by
  cases p <;> simp [kindOk] at h; rfl

theorem kindOk_struct (cm : ClassMap) (s : Name) (p : Kind) (h : kindOk cm (.struct s) p = true) :
    ∃ c, p = .struct c ∧ structOf cm c = some s := by
  cases p <;> simp [kindOk] at h
  rename_i c
  refine ⟨c, rfl, ?_⟩
  unfold optNameEq at h
  split at h
  · rename_i a b hs; rw [hs, (nameEq_iff _ _).1 h]
  · cases h

theorem kindOk_fptr_not_ptr (cm : ClassMap) (r : Kind) (n : Nat) (p : Kind) : kindOk cm (.fptr r n) (.ptr p) = false := by
  simp [kindOk]

theorem mem_itemsOf {k : Name} {l : List (Name × Name × Int)} {x : Name × Int} (h : x ∈ itemsOf k l) :
    (k, x.1, x.2) ∈ l := by
  induction l with
  | nil => simp [itemsOf] at h
  | cons y r ih =>
    obtain ⟨k', n, v⟩ := y
    simp only [itemsOf] at h
    split at h
    · rename_i hk
      have := (nameEq_iff _ _).1 hk
      subst this
      simp at h
      rcases h with rfl | h
      · simp
      · exact List.mem_cons_of_mem _ (ih h)
    · exact List.mem_cons_of_mem _ (ih h)

theorem distinctBy_pairwise {α : Type} (eq : α → α → Bool) (l : List α) (h : distinctBy eq l = true) :
    l.Pairwise (fun a b => eq a b = false) := by
  induction l with
  | nil => exact List.Pairwise.nil
  | cons x r ih =>
    simp only [distinctBy, Bool.and_eq_true, Bool.not_eq_true', List.any_eq_false] at h
    exact List.Pairwise.cons (fun b hb => by simpa using h.1 b hb) (ih h.2)

theorem nth_mem {α : Type} (i : Nat) (l : List α) (x : α) (h : nth i l = some x) : x ∈ l := by
  induction l generalizing i with
  | nil => simp [nth] at h
  | cons y r ih =>
    cases i with
    | zero => simp [nth] at h; simp [h]
    | succ j => simp only [nth] at h; exact List.mem_cons_of_mem _ (ih j h)

theorem protoAt_some (i : Nat) (n : Name) (protos : List Proto) (p : Proto) (h : protoAt i n protos = some p) :
    p ∈ protos ∧ p.name = n := by
  unfold protoAt at h
  split at h
  · rename_i q hq
    split at h
    · rename_i hn
      simp at h; subst h
      exact ⟨nth_mem _ _ _ hq, (nameEq_iff _ _).1 hn⟩
    · cases h
  · cases h

theorem lookupVal_mem (k : Name) (d : List (Name × Int)) (v : Int) (h : lookupVal k d = some v) : (k, v) ∈ d := by
  induction d with
  | nil => simp [lookupVal] at h
  | cons e r ih =>
    obtain ⟨k', v'⟩ := e
    simp only [lookupVal] at h
    split at h
    · rename_i hk
      have := (nameEq_iff _ _).1 hk
      simp at h; subst h; subst this; simp
    · exact List.mem_cons_of_mem _ (ih h)

theorem getOpt_of_mem (d : List (Name × Int)) (n : Name) (v : Int) (hm : (n, v) ∈ d)
    (hd : d.Pairwise (fun a b => a.2 ≠ b.2)) : getOpt d v = some n := by
  induction d with
  | nil => cases hm
  | cons e r ih =>
    obtain ⟨n', v'⟩ := e
    simp only [getOpt]
    rcases List.mem_cons.1 hm with h | h
    · cases h; simp
    · have hne : v' ≠ v := (List.pairwise_cons.1 hd).1 (n, v) h
      have : (v' == v) = false := by simpa using hne
      rw [this]; simp only [Bool.false_eq_true, if_false]
      exact ih h (List.pairwise_cons.1 hd).2

/-- "what is reported lies within the exceptions" turns "nothing is reported" into "no exception is used":
    `eq` is the comparison both membership tests use -/
theorem nil_iff_filter_any {α : Type} (eq : α → α → Bool) (symm : ∀ a b, eq a b = true → eq b a = true)
    (A K : List α) (h : A.all (fun x => K.any (eq x)) = true) :
    A = [] ↔ K.filter (fun x => A.any (eq x)) = [] := by
  constructor
  · rintro rfl; simp
  · intro hf
    cases A with
    | nil => rfl
    | cons a r =>
      obtain ⟨y, hy, hay⟩ := List.any_eq_true.mp (List.all_eq_true.mp h a (by simp))
      have : y ∈ K.filter (fun x => (a :: r).any (eq x)) :=
        List.mem_filter.mpr ⟨hy, List.any_eq_true.mpr ⟨a, by simp, symm a y hay⟩⟩
      rw [hf] at this
      cases this

theorem nameEq_symm (a b : Name) (h : nameEq a b = true) : nameEq b a = true :=
  (nameEq_iff b a).mpr ((nameEq_iff a b).mp h).symm

theorem memBad_eq_any (x : Bad) (l : List Bad) : memBad x l = l.any (badEq x) := by
  induction l with
  | nil => rfl
  | cons y r ih => rw [memBad, ih, List.any_cons]

theorem badEq_symm (x y : Bad) (h : badEq x y = true) : badEq y x = true := by
  simp only [badEq, Bool.and_eq_true] at h ⊢
  obtain ⟨⟨⟨h1, h2⟩, h3⟩, h4⟩ := h
  refine ⟨⟨⟨nameEq_symm _ _ h1, nameEq_symm _ _ h2⟩, nameEq_symm _ _ h3⟩, ?_⟩
  revert h4
  cases x.2.2.2 <;> cases y.2.2.2 <;> decide

/-- the comparison behind `memPair` -/
def pairEq (x y : Name × Name) : Bool := nameEq y.1 x.1 && nameEq y.2 x.2

theorem memPair_eq_any (x : Name × Name) (l : List (Name × Name)) : memPair x.1 x.2 l = l.any (pairEq x) := by
  induction l with
  | nil => rfl
  | cons y r ih => obtain ⟨y1, y2⟩ := y; rw [memPair, ih, List.any_cons]; rfl

theorem pairEq_symm (x y : Name × Name) (h : pairEq x y = true) : pairEq y x = true := by
  simp only [pairEq, Bool.and_eq_true] at h ⊢
  exact ⟨nameEq_symm _ _ h.1, nameEq_symm _ _ h.2⟩

theorem bad_nil_iff (A K : List Bad) (h : subsetBad A K = true) :
    A = [] ↔ K.filter (fun x => memBad x A) = [] := by
  simp only [subsetBad, memBad_eq_any] at h ⊢
  exact nil_iff_filter_any badEq badEq_symm A K h

theorem pairs_nil_iff (A K : List (Name × Name)) (h : subsetPairs A K = true) :
    A = [] ↔ (K.filter (fun x => memPair x.1 x.2 A)).length = 0 := by
  simp only [subsetPairs, memPair_eq_any, List.length_eq_zero_iff] at h ⊢
  exact nil_iff_filter_any pairEq pairEq_symm A K h

theorem all_iff_filter {α : Type} (l : List α) (p q : α → Bool) (h : l.all (fun f => p f || q f) = true) :
    l.all p = true ↔ (l.filter (fun f => q f && !p f)).length = 0 := by
  rw [List.length_eq_zero_iff, List.filter_eq_nil_iff, List.all_eq_true]
  refine forall_congr' fun f => forall_congr' fun hf => ?_
  have := List.all_eq_true.mp h f hf
  cases hp : p f <;> cases hq : q f <;> simp_all

end RV.Layout
