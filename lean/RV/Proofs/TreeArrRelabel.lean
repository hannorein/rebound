import RV.Proofs.TreeArrWalk
/-
  Renumbering the leaves of a well-formed tree (`WF_relabel`) and replacing the position function by one that
  agrees on the leaves (`WF_congr`).
-/
set_option linter.unusedSectionVars false
namespace RV.C15
open RV RV.Tree RV.Boundary RV.TreeArr

variable {K : Type} [Field K] [LinearOrder K] [IsStrictOrderedRing K] {α : Type}

theorem leaves_relabel (f : Nat → Nat) : ∀ t : T K, leaves (relabel f t) = (leaves t).map f := by
  intro t
  induction t with
  | nil => rfl
  | leaf c g q => rfl
  | node c g n ch ih =>
    simp only [relabel, leaves, memo_eq, List.map_flatMap]
    congr 1
    funext o
    exact ih o

theorem WF_relabel (ps ps' : Nat → Pt K) (f : Nat → Nat) : ∀ (t : T K) (c : Cell K),
    WF ps false c t → (∀ q ∈ leaves t, ps' (f q) = ps q) → WF ps' false c (relabel f t) := by
  intro t
  induction t with
  | nil => intro c _ _; trivial
  | leaf c0 g q =>
    intro c h hq
    obtain ⟨h1, h2⟩ := h
    refine ⟨h1, ?_⟩
    rw [hq q (by simp [leaves])]
    exact h2
  | node c0 g n ch ih =>
    intro c h hq
    obtain ⟨h1, h2, h3, h4, _⟩ := h
    have hl : ((List.finRange 8).flatMap fun o => leaves (relabel f (ch o))) =
        ((List.finRange 8).flatMap fun o => leaves (ch o)).map f := by
      rw [List.map_flatMap]
      congr 1
      funext o
      exact leaves_relabel f (ch o)
    simp only [relabel, memo_eq, WF, hl, List.length_map]
    refine ⟨h1, fun o => ih o _ (h2 o) (fun q hqo => hq q ?_), h3, h4, by simp⟩
    simp only [leaves, List.mem_flatMap]
    exact ⟨o, List.mem_finRange o, hqo⟩

/-- a tree only looks at the positions of the particles it holds -/
theorem WF_congr (ps ps' : Nat → Pt K) (tie : Bool) : ∀ (t : T K) (c : Cell K),
    WF ps tie c t → (∀ q ∈ leaves t, ps' q = ps q) → WF ps' tie c t := by
  intro t
  induction t with
  | nil => intro c _ _; trivial
  | leaf c0 g q =>
    intro c h hq
    obtain ⟨h1, h2⟩ := h
    refine ⟨h1, ?_⟩
    rw [hq q (by simp [leaves])]
    exact h2
  | node c0 g n ch ih =>
    intro c h hq
    obtain ⟨h1, h2, h3, h4, h5⟩ := h
    have hmem : ∀ o, ∀ q ∈ leaves (ch o), q ∈ leaves (T.node c0 g n ch) := by
      intro o q hqo
      simp only [leaves, List.mem_flatMap]
      exact ⟨o, List.mem_finRange o, hqo⟩
    refine ⟨h1, fun o => ih o _ (h2 o) (fun q hqo => hq q (hmem o q hqo)), h3, h4, ?_⟩
    intro ht o q hqo
    rw [hq q (hmem o q hqo)]
    exact h5 ht o q hqo

theorem perm_range_of_nodup (l : List Nat) (n : Nat) (hn : l.Nodup) (hb : ∀ x ∈ l, x < n) (hlen : l.length = n) :
    List.Perm l (List.range n) := by
  have hsub : l ⊆ List.range n := fun x hx => List.mem_range.mpr (hb x hx)
  have hsp : List.Subperm l (List.range n) := List.subperm_of_subset hn hsub
  exact hsp.perm_of_length_le (by simp [hlen])

end RV.C15
