/-
  Prefixes of a fresh file (crash images of the very first snapshot): the header pseudo-field of a prefix,
  and the version scan of a prefix, which never leaves its objects.  Used by `c07_first_snapshot_cut`.
-/
import RV.Proofs.BinCrash
namespace RV.Bin

theorem take_hdr64 (hdr Y : Bytes) (h : HdrOK hdr) (k : Nat) (hk : 16 ≤ k) :
    ∃ sz, readHdr ((hdr ++ Y).take k) = some (HEADER, sz, ((hdr ++ Y).take k).drop 16) ∧
      (((hdr ++ Y).take k).drop 16).drop 48 = Y.take (k - 64) := by
  have ht : ((hdr ++ Y).take k).take 4 = hdr.take 4 := by
    rw [List.take_take, List.take_append]
    have : min 4 k = 4 := by omega
    simp [this, h.len]
  refine ⟨_, readHdr_header _ (by simp [h.len]; omega) (by rw [ht]; exact h.ty), ?_⟩
  rw [List.drop_drop]
  have := drop_take_left hdr Y k
  rwa [h.len] at this

theorem scanVersion_prefix (v : Variant) (fs : List Field) (h : ScanOK fs) (m fuel ver : Nat) :
    ∃ w, scanVersion v fuel ((encFs fs ++ endBytes).take m) ver = some w := by
  induction fs generalizing m fuel ver with
  | nil =>
    cases fuel with
    | zero => exact ⟨ver, rfl⟩
    | succ n =>
      simp only [encFs, List.nil_append, scanVersion]
      by_cases h16 : m < 16
      · rw [readHdr_short _ (by simp; omega)]; exact ⟨ver, rfl⟩
      · have : endBytes.take m = endBytes ++ [] := by
          rw [List.take_of_length_le (by simp; omega)]; simp
        rw [this, readHdr_end]
        have h1 : ¬ END = HEADER := by decide
        simp only [h1, if_false, if_true]
        exact ⟨ver, rfl⟩
  | cons f fs ih =>
    cases fuel with
    | zero => exact ⟨ver, rfl⟩
    | succ n =>
      obtain ⟨hw, hnh, hver, hsmall, hrest⟩ := ScanOK_cons h
      by_cases h16 : m < 16
      · rw [scanVersion, readHdr_short _ (by simp; omega)]; exact ⟨ver, rfl⟩
      · simp only [encFs, encF, List.append_assoc, scanVersion]
        rw [take_hdr_append _ _ _ _ (by omega), readHdr_hdr _ _ _ hw.ty_lt hw.size_lt]
        simp only [hnh, hw.ty_ne_end, if_false, hw.size_eq, drop_take_left]
        by_cases hv : f.ty = SAVERSION
        · have hd : f.data.length = 4 := by rw [← hw.size_eq]; exact hver hv
          cases v.f19 <;> simp only [hv, hd, if_true, Nat.lt_irrefl, gt_iff_lt, if_false, Bool.false_eq_true] <;>
            exact ih hrest _ _ _
        · by_cases ht : f.ty = T_ID ∨ f.ty = AUTO_INTERVAL ∨ f.ty = AUTO_WALLTIME ∨ f.ty = AUTO_STEP
          · have hs : f.data.length ≤ 8 := by rw [← hw.size_eq]; exact hsmall ht
            have hc : (!v.f19 && decide (f.data.length > 8)) = false := by simp [Nat.not_lt.mpr hs]
            simp only [hv, ht, if_true, hc, Bool.false_eq_true, if_false]
            exact ih hrest _ _ _
          · simp only [hv, ht, if_false]
            exact ih hrest _ _ _

/-- what a first-snapshot file looks like: header, fields, END, then anything (the zero trailer) -/
def firstFile (hdr : Bytes) (fs0 : List Field) (T : Bytes) : Bytes := hdr ++ (encFs fs0 ++ (endBytes ++ T))

end RV.Bin
