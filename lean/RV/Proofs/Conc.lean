import RV.Model.Conc
/-
  Invariant of the protocol LTS (DESIGN appendix A9) and the lemmas behind RV/Props/C19.lean.
  Pure case analysis over the transition function; no Mathlib needed.
-/
namespace RV.Conc

def critI : IPc → Bool
  | .postLock | .locked | .stepping | .stepped | .inHb => true
  | _ => false

def critS : SPc → Bool
  | .holding | .serialising | .serialised | .ncClr => true
  | _ => false

def ncHigh : SPc → Bool
  | .ncSet | .holding | .serialising | .serialised => true
  | _ => false

/-- program points of the integrator at which it writes `r` without holding the mutex -/
def adjPc : IPc → Bool
  | .pro | .chkAdj | .epiAdj => true
  | _ => false

/-- outside `critI` the integrator is at none of the four program points `xStart`/`xStop` test -/
theorem not_iter {p : IPc} (h : critI p = false) :
    decide (p = .locked ∨ p = .stepping ∨ p = .stepped ∨ p = .inHb) = false := by
  cases p <;> first | rfl | cases h

/-- A9: the invariant of the product system, for every execution in which the server was neither
started inside an iteration of the loop that runs without the mutex nor stopped inside an iteration
that had seen it (`racy = false`) -/
structure Inv (s : State) : Prop where
  ownI  : s.owner = some .I ↔ (critI s.ipc = true ∧ s.ilock = true)
  ownS  : s.owner = some .S ↔ critS s.spc = true
  stepP : s.sim.phase = .inStep ↔ (s.ipc = .stepping ∨ s.ipc = .inHb)
  adjP  : s.sim.phase = .inAdjust ↔ adjPc s.ipc = true
  nc    : s.needCopy = true ↔ ncHigh s.spc = true
  snapS : s.spc = .serialising → ∃ m, s.snap = some m ∧ m.steps = s.sim.steps ∧ m.phase ≠ .inStep
  lockC : s.ilock = true → (critI s.ipc = true ∨ s.ipc = .shotWait)
  shotC : s.ipc = .shotWait → s.ilock = true
  upC   : critI s.ipc = true → s.ilock = false → s.srvUp = false
  downS : s.srvUp = false → s.spc = .accepting
  noUB  : s.ub = false
  lockUp : s.ilock = true → s.srvUp = true
  waitUp : (s.ipc = .waitNC ∨ s.ipc = .wantLock) → s.srvUp = true
  flagUp : (s.ipc = .postLock ∨ s.ipc = .postUnlock) → s.srvUp = true
  noMem  : s.memerr = false

theorem inv_init : Inv init := by
  constructor <;> simp [init, critI, critS, ncHigh, adjPc, boundary]

/-- `Inv` as a flat conjunction, the form `rw` and `grind` work on in `step_inv` -/
theorem inv_iff (s : State) : Inv s ↔
    (s.owner = some .I ↔ (critI s.ipc = true ∧ s.ilock = true)) ∧
    (s.owner = some .S ↔ critS s.spc = true) ∧
    (s.sim.phase = .inStep ↔ (s.ipc = .stepping ∨ s.ipc = .inHb)) ∧
    (s.sim.phase = .inAdjust ↔ adjPc s.ipc = true) ∧
    (s.needCopy = true ↔ ncHigh s.spc = true) ∧
    (s.spc = .serialising → ∃ m, s.snap = some m ∧ m.steps = s.sim.steps ∧ m.phase ≠ .inStep) ∧
    (s.ilock = true → (critI s.ipc = true ∨ s.ipc = .shotWait)) ∧
    (s.ipc = .shotWait → s.ilock = true) ∧
    (critI s.ipc = true → s.ilock = false → s.srvUp = false) ∧
    (s.srvUp = false → s.spc = .accepting) ∧
    s.ub = false ∧
    (s.ilock = true → s.srvUp = true) ∧
    ((s.ipc = .waitNC ∨ s.ipc = .wantLock) → s.srvUp = true) ∧
    ((s.ipc = .postLock ∨ s.ipc = .postUnlock) → s.srvUp = true) ∧
    s.memerr = false :=
  ⟨fun ⟨h1, h2, h3, h4, h5, h6, h7, h8, h9, h10, h11, h12, h13, h14, h15⟩ =>
     ⟨h1, h2, h3, h4, h5, h6, h7, h8, h9, h10, h11, h12, h13, h14, h15⟩,
   fun ⟨h1, h2, h3, h4, h5, h6, h7, h8, h9, h10, h11, h12, h13, h14, h15⟩ =>
     ⟨h1, h2, h3, h4, h5, h6, h7, h8, h9, h10, h11, h12, h13, h14, h15⟩⟩

/-! ### consequences of the invariant: the lock excludes -/

/-- once the server exists, every iteration that is past the lock has taken it -/
theorem Inv.crit_lock {s : State} (h : Inv s) (hc : critI s.ipc = true) (hu : s.srvUp = true) :
    s.ilock = true := by
  cases hl : s.ilock with
  | true => rfl
  | false => rw [h.upC hc hl] at hu; cases hu

theorem Inv.critS_up {s : State} (h : Inv s) (hc : critS s.spc = true) : s.srvUp = true := by
  cases hu : s.srvUp with
  | true => rfl
  | false => rw [h.downS hu] at hc; cases hc

/-- while the server is in its critical section the integrator is outside its own, locked or not -/
theorem Inv.excl {s : State} (h : Inv s) (hS : critS s.spc = true) : critI s.ipc = false := by
  cases hI : critI s.ipc with
  | false => rfl
  | true =>
    have := h.ownI.mpr ⟨hI, h.crit_lock hI (h.critS_up hS)⟩
    rw [h.ownS.mpr hS] at this; cases this

/-- The transition function read as a relation: every enabled transition is one of these.  Each hypothesis
carries the update of one branch of `step` and the positive guard of that branch only: the negations of
the earlier branches of an if-chain are not provided (`iChkBegin'` does not say `ipc ≠ .pro`, `iUnlockUB'`
keeps only `ub = true`), and `sClrNC` merges the two branches of `step` that have the same update.
Proofs about a single step go through this instead of splitting `step`. -/
theorem step_ind {P : State → Ev → State → Prop} {s s' : State} {e : Ev} (hs : step s e = some s')
    (iEnter : s.ipc = .idle → P s .iEnter { s with ipc := .pro, sim := setPhase s.sim .inAdjust })
    (iChkBegin : s.ipc = .pro →
      P s .iChkBegin { s with ipc := .chk, sim := { s.sim with phase := .atBoundary, adj := s.sim.adj + 1 } })
    (iChkBegin' : s.ipc = .unlocked → P s .iChkBegin { s with ipc := .chk })
    (iChkSync : s.ipc = .chk → P s .iChkSync { s with ipc := .chkAdj, sim := setPhase s.sim .inAdjust })
    (iChkEnd : ∀ cont, s.ipc = .chk → P s (.iChkEnd cont) { s with ipc := if cont then .preLock else .epi })
    (iChkEnd' : ∀ cont, s.ipc = .chkAdj →
      P s (.iChkEnd cont) { s with ipc := if cont then .preLock else .epi,
                                   sim := { s.sim with phase := .atBoundary, adj := s.sim.adj + 1 } })
    (iSeeSrv : s.ipc = .preLock ∧ s.srvUp = true → P s (.iSeeSrv true) { s with ipc := .waitNC })
    (iSeeSrv' : s.ipc = .preLock ∧ s.srvUp = false → P s (.iSeeSrv false) { s with ipc := .locked, ilock := false })
    (iSpin : s.ipc = .waitNC ∧ s.needCopy = true → P s .iSpin s)
    (iSeeNC0 : s.ipc = .waitNC ∧ s.needCopy = false →
      P s .iSeeNC0 { s with ipc := .wantLock, memerr := s.memerr || !s.srvUp })
    (iLock : s.ipc = .wantLock ∧ s.owner = none →
      P s .iLock { s with ipc := .postLock, owner := some .I, ilock := true, memerr := s.memerr || !s.srvUp })
    (iSetFlag : s.ipc = .postLock → P s .iSetFlag { s with ipc := .locked, memerr := s.memerr || !s.srvUp })
    (iStepBegin : s.ipc = .locked → P s .iStepBegin { s with ipc := .stepping, sim := setPhase s.sim .inStep })
    (iStepEnd : s.ipc = .stepping →
      P s .iStepEnd { s with ipc := .stepped, sim := { s.sim with phase := .atBoundary, steps := s.sim.steps + 1 } })
    (iHbBegin : s.ipc = .stepped → P s .iHbBegin { s with ipc := .inHb, sim := setPhase s.sim .inStep })
    (iHbEnd : s.ipc = .inHb → P s .iHbEnd { s with ipc := .stepped, sim := setPhase s.sim .atBoundary })
    (iShotUnlock : s.ipc = .inHb ∧ s.ilock = true ∧ s.owner = some .I →
      P s .iShotUnlock { s with ipc := .shotWait, owner := none, sim := setPhase s.sim .atBoundary })
    (iShotLock : s.ipc = .shotWait ∧ s.owner = none →
      P s .iShotLock { s with ipc := .inHb, owner := some .I, sim := setPhase s.sim .inStep })
    (iUnlock : s.ipc = .stepped ∧ s.srvUp = true → s.ilock = true ∧ s.owner = some .I →
      P s .iUnlock { s with ipc := .postUnlock, owner := none, ilock := false })
    (iUnlockUB : s.ipc = .stepped ∧ s.srvUp = true → s.ilock = false →
      P s .iUnlock { s with ipc := .postUnlock, owner := none, ub := true })
    (iUnlockUB' : s.ipc = .stepped ∧ s.srvUp = true → s.ub = true →
      P s .iUnlock { s with ipc := .postUnlock, owner := none, ilock := false })
    (iSkipUnlock : s.ipc = .stepped ∧ s.srvUp = false → P s .iSkipUnlock { s with ipc := .unlocked, ilock := false })
    (iClrFlag : s.ipc = .postUnlock → P s .iClrFlag { s with ipc := .unlocked, memerr := s.memerr || !s.srvUp })
    (iEpiSync : s.ipc = .epi → P s .iEpiSync { s with ipc := .epiAdj, sim := setPhase s.sim .inAdjust })
    (iLeave : s.ipc = .epiAdj →
      P s .iLeave { s with ipc := .idle, sim := { s.sim with phase := .atBoundary, adj := s.sim.adj + 1 } })
    (xStart : s.srvUp = false →
      P s .xStart { s with srvUp := true,
                           racy := s.racy || (decide (s.ipc = .locked ∨ s.ipc = .stepping ∨ s.ipc = .stepped ∨ s.ipc = .inHb) && !s.ilock) })
    (xStop : s.srvUp = true ∧ (s.spc = .accepting ∨ s.spc = .sending ∨ s.spc = .holding) →
      P s .xStop { s with srvUp := false, spc := .accepting, owner := none, needCopy := false,
                          racy := s.racy || decide (s.ipc = .waitNC ∨ s.ipc = .wantLock ∨ s.ipc = .postLock ∨ s.ipc = .postUnlock ∨ s.ipc = .shotWait) ||
                                  (decide (s.ipc = .locked ∨ s.ipc = .stepping ∨ s.ipc = .stepped ∨ s.ipc = .inHb) && s.ilock) })
    (sReq : s.spc = .accepting ∧ s.srvUp = true → P s .sReq { s with spc := .gotReq })
    (sSetNC : s.spc = .gotReq → P s .sSetNC { s with spc := .ncSet, needCopy := true })
    (sLock : s.spc = .ncSet ∧ s.owner = none → P s .sLock { s with spc := .holding, owner := some .S })
    (sSerBegin : s.spc = .holding → P s .sSerBegin { s with spc := .serialising, snap := some s.sim })
    (sSerEnd : s.spc = .serialising → P s .sSerEnd { s with spc := .serialised, served := s.served + 1 })
    (sClrNC : s.spc = .serialised ∨ s.spc = .holding → P s .sClrNC { s with spc := .ncClr, needCopy := false })
    (sUnlock : s.spc = .ncClr ∧ s.owner = some .S → P s .sUnlock { s with spc := .sending, owner := none })
    (sUnlockUB : s.spc = .ncClr ∧ s.ub = true → P s .sUnlock { s with spc := .sending, owner := none })
    (sStatic : s.spc = .accepting ∧ s.srvUp = true → P s .sStatic s)
    (sDrop : s.spc = .sending → P s .sDrop { s with spc := .accepting })
    (sSent : s.spc = .sending → P s .sSent { s with spc := .accepting }) :
    P s e s' := by
  rcases e with _ | _ | _ | ⟨_ | _⟩ | ⟨_ | _⟩ | _ <;> simp only [step, Bool.false_eq_true, ↓reduceIte] at hs <;> (repeat' split at hs) <;>
    simp only [Option.some.injEq, reduceCtorEq] at hs <;> subst hs <;> solve_by_elim [Or.inl, Or.inr]

theorem step_racy {s s' : State} {e : Ev} (hs : step s e = some s') :
    (s'.racy = false → s.racy = false) ∧ (e ≠ .xStart → e ≠ .xStop → s'.racy = s.racy) := by
  apply step_ind hs <;> intros
  case xStart => exact ⟨fun h => (Bool.or_eq_false_iff.mp h).1, fun h => absurd rfl h⟩
  case xStop => exact ⟨fun h => (Bool.or_eq_false_iff.mp (Bool.or_eq_false_iff.mp h).1).1, fun _ h => absurd rfl h⟩
  all_goals exact ⟨id, fun _ _ => rfl⟩

/-- In each transition the fifteen clauses for the new state are propositional consequences of those for
the old one and of the guard.  Most transitions move one program counter and the clauses follow by
evaluating `critI`, `critS`, `ncHigh`, `adjPc` at the old and the new point.  The others:
* `xStart` needs `hr` (no iteration past the lock without `ilock`) and `flagUp` (`postLock` is impossible
  while `srvUp = false`) to keep `upC`;
* `xStop` needs `hr` and `lockC` to get `ilock = false`, hence `ownI`, `lockUp`, `waitUp`, `flagUp`, `shotC`;
* `iUnlockUB` is impossible by `upC` (`Inv.crit_lock`), `iUnlockUB'` and `sUnlockUB` by `noUB`;
* `iSeeNC0`, `iLock`, `iSetFlag`, `iClrFlag` keep `memerr = false` by `waitUp` / `flagUp`;
* `iLock`, `sLock`, `iShotLock` keep `ownI` / `ownS` by their guard `owner = none`;
* `iStepEnd` and `sSerBegin` keep `snapS` because a serialising server excludes `stepping` / `inHb` (`Inv.excl`). -/
theorem step_inv {s s' : State} {e : Ev} (h : Inv s) (hs : step s e = some s') (hr : s'.racy = false) :
    Inv s' := by
  rw [inv_iff] at h
  revert hr
  apply step_ind hs <;> intros <;> rw [inv_iff] <;> grind [critI, critS, ncHigh, adjPc, setPhase]

theorem run_cons {s s' : State} {e : Ev} {es : List Ev} :
    run s (e :: es) = some s' ↔ ∃ s1, step s e = some s1 ∧ run s1 es = some s' := by
  simp only [run]
  cases step s e <;> simp

theorem run_racy_mono {tr : List Ev} : ∀ {s s' : State}, run s tr = some s' → s'.racy = false →
    s.racy = false := by
  induction tr with
  | nil => intro s s' hr h; cases hr; exact h
  | cons e es ih =>
    intro s s' hr h
    obtain ⟨s1, h1, hr⟩ := run_cons.mp hr
    exact (step_racy h1).1 (ih hr h)

theorem run_inv {tr : List Ev} : ∀ {s s' : State}, Inv s → run s tr = some s' → s'.racy = false → Inv s' := by
  induction tr with
  | nil => intro s s' h hr _; cases hr; exact h
  | cons e es ih =>
    intro s s' h hr hq
    obtain ⟨s1, h1, hr⟩ := run_cons.mp hr
    exact ih (step_inv h h1 (run_racy_mono hr hq)) hr hq

theorem exec_inv {tr : List Ev} {s : State} (h : Exec tr s) (hq : s.racy = false) : Inv s :=
  run_inv inv_init h hq

/-- a witness trace evaluated: the execution exists and ends in a state with the observed values -/
theorem exec_of_map {α : Type} {tr : List Ev} {f : State → α} {a : α}
    (h : (run init tr).map f = some a) : ∃ s, Exec tr s ∧ f s = a :=
  Option.map_eq_some_iff.mp h

theorem run_racy_const {tr : List Ev} : ∀ {s s' : State}, run s tr = some s' →
    (∀ e ∈ tr, e ≠ .xStart) → (∀ e ∈ tr, e ≠ .xStop) → s'.racy = s.racy := by
  induction tr with
  | nil => intro s s' hr _ _; cases hr; rfl
  | cons e es ih =>
    intro s s' hr h1 h2
    obtain ⟨s1, hs, hr⟩ := run_cons.mp hr
    rw [ih hr (fun x hx => h1 x (.tail _ hx)) (fun x hx => h2 x (.tail _ hx)),
        (step_racy hs).2 (h1 e (.head _)) (h2 e (.head _))]

theorem run_append {a b : List Ev} : ∀ {s : State},
    run s (a ++ b) = match run s a with | none => none | some s1 => run s1 b := by
  induction a with
  | nil => intro s; rfl
  | cons e es ih =>
    intro s
    simp only [List.cons_append, run]
    cases step s e with
    | none => rfl
    | some s1 => exact ih

/-! ### the integrator does what it does without a server -/

theorem step_proj {s s' : State} {e : Ev} (hs : step s e = some s') :
    (if e.isI && e != .iSpin then soloStep ⟨s.ipc, s.sim⟩ e = some ⟨s'.ipc, s'.sim⟩
     else (s'.ipc = s.ipc ∧ s'.sim = s.sim)) := by
  apply step_ind hs <;> intros <;> simp_all [Ev.isI, soloStep]

theorem run_proj {tr : List Ev} : ∀ {s s' : State}, run s tr = some s' →
    soloRun ⟨s.ipc, s.sim⟩ (projI tr) = some ⟨s'.ipc, s'.sim⟩ := by
  induction tr with
  | nil => intro s s' hr; cases hr; rfl
  | cons e es ih =>
    intro s s' hr
    obtain ⟨s1, h1, hr⟩ := run_cons.mp hr
    have hp := step_proj h1
    have ih' := ih hr
    by_cases hc : (e.isI && e != .iSpin) = true
    · simp only [hc, if_true] at hp
      simp only [projI, List.filter_cons, hc, if_true, soloRun, hp]
      exact ih'
    · simp only [hc] at hp
      simp only [projI, List.filter_cons, hc]
      rw [← hp.1, ← hp.2]
      exact ih'

/-! ### a serialisation that no unlocked write overlaps -/

/-- the state during such a serialisation -/
structure Quiet (s : State) : Prop where
  ser  : s.spc = .serialising
  nadj : adjPc s.ipc = false
  same : s.snap = some s.sim

/-- The server holds the mutex, so by `Inv.excl` the integrator is at none of the program points from which
an event other than an adjustment changes `sim`. -/
theorem step_quiet {s s' : State} {e : Ev} (h : Inv s) (q : Quiet s) (hs : step s e = some s')
    (ha : e.isAdjust = false) (he : e ≠ .sSerEnd) : Quiet s' := by
  have hS : critS s.spc = true := by rw [q.ser]; rfl
  have hc := h.excl hS
  have ho := h.ownS.mpr hS
  obtain ⟨q1, q2, q3⟩ := q
  clear h hS
  revert ha he
  apply step_ind hs
  -- `adjPc (if cont then .preLock else .epi)` needs `cont` split; `iChkEnd'` falls to `q.nadj` below
  case iChkEnd => intro cont _ _ _; cases cont <;> exact ⟨q1, rfl, q3⟩
  all_goals intros <;> constructor <;> simp_all [critI, adjPc, Ev.isAdjust]

theorem run_quiet {post : List Ev} : ∀ {s s' : State}, Inv s → Quiet s → run s post = some s' →
    s'.racy = false →
    (∀ e ∈ post, e.isAdjust = false) → (∀ e ∈ post, e ≠ .sSerEnd) → Quiet s' := by
  induction post with
  | nil => intro s s' _ q hr _ _ _; cases hr; exact q
  | cons e es ih =>
    intro s s' h q hr hq ha he
    obtain ⟨s1, h1, hr⟩ := run_cons.mp hr
    exact ih (step_inv h h1 (run_racy_mono hr hq)) (step_quiet h q h1 (ha e (.head _)) (he e (.head _))) hr hq
      (fun x hx => ha x (.tail _ hx)) (fun x hx => he x (.tail _ hx))

/-! ### independent machines commute -/

theorem concMachine_run (s : State) (es : List Ev) : concMachine.run s es = run s es := by
  induction es generalizing s with
  | nil => rfl
  | cons e es ih =>
    simp only [Machine.run, run]
    rw [show concMachine.step s e = step s e from rfl]
    cases step s e with
    | none => rfl
    | some s' => exact ih s'

theorem upd_same {α : Type} (v : Nat → α) (i : Nat) (x : α) : upd v i x i = x := by simp [upd]
theorem upd_other {α : Type} (v : Nat → α) (i j : Nat) (x : α) (h : j ≠ i) : upd v i x j = v j := by
  simp [upd, h]

theorem prun_component (M : Machine) {tr : List (Nat × M.ε)} :
    ∀ {v v' : Nat → M.σ}, prun M v tr = some v' → ∀ i, M.run (v i) (proj i tr) = some (v' i) := by
  induction tr with
  | nil => intro v v' h i; simp [prun] at h; subst h; simp [proj, Machine.run]
  | cons e es ih =>
    intro v v' h i
    obtain ⟨j, x⟩ := e
    simp only [prun, pstep] at h
    split at h
    · simp at h
    · next v1 h1 =>
      split at h1
      · simp at h1
      · next y hy =>
        simp only [Option.some.injEq] at h1; subst h1
        have := ih h i
        by_cases hji : j = i
        · subst hji
          simp only [proj, List.filter_cons, beq_self_eq_true, if_true, List.map_cons, Machine.run, hy]
          simpa [proj, upd_same] using this
        · have hne : (j == i) = false := by simp [hji]
          simp only [proj, List.filter_cons, hne]
          have hij : i ≠ j := fun h => hji h.symm
          simpa [proj, upd_other _ _ _ _ hij] using this

theorem prun_tag (M : Machine) (i : Nat) {es : List M.ε} :
    ∀ {v : Nat → M.σ} {x : M.σ}, M.run (v i) es = some x → prun M v (tag i es) = some (upd v i x) := by
  induction es with
  | nil =>
    intro v x h; simp [Machine.run] at h; subst h
    simp only [tag, List.map_nil, prun, Option.some.injEq]
    funext j; by_cases hj : j = i <;> simp [upd, hj]
  | cons e es ih =>
    intro v x h
    simp only [Machine.run] at h
    split at h
    · simp at h
    · next y hy =>
      simp only [tag, List.map_cons, prun, pstep, hy]
      have h' : M.run ((upd v i y) i) es = some x := by simpa [upd_same] using h
      have := ih h'
      simp only [tag] at this
      rw [this]
      congr 1
      funext j; by_cases hj : j = i <;> simp [upd, hj]

theorem prun_append (M : Machine) {a b : List (Nat × M.ε)} : ∀ {v : Nat → M.σ},
    prun M v (a ++ b) = match prun M v a with | none => none | some v1 => prun M v1 b := by
  induction a with
  | nil => intro v; simp [prun]
  | cons e es ih =>
    intro v
    simp only [List.cons_append, prun]
    cases pstep M v e with
    | none => rfl
    | some v1 => exact ih

theorem prun_untouched (M : Machine) {tr : List (Nat × M.ε)} {v v' : Nat → M.σ}
    (h : prun M v tr = some v') (i : Nat) (hi : ∀ e ∈ tr, e.1 ≠ i) : v' i = v i := by
  have := prun_component M h i
  have hp : proj i tr = [] := by
    simp only [proj, List.map_eq_nil_iff, List.filter_eq_nil_iff]
    intro e he; simpa using hi e he
  rw [hp] at this
  simpa [Machine.run] using this.symm

theorem prun_seq (M : Machine) {tr : List (Nat × M.ε)} {v v' : Nat → M.σ}
    (h : prun M v tr = some v') :
    ∀ k, prun M v (seqSched tr k) = some (fun j => if j < k then v' j else v j) := by
  intro k
  induction k with
  | zero => simp [seqSched, prun]
  | succ k ih =>
    simp only [seqSched, prun_append, ih]
    have hc := prun_component M h k
    have hk : (fun j => if j < k then v' j else v j) k = v k := by simp
    have := prun_tag M k (v := fun j => if j < k then v' j else v j) (x := v' k) (by simpa using hc)
    rw [this]
    congr 1
    funext j
    by_cases h1 : j = k
    · subst h1; simp [upd]
    · by_cases h2 : j < k
      · have : j < k + 1 := by omega
        simp [upd, h1, h2, this]
      · have : ¬ j < k + 1 := by omega
        simp [upd, h1, h2, this]

/-! ### the acceptor only accepts observable projections of executions -/

theorem mem_foldl_dedup (l : List State) : ∀ (acc : List State) (x : State),
    x ∈ l.foldl (fun acc s => if acc.contains s then acc else acc ++ [s]) acc ↔ x ∈ acc ∨ x ∈ l := by
  induction l with
  | nil => intro acc x; simp
  | cons a l ih =>
    intro acc x
    rw [List.foldl_cons, ih]
    split
    · next h =>
      have ha : a ∈ acc := by simpa using h
      simp only [List.mem_cons]
      exact ⟨Or.imp_right Or.inr, fun h => h.elim Or.inl (·.elim (· ▸ Or.inl ha) Or.inr)⟩
    · simp only [List.mem_append, List.mem_cons, List.not_mem_nil, false_or, or_assoc]

theorem mem_dedup (l : List State) (x : State) : x ∈ dedup l ↔ x ∈ l := by
  unfold dedup
  rw [mem_foldl_dedup]
  simp

def SilentReach (a b : State) : Prop := ∃ tr, (∀ e ∈ tr, e.silent = true) ∧ run a tr = some b

theorem SilentReach.refl (a : State) : SilentReach a a := ⟨[], by simp, rfl⟩

theorem SilentReach.snoc {a b c : State} {e : Ev} (h : SilentReach a b) (he : e.silent = true)
    (hs : step b e = some c) : SilentReach a c := by
  obtain ⟨tr, h1, h2⟩ := h
  refine ⟨tr ++ [e], ?_, ?_⟩
  · intro x hx
    simp only [List.mem_append, List.mem_singleton] at hx
    rcases hx with hx | hx
    · exact h1 x hx
    · exact hx ▸ he
  · rw [run_append, h2]; simp [run, hs]

theorem silentEvs_silent : ∀ e ∈ silentEvs, e.silent = true := by decide

theorem closure_reach : ∀ (fuel : Nat) (l : List State) (s : State), s ∈ closure fuel l →
    ∃ s0 ∈ l, SilentReach s0 s := by
  intro fuel
  induction fuel with
  | zero => intro l s h; exact ⟨s, h, SilentReach.refl s⟩
  | succ n ih =>
    intro l s h
    simp only [closure] at h
    split at h
    · exact ⟨s, h, SilentReach.refl s⟩
    · obtain ⟨s1, h1, r1⟩ := ih _ s h
      rw [mem_dedup] at h1
      simp only [List.mem_append, List.mem_flatMap, List.mem_filterMap] at h1
      rcases h1 with h1 | ⟨s2, h2, e, he, hs⟩
      · exact ⟨s1, h1, r1⟩
      · refine ⟨s2, h2, ?_⟩
        obtain ⟨tr, t1, t2⟩ := r1
        refine ⟨e :: tr, ?_, ?_⟩
        · intro x hx
          simp only [List.mem_cons] at hx
          rcases hx with hx | hx
          · exact hx ▸ silentEvs_silent e he
          · exact t1 x hx
        · simp [run, hs, t2]

theorem obsStep_reach (cands : List State) (o : Obs) (f : State) (h : f ∈ obsStep cands o) :
    ∃ s0 ∈ cands, ∃ m, SilentReach s0 m ∧ step m o.ev = some f := by
  simp only [obsStep, mem_dedup, List.mem_filterMap] at h
  obtain ⟨m, hm, hs⟩ := h
  obtain ⟨s0, h0, r⟩ := closure_reach 8 cands m hm
  refine ⟨s0, h0, m, r, ?_⟩
  split at hs
  · exact hs
  · simp at hs

def observable (tr : List Ev) : List Ev := tr.filter (fun e => !e.silent)

theorem observable_silent {tr : List Ev} (h : ∀ e ∈ tr, e.silent = true) : observable tr = [] := by
  simp only [observable, List.filter_eq_nil_iff]
  intro e he; simp [h e he]

theorem acceptFrom_sound : ∀ (obs : List Obs) (cands : List State) (i : Nat) (finals : List State),
    acceptFrom cands i obs = .ok finals → ∀ f ∈ finals, ∃ s0 ∈ cands, ∃ tr,
      run s0 tr = some f ∧ observable tr = obs.map (·.ev) := by
  intro obs
  induction obs with
  | nil =>
    intro cands i finals h f hf
    simp only [acceptFrom, Except.ok.injEq] at h
    subst h
    exact ⟨f, hf, [], rfl, rfl⟩
  | cons o os ih =>
    intro cands i finals h f hf
    simp only [acceptFrom] at h
    split at h
    · simp at h
    · next hsil =>
      split at h
      · simp at h
      · next c' hc =>
        obtain ⟨s1, h1, tr1, r1, p1⟩ := ih _ _ _ h f hf
        obtain ⟨s0, h0, m, ⟨tr0, t0, r0⟩, hs⟩ := obsStep_reach cands o s1 h1
        refine ⟨s0, h0, tr0 ++ o.ev :: tr1, ?_, ?_⟩
        · rw [run_append, r0]; simp [run, hs, r1]
        · have hns : (!o.ev.silent) = true := by simpa using hsil
          simp only [observable, List.filter_append, List.filter_cons, hns, if_true, List.map_cons]
          have := observable_silent t0
          simp only [observable] at this p1
          rw [this, p1]; rfl

end RV.Conc
