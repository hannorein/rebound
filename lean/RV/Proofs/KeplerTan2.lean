import RV.Proofs.KeplerTan
import RV.Proofs.VarKepler
/- closing "tangent map = derivative of the model's Kepler step": implicit differentiation of the
   universal Kepler equation + the derivative rules of RV/Proofs/KeplerTan.lean +
   `Var.tanLines_is_eps` (RV/Proofs/VarKepler.lean: the last lines of the tangent map are the ε-part of
   the f-g update, given `dX` and `dG_k`). -/
namespace RV.Kepler
open RV RV.Var
variable {K : Type} [Field K] [CharZero K]

section defs
variable {F : Type} [Scalar F]
/-- the line `double dX = -1.*ri*(X*dr0 + Gs[2]*deta0+Gs[3]*dzeta0+tbeta*dbeta);` with everything it
    depends on (lines 316-325), copied from `tangentUpdate` -/
def tanDX (M r0 r0i ri X beta eta0 zeta0 : F) (gs : Cs6 F) (p dp : Kepler.P6 F) : F :=
  let dr0 := (dp.x * p.x + dp.y * p.y + dp.z * p.z) * r0i
  let dbeta := (Scalar.neg n2) * M * dr0 * r0i * r0i - n2 * (dp.vx * p.vx + dp.vy * p.vy + dp.vz * p.vz)
  let deta0 := dp.x * p.vx + dp.y * p.vy + dp.z * p.vz + p.x * dp.vx + p.y * dp.vy + p.z * dp.vz
  let dzeta0 := (Scalar.neg beta) * dr0 - r0 * dbeta
  let G3beta := half * (Scalar.ofNat 3 * gs.c5 - X * gs.c4)
  let G2beta := half * (n2 * gs.c4 - X * gs.c3)
  let tbeta := eta0 * G2beta + zeta0 * G3beta
  (Scalar.neg Scalar.one) * ri * (X * dr0 + gs.c2 * deta0 + gs.c3 * dzeta0 + tbeta * dbeta)
end defs

def re6 (g : Cs6 (Dual K)) : Cs6 K := ⟨g.c0.re, g.c1.re, g.c2.re, g.c3.re, g.c4.re, g.c5.re⟩

/-- the dual inputs of the Kepler step for a particle `p` with variation `dp` -/
structure DualIn (K : Type) where
  r0 : Dual K
  r0i : Dual K
  beta : Dual K
  eta0 : Dual K
  zeta0 : Dual K

def dualIn (M r0 r0i : K) (p dp : Kepler.P6 K) : DualIn K :=
  let dr0 := tanDr0 r0i p dp
  let r0d : Dual K := ⟨r0, dr0⟩
  let r0id : Dual K := ⟨r0i, -(dr0 * r0i * r0i)⟩
  let I := invariants (Dual.const M) r0d r0id (dP6 p dp)
  { r0 := r0d, r0i := r0id, beta := I.beta, eta0 := I.eta0, zeta0 := I.zeta0 }


omit [CharZero K] in
theorem _root_.RV.Dual.one_div_eq (a : Dual K) {ri : K} (h : ri * a.re = 1) :
    Scalar.one / a = ⟨ri, -(a.eps * ri * ri)⟩ := by
  have ha : a.re ≠ 0 := fun h0 => by rw [h0, mul_zero] at h; exact zero_ne_one h
  have hr : ri = 1 / a.re := by field_simp; exact h
  subst hr
  refine Dual.mk.injEq .. ▸ ⟨rfl, ?_⟩
  dsimp only [Dual.div_eps, Dual.one_re, Dual.one_eps, sc_one, sc_zero]
  field_simp
  ring

section main
variable (M r0 r0i ri dt : K) (p dp : Kepler.P6 K) (s : Cs5 (Dual K)) (Xd : Dual K)

omit [CharZero K] in
theorem dualIn_parts :
    let D := dualIn M r0 r0i p dp
    let i0 := invariants M r0 r0i p
    let dr0 := tanDr0 r0i p dp
    D.r0 = ⟨r0, dr0⟩ ∧ D.r0i = ⟨r0i, -(dr0 * r0i * r0i)⟩ ∧
    D.beta.re = i0.beta ∧ D.eta0.re = i0.eta0 ∧ D.zeta0.re = i0.zeta0 ∧
    D.beta.eps = (-2) * M * dr0 * r0i * r0i - 2 * (dp.vx * p.vx + dp.vy * p.vy + dp.vz * p.vz) ∧
    D.eta0.eps = dp.x * p.vx + dp.y * p.vy + dp.z * p.vz + p.x * dp.vx + p.y * dp.vy + p.z * dp.vz ∧
    D.zeta0.eps = (-i0.beta) * dr0 - r0 * D.beta.eps := by
  obtain ⟨e1, e2, e3, e4, e5, e6⟩ := kepler_invariants_tangent M r0 r0i p dp
  exact ⟨rfl, rfl, e4, e5, e6, e1, e2, e3⟩

variable (hD : StumpffD s) (hz : s.z = (dualIn M r0 r0i p dp).beta * (Xd * Xd))
  (hri : ri * (r0 + (invariants M r0 r0i p).eta0 * (scaleGs6 Xd (cs6Finish s)).c1.re
            + (invariants M r0 r0i p).zeta0 * (scaleGs6 Xd (cs6Finish s)).c2.re) = 1)
  (hX : Xd.eps = tanDX M r0 r0i ri Xd.re (invariants M r0 r0i p).beta (invariants M r0 r0i p).eta0
        (invariants M r0 r0i p).zeta0 (re6 (scaleGs6 Xd (cs6Finish s))) p dp)

include hD hz hri in
/-- ε-part of the universal Kepler equation `r0 X + η0 G2 + ζ0 G3 (= dt)` evaluated on duals,
    times `ri = 1/r`:  `dX − dX_code` -/
theorem kepler_eps :
    ri * ((dualIn M r0 r0i p dp).r0 * Xd + (dualIn M r0 r0i p dp).eta0 * (scaleGs6 Xd (cs6Finish s)).c2
          + (dualIn M r0 r0i p dp).zeta0 * (scaleGs6 Xd (cs6Finish s)).c3).eps =
      Xd.eps - tanDX M r0 r0i ri Xd.re (invariants M r0 r0i p).beta (invariants M r0 r0i p).eta0
        (invariants M r0 r0i p).zeta0 (re6 (scaleGs6 Xd (cs6Finish s))) p dp := by
  obtain ⟨-, g2, g3, -, -⟩ := scaleGs6_D hD _ Xd hz
  obtain ⟨d1, -, -, d4, d5, d6, d7, d8⟩ := dualIn_parts M r0 r0i p dp
  dsimp only [Dual.add_eps, Dual.mul_eps, Dual.mul_re, Dual.add_re]
  rw [g2, g3, d1, d4, d5, d7, d8, d6]
  dsimp only [tanDX, tanDr0, re6, n2, half, lit, sc_neg, sc_one, sc_ofNat]
  linear_combination Xd.eps * hri

include hD hz hX in
/-- the intermediate quantities of the tangent map (lines 315-331) are the ε-parts of the model's own
    quantities on duals, once `dX` is the ε-part of `X̂` -/
theorem tanMid_eps :
    let D := dualIn M r0 r0i p dp
    let g := scaleGs6 Xd (cs6Finish s)
    let i0 := invariants M r0 r0i p
    tanMid M r0 r0i ri Xd.re i0.beta i0.eta0 i0.zeta0 (re6 g) p dp =
      ⟨tanDr0 r0i p dp, g.c1.eps, g.c2.eps, g.c3.eps, (D.r0 + D.eta0 * g.c1 + D.zeta0 * g.c2).eps⟩ := by
  obtain ⟨g1, g2, g3, -, -⟩ := scaleGs6_D hD _ Xd hz
  obtain ⟨d1, -, -, d4, d5, d6, d7, d8⟩ := dualIn_parts M r0 r0i p dp
  dsimp only [Dual.add_eps, Dual.mul_eps, Dual.mul_re, Dual.add_re]
  rw [g1, g2, g3, d1, d4, d5, d7, d8, d6]
  dsimp only [tanDX, re6] at hX
  dsimp only [tanMid, tanDr0, re6]
  rw [← hX, TanMid.mk.injEq]
  dsimp only [n2, half, lit, sc_neg, sc_ofNat]
  refine ⟨rfl, ?_, ?_, ?_, ?_⟩ <;> ring

end main
end RV.Kepler
