import RV.Model.ParticlesLookup
import RV.Proofs.Particles
/-
  The allocated lookup table (RV/Model/ParticlesLookup.lean) against the abstract rebuild loop of RV/Model/Particles.lean:
  same entries, never a write outside the allocation, capacity ≥ N_lookup.  Core Lean only.
-/
namespace RV.Particles

theorem le_lookupGrow (cap n : Nat) : cap ≤ lookupGrow cap n := by
  unfold lookupGrow
  split
  · split <;> omega
  · omega

theorem lookupGrow_gt (cap n : Nat) (h : n ≤ cap) : n < lookupGrow cap n := by
  unfold lookupGrow
  split
  · split <;> omega
  · omega

def Repr (cells : List (Option Entry)) (t : List Entry) : Prop :=
  t.length ≤ cells.length ∧ ∀ k, k < t.length → cells[k]? = some t[k]?

theorem Repr.grow {cells : List (Option Entry)} {t : List Entry} (h : Repr cells t) (m : Nat) :
    Repr (cells ++ List.replicate m none) t := by
  refine ⟨by simp; have := h.1; omega, fun k hk => ?_⟩
  rw [List.getElem?_append, if_pos (by have := h.1; omega)]; exact h.2 k hk

theorem Repr.push {cells : List (Option Entry)} {t : List Entry} (h : Repr cells t) (e : Entry) (hl : t.length < cells.length) :
    Repr (cells.set t.length (some e)) (t ++ [e]) := by
  refine ⟨by simp; omega, fun k hk => ?_⟩
  simp only [List.length_append, List.length_singleton] at hk
  rw [List.getElem?_set]
  by_cases hkt : t.length = k
  · subst hkt; rw [if_pos rfl, if_pos hl]; simp
  · rw [if_neg hkt, h.2 k (by omega), List.getElem?_append, if_pos (by omega)]

theorem Repr.update {cells : List (Option Entry)} {t : List Entry} (h : Repr cells t) (z : Nat) (e : Entry) (hz : z < t.length) :
    Repr (cells.set z (some e)) (t.set z e) := by
  refine ⟨by simp; exact h.1, fun k hk => ?_⟩
  simp only [List.length_set] at hk
  rw [List.getElem?_set, List.getElem?_set]
  by_cases hzk : z = k
  · subst hzk; rw [if_pos rfl, if_pos (by have := h.1; omega), if_pos rfl, if_pos hz]
  · rw [if_neg hzk, if_neg hzk]; exact h.2 k hk

/-- simulation: wherever the abstract loop succeeds, the allocated loop succeeds with the same entries in its first
    `N_lookup` cells, without a write outside the allocation, and only ever grows the allocation -/
theorem rebuildAlloc_simulates : ∀ (ps : List P) (i : Nat) (t : List Entry) (zh : Option Nat) (cells : List (Option Entry)),
    Repr cells t → (zh = none → t.length = i) → (∀ z, zh = some z → z < t.length) →
    ∀ t', rebuildLoop ps i t zh = some t' →
      ∃ cells', rebuildAllocLoop ps i cells t.length zh = some (cells', t'.length) ∧ Repr cells' t' ∧
        cells.length ≤ cells'.length := by
  intro ps
  induction ps with
  | nil =>
    intro i t zh cells hr _ _ t' ht
    simp [rebuildLoop] at ht; subst ht
    exact ⟨cells, rfl, hr, Nat.le_refl _⟩
  | cons p ps ih =>
    intro i t zh cells hr hzn hzs t' ht
    have hgt := lookupGrow_gt cells.length t.length hr.1
    have hge := le_lookupGrow cells.length t.length
    have hr1 := hr.grow (lookupGrow cells.length t.length - cells.length)
    have hlen1 : (cells ++ List.replicate (lookupGrow cells.length t.length - cells.length) none).length
        = lookupGrow cells.length t.length := by simp; omega
    unfold rebuildAllocLoop
    unfold rebuildLoop at ht
    simp only []
    -- the allocation after the growth test: room for one more entry
    generalize cells ++ List.replicate (lookupGrow cells.length t.length - cells.length) none = cells1 at hr1 hlen1 ⊢
    have hroom : t.length < cells1.length := by rw [hlen1]; exact hgt
    by_cases hz : p.hash = 0
    · rw [if_pos hz] at ht ⊢
      cases zh with
      | none =>
        have hti : t.length = i := hzn rfl
        subst hti
        simp only [tblWrite, Nat.lt_irrefl, if_false, if_true, List.length_append, List.length_singleton] at ht
        simp only [ltWrite, if_pos hroom]
        obtain ⟨c', e, r', l'⟩ := ih (t.length + 1) (t ++ [⟨p.hash, t.length⟩]) (some t.length) _
          (hr1.push ⟨p.hash, t.length⟩ hroom) (by intro h; cases h)
          (by intro z hz'; cases hz'; simp) t' ht
        rw [List.length_append, List.length_singleton] at e
        exact ⟨c', e, r', by rw [List.length_set] at l'; omega⟩
      | some z =>
        have hzt : z < t.length := hzs z rfl
        simp only [List.getElem?_eq_getElem hzt] at ht
        simp only [hr1.2 z hzt, List.getElem?_eq_getElem hzt]
        obtain ⟨c', e, r', l'⟩ := ih (i + 1) (t.set z ⟨t[z].hash, i⟩) (some z) _
          (hr1.update z ⟨t[z].hash, i⟩ hzt) (by intro h; cases h)
          (by intro z' hz'; cases hz'; rw [List.length_set]; exact hzt) t' ht
        rw [List.length_set] at e
        exact ⟨c', e, r', by rw [List.length_set] at l'; omega⟩
    · rw [if_neg hz] at ht ⊢
      simp only [ltWrite, if_pos hroom]
      obtain ⟨c', e, r', l'⟩ := ih (i + 1) (t ++ [⟨p.hash, i⟩]) zh _ (hr1.push ⟨p.hash, i⟩ hroom)
        (by intro h; have := hzn h; simp; omega) (by intro z' hz'; have := hzs z' hz'; simp; omega) t' ht
      rw [List.length_append, List.length_singleton] at e
      exact ⟨c', e, r', by rw [List.length_set] at l'; omega⟩

/-- `reb_update_particle_lookup_table` on ANY particle array and ANY previous allocation: it never writes outside the
    allocation; afterwards `N_lookup ≤ N_allocated_lookup`, `N_lookup ≤ N`, the allocation has not shrunk, and the first
    `N_lookup` cells are exactly the entries of the abstract loop `rebuildLoop` (about which the lookup theorems speak). -/
theorem rebuildAlloc_spec (ps : List P) (cells0 : List (Option Entry)) :
    ∃ cells n t, rebuildAllocLoop ps 0 cells0 0 none = some (cells, n) ∧ rebuildLoop ps 0 [] none = some t ∧
      n = t.length ∧ n ≤ cells.length ∧ n ≤ ps.length ∧ cells0.length ≤ cells.length ∧
      ∀ k, k < n → cells[k]? = some t[k]? := by
  obtain ⟨t, zh', e1, inv⟩ := rebuildLoop_spec ps [] [] none LoopInv.init
  simp only [List.length_nil, List.nil_append] at e1 inv
  obtain ⟨cells, e2, r, l⟩ := rebuildAlloc_simulates ps 0 [] none cells0 ⟨by simp, by simp⟩ (fun _ => rfl)
    (by intro z h; cases h) t e1
  exact ⟨cells, t.length, t, e2, e1, rfl, r.1, inv.len, l, r.2⟩

theorem ltWrite_length {cells c' : List (Option Entry)} {k : Nat} {e : Entry} (h : ltWrite cells k e = some c') :
    c'.length = cells.length := by
  unfold ltWrite at h
  split at h
  · cases h; exact List.length_set
  · cases h

/-- `N_allocated_lookup` along the loop: it depends on the particles only through `N_hash` and whether a zero hash has
    been met -/
def capLoop : List P → Nat → Nat → Bool → Nat
  | [], cap, _, _ => cap
  | p :: ps, cap, n, z =>
    if p.hash = 0 ∧ z = true then capLoop ps (lookupGrow cap n) n z
    else capLoop ps (lookupGrow cap n) (n + 1) (z || decide (p.hash = 0))

theorem rebuildAllocLoop_length : ∀ (ps : List P) (i : Nat) (cells : List (Option Entry)) (n : Nat) (zh : Option Nat)
    (r : List (Option Entry) × Nat), rebuildAllocLoop ps i cells n zh = some r →
    r.1.length = capLoop ps cells.length n zh.isSome
  | [], _, _, _, _, _, h => by cases h; rfl
  | p :: ps, i, cells, n, zh, r, h => by
    have hlen : (cells ++ List.replicate (lookupGrow cells.length n - cells.length) none).length
        = lookupGrow cells.length n := by
      have := le_lookupGrow cells.length n
      rw [List.length_append, List.length_replicate]; omega
    unfold rebuildAllocLoop at h
    unfold capLoop
    simp only [] at h
    by_cases hz : p.hash = 0
    · rw [if_pos hz] at h
      cases zh with
      | none =>
        simp only [] at h
        cases hw : ltWrite _ i ⟨p.hash, i⟩ with
        | none => rw [hw] at h; cases h
        | some c' =>
          rw [hw] at h
          have := rebuildAllocLoop_length ps _ _ _ _ r h
          simpa [ltWrite_length hw, hlen, hz] using this
      | some z =>
        simp only [] at h
        split at h
        · have := rebuildAllocLoop_length ps _ _ _ _ r h
          simpa [hlen, hz] using this
        · cases h
    · rw [if_neg hz] at h
      cases hw : ltWrite _ n ⟨p.hash, i⟩ with
      | none => rw [hw] at h; cases h
      | some c' =>
        rw [hw] at h
        have := rebuildAllocLoop_length ps _ _ _ _ r h
        simpa [ltWrite_length hw, hlen, hz] using this

theorem capAfterRebuild_eq (cap : Nat) (ps : List P) : capAfterRebuild cap ps = capLoop ps cap 0 false := by
  obtain ⟨cells, n, t, e1, _⟩ := rebuildAlloc_spec ps (List.replicate cap none)
  unfold capAfterRebuild
  rw [e1]
  simpa using rebuildAllocLoop_length _ _ _ _ _ _ e1

end RV.Particles
