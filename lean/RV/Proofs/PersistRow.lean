import RV.Proofs.Persist
/-
  Round trip of the field-level codec, for every table:  reading back what the writer emitted for
  row `d` sets exactly the locations of `d` to the source's values (`writeS`).
-/
namespace RV.Persist

variable {psz : Nat} {sp : Special} {tbl : List Desc}

theorem applyField_simple (cur : Sim) (w : List Warning) (f : Field) (d : Desc) (sz : Nat)
    (hl : lookup tbl f.1 = some d) (hs : simpleSize psz d.dtype = some sz) :
    applyField psz sp tbl (cur, w) f = (cur.setMem d.mem f.2, w) := by
  simp [applyField, hl, hs]

theorem applyField_pointer (cur : Sim) (w : List Warning) (f : Field) (d : Desc)
    (hl : lookup tbl f.1 = some d) (hd : d.dtype = .pointer ∨ d.dtype = .pointerAligned) :
    applyField psz sp tbl (cur, w) f =
      ((cur.setHeap d.mem (some f.2)).setMem d.nMem (encLE 4 (countOf f.2.length d.elemSize)),
       if f.2.length % d.elemSize ≠ 0 then w ++ [.inconsistentSize f.1] else w) := by
  rcases hd with h | h <;> simp [applyField, hl, h, simpleSize]

theorem applyField_fixed (cur : Sim) (w : List Warning) (f : Field) (d : Desc)
    (hl : lookup tbl f.1 = some d) (hd : d.dtype = .pointerFixed) :
    applyField psz sp tbl (cur, w) f =
      (cur.setHeap d.mem (some f.2), if f.2.length ≠ d.elemSize then w ++ [.inconsistentSize f.1] else w) := by
  simp [applyField, hl, hd, simpleSize]

theorem applyField_dp7 (cur : Sim) (w : List Warning) (f : Field) (d : Desc)
    (hl : lookup tbl f.1 = some d) (hd : d.dtype = .dp7) :
    applyField psz sp tbl (cur, w) f =
      (let c := f.2.length / 7
       (((((((((cur.setHeap d.mem (some (f.2.take c))).setHeap (d.mem+1) (some ((f.2.drop c).take c))).setHeap
          (d.mem+2) (some ((f.2.drop (2*c)).take c))).setHeap (d.mem+3) (some ((f.2.drop (3*c)).take c))).setHeap
          (d.mem+4) (some ((f.2.drop (4*c)).take c))).setHeap (d.mem+5) (some ((f.2.drop (5*c)).take c))).setHeap
          (d.mem+6) (some ((f.2.drop (6*c)).take c))).setMem d.nMem (encLE 4 (countOf f.2.length d.elemSize))),
         if f.2.length % d.elemSize ≠ 0 then w ++ [.inconsistentSize f.1] else w)) := by
  simp [applyField, hl, hd, simpleSize]

theorem countOf_mul (c e : Nat) (he : e ≠ 0) (hlt : c * e < 4294967296) : countOf (c * e) e = c := by
  unfold countOf
  rw [Nat.mod_eq_of_lt hlt]
  exact Nat.mul_div_cancel c (Nat.pos_of_ne_zero he)

theorem counter_back (s : Sim) (d : Desc) (h4 : (s.mem d.nMem).length = 4) :
    encLE 4 (counter s d) = s.mem d.nMem := by
  unfold counter
  rw [List.take_of_length_le h4.le]
  exact encLE4_leNat _ h4

theorem heapBytes_some (s : Sim) (m : Nat) (b : Bytes) (h : s.heap m = some b) : heapBytes s m = b := by
  simp [heapBytes, h]

theorem flatten_chunk (c : Nat) (l : List Bytes) (h : ∀ x ∈ l, x.length = c) (k : Nat) (hk : k < l.length) :
    (l.flatten.drop (k * c)).take c = l[k] := by
  induction l generalizing k with
  | nil => simp at hk
  | cons x r ih =>
    have hx : x.length = c := h x (by simp)
    cases k with
    | zero => simp [← hx]
    | succ k =>
      rw [List.flatten_cons, Nat.succ_mul, Nat.add_comm, ← List.drop_drop, List.drop_left' hx]
      exact ih (fun y hy => h y (List.mem_cons_of_mem _ hy)) k (by simpa using hk)

theorem dp7Payload_chunks (s : Sim) (m c : Nat) (h : ∀ k, k < 7 → ∃ b, s.heap (m + k) = some b ∧ b.length = c) :
    (dp7Payload s m c).length = 7 * c ∧
    ∀ k, k < 7 → s.heap (m + k) = some (((dp7Payload s m c).drop (k * c)).take c) := by
  have hb : ∀ k, k < 7 → s.heap (m + k) = some (heapBytes s (m + k)) ∧ (heapBytes s (m + k)).length = c := by
    intro k hk
    obtain ⟨b, hb, hl⟩ := h k hk
    simp [heapBytes, hb, hl]
  have hp : dp7Payload s m c = ((List.range 7).map fun k => heapBytes s (m + k)).flatten := by
    have ht := fun k hk => List.take_of_length_le (hb k hk).2.le
    simpa [dp7Payload, List.range, List.range.loop, ht] using ht 0 (by omega)
  have hl : ∀ x ∈ (List.range 7).map fun k => heapBytes s (m + k), x.length = c := by
    intro x hx
    obtain ⟨k, hk, rfl⟩ := List.mem_map.mp hx
    exact (hb k (List.mem_range.mp hk)).2
  rw [hp]
  refine ⟨?_, fun k hk => ?_⟩
  · rw [List.length_flatten, List.map_congr_left hl]; simp [Function.comp_def]; omega
  · rw [flatten_chunk c _ hl k (by simpa using hk), List.getElem_map, List.getElem_range]
    exact (hb k hk).1

theorem setMem_mem (s : Sim) (m : Nat) (b : Bytes) (i : Nat) :
    (s.setMem m b).mem i = if i = m then b else s.mem i := rfl
theorem setMem_heap (s : Sim) (m : Nat) (b : Bytes) (i : Nat) : (s.setMem m b).heap i = s.heap i := rfl
theorem setHeap_mem (s : Sim) (m : Nat) (b : Option Bytes) (i : Nat) : (s.setHeap m b).mem i = s.mem i := rfl
theorem setHeap_heap (s : Sim) (m : Nat) (b : Option Bytes) (i : Nat) :
    (s.setHeap m b).heap i = if i = m then b else s.heap i := rfl

theorem encodeField_simple (s : Sim) (d : Desc) (sz : Nat) (hs : simpleSize psz d.dtype = some sz) :
    encodeField psz s d = [(d.id, (s.mem d.mem).take sz)] := by
  simp [encodeField, hs]

theorem encodeField_pointer (s : Sim) (d : Desc) (hd : d.dtype = .pointer ∨ d.dtype = .pointerAligned) :
    encodeField psz s d =
      if fieldSize s d = 0 then [] else [(d.id, (heapBytes s d.mem).take (fieldSize s d))] := by
  rcases hd with h | h <;> simp [encodeField, h, simpleSize, fieldSize]

theorem encodeField_fixed (s : Sim) (d : Desc) (hd : d.dtype = .pointerFixed) :
    encodeField psz s d = match s.heap d.mem with
      | some b => [(d.id, b.take d.elemSize)]
      | none => [] := by
  cases h : s.heap d.mem <;> simp [encodeField, hd, simpleSize, h]

theorem encodeField_dp7 (s : Sim) (d : Desc) (hd : d.dtype = .dp7) :
    encodeField psz s d =
      if fieldSize s d = 0 then [] else [(d.id, dp7Payload s d.mem (fieldSize s d / 7))] := by
  simp [encodeField, hd, simpleSize, fieldSize]

theorem encodeField_none (s : Sim) (d : Desc)
    (hd : d.dtype = .other ∨ d.dtype = .fieldEnd ∨ d.dtype = .notFound) : encodeField psz s d = [] := by
  rcases hd with h | h | h <;> simp [encodeField, h, simpleSize]

theorem writeS_of_none (s cur : Sim) (d : Desc) (hm : ∀ m, memWritten psz s d m = false)
    (hh : ∀ m, heapWritten psz s d m = false) : writeS psz s cur d = cur := by
  apply Sim.ext' <;> intro m <;> simp [writeS, hm, hh]

/-- reading back the field(s) emitted for row `d` sets `d`'s locations to the source's values and raises
    no warning -/
theorem apply_encodeField (s cur : Sim) (w : List Warning) (d : Desc)
    (hl : lookup tbl d.id = some d) (hwf : WFd psz s d) :
    applyAll psz sp tbl (cur, w) (encodeField psz s d) = (writeS psz s cur d, w) := by
  unfold WFd at hwf
  rcases rowKind psz d.dtype with ⟨sz, hs⟩ | hd | hd | hd | hd
  · rw [hs] at hwf
    rw [encodeField_simple s d sz hs, applyAll_cons, applyAll_nil, applyField_simple cur w _ d sz hl hs,
      List.take_of_length_le hwf.le]
    congr 1
    apply Sim.ext' <;> intro m
    · by_cases h : m = d.mem <;> simp [Sim.setMem, writeS, memWritten, hs, h]
    · simp [Sim.setMem, writeS, heapWritten, hs]
  · obtain ⟨he, h4, hlt, hheap⟩ : d.elemSize ≠ 0 ∧ (s.mem d.nMem).length = 4 ∧ fieldSize s d < 4294967296 ∧
        (fieldSize s d ≠ 0 → ∃ b, s.heap d.mem = some b ∧ b.length = fieldSize s d) := by
      rcases hd with h | h <;> simpa only [h, simpleSize] using hwf
    have hmw : ∀ m, memWritten psz s d m = (decide (fieldSize s d ≠ 0) && decide (m = d.nMem)) := by
      intro m; rcases hd with h | h <;> simp [memWritten, h, simpleSize]
    have hhw : ∀ m, heapWritten psz s d m = (decide (fieldSize s d ≠ 0) && decide (m = d.mem)) := by
      intro m; rcases hd with h | h <;> simp [heapWritten, h, simpleSize]
    rw [encodeField_pointer s d hd]
    by_cases hz : fieldSize s d = 0
    · rw [if_pos hz, applyAll_nil, writeS_of_none s cur d] <;> simp [hmw, hhw, hz]
    · obtain ⟨b, hb, hbl⟩ := hheap hz
      rw [if_neg hz, applyAll_cons, applyAll_nil, applyField_pointer cur w _ d hl hd,
        heapBytes_some s _ b hb, List.take_of_length_le hbl.le]
      dsimp only
      rw [hbl, show countOf (fieldSize s d) d.elemSize = counter s d from countOf_mul _ _ he hlt, counter_back s d h4,
        if_neg (by simp [fieldSize])]
      congr 1
      apply Sim.ext' <;> intro m
      · by_cases h : m = d.nMem <;> simp [Sim.setMem, Sim.setHeap, writeS, hmw, hz, h]
      · by_cases h : m = d.mem <;> simp [Sim.setMem, Sim.setHeap, writeS, hhw, hz, h, hb]
  · simp only [hd, simpleSize] at hwf
    rw [encodeField_fixed s d hd]
    cases hh : s.heap d.mem with
    | none => rw [applyAll_nil, writeS_of_none s cur d] <;> simp [memWritten, heapWritten, hd, simpleSize, hh]
    | some b =>
      rw [applyAll_cons, applyAll_nil, applyField_fixed cur w _ d hl hd,
        List.take_of_length_le (hwf b hh).le, if_neg (by simp [hwf b hh])]
      congr 1
      apply Sim.ext' <;> intro m
      · simp [Sim.setHeap, writeS, memWritten, hd, simpleSize]
      · by_cases h : m = d.mem <;> simp [Sim.setHeap, writeS, heapWritten, hd, simpleSize, hh, h]
  · simp only [hd, simpleSize] at hwf
    obtain ⟨he, h7, h4, hlt, hheap⟩ := hwf
    rw [encodeField_dp7 s d hd]
    by_cases hz : fieldSize s d = 0
    · rw [if_pos hz, applyAll_nil, writeS_of_none s cur d] <;> simp [memWritten, heapWritten, hd, simpleSize, hz]
    · obtain ⟨hlen, hk⟩ := dp7Payload_chunks s d.mem _ (hheap hz)
      have h7s : 7 * (fieldSize s d / 7) = fieldSize s d := Nat.mul_div_cancel' (Dvd.dvd.mul_left h7 _)
      rw [if_neg hz, applyAll_cons, applyAll_nil, applyField_dp7 cur w _ d hl hd]
      dsimp only
      rw [hlen, h7s, show countOf (fieldSize s d) d.elemSize = counter s d from countOf_mul _ _ he hlt,
        counter_back s d h4, if_neg (by simp [fieldSize])]
      congr 1
      apply Sim.ext' <;> intro m
      · by_cases h : m = d.nMem <;> simp [Sim.setMem, Sim.setHeap, writeS, memWritten, hd, simpleSize, hz, h]
      · simp only [Sim.setMem, Sim.setHeap, writeS, heapWritten, hd, simpleSize]
        have h1 := hk 1 (by omega)
        have h0 := hk 0 (by omega)
        rw [Nat.one_mul] at h1
        rw [Nat.zero_mul, List.drop_zero, Nat.add_zero] at h0
        rw [← hk 6 (by omega), ← hk 5 (by omega), ← hk 4 (by omega), ← hk 3 (by omega), ← hk 2 (by omega), ← h1, ← h0]
        by_cases hin : d.mem ≤ m ∧ m < d.mem + 7
        · have : m = d.mem ∨ m = d.mem + 1 ∨ m = d.mem + 2 ∨ m = d.mem + 3 ∨ m = d.mem + 4 ∨ m = d.mem + 5 ∨
              m = d.mem + 6 := by omega
          rcases this with rfl | rfl | rfl | rfl | rfl | rfl | rfl <;> simp [hz]
        · rw [if_neg (by omega), if_neg (by omega), if_neg (by omega), if_neg (by omega), if_neg (by omega),
            if_neg (by omega), if_neg (by omega)]
          simp [hin]
  · rw [encodeField_none s d hd, applyAll_nil, writeS_of_none s cur d] <;> intro m <;> rcases hd with h | h | h <;>
      simp [memWritten, heapWritten, h, simpleSize]

end RV.Persist
