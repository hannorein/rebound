import RV.Proofs.C01Whfast
/- C01 / WHFast: advertised generalised orders, Jacobi coordinates -/
namespace RV.C01.Whfast
open RV.C01 RV.C01.Gen RV.C01.Adv

/-- `ε·dt^{k+1}` for a first corrector of order `k` (quadrature form: all words with one letter `B` up to length `k+1`),
    `ε²·dt²` for the default kernel, `ε²·dt⁴` for the modified-kick, composition and lazy kernels once a corrector removed
    `ε·dt²`: all words with two or three letters `B` up to length 4 -/
theorem order_jacobi : ∀ kern ∈ [0, 1, 2, 3], ∀ corr ∈ [0, 3, 5, 7, 11, 17], ∀ s ∈ stepOf (0, kern, corr, 0),
    Quadrature s ((whfast kern corr).getD 1 0) tolWH ∧ WordOrder s (whfastWords kern corr) κWH tolWH := by
  decide +kernel

end RV.C01.Whfast
