/-
  The reader's two passes over an archive and over crash images of an append.  The version scan depends on blob 0
  only.  An archive is `archPre ++ last trailer`, an image is the same with another final segment, and the index
  does not depend on the final segment as long as it stops the index loop (`index_archG`); the final segment of
  every image cut short of the last byte does (`crashFin_stops`), and so does the intact trailer followed by a
  stale tail.  Last: what is assumed of an archive (`ArchOK`), its index entries (`archEntries`), and the index of
  an intact archive, with or without a stale tail (`index_tail_eq`, `index_intact`).
-/
import RV.Proofs.BinIndex
namespace RV.Bin

theorem indexLoop_nil (v : Variant) (fuel i pos : Nat) :
    (indexLoop v fuel i pos []).entries = [] ∧ (indexLoop v fuel i pos []).undefinedB = false := by
  cases fuel with
  | zero => simp [indexLoop]
  | succ n => simp [indexLoop, walkBlob, readHdr, shorter]

/-- a short trailer after a complete blob (`a < 12` of its bytes on disk) fails the offset check -/
theorem short_trailer_mismatch (x L a : Nat) (hL : 16 ≤ L) (hL2 : L < 2147483648) (ha : a < 12) :
    sgn32 (de ((((trailerBytes x L 0).take a).drop 4).take 4)) + 12 ≠ ((L + a : Nat) : Int) := by
  by_cases h8 : 8 ≤ a
  · -- the back offset is complete: it reads `L`, and `a ≠ 12`
    have hc : a = 8 ∨ a = 9 ∨ a = 10 ∨ a = 11 := by omega
    have : de ((((trailerBytes x L 0).take a).drop 4).take 4) = L := by
      rcases hc with rfl | rfl | rfl | rfl <;> exact de_le32 L (by omega)
    rw [this, sgn32_small _ hL2]; omega
  · -- only some low bytes of the back offset: a residue of `L`
    have hc : a = 0 ∨ a = 1 ∨ a = 2 ∨ a = 3 ∨ a = 4 ∨ a = 5 ∨ a = 6 ∨ a = 7 := by omega
    rcases hc with rfl | rfl | rfl | rfl | rfl | rfl | rfl | rfl <;>
      simp only [trailerBytes, le32, List.cons_append, List.nil_append, List.take_succ_cons, List.take_zero,
        List.drop_succ_cons, List.drop_zero, List.take_nil, List.drop_nil, de] <;>
      (rw [sgn32_small _ (by omega)]; omega)

theorem take_body (fs0 : List Field) (T : Bytes) (j : Nat) (hj : j < blobLen fs0) :
    (encFs fs0 ++ (endBytes ++ T)).take j = (encFs fs0 ++ endBytes).take j := by
  rw [← List.append_assoc, List.take_append_of_le_length]
  simp [blobLen] at hj ⊢; omega

theorem indexLoop_rejects_prefix (v : Variant) (d : List Field) (hd : BlobOK d) (hdl : blobLen d < 2147483648)
    (x m : Nat) (hm : m < blobLen d + 12) (fuel i pos : Nat) (hi : i > 0) :
    (indexLoop v fuel i pos ((encFs d ++ (endBytes ++ trailerBytes x (blobLen d) 0)).take m)).entries = [] ∧
    (indexLoop v fuel i pos ((encFs d ++ (endBytes ++ trailerBytes x (blobLen d) 0)).take m)).undefinedB = false := by
  cases fuel with
  | zero => simp [indexLoop]
  | succ n =>
    by_cases hlt : m < blobLen d
    · -- cut inside the fields or the END marker: read error
      rw [take_body d _ m hlt, indexLoop, walkBlob_prefix v d hd m hlt]
      simp
    · -- fields and END complete, trailer short
      have hge : blobLen d ≤ m := by omega
      have e : (encFs d ++ (endBytes ++ trailerBytes x (blobLen d) 0)).take m
          = encFs d ++ (endBytes ++ (trailerBytes x (blobLen d) 0).take (m - blobLen d)) := by
        rw [← List.append_assoc, List.take_append, ← List.append_assoc]
        have : (encFs d ++ endBytes).length = blobLen d := by simp [blobLen]
        rw [this, List.take_of_length_le (by rw [this]; exact hge)]
      have hstep := indexLoop_step v n i pos [] (Or.inl rfl) d hd
      simp only [List.nil_append, List.length_nil, Nat.add_zero] at hstep
      rw [e, hstep]
      have ha : m - blobLen d < 12 := by omega
      have hlen : ((trailerBytes x (blobLen d) 0).take (m - blobLen d)).length = m - blobLen d := by
        simp; omega
      have htt : ((trailerBytes x (blobLen d) 0).take (m - blobLen d)).take 12 = (trailerBytes x (blobLen d) 0).take (m - blobLen d) := by
        apply List.take_of_length_le; rw [hlen]; omega
      simp only [htt, hlen]
      have hmis := short_trailer_mismatch x (blobLen d) (m - blobLen d) (blobLen_ge d) hdl ha
      have hcond : i > 0 ∧ sgn32 (de ((((trailerBytes x (blobLen d) 0).take (m - blobLen d)).drop 4).take 4)) + 12
          ≠ ((pos + blobLen d + (m - blobLen d) : Nat) : Int) - (pos : Int) := by
        refine ⟨hi, ?_⟩
        intro h
        apply hmis
        rw [h]; omega
      rw [if_pos hcond]
      exact ⟨rfl, rfl⟩


/-! ### first pass of the reader (version scan): depends on blob 0 only -/
structure ScanOK (fs : List Field) : Prop where
  wf : WFs fs
  noHeader : NoHeader fs
  ver : ∀ f ∈ fs, f.ty = SAVERSION → f.size = 4
  small : ∀ f ∈ fs, (f.ty = T_ID ∨ f.ty = AUTO_INTERVAL ∨ f.ty = AUTO_WALLTIME ∨ f.ty = AUTO_STEP) → f.size ≤ 8

theorem ScanOK_cons {f : Field} {fs : List Field} (h : ScanOK (f :: fs)) :
    f.WF ∧ f.ty ≠ HEADER ∧ (f.ty = SAVERSION → f.size = 4) ∧
      ((f.ty = T_ID ∨ f.ty = AUTO_INTERVAL ∨ f.ty = AUTO_WALLTIME ∨ f.ty = AUTO_STEP) → f.size ≤ 8) ∧ ScanOK fs :=
  ⟨h.wf f (List.mem_cons_self ..), h.noHeader f (List.mem_cons_self ..), h.ver f (List.mem_cons_self ..),
   h.small f (List.mem_cons_self ..),
   ⟨fun g hg => h.wf g (List.mem_cons_of_mem _ hg), fun g hg => h.noHeader g (List.mem_cons_of_mem _ hg),
    fun g hg => h.ver g (List.mem_cons_of_mem _ hg), fun g hg => h.small g (List.mem_cons_of_mem _ hg)⟩⟩

def verOf : List Field → Nat → Nat
  | [], ver => ver
  | f :: r, ver => verOf r (if f.ty = SAVERSION then de f.data else ver)

theorem scanVersion_enc (v : Variant) (fs : List Field) (rest : Bytes) (h : ScanOK fs)
    (fuel ver : Nat) (hf : fs.length < fuel) :
    scanVersion v fuel (encFs fs ++ (endBytes ++ rest)) ver = some (verOf fs ver) := by
  induction fs generalizing fuel ver with
  | nil =>
    cases fuel with
    | zero => omega
    | succ n =>
      have h1 : ¬ END = HEADER := by decide
      simp [scanVersion, encFs, readHdr_end, verOf, h1]
  | cons f fs ih =>
    cases fuel with
    | zero => omega
    | succ n =>
      obtain ⟨hw, hnh, hver, hsmall, hrest⟩ := ScanOK_cons h
      have hl : fs.length < n := by simp at hf; omega
      simp only [encFs, List.append_assoc, scanVersion]
      rw [readHdr_encF f _ hw]
      simp only [hnh, hw.ty_ne_end, if_false, hw.size_eq, List.drop_left, List.take_left, ih hrest n _ hl, verOf]
      by_cases hv : f.ty = SAVERSION
      · have hd : f.data.length = 4 := by rw [← hw.size_eq]; exact hver hv
        cases v.f19 <;> simp [hv, hd]
      · by_cases ht : f.ty = T_ID ∨ f.ty = AUTO_INTERVAL ∨ f.ty = AUTO_WALLTIME ∨ f.ty = AUTO_STEP
        · have hs : f.data.length ≤ 8 := by rw [← hw.size_eq]; exact hsmall ht
          simp [hv, ht, Nat.not_lt.mpr hs]
        · simp [hv, ht]

theorem scanVersion_hdr (v : Variant) (hdr Y : Bytes) (h : HdrOK hdr) (fuel ver : Nat) :
    scanVersion v (fuel + 1) (hdr ++ Y) ver = scanVersion v fuel Y ver := by
  obtain ⟨sz, hr⟩ := readHdr_hdr64 hdr Y h
  rw [scanVersion, hr]
  simp only [if_true, drop64 hdr Y h]

/-- the version the reader sees is decided by blob 0, whatever follows its END marker -/
theorem scanVersion_arch (v : Variant) (hdr : Bytes) (hh : HdrOK hdr) (fs0 : List Field) (h0 : ScanOK fs0)
    (X : Bytes) :
    scanVersion v ((hdr ++ (encFs fs0 ++ (endBytes ++ X))).length + 1) (hdr ++ (encFs fs0 ++ (endBytes ++ X))) 0
      = some (verOf fs0 0) := by
  have hl := encFs_length_ge fs0
  rw [scanVersion_hdr v hdr _ hh, scanVersion_enc v fs0 X h0]
  simp [hh.len]; omega


/-! ### an archive is `prefix ++ last trailer` -/
def chainPre : Nat → Nat → List (List Field) → Bytes
  | _, _, [] => []
  | idx, prev, d :: r => trailerBytes idx prev (blobLen d) ++ (encFs d ++ (endBytes ++ chainPre (idx + 1) (blobLen d) r))

def lastPrev : Nat → List (List Field) → Nat
  | prev, [] => prev
  | _, d :: r => lastPrev (blobLen d) r

theorem chainG_split (fin : Nat → Nat → Bytes) (idx prev : Nat) (ds : List (List Field)) :
    chainG fin idx prev ds = chainPre idx prev ds ++ fin (idx + ds.length) (lastPrev prev ds) := by
  induction ds generalizing idx prev with
  | nil => simp [chainG, chainPre, lastPrev]
  | cons d r ih =>
    simp only [chainG, chainPre, lastPrev, ih, List.append_assoc, List.length_cons]
    have : idx + 1 + r.length = idx + (r.length + 1) := by omega
    rw [this]

theorem chainPre_concat (idx prev : Nat) (l : List (List Field)) (d : List Field) :
    chainPre idx prev (l ++ [d]) = chainPre idx prev l ++
      (trailerBytes (idx + l.length) (lastPrev prev l) (blobLen d) ++ (encFs d ++ endBytes)) := by
  induction l generalizing idx prev with
  | nil => simp [chainPre, lastPrev]
  | cons x r ih =>
    simp only [List.cons_append, chainPre, lastPrev, ih, List.append_assoc, List.length_cons]
    have : idx + 1 + r.length = idx + (r.length + 1) := by omega
    rw [this]

theorem lastPrev_concat (p : Nat) (l : List (List Field)) (d : List Field) : lastPrev p (l ++ [d]) = blobLen d := by
  induction l generalizing p with
  | nil => simp [lastPrev]
  | cons x r ih => simp only [List.cons_append, lastPrev]; exact ih _

theorem lastPrev_lt (ds : List (List Field)) (hds : ChainOK ds) : lastPrev 0 ds < 2147483648 := by
  rcases List.eq_nil_or_concat ds with rfl | ⟨l, d, rfl⟩
  · decide
  · rw [List.concat_eq_append, lastPrev_concat]
    exact (hds d (by simp)).2

theorem chainG_length_ge (fin : Nat → Nat → Bytes) (idx prev : Nat) (ds : List (List Field)) :
    ds.length ≤ (chainG fin idx prev ds).length := by
  induction ds generalizing idx prev with
  | nil => simp
  | cons d r ih =>
    simp only [chainG, List.length_append, List.length_cons, endBytes_length, trailerBytes_length]
    have := ih (idx + 1) (blobLen d); omega

/-- everything of an archive before its last trailer -/
def archPre (hdr : Bytes) (fs0 : List Field) (ds : List (List Field)) : Bytes :=
  hdr ++ (encFs fs0 ++ (endBytes ++ chainPre 0 0 ds))

theorem archG_split (fin : Nat → Nat → Bytes) (hdr : Bytes) (fs0 : List Field) (ds : List (List Field)) :
    archG fin hdr fs0 ds = archPre hdr fs0 ds ++ fin ds.length (lastPrev 0 ds) := by
  simp [archG, archPre, chainG_split, List.append_assoc]

def archI (hdr : Bytes) (fs0 : List Field) (ds : List (List Field)) : Bytes := archG finIntact hdr fs0 ds

/-- the bytes an append of the delta `dn` writes, starting at the last trailer -/
def pendingData (ds : List (List Field)) (dn : List Field) : Bytes :=
  trailerBytes ds.length (lastPrev 0 ds) (blobLen dn) ++
    (encFs dn ++ (endBytes ++ trailerBytes (ds.length + 1) (blobLen dn) 0))

theorem pendingData_length (ds : List (List Field)) (dn : List Field) :
    (pendingData ds dn).length = 12 + blobLen dn + 12 := by
  simp [pendingData, blobLen]; omega

theorem archI_length (hdr : Bytes) (fs0 : List Field) (ds : List (List Field)) :
    (archI hdr fs0 ds).length = (archPre hdr fs0 ds).length + 12 := by
  rw [archI, archG_split]; simp [finIntact]

theorem archI_tail (hdr : Bytes) (fs0 : List Field) (ds : List (List Field)) (tail : Bytes) :
    archI hdr fs0 ds ++ tail = archG (finTail tail) hdr fs0 ds := by
  rw [archI, archG_split, archG_split]; simp [finTail, List.append_assoc]

theorem archI_concat (hdr : Bytes) (fs0 : List Field) (l : List (List Field)) (d : List Field) :
    archI hdr fs0 (l ++ [d]) = archPre hdr fs0 l ++ (trailerBytes l.length (lastPrev 0 l) (blobLen d) ++
      (encFs d ++ (endBytes ++ finIntact (l.length + 1) (blobLen d)))) := by
  rw [archI, archG_split, lastPrev_concat]
  simp [archPre, chainPre_concat, List.append_assoc]

theorem overwrite_append (A B D : Bytes) : overwrite (A ++ B) A.length D = A ++ (D ++ B.drop D.length) := by
  simp only [overwrite, List.take_left, List.append_assoc]
  rw [List.drop_append, List.drop_eq_nil_of_le (by omega), Nat.add_sub_cancel_left]
  rfl

/-- shape of every crash image: the part of the archive before its last trailer, then the bytes of the
    write that made it, then what is left of the old trailer (`data idx prev` = the bytes a write that
    starts at trailer `idx` with back offset `prev` would put there) -/
theorem crash_shape (hdr : Bytes) (fs0 : List Field) (ds : List (List Field)) (data : Nat → Nat → Bytes) (k : Nat)
    (hk : k ≤ (data ds.length (lastPrev 0 ds)).length) :
    crash (archI hdr fs0 ds) ((archI hdr fs0 ds).length - 12) (data ds.length (lastPrev 0 ds)) k
      = archG (fun idx prev => (data idx prev).take k ++ (finIntact idx prev).drop k) hdr fs0 ds := by
  rw [archG_split, archI_length, Nat.add_sub_cancel, archI, archG_split, crash, overwrite_append,
    List.length_take, Nat.min_eq_left hk]

theorem append_shape (hdr : Bytes) (fs0 : List Field) (ds : List (List Field)) (dn : List Field) :
    overwrite (archI hdr fs0 ds) ((archI hdr fs0 ds).length - 12) (pendingData ds dn)
      = archI hdr fs0 (ds ++ [dn]) := by
  rw [archI_concat, archI_length, Nat.add_sub_cancel, archI, archG_split, overwrite_append,
    List.drop_eq_nil_of_le (by rw [pendingData_length]; simp [finIntact]), List.append_nil]
  rfl

theorem mix_take8 (A B P : Bytes) (hP : P.length = 8) (hA : A.take 8 = P) (hB : B.take 8 = P) (k : Nat) :
    (A.take k ++ B.drop k).take 8 = P := by
  have hAl : 8 ≤ A.length := by
    have := congrArg List.length hA; simp [hP] at this; omega
  have hBl : 8 ≤ B.length := by
    have := congrArg List.length hB; simp [hP] at this; omega
  by_cases hk : 8 ≤ k
  · rw [List.take_append_of_le_length (by simp; omega), List.take_take]
    have : min 8 k = 8 := by omega
    rw [this, hA]
  · have hk' : k < 8 := by omega
    rw [List.take_append, List.take_of_length_le (by simp; omega)]
    have e1 : A.take k = P.take k := by
      rw [← hA, List.take_take]; congr 1; omega
    have e2 : (B.drop k).take (8 - (P.take k).length) = P.drop k := by
      have : (P.take k).length = k := by simp; omega
      rw [this, ← hB, List.drop_take]
    rw [e1, e2, List.take_append_drop]

/-- `k` bytes of `A ++ C` written over `B`, where `A` and `B` have the same length -/
theorem take_append_mix (A B C : Bytes) (h : A.length = B.length) (k : Nat) :
    (A ++ C).take k ++ B.drop k = (A.take k ++ B.drop k) ++ C.take (k - A.length) := by
  rw [List.take_append]
  by_cases hk : k ≤ A.length
  · simp [Nat.sub_eq_zero_of_le hk]
  · rw [List.drop_eq_nil_of_le (by omega)]; simp

/-- The final segment of a crash image (first `k` bytes of the pending write, rest of the old trailer)
    stops the index loop after the last completed blob.  The first twelve bytes are a trailer whose index and
    back offset are those of the old one (the two writes agree there); behind it lies a strict prefix of
    `delta ++ END ++ trailer`, empty when `k < 12`, which the loop rejects. -/
theorem crashFin_stops (v : Variant) (n p x : Nat) (dn : List Field) (hdn : BlobOK dn)
    (hL : blobLen dn < 2147483648) (hp : p < 2147483648) (k : Nat) (hk : k < 12 + blobLen dn + 12) :
    FinStops v ((trailerBytes n p (blobLen dn) ++ (encFs dn ++ (endBytes ++ trailerBytes x (blobLen dn) 0))).take k
                ++ (finIntact n p).drop k) p := by
  have e := take_append_mix (trailerBytes n p (blobLen dn)) (finIntact n p)
    (encFs dn ++ (endBytes ++ trailerBytes x (blobLen dn) 0)) rfl k
  have hM : ((trailerBytes n p (blobLen dn)).take k ++ (finIntact n p).drop k).length = 12 := by
    simp [finIntact]; omega
  have hM8 := mix_take8 (trailerBytes n p (blobLen dn)) (finIntact n p) (le32 n ++ le32 p) rfl rfl rfl k
  rw [e, trailerBytes_length]
  refine ⟨by rw [List.take_left' hM]; exact hM, ?_, Or.inr fun fuel i pos => ?_⟩
  · have : ∀ M : Bytes, (M.drop 4).take 4 = (M.take 8).drop 4 := fun M => by rw [List.drop_take]
    rw [List.take_left' hM, this, hM8]
    exact (congrArg sgn32 (de_le32 p (by omega))).trans (sgn32_small p hp)
  · rw [List.drop_left' hM]
    exact indexLoop_rejects_prefix v dn hdn hL x (k - 12) (by omega) fuel (i + 1) pos (by omega)

/-- what the theorems assume of an archive: a 64-byte header that reads as the header pseudo-field, a
    first snapshot and deltas whose fields are well formed (sizes = payload lengths, `t` fields 8 bytes,
    version field 4 bytes with value ≥ 2), every blob shorter than 2³¹ bytes -/
structure ArchOK (hdr : Bytes) (fs0 : List Field) (ds : List (List Field)) : Prop where
  hdr : HdrOK hdr
  b0 : BlobOK fs0
  s0 : ScanOK fs0
  ver : 2 ≤ verOf fs0 0
  ds : ChainOK ds

theorem ArchOK.snoc {hdr : Bytes} {fs0 : List Field} {ds : List (List Field)} (h : ArchOK hdr fs0 ds)
    {d : List Field} (hd : BlobOK d) (hL : blobLen d < 2147483648) : ArchOK hdr fs0 (ds ++ [d]) :=
  ⟨h.hdr, h.b0, h.s0, h.ver, fun x hx => by
    rcases List.mem_append.mp hx with hx | hx
    · exact h.ds x hx
    · obtain rfl := List.mem_singleton.mp hx
      exact ⟨hd, hL⟩⟩

def archEntries (fs0 : List Field) (ds : List (List Field)) : List Entry :=
  ⟨0, tOf fs0 none⟩ :: chainEntries (off1 fs0) ds

theorem index_archG (v : Variant) (fin : Nat → Nat → Bytes) (hdr : Bytes) (fs0 : List Field)
    (ds : List (List Field)) (h : ArchOK hdr fs0 ds)
    (hfin : ∀ idx L, L < 2147483648 → FinStops v (fin idx L) L) :
    index v (archG fin hdr fs0 ds) = fixTimes v (archEntries fs0 ds) := by
  have hlen : ds.length + 1 < (archG fin hdr fs0 ds).length + 1 := by
    have := chainG_length_ge fin 0 0 ds
    simp only [archG, List.length_append, h.hdr.len, endBytes_length]; omega
  obtain ⟨e1, e2⟩ := indexLoop_arch v fin hfin hdr h.hdr fs0 h.b0 ds h.ds _ hlen
  have hv : scanVersion v ((archG fin hdr fs0 ds).length + 1) (archG fin hdr fs0 ds) 0 = some (verOf fs0 0) :=
    scanVersion_arch v hdr h.hdr fs0 h.s0 _
  have hver : ¬ (verOf fs0 0 < 2) := by have := h.ver; omega
  simp only [index, openArchive, hv, hver, if_false, e2, Bool.false_eq_true, e1, archEntries]
  by_cases hre : (indexLoop v ((archG fin hdr fs0 ds).length + 1) 0 0 (archG fin hdr fs0 ds)).readError = true <;>
    simp [hre, OpenResult.entries]

/-- a stale tail behind the last trailer is invisible to the reader -/
theorem index_tail_eq (v : Variant) (hdr : Bytes) (fs0 : List Field) (ds : List (List Field))
    (h : ArchOK hdr fs0 ds) (tail : Bytes) :
    index v (archI hdr fs0 ds ++ tail) = fixTimes v (archEntries fs0 ds) := by
  rw [archI_tail]
  exact index_archG v _ hdr fs0 ds h (finTail_stops v tail)

/-- **archive theorem (index)**: the reader's index of a well-formed archive is one entry per snapshot
    (`chainEntries_length`), at the offsets of the trailer chain -/
theorem index_intact (v : Variant) (hdr : Bytes) (fs0 : List Field) (ds : List (List Field))
    (h : ArchOK hdr fs0 ds) : index v (archI hdr fs0 ds) = fixTimes v (archEntries fs0 ds) := by
  simpa using index_tail_eq v hdr fs0 ds h []

theorem index_tail (v : Variant) (hdr : Bytes) (fs0 : List Field) (ds : List (List Field))
    (h : ArchOK hdr fs0 ds) (tail : Bytes) :
    index v (archI hdr fs0 ds ++ tail) = index v (archI hdr fs0 ds) :=
  (index_tail_eq v hdr fs0 ds h tail).trans (index_intact v hdr fs0 ds h).symm

theorem chainEntries_length (pos : Nat) (ds : List (List Field)) : (chainEntries pos ds).length = ds.length := by
  induction ds generalizing pos with
  | nil => rfl
  | cons d r ih => simp [chainEntries, ih]

end RV.Bin
