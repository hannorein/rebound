import RV.Proofs.OrbitArgs
import RV.Proofs.Orbit
/-
  C11: the arithmetic of the two front ends (`frontC` = reb_particle_from_fmt_errV, `frontPy` =
  Particle.__init__) builds the same particle in exact arithmetic.
-/
set_option linter.unusedSectionVars false
namespace RV.Orbit
open RV.OrbitArgs
variable {K : Type} [Field K] [LinearOrder K] [IsStrictOrderedRing K]

/-- what is assumed of libm `pow` for the four exponents Python uses (2, 3, 0.5, 1/3) -/
structure PowSpec (L : Libm K) : Prop where
  sq : ∀ x, L.pow x 2 = x * x
  cube : ∀ x, L.pow x 3 = x * x * x
  half : ∀ x, L.pow x (1 / 2) = L.sqrt x
  third : ∀ x, L.pow x (1 / 3) = L.cbrt x

theorem libm_pow (L : Libm K) (x y : K) : @ScalarT.pow K L.orbitK.toScalarT x y = L.pow x y := rfl
theorem libm_cbrt (L : Libm K) (x : K) : @ScalarT.cbrt K L.orbitK.toScalarT x = L.cbrt x := rfl

/-- a classical plan means: at most one anomaly/longitude and not both pericentre arguments -/
theorem classical_plan_facts (p : Presence) (u pg : Bool) (pe : Peri) (lo : Lon)
    (h : cValidate stdTab p = .ok (.classical u pg pe lo)) :
    count p stdTab.long ≤ 1 ∧ ¬ (p.omega = true ∧ p.pomega = true) := by
  rw [cValidate_eq] at h
  exact cCore_classical h

theorem front_a_val (L : Libm K) (PS : PowSpec L) (G pm m P : K) :
    @ScalarT.pow K L.orbitK.toScalarT
        (@ScalarT.pow K L.orbitK.toScalarT P two * G * (pm + m) / (four * @ScalarT.pow K L.orbitK.toScalarT L.pi two)) (1 / three)
      = @ScalarT.cbrt K L.orbitK.toScalarT (P * P * G * (pm + m) / (four * L.pi * L.pi)) := by
  simp only [libm_pow, libm_cbrt, two, three, four, sc_ofNat, Nat.cast_ofNat, PS.sq, PS.third]
  congr 1; ring

theorem front_n_val (L : Libm K) (PS : PowSpec L) (x a : K) :
    @ScalarT.pow K L.orbitK.toScalarT (x / @ScalarT.fabs K L.orbitK.toScalarT (@ScalarT.pow K L.orbitK.toScalarT a three)) half
      = @ScalarT.sqrt K L.orbitK.toScalarT (x / @ScalarT.fabs K L.orbitK.toScalarT (a * a * a)) := by
  simp only [libm_pow, libm_sqrt, half, three, sc_one, sc_hdiv, sc_ofNat, Nat.cast_ofNat, PS.cube, PS.half]

end RV.Orbit
