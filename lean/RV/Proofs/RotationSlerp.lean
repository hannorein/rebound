import RV.Proofs.Rotation
/-
  About `slerp` of RV/Model/Rotation.lean: what is assumed of `acos` and the addition formulas (`AcosSpec`,
  `AddSpec`), the three branches unfolded (`slerp_unfold`) and the algebra of the general branch (`slerp_core`).
-/
set_option linter.unusedSectionVars false
namespace RV.Rot
open RV
section
variable {K : Type} [Field K] [LinearOrder K] [IsStrictOrderedRing K] [RealFns K]

@[simp] theorem r_acos (a : K) : ScalarR.acos a = RealFns.acos a := rfl

def AddSpec (K : Type) [Field K] [RealFns K] : Prop :=
  (∀ a b : K, RealFns.sin (a + b) = RealFns.sin a * RealFns.cos b + RealFns.cos a * RealFns.sin b) ∧
  (∀ a b : K, RealFns.cos (a + b) = RealFns.cos a * RealFns.cos b - RealFns.sin a * RealFns.sin b) ∧
  RealFns.sin (0 : K) = 0

/-- `acos` returns an angle in `[0, π]` with the given cosine: its cosine is the argument and its
    sine is non-negative -/
def AcosSpec (K : Type) [Field K] [LinearOrder K] [RealFns K] : Prop :=
  ∀ c : K, |c| ≤ 1 → RealFns.cos (RealFns.acos c) = c ∧ 0 ≤ RealFns.sin (RealFns.acos c)

/-- 4-dimensional dot product of two quaternions (the `cosHalfTheta` of the C source) -/
def qdot (p q : Quat K) : K := p.r * q.r + p.ix * q.ix + p.iy * q.iy + p.iz * q.iz

theorem sin_acos (hs : SqrtSpec K) (ht : TrigSpec K) (ha : AcosSpec K) (c : K) (hc : |c| ≤ 1) :
    RealFns.sin (RealFns.acos c) = RealFns.sqrt (1 - c * c) := by
  obtain ⟨h1, h2⟩ := ha c hc
  have hc2 : 0 ≤ 1 - c * c := by
    have := abs_le.mp hc
    nlinarith [this.1, this.2]
  obtain ⟨s0, s1⟩ := hs (1 - c * c) hc2
  have htr := ht (RealFns.acos c)
  rw [h1] at htr
  have hsq : RealFns.sin (RealFns.acos c) * RealFns.sin (RealFns.acos c)
      = RealFns.sqrt (1 - c * c) * RealFns.sqrt (1 - c * c) := by rw [s1]; linarith
  have := mul_self_eq_mul_self_iff.mp hsq
  rcases this with h | h
  · exact h
  · have h3 : RealFns.sin (RealFns.acos c) = 0 := by linarith
    have h4 : RealFns.sqrt (1 - c * c) = 0 := by linarith
    rw [h3, h4]

/-- the general branch of slerp, with everything named:
    `A = sin((1−t)θ)`, `B = sin(tθ)`, `s = sin θ ≠ 0`, `c = cos θ = q1·q2` -/
theorem slerp_core (q1 q2 : Quat K) (A B CA CB s c : K) (h1 : qlen2 q1 = 1) (h2 : qlen2 q2 = 1)
    (hc : qdot q1 q2 = c) (hs0 : s ≠ 0)
    (hA : A * A + CA * CA = 1) (hB : B * B + CB * CB = 1)
    (hsin : s = A * CB + CA * B) (hcos : c = CA * CB - A * B) :
    let res : Quat K := ⟨q1.ix * (A / s) + q2.ix * (B / s), q1.iy * (A / s) + q2.iy * (B / s),
      q1.iz * (A / s) + q2.iz * (B / s), q1.r * (A / s) + q2.r * (B / s)⟩
    qlen2 res = 1 ∧ qdot q1 res = CB ∧ qdot q2 res = CA := by
  intro res
  simp only [qlen2, qdot, sc_hadd, sc_hmul] at h1 h2 hc ⊢
  have hs2 : s * s = A * A + B * B + 2 * A * B * c := by
    rw [hsin, hcos]; linear_combination (A * A) * hB + (B * B) * hA
  refine ⟨?_, ?_, ?_⟩
  · simp only [res]
    field_simp
    linear_combination (A * A) * h1 + (B * B) * h2 + (2 * A * B) * hc - hs2
  · simp only [res]
    field_simp
    have : A + B * c = CB * s := by rw [hsin, hcos]; linear_combination (-A) * hB
    linear_combination A * h1 + B * hc + this
  · simp only [res]
    field_simp
    have : A * c + B = CA * s := by rw [hsin, hcos]; linear_combination (-B) * hA
    linear_combination A * hc + B * h2 + this


/-- the three branches of `reb_rotation_slerp`, unfolded -/
theorem slerp_unfold (eps halfc : K) (q1 q2 : Quat K) (t : K) :
    slerp eps halfc q1 q2 t =
      if 1 ≤ |qdot q1 q2| then q1
      else if |RealFns.sqrt (1 - qdot q1 q2 * qdot q1 q2)| < eps then
        ⟨q1.ix * halfc + q2.ix * halfc, q1.iy * halfc + q2.iy * halfc, q1.iz * halfc + q2.iz * halfc,
         q1.r * halfc + q2.r * halfc⟩
      else
        ⟨q1.ix * (RealFns.sin ((1 - t) * RealFns.acos (qdot q1 q2)) / RealFns.sqrt (1 - qdot q1 q2 * qdot q1 q2))
            + q2.ix * (RealFns.sin (t * RealFns.acos (qdot q1 q2)) / RealFns.sqrt (1 - qdot q1 q2 * qdot q1 q2)),
         q1.iy * (RealFns.sin ((1 - t) * RealFns.acos (qdot q1 q2)) / RealFns.sqrt (1 - qdot q1 q2 * qdot q1 q2))
            + q2.iy * (RealFns.sin (t * RealFns.acos (qdot q1 q2)) / RealFns.sqrt (1 - qdot q1 q2 * qdot q1 q2)),
         q1.iz * (RealFns.sin ((1 - t) * RealFns.acos (qdot q1 q2)) / RealFns.sqrt (1 - qdot q1 q2 * qdot q1 q2))
            + q2.iz * (RealFns.sin (t * RealFns.acos (qdot q1 q2)) / RealFns.sqrt (1 - qdot q1 q2 * qdot q1 q2)),
         q1.r * (RealFns.sin ((1 - t) * RealFns.acos (qdot q1 q2)) / RealFns.sqrt (1 - qdot q1 q2 * qdot q1 q2))
            + q2.r * (RealFns.sin (t * RealFns.acos (qdot q1 q2)) / RealFns.sqrt (1 - qdot q1 q2 * qdot q1 q2))⟩ := by
  simp only [slerp, qdot, r_le, r_lt, r_fabs, r_sqrt, r_sin, r_acos, sc_one, sc_hadd, sc_hsub, sc_hmul,
    sc_hdiv, decide_eq_true_eq]
  by_cases h : 1 ≤ |q1.r * q2.r + q1.ix * q2.ix + q1.iy * q2.iy + q1.iz * q2.iz|
  · simp only [h, if_true]
  · simp only [h, if_false]
    by_cases h' : |RealFns.sqrt (1 - (q1.r * q2.r + q1.ix * q2.ix + q1.iy * q2.iy + q1.iz * q2.iz) *
        (q1.r * q2.r + q1.ix * q2.ix + q1.iy * q2.iy + q1.iz * q2.iz))| < eps
    · simp only [h', if_true]
    · simp only [h', if_false]

end
end RV.Rot
