import RV.Proofs.WHJacobi
import RV.Proofs.GravityJacobi
/-
  The Wisdom–Holman Jacobi-term identity, for every N.

  The JACOBI gravity routine adds to the inertial accelerations the "Jacobi terms"
      J_k = −Σ_{j>max(k,1)} m_j u_j + [k>1] η_{k−1} u_k ,      u_j = G/|Q_j|³ · Q_j ,
  and WHFast then pushes all accelerations through `inertial_to_jacobi_acc`.  When any other
  gravity routine is used, `reb_whfast_interaction_step` instead adds  η_i u_i  directly to
  the Jacobi acceleration of body `i > 1`.  The two are the same: jac(J)_i = η_i u_i (i ≥ 2),
  jac(J)_1 = 0, jac(J)_0 = 0.  The identity is linear in `u`, so `u` is arbitrary here.
-/
namespace RV.WH
open RV
variable {K : Type} [Field K]

/-- `S_i = Σ_{j=max(i,2)}^{N−1} m_j u_j` -/
def tailS (N : Nat) (m : Nat → K) (u : Nat → V3 K) (i : Nat) : V3 K :=
  ∑ j ∈ Finset.Ico (max i 2) N, m j • u j

/-- the Jacobi terms of the JACOBI gravity routine, as a function of `u` -/
def Jt (N : Nat) (m : Nat → K) (u : Nat → V3 K) (k : Nat) : V3 K :=
  -(∑ j ∈ Finset.Ico (max k 1 + 1) N, m j • u j) + (if 1 < k then eta m (k - 1) • u k else 0)

theorem Jt_eq (N : Nat) (m : Nat → K) (u : Nat → V3 K) (k : Nat) :
    Jt N m u k = if k < 2 then -tailS N m u 2 else -tailS N m u (k + 1) + eta m (k - 1) • u k := by
  unfold Jt tailS
  by_cases h : k < 2
  · have e1 : max k 1 + 1 = 2 := by omega
    have e2 : ¬ 1 < k := by omega
    simp [h, e1, e2]
  · have e1 : max k 1 + 1 = max (k + 1) 2 := by omega
    have e2 : 1 < k := by omega
    simp [h, e1, e2]

theorem tailS_step (N : Nat) (m : Nat → K) (u : Nat → V3 K) (i : Nat) (h2 : 2 ≤ i) (hi : i < N) :
    tailS N m u i = m i • u i + tailS N m u (i + 1) := by
  unfold tailS
  rw [show max i 2 = i by omega, show max (i + 1) 2 = i + 1 by omega,
    Finset.sum_eq_sum_Ico_succ_bot hi]

/-- `Σ_{k<i} m_k J_k = −η_{i−1} S_i`  (induction over the Jacobi loop) -/
theorem wsum_Jt (N : Nat) (m : Nat → K) (u : Nat → V3 K) :
    ∀ i, 1 ≤ i → i ≤ N → wsumV m (Jt N m u) (i - 1) = -(eta m (i - 1) • tailS N m u i) := by
  intro i h1
  induction i, h1 using Nat.le_induction with
  | base =>
    intro hN
    simp only [Nat.sub_self, wsumV, Finset.sum_range_one, eta, zero_add]
    rw [Jt_eq N m u 0]
    simp only [show (0 : Nat) < 2 by omega, if_true, tailS, show max 1 2 = 2 by omega, show max 2 2 = 2 by omega]
    simp
  | succ i hi ih =>
    intro hN
    have hiN : i < N := by omega
    have := ih (by omega)
    have e : wsumV m (Jt N m u) (i + 1 - 1) = wsumV m (Jt N m u) (i - 1) + m i • Jt N m u i := by
      obtain ⟨j, rfl⟩ : ∃ j, i = j + 1 := ⟨i - 1, by omega⟩
      simp [wsumV, Finset.sum_range_succ]
    rw [e, this, Jt_eq N m u i]
    have heta : eta m (i + 1 - 1) = eta m (i - 1) + m i := by
      obtain ⟨j, rfl⟩ : ∃ j, i = j + 1 := ⟨i - 1, by omega⟩
      simp [eta_succ]
    rw [heta]
    by_cases h2 : i < 2
    · have hi1 : i = 1 := by omega
      subst hi1
      simp only [show (1 : Nat) < 2 by omega, if_true, tailS, show max 1 2 = 2 by omega,
        show max (1 + 1) 2 = 2 by omega]
      simp only [smul_neg, add_smul]
      abel
    · simp only [h2, if_false]
      rw [tailS_step N m u i (by omega) hiN]
      simp only [smul_add, smul_neg, add_smul, smul_smul, neg_add]
      rw [mul_comm (eta m (i - 1)) (m i)]
      abel

/-- **Wisdom–Holman identity, ∀ N**: the Jacobi coordinates of the Jacobi terms -/
theorem jac_Jt (N : Nat) (m : Nat → K) (u : Nat → V3 K) (heta : ∀ i, i < N → eta m i ≠ 0)
    (i : Nat) (h1 : 1 ≤ i) (hi : i < N) :
    jacV N m (Jt N m u) i = if 2 ≤ i then eta m i • u i else 0 := by
  have hne : i ≠ 0 := by omega
  have hn := heta (i - 1) (by omega)
  simp only [jacV, hne, if_false]
  rw [wsum_Jt N m u i h1 (by omega), Jt_eq N m u i]
  simp only [smul_neg, smul_smul]
  rw [one_div_mul_cancel hn, one_smul]
  by_cases h2 : i < 2
  · have : i = 1 := by omega
    subst this
    simp [tailS]
  · have h2' : 2 ≤ i := by omega
    simp only [h2, if_false, h2', if_true]
    rw [tailS_step N m u i h2' hi]
    have : eta m i = eta m (i - 1) + m i := by
      obtain ⟨j, rfl⟩ : ∃ j, i = j + 1 := ⟨i - 1, by omega⟩
      simp [eta_succ]
    rw [this, add_smul]
    abel

/-- the centre-of-mass slot: the Jacobi terms carry no net force -/
theorem jac_Jt_zero (N : Nat) (hN : 1 ≤ N) (m : Nat → K) (u : Nat → V3 K) :
    wsumV m (Jt N m u) (N - 1) = 0 := by
  rw [wsum_Jt N m u N hN (le_refl N)]
  have : tailS N m u N = 0 := by
    unfold tailS
    rw [Finset.Ico_eq_empty_iff.mpr (by omega)]; simp
  rw [this]; simp

/-! ### the Jacobi terms of `c02_jacobi_sources` are `Jt` with `u_j = G/|Q_j|³ · Q_j` -/
open RV.Gravity

/-- `u_j` of the JACOBI routine -/
def uJ (G : K) (sqrt : K → K) (N : Nat) (m : Nat → K) (x : Nat → V3 K) (j : Nat) : V3 K :=
  (G / (sqrt ((jacV N m x j).x * (jacV N m x j).x + (jacV N m x j).y * (jacV N m x j).y + (jacV N m x j).z * (jacV N m x j).z)
      * sqrt ((jacV N m x j).x * (jacV N m x j).x + (jacV N m x j).y * (jacV N m x j).y + (jacV N m x j).z * (jacV N m x j).z)
      * sqrt ((jacV N m x j).x * (jacV N m x j).x + (jacV N m x j).y * (jacV N m x j).y + (jacV N m x j).z * (jacV N m x j).z)))
    • jacV N m x j

theorem Rn_wsumV (m : Nat → K) (x : Nat → V3 K) (j : Nat) (hj : 1 ≤ j) : Rn m x j = wsumV m x (j - 1) := by
  obtain ⟨i, rfl⟩ : ∃ i, j = i + 1 := ⟨j - 1, by omega⟩
  simp [Rn, wsumV]
theorem Mn_eta (m : Nat → K) (j : Nat) (hj : 1 ≤ j) : Mn m j = eta m (j - 1) := by
  obtain ⟨i, rfl⟩ : ∃ i, j = i + 1 := ⟨j - 1, by omega⟩
  simp [Mn, eta]

theorem Qv_jacV (N : Nat) (m : Nat → K) (x : Nat → V3 K) (j : Nat) (hj : 1 ≤ j) :
    Qv x (Rn m x j) (Mn m j) j = jacV N m x j := by
  have : j ≠ 0 := by omega
  rw [Rn_wsumV m x j hj, Mn_eta m j hj]
  ext <;> simp [Qv, jacV, this] <;> ring

/-- the Jacobi-term sum of `c02_jacobi_sources` is `Jt` -/
theorem jacobi_terms_eq_Jt (G : K) (sqrt : K → K) (N : Nat) (m : Nat → K) (x : Nat → V3 K)
    (k : Nat) (hk : k < N) :
    (∑ j ∈ Finset.range N, if 1 < j ∧ k ≤ j
        then jacTerm G sqrt m x (Rn m x j) (Mn m j) j k else 0)
      = Jt N m (uJ G sqrt N m x) k := by
  have hterm : ∀ j, 1 < j → jacTerm G sqrt m x (Rn m x j) (Mn m j) j k
      = (if k < j then -(m j) else eta m (j - 1)) • uJ G sqrt N m x j := by
    intro j hj
    unfold jacTerm uJ
    rw [Qv_jacV N m x j (by omega), Mn_eta m j (by omega), smul_smul]
    congr 1
    split_ifs <;> ring
  unfold Jt
  rw [Finset.range_eq_Ico, ← Finset.sum_filter]
  have hf : (Finset.Ico 0 N).filter (fun j => 1 < j ∧ k ≤ j) = Finset.Ico (max k 2) N := by
    ext j; simp; omega
  rw [hf]
  by_cases h1 : 1 < k
  · rw [show max k 2 = k by omega, Finset.sum_eq_sum_Ico_succ_bot hk, hterm k h1]
    simp only [lt_irrefl, if_false, h1, if_true, show max k 1 + 1 = k + 1 by omega]
    rw [add_comm]
    congr 1
    rw [← Finset.sum_neg_distrib]
    apply Finset.sum_congr rfl
    intro j hj
    have := Finset.mem_Ico.mp hj
    rw [hterm j (by omega)]
    simp [show k < j by omega]
  · simp only [h1, if_false, add_zero, show max k 2 = 2 by omega, show max k 1 + 1 = 2 by omega]
    rw [← Finset.sum_neg_distrib]
    apply Finset.sum_congr rfl
    intro j hj
    have := Finset.mem_Ico.mp hj
    rw [hterm j (by omega)]
    simp [show k < j by omega]

end RV.WH
