import RV.Proofs.Rotation
/-
  About `toNewAxesWith` and `fromToUnitTau` of RV/Model/Rotation.lean: what `to_new_axes` needs of the
  antiparallel treatment (`AntiAxes`, true of both variants), its specification for any such treatment
  (`toNewAxes_spec`), the as-found orthogonalisation (`toNewAxes_asfound_misses`), and the from-to
  constructor with the rounding-level antiparallel test.
-/
set_option linter.unusedSectionVars false
namespace RV.Rot
open RV
section
variable {K : Type} [Field K] [LinearOrder K] [IsStrictOrderedRing K] [RealFns K]

/-- what `to_new_axes` needs of the antiparallel treatment: it only ever meets the targets
    `ez` (first stage) and `ex` (second stage, where `ez` must stay fixed) -/
structure AntiAxes (anti : V3 K → Quat K) : Prop where
  s1 : ∀ f : V3 K, len2 f = 1 → len2 (vadd f ez) = 0 → qlen2 (anti f) = 1 ∧ rotate f (anti f) = ez
  s2 : ∀ f : V3 K, len2 f = 1 → len2 (vadd f ex) = 0 →
        qlen2 (anti f) = 1 ∧ rotate f (anti f) = ex ∧ rotate ez (anti f) = ez

theorem eq_neg_of_sum_zero (f t : V3 K) (h : len2 (vadd f t) = 0) :
    f.x = -t.x ∧ f.y = -t.y ∧ f.z = -t.z := by
  obtain ⟨hx, hy, hz⟩ := len2_eq_zero h
  simp only [vadd, sc_hadd] at hx hy hz
  exact ⟨by linarith, by linarith, by linarith⟩

theorem smallestAxis_negex : smallestAxis (⟨-1, 0, 0⟩ : V3 K) = ey := by
  unfold smallestAxis
  simp only [r_fabs, r_le, abs_neg, abs_one, abs_zero]
  have h1 : ¬ ((1 : K) ≤ 0) := not_le.mpr zero_lt_one
  simp [h1]

/-- the second stage meets the antiparallel branch with `f = −ex` only, where both treatments give the
    half turn about the z axis -/
theorem negex_turn (f : V3 K) (h0 : len2 (vadd f ex) = 0) :
    f = ⟨-1, 0, 0⟩ ∧ qlen2 (⟨0, 0, -1, 0⟩ : Quat K) = 1 ∧
    rotate (⟨-1, 0, 0⟩ : V3 K) ⟨0, 0, -1, 0⟩ = ex ∧ rotate (ez : V3 K) ⟨0, 0, -1, 0⟩ = ez := by
  obtain ⟨hx, hy, hz⟩ := eq_neg_of_sum_zero f ex h0
  refine ⟨by ext <;> simp [hx, hy, hz, ex], by simp [qlen2], ?_, ?_⟩
  · ext <;> norm_num [rotate_rows, ex]
  · ext <;> simp [rotate_rows, ez]

theorem antiAxes_asFound : AntiAxes (antiparallelAsFound : V3 K → Quat K) := by
  constructor
  · intro f hf h0
    obtain ⟨hx, hy, hz⟩ := eq_neg_of_sum_zero f ez h0
    obtain ⟨a, b⟩ := antiAsFound_spec f hf
    obtain ⟨_, mx, _, _⟩ := smallestAxis_spec f
    have hm : dot f (smallestAxis f) * dot f (smallestAxis f) = 0 := by
      have h1 : f.x * f.x = 0 := by rw [hx]; simp [ez]
      exact le_antisymm (by linarith) (mul_self_nonneg _)
    rw [a, b, hm]
    refine ⟨by ring, ?_⟩
    ext <;> simp only [vmul, sc_hmul, ez, sc_zero, sc_one] <;> simp [hx, hy, hz, ez]
  · intro f hf h0
    obtain ⟨rfl, hq⟩ := negex_turn f h0
    have e : antiparallelAsFound (⟨-1, 0, 0⟩ : V3 K) = ⟨0, 0, -1, 0⟩ := by
      simp only [antiparallelAsFound, smallestAxis_negex]
      ext <;> simp [cross, ey]
    rwa [e]

theorem antiAxes_fixed (hs : SqrtSpec K) : AntiAxes (antiparallelFixed : V3 K → Quat K) := by
  constructor
  · intro f hf h0
    obtain ⟨hx, hy, hz⟩ := eq_neg_of_sum_zero f ez h0
    obtain ⟨a, b⟩ := antiFixed_spec hs f hf
    refine ⟨a, ?_⟩
    rw [b]
    ext <;> simp only [vmul, sc_hmul] <;> simp [hx, hy, hz, ez]
  · intro f hf h0
    obtain ⟨rfl, hq⟩ := negex_turn f h0
    have hu : len2 (⟨0, 0, -1⟩ : V3 K) = 1 := by simp [len2, dot]
    have e : antiparallelFixed (⟨-1, 0, 0⟩ : V3 K) = ⟨0, 0, -1, 0⟩ := by
      have c : cross (⟨-1, 0, 0⟩ : V3 K) ey = ⟨0, 0, -1⟩ := by ext <;> simp [cross, ey]
      simp only [antiparallelFixed, smallestAxis_negex, c, normalize_of_unit hs _ hu]
      rfl
    rwa [e]


/-- the from-to constructor built on a given treatment of the antiparallel branch -/
def ftOf (anti : V3 K → Quat K) : V3 K → V3 K → Quat K :=
  fun a b => fromToUnit anti (normalize a) (normalize b)

theorem fromTo_eq_ftOf : (fromTo : V3 K → V3 K → Quat K) = ftOf antiparallelAsFound := rfl
theorem fromToFixed_eq_ftOf : (fromToFixed : V3 K → V3 K → Quat K) = ftOf antiparallelFixed := rfl

/-- the second stage of `to_new_axes`: from a unit vector `n ⟂ ez` to `ex`, keeping `ez` fixed -/
theorem stage2 (hs : SqrtSpec K) (anti : V3 K → Quat K) (ha : AntiAxes anti) (n : V3 K)
    (hn : len2 n = 1) (hperp : dot n ez = 0) :
    qlen2 (fromToUnit anti n ex) = 1 ∧ rotate n (fromToUnit anti n ex) = ex ∧
    rotate ez (fromToUnit anti n ex) = ez := by
  obtain ⟨u, m⟩ := fromToUnit_spec' hs anti n ex hn len2_ex (fun h0 => ⟨(ha.s2 n hn h0).1, (ha.s2 n hn h0).2.1⟩)
  refine ⟨u, m, ?_⟩
  by_cases h0 : len2 (vadd n ex) = 0
  · obtain ⟨_, hd⟩ := antiparallel_of_sum_zero n ex hn h0
    rw [fromToUnit_anti _ n ex hd (normalize_zero _ h0)]
    exact (ha.s2 n hn h0).2.2
  · exact fromToUnit_fixes hs anti n ex ez hn len2_ex h0 hperp (by simp [dot, ex, ez])

/-- `reb_rotation_init_to_new_axes` with the orthogonalisation done with the normalised `newz`:
    unit, maps the direction of `newz` to `ez` and the direction of the component of `newx`
    perpendicular to `newz` to `ex` -/
theorem toNewAxes_spec (hs : SqrtSpec K) (anti : V3 K → Quat K) (ha : AntiAxes anti)
    (newz newx : V3 K) (hz : len2 newz ≠ 0)
    (hx : len2 (vadd newx (vmul (normalize newz) (-(dot (normalize newz) newx)))) ≠ 0) :
    qlen2 (toNewAxesWith (ftOf anti) true newz newx) = 1 ∧
    rotate (normalize newz) (toNewAxesWith (ftOf anti) true newz newx) = ez ∧
    rotate (normalize (vadd newx (vmul (normalize newz) (-(dot (normalize newz) newx)))))
      (toNewAxesWith (ftOf anti) true newz newx) = ex := by
  set zn := normalize newz with hzn_def
  set xp := vadd newx (vmul zn (-(dot zn newx))) with hxp_def
  have hzn : len2 zn = 1 := normalize_unit hs newz hz
  obtain ⟨u1, m1⟩ := fromToUnit_spec' hs anti zn ez hzn len2_ez (ha.s1 zn hzn)
  set q1 := fromToUnit anti zn ez with hq1
  have hxz : dot xp zn = 0 := by
    simp only [len2, dot, sc_hadd, sc_hmul] at hzn
    simp only [hxp_def, dot, vadd, vmul, sc_hadd, sc_hmul]
    linear_combination (-(zn.x * newx.x + zn.y * newx.y + zn.z * newx.z)) * hzn
  set x2 := rotate xp q1 with hx2
  have hx2l : len2 x2 ≠ 0 := by rw [hx2, len2_rotate _ _ u1]; exact hx
  have hx2z : dot x2 ez = 0 := by
    rw [hx2, ← m1, dot_rotate _ _ _ u1]; exact hxz
  have hn2 : len2 (normalize x2) = 1 := normalize_unit hs x2 hx2l
  have hn2z : dot (normalize x2) ez = 0 := by rw [dot_normalize_left, hx2z]; ring
  obtain ⟨u2, m2, f2⟩ := stage2 hs anti ha (normalize x2) hn2 hn2z
  have hq : toNewAxesWith (ftOf anti) true newz newx =
      qmul (fromToUnit anti (normalize x2) ex) q1 := by
    simp only [toNewAxesWith, ftOf, if_true]
    have e1 : normalize (normalize newz) = zn := normalize_of_unit hs _ hzn
    simp only [e1, normalize_ez hs, normalize_ex hs]
    rfl
  rw [hq]
  refine ⟨by rw [qlen2_mul, u2, u1, one_mul], ?_, ?_⟩
  · rw [rotate_mul _ _ _ u2 u1, m1, f2]
  · rw [rotate_mul _ _ _ u2 u1, ← normalize_rotate _ _ u1, m2]


/-- when `newz` is unit, or `newx` is already perpendicular to it, the dot product taken before
    normalising `newz` (as found) equals the one taken after (repaired) -/
theorem toNewAxesWith_dot_eq (hs : SqrtSpec K) (ft : V3 K → V3 K → Quat K) (newz newx : V3 K)
    (h : len2 newz = 1 ∨ dot newz newx = 0) :
    toNewAxesWith ft false newz newx = toNewAxesWith ft true newz newx := by
  have e : dot (normalize newz) newx = dot newz newx := by
    rcases h with h | h
    · rw [normalize_of_unit hs _ h]
    · rw [dot_normalize_left, h]; ring
  simp only [toNewAxesWith, if_true, e]
  rfl

/-- **F18**, general form: as found, if the vector left after the (wrong) orthogonalisation still
    has a component along `newz`, the resulting rotation does not take `newz` to the z axis -/
theorem toNewAxes_asfound_misses (hs : SqrtSpec K) (anti : V3 K → Quat K) (ha : AntiAxes anti)
    (newz newx : V3 K) (hz : len2 newz ≠ 0)
    (hw : dot (vadd newx (vmul (normalize newz) (-(dot newz newx)))) (normalize newz) ≠ 0) :
    rotate (normalize newz) (toNewAxesWith (ftOf anti) false newz newx) ≠ ez := by
  set zn := normalize newz with hzn_def
  set xw := vadd newx (vmul zn (-(dot newz newx))) with hxw_def
  have hzn : len2 zn = 1 := normalize_unit hs newz hz
  obtain ⟨u1, m1⟩ := fromToUnit_spec' hs anti zn ez hzn len2_ez (ha.s1 zn hzn)
  set q1 := fromToUnit anti zn ez with hq1
  set x2 := rotate xw q1 with hx2
  have hxwl : len2 xw ≠ 0 := by
    intro h0
    obtain ⟨a, b, c⟩ := len2_eq_zero h0
    apply hw
    simp [dot, a, b, c]
  have hx2l : len2 x2 ≠ 0 := by rw [hx2, len2_rotate _ _ u1]; exact hxwl
  have hx2z : dot x2 ez ≠ 0 := by
    rw [hx2, ← m1, dot_rotate _ _ _ u1]; exact hw
  have hn2 : len2 (normalize x2) = 1 := normalize_unit hs x2 hx2l
  have hsq := sqrt_ne_zero hs (len2_nonneg x2) hx2l
  have hn2z : dot (normalize x2) ez ≠ 0 := by
    rw [dot_normalize_left]
    exact mul_ne_zero (one_div_ne_zero hsq) hx2z
  have hna : len2 (vadd (normalize x2) ex) ≠ 0 := by
    intro h0
    obtain ⟨a, b, c⟩ := eq_neg_of_sum_zero _ _ h0
    apply hn2z
    simp [dot, ez, ex, a, b, c] at *
  obtain ⟨u2, m2⟩ := fromToUnit_spec hs anti (normalize x2) ex hn2 len2_ex hna
  have hq : toNewAxesWith (ftOf anti) false newz newx =
      qmul (fromToUnit anti (normalize x2) ex) q1 := by
    simp only [toNewAxesWith, ftOf]
    have e1 : normalize (normalize newz) = zn := normalize_of_unit hs _ hzn
    simp only [e1, normalize_ez hs, normalize_ex hs]
    rfl
  rw [hq, rotate_mul _ _ _ u2 u1, m1]
  intro hfix
  have := dot_rotate (normalize x2) ez _ u2
  rw [m2, hfix] at this
  apply hn2z
  rw [← this]; simp [dot, ex, ez]

/-! ### from_to with the rounding-level antiparallel test (fixes/C20-from-to-nearly-antiparallel.diff) -/

theorem fromToUnitTau_unfold (tau : K) (anti : V3 K → Quat K) (f t : V3 K) :
    fromToUnitTau tau anti f t =
      if 0 ≤ dot f t then fromToReduced f t
      else if len2 (cross f t) < tau ∨ len2 (normalize (vadd f t)) = 0 then anti f
      else qmul (fromToReduced f (normalize (vadd f t))) (fromToReduced (normalize (vadd f t)) t) := by
  by_cases h1 : 0 ≤ dot f t
  · have : ScalarR.le (Scalar.zero : K) (dot f t) = true := by simpa using h1
    simp only [fromToUnitTau, this, if_true, h1]
  · have e1 : ScalarR.le (Scalar.zero : K) (dot f t) = false := by simpa using h1
    have hv : (⟨f.x + t.x, f.y + t.y, f.z + t.z⟩ : V3 K) = vadd f t := rfl
    simp only [fromToUnitTau, e1, h1, if_false, hv, r_lt, r_isnormal, Bool.false_eq_true]
    by_cases h2 : len2 (cross f t) < tau ∨ len2 (normalize (vadd f t)) = 0
    · rw [if_pos h2]
      rcases h2 with h2 | h2
      · simp [h2]
      · simp [h2]
    · rw [if_neg h2]
      push Not at h2
      have a1 : ¬ (len2 (cross f t) < tau) := not_lt.mpr h2.1
      simp [a1, h2.2]

/-- outside the rounding-level band the patched constructor is the repaired one -/
theorem fromToUnitTau_eq (tau : K) (anti : V3 K → Quat K) (f t : V3 K) (h : ¬ (len2 (cross f t) < tau) ∨ 0 ≤ dot f t) :
    fromToUnitTau tau anti f t = fromToUnit anti f t := by
  rw [fromToUnitTau_unfold]
  by_cases h1 : 0 ≤ dot f t
  · rw [if_pos h1, fromToUnit_acute anti f t h1]
  · rw [if_neg h1]
    have hc : ¬ (len2 (cross f t) < tau) := by
      rcases h with h | h
      · exact h
      · exact absurd h h1
    have hd : dot f t < 0 := not_le.mp h1
    by_cases h2 : len2 (normalize (vadd f t)) = 0
    · rw [if_pos (Or.inr h2), fromToUnit_anti anti f t hd h2]
    · rw [if_neg (by push Not; exact ⟨not_lt.mp hc, h2⟩), fromToUnit_two_stage anti f t hd h2]

/-- inside the band (obtuse unit vectors with `|f × t|² < tau`): a unit quaternion turning `f` into `−f`,
    which is within `√(2 tau)` of `t`:  `|(−f) − t|² = |f + t|² ≤ 2 |f × t|² < 2 tau` -/
theorem fromToUnitTau_band (hs : SqrtSpec K) (tau : K) (f t : V3 K) (hf : len2 f = 1) (ht : len2 t = 1)
    (hd : dot f t < 0) (hb : len2 (cross f t) < tau) :
    qlen2 (fromToUnitTau tau antiparallelFixed f t) = 1 ∧
    rotate f (fromToUnitTau tau antiparallelFixed f t) = vmul f (-1) ∧
    len2 (V3.sub (rotate f (fromToUnitTau tau antiparallelFixed f t)) t) < 2 * tau := by
  rw [fromToUnitTau_unfold, if_neg (not_le.mpr hd), if_pos (Or.inl hb)]
  obtain ⟨a, b⟩ := antiFixed_spec hs f hf
  refine ⟨a, b, ?_⟩
  rw [b]
  have hc := len2_cross f t
  rw [hf, ht] at hc
  have e : len2 (V3.sub (vmul f (-1)) t) = 2 + 2 * dot f t := by
    simp only [len2, dot, V3.sub, vmul, sc_hadd, sc_hsub, sc_hmul] at hf ht ⊢
    linear_combination hf + ht
  rw [e]
  -- 1 - d^2 < tau, d < 0  ⟹  2 (1 + d) < 2 tau
  have h1 : (1 + dot f t) * (1 - dot f t) < tau := by
    have : (1 + dot f t) * (1 - dot f t) = len2 (cross f t) := by rw [hc]; ring
    rw [this]; exact hb
  have hdm : -1 ≤ dot f t := by
    -- |f + t|² ≥ 0
    have := len2_nonneg (vadd f t)
    rw [len2_vadd, hf, ht] at this
    linarith
  nlinarith [h1, hd, hdm]

end
end RV.Rot
