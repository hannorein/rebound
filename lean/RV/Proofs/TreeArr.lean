import RV.Proofs.TreeUpdate
import RV.Model.TreeArr
/-
  The tree update on (particle array, forest), first of six files
  (TreeArr ← TreeArrWalk ← TreeArrRelabel ← TreeArrReinsert ← TreeArrUpdate ← TreeArrRoot, each importing the one before).
  The walk threads `St = (arr, ev, log)`: `log` records the renumberings `(N-1 ↦ hole)` of the swap-with-last removals and
  `applyLog` reads an original index through it.  This file: `ArrInv`, the invariant of the renumbering after evicting
  the original indices `E` in any order (`ArrInv_evState`).  Route of the whole proof: `walkA_eq` (the in-place walk is the
  pure sweep plus `evState`) → `ArrInv` → `WF_relabel` (renumbered leaves) → `reinsertA_spec` → `updateA_spec`.
-/
set_option linter.unusedSimpArgs false
namespace RV.C15
open RV RV.Tree RV.Boundary RV.TreeArr

section arr
variable {α : Type}

theorem applyLog_append (l1 l2 : List (Nat × Nat)) (i : Nat) :
    applyLog (l1 ++ l2) i = applyLog l2 (applyLog l1 i) := by
  simp [applyLog, List.foldl_append]

theorem applyLog_single (a b i : Nat) : applyLog [(a, b)] i = if i = a then b else i := by
  simp [applyLog]

/-- what `N--; particles[c] = particles[N]` leaves at slot `j` -/
theorem swapRemove_getElem? (l : List α) (c j : Nat) (hc : c < l.length) (hj : j < l.length - 1) :
    (swapRemove l c)[j]? = if j = c then l[l.length - 1]? else l[j]? := by
  unfold swapRemove
  cases hl : l.getLast? with
  | none => simp [List.getLast?_eq_none_iff] at hl; subst hl; simp at hc
  | some last =>
    have hne : l ≠ [] := by intro e; subst e; simp at hc
    have hlast : l[l.length - 1]? = some last := by
      rw [← hl, List.getLast?_eq_getElem?]
    rw [List.getElem?_set]
    by_cases e : c = j
    · subst e
      simp [hj, hlast]
    · have e' : ¬ j = c := fun h => e h.symm
      simp [e, e', List.getElem?_dropLast, hj]


/-- one eviction, named by the index the particle had when the walk began -/
def evStep (flagged : α → Bool) (st : St α) (p0 : Nat) : St α :=
  match st.arr[applyLog st.log p0]? with
  | some p => evict flagged st (applyLog st.log p0) p
  | none => st

/-- state after evicting the particles with original indices `E`, in this order -/
def evState (flagged : α → Bool) (arr0 : List α) (E : List Nat) : St α :=
  E.foldl (evStep flagged) ⟨arr0, [], []⟩

theorem evState_snoc (flagged : α → Bool) (arr0 : List α) (E : List Nat) (e : Nat) :
    evState flagged arr0 (E ++ [e]) = evStep flagged (evState flagged arr0 E) e := by
  simp [evState, List.foldl_append]

theorem evState_append (flagged : α → Bool) (arr0 : List α) (E F : List Nat) :
    evState flagged arr0 (E ++ F) = F.foldl (evStep flagged) (evState flagged arr0 E) := by
  simp [evState, List.foldl_append]

/-- the invariant of the renumbering: every particle not yet evicted is found at its logged index -/
structure ArrInv (flagged : α → Bool) (arr0 : List α) (E : List Nat) (st : St α) : Prop where
  len : st.arr.length + E.length = arr0.length
  get : ∀ i, i < arr0.length → i ∉ E →
    applyLog st.log i < st.arr.length ∧ st.arr[applyLog st.log i]? = arr0[i]?
  inj : ∀ i j, i < arr0.length → j < arr0.length → i ∉ E → j ∉ E →
    applyLog st.log i = applyLog st.log j → i = j
  ev : st.ev = (E.filterMap fun e => arr0[e]?).filter (fun p => !flagged p)
  perm : List.Perm (st.arr ++ E.filterMap fun e => arr0[e]?) arr0

theorem ArrInv_nil (flagged : α → Bool) (arr0 : List α) : ArrInv flagged arr0 [] ⟨arr0, [], []⟩ :=
  { len := by simp
    get := by intro i hi _; simp [applyLog, hi]
    inj := by intro i j _ _ _ _ h; simpa [applyLog] using h
    ev := by simp
    perm := by simp }

theorem ArrInv_step (flagged : α → Bool) (arr0 : List α) (E : List Nat) (st : St α)
    (h : ArrInv flagged arr0 E st) (e : Nat) (he : e < arr0.length) (hne : e ∉ E) :
    ArrInv flagged arr0 (E ++ [e]) (evStep flagged st e) := by
  obtain ⟨hcur, hget⟩ := h.get e he hne
  have hp : arr0[e]? = some arr0[e] := List.getElem?_eq_getElem he
  rw [hp] at hget
  set cur := applyLog st.log e with hcurdef
  have hstep : evStep flagged st e = evict flagged st cur arr0[e] := by
    simp [evStep, ← hcurdef, hget]
  rw [hstep]
  have hlen' : (swapRemove st.arr cur).length = st.arr.length - 1 := swapRemove_length _ _ hcur
  have hnew : ∀ i, applyLog (st.log ++ [((st.arr.length - 1), cur)]) i = if applyLog st.log i = (st.arr.length - 1) then cur else applyLog st.log i := by
    intro i; rw [applyLog_append, applyLog_single]
  refine { len := ?_, get := ?_, inj := ?_, ev := ?_, perm := ?_ }
  · simp only [evict, hlen', List.length_append, List.length_singleton]
    have := h.len; omega
  · intro i hi hni
    simp only [List.mem_append, List.mem_singleton, not_or] at hni
    obtain ⟨hr, hgi⟩ := h.get i hi hni.1
    have hrc : applyLog st.log i ≠ cur := fun hh => hni.2 (h.inj i e hi he hni.1 hne hh)
    simp only [evict, hnew, hlen']
    by_cases hrl : applyLog st.log i = (st.arr.length - 1)
    · simp only [hrl, if_true]
      have hcl : cur < (st.arr.length - 1) := by omega
      refine ⟨hcl, ?_⟩
      rw [swapRemove_getElem? _ _ _ hcur hcl]
      simp only [if_true]
      rw [← hgi, hrl]
    · simp only [hrl, if_false]
      have hrl' : applyLog st.log i < (st.arr.length - 1) := by omega
      refine ⟨hrl', ?_⟩
      rw [swapRemove_getElem? _ _ _ hcur hrl']
      simp only [hrc, if_false]
      exact hgi
  · intro i j hi hj hni hnj hij
    simp only [List.mem_append, List.mem_singleton, not_or] at hni hnj
    have hic : applyLog st.log i ≠ cur := fun hh => hni.2 (h.inj i e hi he hni.1 hne hh)
    have hjc : applyLog st.log j ≠ cur := fun hh => hnj.2 (h.inj j e hj he hnj.1 hne hh)
    simp only [evict, hnew] at hij
    apply h.inj i j hi hj hni.1 hnj.1
    by_cases h1 : applyLog st.log i = (st.arr.length - 1) <;> by_cases h2 : applyLog st.log j = (st.arr.length - 1)
    · rw [h1, h2]
    · simp only [h1, h2, if_true, if_false] at hij; exact absurd hij.symm hjc
    · simp only [h1, h2, if_true, if_false] at hij; exact absurd hij hic
    · simp only [h1, h2, if_false] at hij; exact hij
  · simp only [evict, h.ev, List.filterMap_append, List.filterMap_cons, List.filterMap_nil, hp, List.filter_append]
    by_cases hf : flagged arr0[e] = true
    · simp [hf]
    · simp [hf]
  · simp only [evict, List.filterMap_append, List.filterMap_cons, List.filterMap_nil, hp]
    have h1 : List.Perm (swapRemove st.arr cur ++ [arr0[e]]) st.arr := by
      have hsp := swapRemove_perm st.arr cur hcur
      have hget' : st.arr[cur] = arr0[e] := by
        have := List.getElem?_eq_getElem hcur
        rw [this] at hget
        exact Option.some.inj hget
      refine (List.Perm.append_right _ hsp).trans ?_
      rw [← hget']
      have := List.eraseIdx_eq_take_drop_succ st.arr cur
      rw [this]
      have hsplit : st.arr = st.arr.take cur ++ st.arr[cur] :: st.arr.drop (cur + 1) := by
        rw [← List.drop_eq_getElem_cons hcur, List.take_append_drop]
      conv_rhs => rw [hsplit]
      rw [List.append_assoc]
      apply List.Perm.append_left
      exact (List.perm_append_singleton _ _)
    refine List.Perm.trans ?_ h.perm
    rw [← List.append_assoc]
    refine List.Perm.trans ?_ (List.Perm.append_right _ h1)
    simp only [List.append_assoc]
    apply List.Perm.append_left
    exact List.perm_append_comm

theorem ArrInv_foldl (flagged : α → Bool) (arr0 : List α) : ∀ (F E : List Nat) (st : St α),
    ArrInv flagged arr0 E st → (E ++ F).Nodup → (∀ e ∈ F, e < arr0.length) →
    ArrInv flagged arr0 (E ++ F) (F.foldl (evStep flagged) st) := by
  intro F
  induction F with
  | nil => intro E st h _ _; simpa using h
  | cons f F ih =>
    intro E st h hn hb
    have hnf : f ∉ E := by
      intro hm
      have := List.nodup_append.mp hn
      exact this.2.2 f hm f (by simp) rfl
    have h1 := ArrInv_step flagged arr0 E st h f (hb f (by simp)) hnf
    have := ih (E ++ [f]) _ h1 (by simpa [List.append_assoc] using hn) (fun e he => hb e (by simp [he]))
    simpa [List.append_assoc] using this

theorem ArrInv_evState (flagged : α → Bool) (arr0 : List α) (E : List Nat)
    (hn : E.Nodup) (hb : ∀ e ∈ E, e < arr0.length) : ArrInv flagged arr0 E (evState flagged arr0 E) := by
  have := ArrInv_foldl flagged arr0 E [] _ (ArrInv_nil flagged arr0) (by simpa using hn) hb
  simpa [evState] using this

end arr
end RV.C15
