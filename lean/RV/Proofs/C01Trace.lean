import RV.Model.Advertised
import RV.Gen.C01Trace
import RV.Gen.C01Mercurius
/- C01 / TRACE on its splitting path (no pericentre flag in any of the three peri modes; pericentre flag with PARTIAL_BS):
   the schedule of reb_integrator_trace_part1/part2/reb_integrator_trace_step -/
namespace RV.C01.Trace
open RV.C01 RV.C01.Gen RV.C01.Adv

/-- the democratic-heliocentric splitting step kick½ · jump½ · drift · jump½ · kick½ (the same literal as MERCURIUS' `merc_safe`) -/
def dh : List Op := [⟨2, 0, 0⟩, ⟨1, 1/2, 0⟩, ⟨3, 1/2, 0⟩, ⟨0, 1, 1⟩, ⟨3, 1/2, 0⟩, ⟨2, 0, 0⟩, ⟨1, 1/2, 0⟩]

theorem counts : tracePeriModes = [("REB_TRACE_PERI_PARTIAL_BS", 0), ("REB_TRACE_PERI_FULL_BS", 1), ("REB_TRACE_PERI_FULL_IAS15", 2)] ∧
    traceStep.map (·.1) = [(0, 0, 0), (0, 0, 1), (0, 1, 0), (0, 1, 1), (1, 0, 0), (1, 0, 1), (2, 0, 0), (2, 0, 1)] ∧
    traceJumpNoop = [(0, false), (1, true)] := by decide +kernel

/-- without pericentre flag all three peri modes execute kick ½ (with its own force evaluation), jump ½, Kepler + centre of
    mass 1, jump ½, kick ½: consistent, palindrome, fresh, jump sum 1, order exactly 2; the same word as MERCURIUS' safe step -/
theorem splitting_step : ∀ pm ∈ [0, 1, 2], ∀ s ∈ traceStep.lookup (pm, 0, 0), s = dh ∧ Consistent s 0 ∧ Palindrome s ∧ Fresh s ∧
    jumpSum s = 1 ∧ Quadrature s 2 0 ∧ WordOrder s [2, 2, 2] 0 0 ∧ ¬ WordOrder s [3, 3, 2] 0 (1/100) ∧ norm s = norm merc_safe := by
  decide +kernel

/-- pericentre flag with PARTIAL_BS: the same scheme without jump steps (the jump step returns immediately) -/
theorem pericentre_partial : ∀ s ∈ traceStep.lookup (0, 1, 0), s = [⟨2, 0, 0⟩, ⟨1, 1/2, 0⟩, ⟨0, 1, 1⟩, ⟨2, 0, 0⟩, ⟨1, 1/2, 0⟩] ∧
    Consistent s 0 ∧ Palindrome s ∧ Fresh s ∧ WordOrder s [2, 2, 2] 0 0 := by decide +kernel

/-- a rejected first attempt: the backup is restored and exactly the same schedule is executed again -/
theorem rejected_attempt : ∀ e ∈ traceStep, e.1.2.2 = 1 → ∀ s0 ∈ traceStep.lookup (e.1.1, e.1.2.1, 0),
    e.2 = s0 ++ [⟨5, 0, 0⟩] ++ s0 := by decide +kernel
end RV.C01.Trace
