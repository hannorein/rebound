/-
  The index builder on well-formed archives and on crash images:
  blob walk on an encoded blob, on a strict prefix of one (read error), trailer-chain walk.
-/
import RV.Proofs.Bin
set_option linter.unusedSimpArgs false
namespace RV.Bin

/-- what the index walk needs of the fields of one blob -/
structure BlobOK (fs : List Field) : Prop where
  wf : WFs fs
  noHeader : NoHeader fs
  tsize : ∀ f ∈ fs, f.ty = T_ID → f.size = 8

theorem BlobOK_cons {f : Field} {fs : List Field} (h : BlobOK (f :: fs)) :
    f.WF ∧ f.ty ≠ HEADER ∧ (f.ty = T_ID → f.size = 8) ∧ BlobOK fs :=
  ⟨h.wf f (List.mem_cons_self ..), h.noHeader f (List.mem_cons_self ..), h.tsize f (List.mem_cons_self ..),
   ⟨fun g hg => h.wf g (List.mem_cons_of_mem _ hg), fun g hg => h.noHeader g (List.mem_cons_of_mem _ hg),
    fun g hg => h.tsize g (List.mem_cons_of_mem _ hg)⟩⟩

/-- the time the walk records: payload of the last `t` field -/
def tOf : List Field → Option Bytes → Option Bytes
  | [], t => t
  | f :: r, t => tOf r (if f.ty = T_ID then some f.data else t)

def blobLen (d : List Field) : Nat := (encFs d).length + 16

theorem blobLen_cons (f : Field) (fs : List Field) :
    blobLen (f :: fs) = 16 + f.data.length + blobLen fs := by
  simp only [blobLen, encFs, List.length_append, encF_length]; omega

theorem blobLen_ge (d : List Field) : 16 ≤ blobLen d := by simp [blobLen]

theorem walkBlob_enc (v : Variant) (fs : List Field) (rest : Bytes) (h : BlobOK fs)
    (fuel pos : Nat) (t : Option Bytes) (hf : fs.length < fuel) :
    walkBlob v fuel pos (encFs fs ++ (endBytes ++ rest)) t = .ok (tOf fs t) (pos + blobLen fs) rest := by
  induction fs generalizing fuel pos t with
  | nil =>
    cases fuel with
    | zero => omega
    | succ n =>
      simp only [encFs, List.nil_append, walkBlob, readHdr_end, tOf, blobLen, List.length_nil]
      have h1 : ¬ END = HEADER := by decide
      have h2 : ¬ END = T_ID := by decide
      simp [h1, h2]
  | cons f fs ih =>
    cases fuel with
    | zero => omega
    | succ n =>
      obtain ⟨hw, hnh, hts, hrest⟩ := BlobOK_cons h
      have hl : fs.length < n := by simp at hf; omega
      simp only [encFs, List.append_assoc, walkBlob]
      rw [readHdr_encF f _ hw, blobLen_cons, ← Nat.add_assoc, ← Nat.add_assoc]
      simp only [hnh, hw.ty_ne_end, if_false, hw.size_eq, shorter_eq, List.drop_left, List.take_left]
      by_cases hty : f.ty = T_ID
      · have hd : f.data.length = 8 := by rw [← hw.size_eq]; exact hts hty
        simp [hty, hd, tOf, ih hrest n _ _ hl]
      · simp [hty, tOf, ih hrest n _ _ hl]

theorem take_hdr_append (ty sz : Nat) (X : Bytes) (m : Nat) (hm : 16 ≤ m) :
    (hdrBytes ty sz ++ X).take m = hdrBytes ty sz ++ X.take (m - 16) := by
  rw [List.take_append]
  have : (hdrBytes ty sz).take m = hdrBytes ty sz := List.take_of_length_le (by simp; omega)
  rw [this]; simp

theorem drop_take_left (a R : Bytes) (m : Nat) :
    ((a ++ R).take m).drop a.length = R.take (m - a.length) := by
  rw [List.drop_take]
  simp

/-- **prefix lemma**: the walk over a strict prefix of an encoded blob ends in a read error
    (a cut inside a payload is noticed at the next header read: `fseek` past the end succeeds,
    `fread` does not) -/
theorem walkBlob_prefix (v : Variant) (fs : List Field) (h : BlobOK fs) (m : Nat)
    (hm : m < blobLen fs) (fuel pos : Nat) (t : Option Bytes) :
    walkBlob v fuel pos ((encFs fs ++ endBytes).take m) t = .readError := by
  induction fs generalizing m fuel pos t with
  | nil =>
    cases fuel with
    | zero => rfl
    | succ n =>
      simp only [blobLen, encFs, List.length_nil, Nat.zero_add] at hm
      rw [walkBlob, readHdr_short _ (by simp [encFs]; omega)]
  | cons f fs ih =>
    cases fuel with
    | zero => rfl
    | succ n =>
      obtain ⟨hw, hnh, hts, hrest⟩ := BlobOK_cons h
      rw [blobLen_cons] at hm
      by_cases h16 : m < 16
      · rw [walkBlob, readHdr_short _ (by simp; omega)]
      · have hR : m - 16 - f.data.length < blobLen fs := by have := blobLen_ge fs; omega
        simp only [encFs, encF, List.append_assoc, walkBlob]
        rw [take_hdr_append _ _ _ _ (by omega), readHdr_hdr _ _ _ hw.ty_lt hw.size_lt]
        -- whatever the field is, the walk goes on behind its payload, in a shorter prefix of the rest
        simp only [hnh, hw.ty_ne_end, if_false, hw.size_eq, drop_take_left, ih hrest _ hR]
        by_cases hty : f.ty = T_ID
        · have hd : f.data.length = 8 := by rw [← hw.size_eq]; exact hts hty
          simp [hty, hd]
        · simp [hty]

theorem trailer_take (a b c : Nat) (X : Bytes) : (trailerBytes a b c ++ X).take 12 = trailerBytes a b c := by
  simp [trailerBytes, le32]

theorem trailer_drop (a b c : Nat) (X : Bytes) : (trailerBytes a b c ++ X).drop 12 = X := by
  simp [trailerBytes, le32]

theorem trailer_prev (a b c : Nat) (hb : b < 4294967296) :
    de (((trailerBytes a b c).drop 4).take 4) = b :=
  de_le32 b hb

theorem trailer_next (a b c : Nat) (hc : c < 4294967296) :
    de (((trailerBytes a b c).drop 8).take 4) = c :=
  de_le32 c hc

theorem sgn32_small (n : Nat) (h : n < 2147483648) : sgn32 n = (n : Int) := by
  unfold sgn32
  have : n % 4294967296 = n := Nat.mod_eq_of_lt (by omega)
  simp [this, h]

/-- bytes that follow the END marker of a blob: its trailer (index `idx`, back offset `prev`),
    then the remaining deltas, each followed by its trailer; the last trailer is replaced by `fin`
    (for an intact archive `fin = trailerBytes idx prev 0`) -/
def chainG (fin : Nat → Nat → Bytes) : Nat → Nat → List (List Field) → Bytes
  | idx, prev, [] => fin idx prev
  | idx, prev, d :: r => trailerBytes idx prev (blobLen d) ++ (encFs d ++ (endBytes ++ chainG fin (idx + 1) (blobLen d) r))

def finIntact (idx prev : Nat) : Bytes := trailerBytes idx prev 0

def finTail (tail : Bytes) (idx prev : Nat) : Bytes := finIntact idx prev ++ tail

/-- index entries of the deltas `ds` when the first of them starts at `pos` -/
def chainEntries : Nat → List (List Field) → List Entry
  | _, [] => []
  | pos, d :: r => ⟨pos, tOf d none⟩ :: chainEntries (pos + blobLen d + 12) r

def chainEnd : Nat → List (List Field) → Nat
  | pos, [] => pos
  | pos, d :: r => chainEnd (pos + blobLen d + 12) r

/-- every delta is walkable and short enough for the 32-bit offsets -/
def ChainOK (ds : List (List Field)) : Prop := ∀ d ∈ ds, BlobOK d ∧ blobLen d < 2147483648

/-! ### blob 0: the 64-byte header is walked as a pseudo-field -/
structure HdrOK (hdr : Bytes) : Prop where
  len : hdr.length = 64
  ty : de (hdr.take 4) = HEADER

theorem readHdr_header (r : Bytes) (hl : 16 ≤ r.length) (ht : de (r.take 4) = HEADER) :
    readHdr r = some (HEADER, de ((r.drop 8).take 8), r.drop 16) := by
  have : ¬ r.length < 16 := by omega
  simp only [readHdr, shorter_eq, this, decide_false, Bool.false_eq_true, if_false, ht]

theorem readHdr_hdr64 (hdr Y : Bytes) (h : HdrOK hdr) :
    ∃ sz, readHdr (hdr ++ Y) = some (HEADER, sz, (hdr ++ Y).drop 16) :=
  ⟨_, readHdr_header _ (by simp [h.len]; omega)
    (by rw [List.take_append_of_le_length (by rw [h.len]; omega)]; exact h.ty)⟩

theorem drop64 (hdr Y : Bytes) (h : HdrOK hdr) : ((hdr ++ Y).drop 16).drop 48 = Y := by
  rw [List.drop_drop]
  have : 16 + 48 = hdr.length := by rw [h.len]
  rw [this]; exact List.drop_left

theorem walkBlob_hdr (v : Variant) (hdr Y : Bytes) (h : HdrOK hdr) (fuel pos : Nat) (t : Option Bytes) :
    walkBlob v (fuel + 1) pos (hdr ++ Y) t = walkBlob v fuel (pos + 64) Y t := by
  obtain ⟨sz, hr⟩ := readHdr_hdr64 hdr Y h
  rw [walkBlob, hr]
  simp only [if_true, drop64 hdr Y h]

/-- the walk over one blob; `H` is the 64-byte header in front of blob 0 and empty otherwise -/
theorem walkBlob_blob (v : Variant) (H : Bytes) (hH : H = [] ∨ HdrOK H) (fs : List Field) (rest : Bytes)
    (h : BlobOK fs) (fuel pos : Nat) (hf : fs.length + 1 < fuel) :
    walkBlob v fuel pos (H ++ (encFs fs ++ (endBytes ++ rest))) none
      = .ok (tOf fs none) (pos + H.length + blobLen fs) rest := by
  rcases hH with rfl | hH
  · exact walkBlob_enc v fs rest h fuel pos none (by omega)
  · obtain ⟨n, rfl⟩ : ∃ n, fuel = n + 1 := ⟨fuel - 1, by omega⟩
    rw [walkBlob_hdr v H _ hH, walkBlob_enc v fs rest h n _ none (by omega), hH.len]

/-- The final segment `fin`, found after the END marker of a blob of `L` bytes, makes the index loop accept
    that blob and no further one: it starts with a complete trailer whose back offset is `L` and which
    either says "last" or is followed by bytes the loop rejects. -/
structure FinStops (v : Variant) (fin : Bytes) (L : Nat) : Prop where
  len : (fin.take 12).length = 12
  prev : sgn32 (de (((fin.take 12).drop 4).take 4)) = (L : Int)
  next : de (((fin.take 12).drop 8).take 4) = 0 ∨
    ∀ fuel i pos, (indexLoop v fuel (i + 1) pos (fin.drop 12)).entries = [] ∧
                  (indexLoop v fuel (i + 1) pos (fin.drop 12)).undefinedB = false

theorem indexLoop_step (v : Variant) (fuel i pos : Nat) (H : Bytes) (hH : H = [] ∨ HdrOK H) (d : List Field)
    (hd : BlobOK d) (X : Bytes) :
    indexLoop v (fuel + 1) i pos (H ++ (encFs d ++ (endBytes ++ X))) =
      (let tb := X.take 12
       let short := tb.length < 12
       let pos2 := pos + H.length + blobLen d + tb.length
       let offPrev := de ((tb.drop 4).take 4)
       let offNext := de ((tb.drop 8).take 4)
       if i > 0 ∧ sgn32 offPrev + 12 ≠ (pos2 : Int) - (pos : Int) then ⟨[], true, short, false⟩
       else if offNext = 0 ∨ short then ⟨[⟨pos, tOf d none⟩], false, short, false⟩
       else
         let o := indexLoop v fuel (i + 1) pos2 (X.drop 12)
         ⟨⟨pos, tOf d none⟩ :: o.entries, o.readError, o.shortTrailer, o.undefinedB⟩) := by
  have hl := encFs_length_ge d
  rw [indexLoop, walkBlob_blob v H hH d X hd _ pos (by simp; omega)]

theorem indexLoop_fin (v : Variant) (fuel i pos : Nat) (H : Bytes) (hH : H = [] ∨ HdrOK H) (d : List Field)
    (hd : BlobOK d) (fin : Bytes) (L : Nat) (hfin : FinStops v fin L) (hi : i > 0 → L = H.length + blobLen d) :
    (indexLoop v (fuel + 1) i pos (H ++ (encFs d ++ (endBytes ++ fin)))).entries = [⟨pos, tOf d none⟩] ∧
    (indexLoop v (fuel + 1) i pos (H ++ (encFs d ++ (endBytes ++ fin)))).undefinedB = false := by
  rw [indexLoop_step v fuel i pos H hH d hd fin]
  simp only [hfin.len, Nat.lt_irrefl, decide_false, or_false]
  have hno : ¬ (i > 0 ∧ sgn32 (de (((fin.take 12).drop 4).take 4)) + 12
      ≠ ((pos + H.length + blobLen d + 12 : Nat) : Int) - (pos : Int)) := by
    intro ⟨hi', hne⟩
    apply hne
    rw [hfin.prev, hi hi']; omega
  simp only [hno, if_false]
  by_cases h0 : de (((fin.take 12).drop 8).take 4) = 0
  · simp [h0]
  · obtain ⟨e1, e2⟩ := (hfin.next.resolve_left h0) fuel i (pos + H.length + blobLen d + 12)
    simp [h0, e1, e2]

/-- the index loop over a blob and the chain behind it: the blob and every delta of the chain are accepted,
    then the final segment stops the loop.  For blob 0 (`i = 0`) nothing is asked of `prev`: the loop does not
    check the back offset of the first trailer. -/
theorem indexLoop_chain (v : Variant) (fin : Nat → Nat → Bytes)
    (hfin : ∀ idx L, L < 2147483648 → FinStops v (fin idx L) L) (ds : List (List Field))
    (hds : ChainOK ds) (H : Bytes) (hH : H = [] ∨ HdrOK H) (d : List Field) (hd : BlobOK d)
    (i pos idx prev fuel : Nat) (hp : prev < 2147483648) (hi : i > 0 → prev = H.length + blobLen d)
    (hf : ds.length < fuel) :
    (indexLoop v fuel i pos (H ++ (encFs d ++ (endBytes ++ chainG fin idx prev ds)))).entries
        = ⟨pos, tOf d none⟩ :: chainEntries (pos + H.length + blobLen d + 12) ds ∧
    (indexLoop v fuel i pos (H ++ (encFs d ++ (endBytes ++ chainG fin idx prev ds)))).undefinedB = false := by
  induction ds generalizing H d i pos idx prev fuel with
  | nil =>
    obtain ⟨n, rfl⟩ : ∃ n, fuel = n + 1 := ⟨fuel - 1, by omega⟩
    exact indexLoop_fin v n i pos H hH d hd _ prev (hfin idx prev hp) hi
  | cons d' ds' ih =>
    obtain ⟨n, rfl⟩ : ∃ n, fuel = n + 1 := ⟨fuel - 1, by omega⟩
    have hl : ds'.length < n := by simp at hf; omega
    obtain ⟨hd', hdl'⟩ := hds d' (List.mem_cons_self ..)
    have hds' : ChainOK ds' := fun x hx => hds x (List.mem_cons_of_mem _ hx)
    simp only [chainG]
    rw [indexLoop_step v n i pos H hH d hd]
    simp only [trailer_take, trailerBytes_length, Nat.lt_irrefl, decide_false, trailer_drop]
    rw [trailer_prev _ _ _ (by omega), trailer_next _ _ _ (by omega), sgn32_small _ hp]
    have hchk : ¬ (i > 0 ∧ (prev : Int) + 12 ≠ ((pos + H.length + blobLen d + 12 : Nat) : Int) - (pos : Int)) := by
      intro ⟨hi', hne⟩
      apply hne
      rw [hi hi']; omega
    have hnz : ¬ (blobLen d' = 0) := by have := blobLen_ge d'; omega
    simp only [hchk, if_false, hnz, Bool.false_eq_true, or_self]
    obtain ⟨r1, r2⟩ := ih hds' [] (Or.inl rfl) d' hd' (i + 1) (pos + H.length + blobLen d + 12) (idx + 1)
      (blobLen d') n hdl' (fun _ => by simp) hl
    simp only [List.nil_append, List.length_nil, Nat.add_zero] at r1 r2
    simp only [chainEntries]
    exact ⟨by rw [r1], r2⟩

/-- an archive: header, first snapshot, END, trailer chain with the deltas `ds`, final segment `fin` -/
def archG (fin : Nat → Nat → Bytes) (hdr : Bytes) (fs0 : List Field) (ds : List (List Field)) : Bytes :=
  hdr ++ (encFs fs0 ++ (endBytes ++ chainG fin 0 0 ds))

/-- position of blob 1 -/
def off1 (fs0 : List Field) : Nat := 64 + blobLen fs0 + 12

/-- **index of an archive** (any final segment that stops the loop): one entry per blob, at the
    offsets of the trailer chain, with the time fields the blobs carry -/
theorem indexLoop_arch (v : Variant) (fin : Nat → Nat → Bytes)
    (hfin : ∀ idx L, L < 2147483648 → FinStops v (fin idx L) L) (hdr : Bytes) (hh : HdrOK hdr)
    (fs0 : List Field) (h0 : BlobOK fs0) (ds : List (List Field)) (hds : ChainOK ds)
    (fuel : Nat) (hf : ds.length + 1 < fuel) :
    (indexLoop v fuel 0 0 (archG fin hdr fs0 ds)).entries
        = ⟨0, tOf fs0 none⟩ :: chainEntries (off1 fs0) ds ∧
    (indexLoop v fuel 0 0 (archG fin hdr fs0 ds)).undefinedB = false := by
  have := indexLoop_chain v fin hfin ds hds hdr (Or.inr hh) fs0 h0 0 0 0 0 fuel (by omega)
    (fun h => absurd h (by omega)) (by omega)
  simpa only [Nat.zero_add, hh.len, off1, archG] using this

theorem finTail_stops (v : Variant) (tail : Bytes) (idx L : Nat) (hL : L < 2147483648) :
    FinStops v (finTail tail idx L) L := by
  have ht : (finTail tail idx L).take 12 = trailerBytes idx L 0 := trailer_take idx L 0 tail
  refine ⟨by rw [ht]; rfl, ?_, Or.inl ?_⟩
  · rw [ht, trailer_prev _ _ _ (by omega), sgn32_small _ hL]
  · rw [ht, trailer_next _ _ _ (by omega)]

end RV.Bin
