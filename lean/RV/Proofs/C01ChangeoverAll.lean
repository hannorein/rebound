import RV.Model.Changeover
import Mathlib.Algebra.Order.Field.Rat
import Mathlib.Tactic.Ring
import Mathlib.Tactic.Linarith
import Mathlib.Tactic.Positivity
import Mathlib.Tactic.FieldSimp
/- C01 / MERCURIUS changeover functions, for ALL d and all dcrit > 0 (over ℚ): plateaus, range, antisymmetry, continuity at the
   joins.  The polynomials are the regularised incomplete beta smooth-steps: p_n(y) = y^{n+1} Σ_k C(n+k,k)(1−y)^k. -/
namespace RV.C01.ChangeoverAll
open RV.C01.Changeover

theorem mercury_form (y : Rat) : pMercury y = y^3 * (1 + 3*(1-y) + 6*(1-y)^2) := by unfold pMercury; ring
theorem c4_form (y : Rat) : pC4 y = y^5 * (1 + 5*(1-y) + 15*(1-y)^2 + 35*(1-y)^3 + 70*(1-y)^4) := by unfold pC4; ring
theorem c5_form (y : Rat) : pC5 y = y^6 * (1 + 6*(1-y) + 21*(1-y)^2 + 56*(1-y)^3 + 126*(1-y)^4 + 252*(1-y)^5) := by unfold pC5; ring

theorem mercury_anti (y : Rat) : pMercury y + pMercury (1 - y) = 1 := by unfold pMercury; ring
theorem c4_anti (y : Rat) : pC4 y + pC4 (1 - y) = 1 := by unfold pC4; ring
theorem c5_anti (y : Rat) : pC5 y + pC5 (1 - y) = 1 := by unfold pC5; ring

theorem mercury_nonneg (y : Rat) (h0 : 0 ≤ y) (h1 : y ≤ 1) : 0 ≤ pMercury y := by
  rw [mercury_form]; have : 0 ≤ 1 - y := by linarith
  positivity
theorem c4_nonneg (y : Rat) (h0 : 0 ≤ y) (h1 : y ≤ 1) : 0 ≤ pC4 y := by
  rw [c4_form]; have : 0 ≤ 1 - y := by linarith
  positivity
theorem c5_nonneg (y : Rat) (_h0 : 0 ≤ y) (h1 : y ≤ 1) : 0 ≤ pC5 y := by
  rw [c5_form]; have : 0 ≤ 1 - y := by linarith
  positivity

structure SmoothStep (p : Rat → Rat) : Prop where
  anti : ∀ y, p y + p (1 - y) = 1
  nonneg : ∀ y, 0 ≤ y → y ≤ 1 → 0 ≤ p y
  zero : p 0 = 0

theorem ss_mercury : SmoothStep pMercury := ⟨mercury_anti, mercury_nonneg, by unfold pMercury; ring⟩
theorem ss_c4 : SmoothStep pC4 := ⟨c4_anti, c4_nonneg, by unfold pC4; ring⟩
theorem ss_c5 : SmoothStep pC5 := ⟨c5_anti, c5_nonneg, by unfold pC5; ring⟩

theorem y_neg_iff (d dcrit : Rat) (hc : 0 < dcrit) : yOf d dcrit < 0 ↔ d < dcrit / 10 := by
  unfold yOf
  have h9 : (0 : Rat) < 9 / 10 * dcrit := by positivity
  rw [div_lt_iff₀ h9]; constructor <;> intro h <;> linarith

theorem y_gt_one_iff (d dcrit : Rat) (hc : 0 < dcrit) : 1 < yOf d dcrit ↔ dcrit < d := by
  unfold yOf
  have h9 : (0 : Rat) < 9 / 10 * dcrit := by positivity
  rw [lt_div_iff₀ h9]; constructor <;> intro h <;> linarith

theorem changeover_properties (p : Rat → Rat) (hp : SmoothStep p) (d dcrit : Rat) (hc : 0 < dcrit) :
    (d < dcrit / 10 → changeover p d dcrit = 0) ∧ (dcrit < d → changeover p d dcrit = 1) ∧
    (0 ≤ changeover p d dcrit ∧ changeover p d dcrit ≤ 1) ∧
    changeover p (dcrit / 10) dcrit = 0 ∧ changeover p dcrit dcrit = 1 := by
  have hy0 := y_neg_iff d dcrit hc
  have hy1 := y_gt_one_iff d dcrit hc
  refine ⟨?_, ?_, ?_, ?_, ?_⟩
  · intro h; unfold changeover; simp only [hy0.mpr h, if_true]
  · intro h; unfold changeover
    have : ¬ yOf d dcrit < 0 := by have := hy1.mpr h; linarith
    simp only [this, if_false]; simp [hy1.mpr h]
  · unfold changeover
    by_cases h0 : yOf d dcrit < 0
    · simp [h0]
    · by_cases h1 : yOf d dcrit > 1
      · simp [h0, h1]
      · simp only [h0, h1, if_false]
        have a0 : 0 ≤ yOf d dcrit := le_of_not_gt h0
        have a1 : yOf d dcrit ≤ 1 := le_of_not_gt h1
        refine ⟨hp.nonneg _ a0 a1, ?_⟩
        have := hp.anti (yOf d dcrit)
        have := hp.nonneg (1 - yOf d dcrit) (by linarith) (by linarith)
        linarith
  · have hy : yOf (dcrit / 10) dcrit = 0 := by unfold yOf; field_simp; ring
    unfold changeover; simp [hy, hp.zero]
  · have hy : yOf dcrit dcrit = 1 := by unfold yOf; field_simp; ring
    have h1 : p 1 = 1 := by have := hp.anti 0; rw [hp.zero] at this; simpa using this
    unfold changeover; simp [hy, h1]

theorem changeover_mirror (p : Rat → Rat) (hp : SmoothStep p) (d d' dcrit : Rat)
    (h0 : 0 ≤ yOf d dcrit) (h1 : yOf d dcrit ≤ 1) (hs : yOf d' dcrit = 1 - yOf d dcrit) :
    changeover p d dcrit + changeover p d' dcrit = 1 := by
  unfold changeover
  have a : ¬ yOf d dcrit < 0 := not_lt.mpr h0
  have b : ¬ yOf d dcrit > 1 := not_lt.mpr h1
  have c : ¬ yOf d' dcrit < 0 := by rw [hs]; exact not_lt.mpr (by linarith)
  have e : ¬ yOf d' dcrit > 1 := by rw [hs]; exact not_lt.mpr (by linarith)
  simp only [a, b, c, e, if_false]; rw [hs]; exact hp.anti _
theorem y_mono (d d' dcrit : Rat) (hc : 0 < dcrit) (h : d ≤ d') : yOf d dcrit ≤ yOf d' dcrit := by
  unfold yOf
  have h9 : (0 : Rat) < 9 / 10 * dcrit := by positivity
  exact div_le_div_of_nonneg_right (by linarith) (le_of_lt h9)

theorem changeover_mono (p : Rat → Rat) (hp : SmoothStep p) (hm : ∀ a b, 0 ≤ a → a ≤ b → b ≤ 1 → p a ≤ p b)
    (d d' dcrit : Rat) (hc : 0 < dcrit) (h : d ≤ d') : changeover p d dcrit ≤ changeover p d' dcrit := by
  have hy := y_mono d d' dcrit hc h
  have r' := (changeover_properties p hp d' dcrit hc).2.2.1
  have r := (changeover_properties p hp d dcrit hc).2.2.1
  unfold changeover at *
  by_cases a0 : yOf d dcrit < 0
  · simp only [a0, if_true]; exact r'.1
  · by_cases a1 : yOf d dcrit > 1
    · have b0 : ¬ yOf d' dcrit < 0 := by intro hh; linarith
      have b1 : yOf d' dcrit > 1 := by linarith
      simp [a0, a1, b0, b1]
    · by_cases b1 : yOf d' dcrit > 1
      · have b0 : ¬ yOf d' dcrit < 0 := by intro hh; linarith
        simp only [a0, a1, b0, b1, if_false, if_true]
        simp only [a0, a1, if_false] at r; exact r.2
      · have b0 : ¬ yOf d' dcrit < 0 := by intro hh; exact a0 (by linarith)
        simp only [a0, a1, b0, b1, if_false]
        exact hm _ _ (le_of_not_gt a0) hy (le_of_not_gt b1)

end RV.C01.ChangeoverAll
