import RV.Proofs.WHDH
import RV.Model.WHJump
/-
  The executable model of `reb_whfast_jump_step` (democratic heliocentric) and `reb_whfast_com_step`
  on the array `p_jh` IS the declarative jump / com step of RV/Proofs/WHDH.lean; hence it conserves
  L and P.
-/
set_option linter.unusedSectionVars false
namespace RV.WHJump
open RV RV.Gravity RV.Diag RV.WH
variable {K : Type} [Field K]

/-- the array `p_jh` (with the masses of the particle array) that holds a DH state -/
def dsArr (N : Nat) (m : Nat → K) (s : DS K) : Array (Part K) :=
  (Array.range N).map fun i => if i = 0 then ⟨m 0, s.R, s.V⟩ else ⟨m i, s.Q i, s.W i⟩

@[simp] theorem dsArr_size (N : Nat) (m : Nat → K) (s : DS K) : (dsArr N m s).size = N := by simp [dsArr]

theorem dsArr_get (N : Nat) (m : Nat → K) (s : DS K) {i : Nat} (h : i < N) :
    (dsArr N m s)[i]? = some (if i = 0 then ⟨m 0, s.R, s.V⟩ else ⟨m i, s.Q i, s.W i⟩) := by
  simp [dsArr, h]

theorem dsArr_get_none (N : Nat) (m : Nat → K) (s : DS K) {i : Nat} (h : N ≤ i) :
    (dsArr N m s)[i]? = none := by
  simp [dsArr, h]

theorem dsArr_mapIdx (N : Nat) (m : Nat → K) (s s' : DS K) (f : Nat → Part K → Part K)
    (h0 : f 0 ⟨m 0, s.R, s.V⟩ = ⟨m 0, s'.R, s'.V⟩)
    (h : ∀ i, 1 ≤ i → i < N → f i ⟨m i, s.Q i, s.W i⟩ = ⟨m i, s'.Q i, s'.W i⟩) :
    (dsArr N m s).mapIdx f = dsArr N m s' := by
  apply Array.ext_getElem?
  intro i
  rw [Array.getElem?_mapIdx]
  by_cases hi : i < N
  · rw [dsArr_get N m s hi, dsArr_get N m s' hi, Option.map_some]
    split_ifs with hz
    · subst hz; exact congrArg some h0
    · exact congrArg some (h i (Nat.pos_of_ne_zero hz) hi)
  · rw [dsArr_get_none N m s (not_lt.1 hi), dsArr_get_none N m s' (not_lt.1 hi)]; rfl

theorem dhMom_eq (N nAct : Nat) (hA : nAct ≤ N) (m : Nat → K) (s : DS K) :
    dhMom nAct (dsArr N m s) = ∑ k ∈ Finset.Ico 1 nAct, m k • s.W k := by
  refine forRange_sum 1 nAct _ _ fun L i h1 h2 => ?_
  rw [dsArr_get N m s (h2.trans_le hA), if_neg (Nat.ne_of_gt h1)]
  rfl

/-- **the model of the DH jump step in closed form**, for every `N_active ≤ N_real ≤ N`: slot 0 (centre of
    mass), all masses and all velocities are untouched; every slot `1 ≤ i < N_real` (massive or test
    particle) is displaced by `(dt/m_0) Σ_{1≤k<N_active} m_k W_k`. -/
theorem jumpDH_model (N nAct nReal : Nat) (hN : 1 ≤ N) (hA : nAct ≤ N) (m : Nat → K) (τ : K) (s : DS K) :
    RV.WHJump.jumpDH τ nAct nReal (dsArr N m s)
      = dsArr N m { s with Q := fun i => if i < nReal then s.Q i + (τ / m 0) • ∑ k ∈ Finset.Ico 1 nAct, m k • s.W k
                                           else s.Q i } := by
  rw [RV.WHJump.jumpDH, dhMom_eq N nAct hA, dsArr_get N m s hN, if_pos rfl]
  refine dsArr_mapIdx N m s _ _ (if_neg (by simp)) fun i h1 hi => ?_
  dsimp only
  by_cases hr : i < nReal
  · rw [if_pos ⟨h1, hr⟩, if_pos hr]
    congr 1
    ext <;> dsimp only [V3.add_x, V3.add_y, V3.add_z, V3.smul_x, V3.smul_y, V3.smul_z] <;> ring
  · rw [if_neg fun h => hr h.2, if_neg hr]

theorem dsArr_congr (N : Nat) (m : Nat → K) (s s' : DS K) (hR : s.R = s'.R) (hV : s.V = s'.V)
    (hQ : ∀ i, 1 ≤ i → i < N → s.Q i = s'.Q i) (hW : ∀ i, 1 ≤ i → i < N → s.W i = s'.W i) :
    dsArr N m s = dsArr N m s' := by
  apply Array.ext_getElem?
  intro i
  by_cases hi : i < N
  · rw [dsArr_get N m s hi, dsArr_get N m s' hi]
    by_cases h0 : i = 0
    · simp [h0, hR, hV]
    · simp [h0, hQ i (by omega) hi, hW i (by omega) hi]
  · rw [dsArr_get_none N m s (by omega), dsArr_get_none N m s' (by omega)]

theorem jumpDH_model_active (N : Nat) (hN : 1 ≤ N) (m : Nat → K) (τ : K) (s : DS K) :
    RV.WHJump.jumpDH τ N N (dsArr N m s) = dsArr N m (RV.WH.jumpDH N m τ s) := by
  rw [jumpDH_model N N N hN (le_refl N) m τ s]
  apply dsArr_congr
  · rfl
  · rfl
  · intro i _ hi; simp [RV.WH.jumpDH, hi]
  · intro i _ _; rfl

/-- `reb_whfast_com_step` on the array = `R += dt·V` on the state -/
theorem comStep_model (N : Nat) (m : Nat → K) (τ : K) (s : DS K) :
    RV.WHJump.comStep τ (dsArr N m s) = dsArr N m { s with R := s.R + τ • s.V } := by
  apply Array.ext_getElem?
  intro i
  unfold RV.WHJump.comStep
  by_cases hi : i < N
  · rw [Array.getElem?_modify, dsArr_get N m s hi, dsArr_get N m _ hi]
    by_cases h0 : i = 0
    · subst h0
      simp only [if_true, Option.map_some]
      congr 1
    · have : ¬ 0 = i := by omega
      simp [h0, this]
  · rw [Array.getElem?_modify, dsArr_get_none N m s (by omega), dsArr_get_none N m _ (by omega)]
    simp

theorem whdsMom_eq (N nAct : Nat) (hA : nAct ≤ N) (m : Nat → K) (s : DS K) :
    whdsMom nAct (dsArr N m s) (m 0) = ∑ k ∈ Finset.Ico 1 nAct, (m k / (m 0 + m k)) • s.W k := by
  refine forRange_sum 1 nAct _ _ fun L i h1 h2 => ?_
  rw [dsArr_get N m s (h2.trans_le hA), if_neg (Nat.ne_of_gt h1)]
  ext <;> exact congrArg (_ + ·) (mul_div_right_comm ..)

/-- displaced positions of the WHDS jump step -/
def whdsQ (nAct nReal : Nat) (m : Nat → K) (τ : K) (s : DS K) (i : Nat) : V3 K :=
  let p : V3 K := ∑ k ∈ Finset.Ico 1 nAct, (m k / (m 0 + m k)) • s.W k
  if i < nAct then s.Q i + τ • (p - (m i / (m 0 + m i)) • s.W i)
  else (if i < nReal then s.Q i + τ • p else s.Q i)

end RV.WHJump
