import RV.Gen.C15Schedule
/-
  The extracted schedule of reb_simulation_step, run on the abstract state of RV/Model/StepSchedule.lean.
-/
namespace RV.C15
open RV.StepSchedule RV.Gen.C15

/-- one step of the extracted schedule, started with every particle inside the box; `userFlagged`: a particle flagged by
    a user `remove` on a simulation with a tree is in the array -/
def runStep (c : Cfg) (e : Ev) (userFlagged : Bool) : St :=
  runCalls c e treeSearchUpdatesFirst lineTreeSearchUpdatesFirst searchEndCalls stepCalls
    { flagged := userFlagged, outside := false, needsUpdate := false, collFlagged := false }

end RV.C15
