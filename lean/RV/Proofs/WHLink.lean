import RV.Proofs.WHJacobi
import RV.Proofs.Transform
/-
  Link between the declarative Jacobi coordinates of RV/Proofs/WHJacobi.lean (`eta`, `wsum`,
  `jrel`) and the loop model of `reb_particles_transform_inertial_to_jacobi_*` in
  RV/Model/Transform.lean (C12, tied bitwise to transformations.c): per Cartesian component and
  for every number of bodies, `jacFwd` outputs exactly `wsum/eta` in slot 0 and `jrel` in slot i.
-/
namespace RV.WH
open RV RV.Transform
variable {K : Type} [Field K]

/-! masses / component values of the body list as total functions -/
def mF (l : List (K × K)) (i : Nat) : K := (l.map Prod.fst).getD i 0
def fF (l : List (K × K)) (i : Nat) : K := (l.map Prod.snd).getD i 0

theorem sum_range_getD (l r : List K) : ∑ k ∈ Finset.range l.length, (l ++ r).getD k 0 = l.sum := by
  induction l using List.reverseRecOn generalizing r with
  | nil => rfl
  | append_singleton l a ih =>
    rw [List.length_append, List.length_singleton, Finset.sum_range_succ, List.append_assoc, ih,
      List.sum_append, List.sum_singleton]
    simp

theorem eta_prefix (pre suf : List (K × K)) (hp : 1 ≤ pre.length) :
    eta (mF (pre ++ suf)) (pre.length - 1) = msum pre := by
  have := sum_range_getD (pre.map Prod.fst) (suf.map Prod.fst)
  rwa [List.length_map, ← List.map_append, ← Nat.sub_add_cancel hp] at this

theorem wsum_prefix (pre suf : List (K × K)) (hp : 1 ≤ pre.length) :
    wsum (mF (pre ++ suf)) (fF (pre ++ suf)) (pre.length - 1) = mxsum pre := by
  have := sum_range_getD (pre.map fun p => p.1 * p.2) (suf.map fun p => p.1 * p.2)
  rw [List.length_map, ← List.map_append, ← Nat.sub_add_cancel hp] at this
  refine Eq.trans (Finset.sum_congr rfl fun k _ => ?_) this
  simp only [mF, fF, List.getD_eq_getElem?_getD, List.getElem?_map]
  cases (pre ++ suf)[k]? <;> simp
/-- the `for (i=1;i<N_active;i++)` loop of `inertial_to_jacobi_*`, started after the bodies `pre`:
    outputs are the declarative Jacobi coordinates of the whole list -/
theorem jacFwdAct_decl (pre suf : List (K × K)) (hp : 1 ≤ pre.length) (h : SumsNZ (msum pre) suf) :
    (jacFwdAct (msum pre) (mxsum pre) suf).1
      = (List.range suf.length).map (fun k => jrel (mF (pre ++ suf)) (fF (pre ++ suf)) (pre.length + k)) ∧
    (jacFwdAct (msum pre) (mxsum pre) suf).2.1 = msum (pre ++ suf) ∧
    (jacFwdAct (msum pre) (mxsum pre) suf).2.2 = mxsum (pre ++ suf) := by
  induction suf generalizing pre with
  | nil => simp [jacFwdAct]
  | cons a r ih =>
    obtain ⟨m, x⟩ := a
    obtain ⟨h0, hr⟩ := h
    have e1 : msum pre + m = msum (pre ++ [(m, x)]) := by
      rw [msum, msum, List.map_append, List.sum_append, List.map_singleton, List.sum_singleton]
    have e2 : mxsum pre * ((msum pre + m) * (1 / msum pre)) + m * (x - mxsum pre * (1 / msum pre))
        = mxsum (pre ++ [(m, x)]) := by
      have : mxsum (pre ++ [(m, x)]) = mxsum pre + m * x := by
        rw [mxsum, mxsum, List.map_append, List.sum_append, List.map_singleton, List.sum_singleton]
      rw [this]
      linear_combination mxsum pre * mul_one_div_cancel h0
    have ih' := ih (pre ++ [(m, x)]) (by simp) (by rw [← e1]; exact hr)
    rw [jacFwdAct]
    dsimp only [sc_one]
    rw [e2, e1]
    obtain ⟨i1, i2, i3⟩ := ih'
    simp only [List.append_assoc, List.singleton_append] at i1 i2 i3
    refine ⟨?_, i2, i3⟩
    rw [i1, List.length_cons, List.range_succ_eq_map, List.map_cons, List.map_map]
    congr 1
    · simp only [jrel, Nat.add_zero]
      rw [eta_prefix pre _ hp, wsum_prefix pre _ hp]
      have : fF (pre ++ (m, x) :: r) pre.length = x := by simp [fF]
      rw [this, mul_one_div]
    · apply List.map_congr_left
      intro k _
      simp only [Function.comp, List.length_append, List.length_singleton]
      congr 1
      omega

/-- **`inertial_to_jacobi` computes the declarative Jacobi coordinates** (all particles active):
    slot 0 = (total mass, mass-weighted mean), slot `i ≥ 1` = `jrel`. -/
theorem jacFwd_decl (m0 x0 : K) (act : List (K × K)) (h : SumsNZ m0 act) :
    let l := (m0, x0) :: act
    (jacFwd m0 x0 act []).m0 = eta (mF l) act.length ∧
    (jacFwd m0 x0 act []).x0 = wsum (mF l) (fF l) act.length / eta (mF l) act.length ∧
    (jacFwd m0 x0 act []).act = (List.range act.length).map (fun k => jrel (mF l) (fF l) (k + 1)) := by
  intro l
  have hm : msum [(m0, x0)] = m0 := by simp [msum]
  have hx : mxsum [(m0, x0)] = m0 * x0 := by simp [mxsum]
  have key := jacFwdAct_decl [(m0, x0)] act (by simp) (by rw [hm]; exact h)
  rw [hm, hx] at key
  obtain ⟨k1, k2, k3⟩ := key
  have hl : ((m0, x0) :: act).length - 1 = act.length := by simp
  have e1 := eta_prefix ((m0, x0) :: act) [] (by simp)
  have e2 := wsum_prefix ((m0, x0) :: act) [] (by simp)
  simp only [List.append_nil, hl] at e1 e2
  simp only [jacFwd, sc_hmul, sc_hdiv, sc_one, sc_hsub]
  refine ⟨?_, ?_, ?_⟩
  · rw [k2, e1]; rfl
  · rw [k2, k3, e1, e2]; simp; ring
  · rw [k1]
    apply List.map_congr_left
    intro k _
    simp only [List.singleton_append, List.length_singleton]
    congr 1
    omega

end RV.WH
