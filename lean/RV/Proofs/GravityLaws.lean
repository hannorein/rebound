import RV.Proofs.GravityBasic
import Mathlib.Algebra.BigOperators.GroupWithZero.Action
/-
  Consequences of the loop-nest analysis of BASIC: the declarative pairwise sum (needs a
  prefactor symmetric in the pair and a ghost list symmetric under negation), Newton's third
  law and vanishing total torque, and the symmetry of the ghost lists boundary.c produces.
-/
namespace RV.Gravity
open RV
variable {K : Type} [Field K]

/-- a ghost list that is invariant under `gb ↦ -gb` as a multiset, stated on sums -/
def GhostSymm (ghosts : List (V3 K)) : Prop :=
  ∀ G : V3 K → V3 K, (ghosts.map fun gb => G (-gb)).sum = (ghosts.map G).sum

theorem dvec_neg (x : Nat → V3 K) (gb : V3 K) (i j : Nat) : dvec x (-gb) i j = -dvec x gb j i := by
  unfold dvec; abel

theorem s2_neg (x : Nat → V3 K) (soft2 : K) (gb : V3 K) (i j : Nat) :
    s2 x soft2 (-gb) i j = s2 x soft2 gb j i := by
  simp only [s2, dvec_neg]; simp

/-- with a prefactor symmetric in the pair, what `k` receives in the `j`-role from the
    ordered pair `(j,k)` at shift `gb` is what it would receive in the `i`-role at `-gb` -/
theorem roleJ_eq_roleI (pref : K → Nat → Nat → K) (hsym : ∀ s i j, pref s i j = pref s j i)
    (soft2 : K) (m : Nat → K) (x : Nat → V3 K) (gb : V3 K) (k j : Nat) :
    roleJ pref soft2 m x gb j k = roleI pref soft2 m x (-gb) k j := by
  unfold roleJ roleI
  rw [s2_neg, dvec_neg, hsym _ k j]
  ext <;> simp

/-- the declarative force per unit mass on `k` from source `j` seen through ghost shift `gb`:
    `-pref(|d|²+ε²)·m_j·d`, `d = x_k + gb - x_j` -/
abbrev force (pref : K → Nat → Nat → K) (soft2 : K) (m : Nat → K) (x : Nat → V3 K) (gb : V3 K)
    (k j : Nat) : V3 K := roleI pref soft2 m x gb k j

/-- BASIC loop nest = declarative sum, for every symmetric prefactor and symmetric ghost list -/
theorem accBasic_declarative (pref : K → Nat → Nat → K) (hsym : ∀ s i j, pref s i j = pref s j i)
    (cfg : Cfg K) (ghosts : List (V3 K)) (hg : GhostSymm ghosts) {N : Nat} (m : Nat → K)
    (x : Nat → V3 K) (hNa : cfg.nActive ≤ N) (hig : cfg.ignore ≤ 2) {k : Nat} (hk : k < N) :
    (accBasic pref cfg ghosts (mkPs N m x))[k]?
      = some ((ghosts.map fun gb => ∑ j ∈ Finset.range N,
          if Src cfg.nActive cfg.tpType cfg.ignore k j
          then force pref (cfg.soft * cfg.soft) m x gb k j else 0).sum) := by
  rw [accBasic_get pref cfg ghosts m x hNa hk]
  congr 1
  -- the j-role sum is written as `G (-gb)` because `hg : GhostSymm` rewrites exactly that shape
  have h1 : ∀ gb, boxC pref cfg N m x gb k
      = (∑ j ∈ Finset.range N, if SrcI cfg N k j then force pref (cfg.soft * cfg.soft) m x gb k j else 0)
        + (fun g => ∑ j ∈ Finset.range N,
            if SrcJ cfg N k j then force pref (cfg.soft * cfg.soft) m x g k j else 0) (-gb) := by
    intro gb
    rw [boxC_oriented pref cfg m x gb hNa hk, Finset.sum_add_distrib]
    congr 1
    apply Finset.sum_congr rfl
    intro j _
    rw [roleJ_eq_roleI pref hsym]
  simp only [h1]
  rw [List.sum_map_add, hg (fun g => ∑ j ∈ Finset.range N,
    if SrcJ cfg N k j then force pref (cfg.soft * cfg.soft) m x g k j else 0), ← List.sum_map_add]
  congr 1
  apply List.map_congr_left
  intro gb _
  rw [← Finset.sum_add_distrib]
  apply Finset.sum_congr rfl
  intro j hj
  exact ite_add_ite_of _ _ _ _ (src_iff cfg N k j hNa hig hk (Finset.mem_range.mp hj))

/-- mass-weighted sum of what one loop-body execution adds, over all slots -/
theorem pairC_balanced (pref : K → Nat → Nat → K) (soft2 : K) {N : Nat} (m : Nat → K)
    (x : Nat → V3 K) (gb : V3 K) {i j : Nat} (hi : i < N) (hj : j < N) :
    ∑ k ∈ Finset.range N, m k • pairC pref soft2 m x gb true i j k = 0 := by
  unfold pairC
  simp only [smul_add, Finset.sum_add_distrib, true_and, smul_ite, smul_zero,
    Finset.sum_ite_eq, Finset.mem_range, hi, hj, if_true]
  unfold roleI roleJ
  rw [smul_smul, smul_smul, ← add_smul]
  convert zero_smul K _ using 2
  ring

/-- … and the torque: zero when the pair separation is not ghost-shifted -/
theorem pairC_torque (pref : K → Nat → Nat → K) (soft2 : K) {N : Nat} (m : Nat → K)
    (x : Nat → V3 K) {i j : Nat} (hi : i < N) (hj : j < N) :
    ∑ k ∈ Finset.range N, m k • V3.cross (x k) (pairC pref soft2 m x 0 true i j k) = 0 := by
  unfold pairC
  simp only [V3.cross_add, smul_add, Finset.sum_add_distrib, true_and, apply_ite (V3.cross _),
    V3.cross_zero, smul_ite, smul_zero, Finset.sum_ite_eq, Finset.mem_range, hi, hj, if_true]
  unfold roleI roleJ
  ext <;> simp [dvec] <;> ring

theorem sum_smul_list {ι : Type} (N : Nat) (w : Nat → V3 K → V3 K)
    (hw0 : ∀ k, w k 0 = 0) (hwa : ∀ k a b, w k (a + b) = w k a + w k b)
    (l : List ι) (c : ι → Nat → V3 K)
    (h : ∀ e ∈ l, ∑ k ∈ Finset.range N, w k (c e k) = 0) :
    ∑ k ∈ Finset.range N, w k ((l.map fun e => c e k).sum) = 0 := by
  induction l with
  | nil => simp [hw0]
  | cons e r ih =>
    simp only [List.map_cons, List.sum_cons, hwa, Finset.sum_add_distrib]
    rw [h e List.mem_cons_self, ih (fun e' he' => h e' (List.mem_cons_of_mem _ he')), add_zero]

theorem sum_smul_finset (N : Nat) (w : Nat → V3 K → V3 K)
    (hw0 : ∀ k, w k 0 = 0) (hwa : ∀ k a b, w k (a + b) = w k a + w k b)
    (s : Finset Nat) (c : Nat → Nat → V3 K)
    (h : ∀ e ∈ s, ∑ k ∈ Finset.range N, w k (c e k) = 0) :
    ∑ k ∈ Finset.range N, w k (∑ e ∈ s, c e k) = 0 := by
  classical
  induction s using Finset.induction_on with
  | empty => simp [hw0]
  | insert a s ha ih =>
    simp only [Finset.sum_insert ha, hwa, Finset.sum_add_distrib]
    rw [h a (Finset.mem_insert_self a s), ih (fun e he => h e (Finset.mem_insert_of_mem he)), add_zero]

/-- any additive weighting `w` that annihilates every executed pair annihilates the box
    contribution, when every particle is active -/
theorem boxC_allactive (w : Nat → V3 K → V3 K)
    (hw0 : ∀ k, w k 0 = 0) (hwa : ∀ k a b, w k (a + b) = w k a + w k b)
    (pref : K → Nat → Nat → K) (cfg : Cfg K) {N : Nat} (m : Nat → K) (x : Nat → V3 K) (gb : V3 K)
    (hall : cfg.nActive = N)
    (hpair : ∀ i j, i < N → j < N →
      ∑ k ∈ Finset.range N, w k (pairC pref (cfg.soft * cfg.soft) m x gb true i j k) = 0) :
    ∑ k ∈ Finset.range N, w k (boxC pref cfg N m x gb k) = 0 := by
  unfold boxC
  have hempty : Finset.Ico (max cfg.nActive (startI cfg.ignore)) N = ∅ := by
    rw [Finset.Ico_eq_empty_iff]; omega
  simp only [hempty, Finset.sum_empty, add_zero]
  apply sum_smul_finset N w hw0 hwa
  intro i hi
  apply sum_smul_finset N w hw0 hwa
  intro j hj
  have := Finset.mem_Ico.mp hi
  have := Finset.mem_Ico.mp hj
  exact hpair i j (by omega) (by omega)

/-- conservation laws of BASIC in one statement: with every particle active, an additive weighting
    `w` of the slots that annihilates what each loop-body execution adds annihilates the
    accelerations the routine returns (momentum: `w k v = m_k • v`; angular momentum:
    `w k v = m_k • x_k × v`) -/
theorem accBasic_annihilated (w : Nat → V3 K → V3 K)
    (hw0 : ∀ k, w k 0 = 0) (hwa : ∀ k a b, w k (a + b) = w k a + w k b)
    (pref : K → Nat → Nat → K) (cfg : Cfg K) (ghosts : List (V3 K)) {N : Nat} (m : Nat → K)
    (x : Nat → V3 K) (hall : cfg.nActive = N) (a : Nat → V3 K)
    (ha : ∀ k, k < N → (accBasic pref cfg ghosts (mkPs N m x))[k]? = some (a k))
    (hpair : ∀ gb ∈ ghosts, ∀ i j, i < N → j < N →
      ∑ k ∈ Finset.range N, w k (pairC pref (cfg.soft * cfg.soft) m x gb true i j k) = 0) :
    ∑ k ∈ Finset.range N, w k (a k) = 0 := by
  have e : ∀ k ∈ Finset.range N, w k (a k)
      = w k ((ghosts.map fun gb => boxC pref cfg N m x gb k).sum) := by
    intro k hk
    have hk' := Finset.mem_range.mp hk
    have h1 := ha k hk'
    rw [accBasic_get pref cfg ghosts m x (by omega) hk'] at h1
    rw [Option.some.inj h1]
  rw [Finset.sum_congr rfl e]
  exact sum_smul_list N w hw0 hwa _ _ fun gb hgb =>
    boxC_allactive w hw0 hwa pref cfg m x gb hall (hpair gb hgb)

/-- two routines that split every pair term of a third, `f0 j + f1 j = fb j` on the common source
    set `p`, add up to it; `star` is what only the second one adds -/
theorem sum_split (s : Finset Nat) (p : Nat → Prop) [DecidablePred p] (f0 f1 fb : Nat → V3 K)
    (star : V3 K) (h : ∀ j ∈ s, p j → f0 j + f1 j = fb j) :
    (∑ j ∈ s, if p j then f0 j else 0) + (star + ∑ j ∈ s, if p j then f1 j else 0)
      = star + ∑ j ∈ s, if p j then fb j else 0 := by
  rw [add_comm (∑ j ∈ s, _) (_ + _), add_assoc, ← Finset.sum_add_distrib]
  congr 1
  apply Finset.sum_congr rfl
  intro j hj
  by_cases hs : p j
  · simp only [hs, if_true]; rw [add_comm]; exact h j hj hs
  · simp [hs]

theorem ofInt_cast (i : Int) : (ofInt i : K) = (i : K) := by
  unfold ofInt
  rcases i with n | n
  · simp
  · have h : Int.negSucc n < 0 := Int.negSucc_lt_zero n
    simp only [h, if_true, Int.neg_negSucc, sc_ofNat, sc_neg, Int.cast_negSucc]
    congr 1

theorem list_sum_flatMap {α β : Type} (l : List α) (f : α → List β) (g : β → V3 K) :
    ((l.flatMap f).map g).sum = (l.map fun a => ((f a).map g).sum).sum := by
  induction l with
  | nil => simp
  | cons a r ih => simp [List.flatMap_cons, ih]

/-- `Σ_{i=-n..n} h(-i) = Σ_{i=-n..n} h(i)` -/
theorem ghostIdx_reflect (n : Nat) (h : Int → V3 K) :
    ((ghostIdx n).map fun i => h (-i)).sum = ((ghostIdx n).map h).sum := by
  unfold ghostIdx
  simp only [List.map_map]
  have e1 : ∀ f : Nat → V3 K, ((List.range (2 * n + 1)).map f).sum = ∑ t ∈ Finset.range (2 * n + 1), f t :=
    fun f => rfl
  rw [e1, e1]
  rw [← Finset.sum_range_reflect]
  apply Finset.sum_congr rfl
  intro t ht
  have : t < 2 * n + 1 := Finset.mem_range.mp ht
  simp only [Function.comp]
  congr 1
  simp only [Int.ofNat_eq_natCast]
  omega

/-- a triple loop over `-n..n` of boxes with `-(box i j k) = box (-i) (-j) (-k)` is a symmetric ghost list -/
theorem ghostSymm_of_neg (box : Int → Int → Int → V3 K)
    (h : ∀ i j k, -(box i j k) = box (-i) (-j) (-k)) (nx ny nz : Nat) :
    GhostSymm ((ghostIdx nx).flatMap fun i => (ghostIdx ny).flatMap fun j => (ghostIdx nz).map fun k =>
      box i j k) := by
  intro G
  simp only [list_sum_flatMap, List.map_map, Function.comp_def, h]
  rw [ghostIdx_reflect nx (fun i => ((ghostIdx ny).map fun j => ((ghostIdx nz).map fun k =>
    G (box i (-j) (-k))).sum).sum)]
  congr 1; apply List.map_congr_left; intro i _
  rw [ghostIdx_reflect ny (fun j => ((ghostIdx nz).map fun k => G (box i j (-k))).sum)]
  congr 1; apply List.map_congr_left; intro j _
  rw [ghostIdx_reflect nz (fun k => G (box i j k))]

theorem ghostList_symm (shifted : Bool) (bs : V3 K) (nx ny nz : Nat) :
    GhostSymm (ghostList shifted bs nx ny nz) :=
  ghostSymm_of_neg _ (fun i j k => by
    cases shifted <;> ext <;> simp [ghostbox, ofInt_cast]) nx ny nz

end RV.Gravity
