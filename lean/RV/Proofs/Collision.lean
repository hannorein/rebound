import RV.Proofs.Field
import RV.Model.Collision
import Mathlib.Algebra.Order.Field.Basic
import Mathlib.Algebra.BigOperators.Group.List.Basic
import Mathlib.Data.List.Basic
import Mathlib.Data.List.Perm.Basic
import Mathlib.Tactic.Linarith
import Mathlib.Tactic.Positivity
/-
  helper lemmas for RV/Props/C13.lean: search loops = declarative specification, the
  ordered-field instance of the comparisons, the quadratic minimisation of the line search,
  the shuffle is a permutation.
-/
set_option linter.unusedSectionVars false
namespace RV.Collision
open RV

/-! ## loops = filter (any scalar type) -/
section loops
variable {K : Type} [ScalarO K]

/-- pairs found for outer particle `(i, ip, p1)` in ghost box `gb` -/
def directPairs (gb : GB K) (t : Nat × Nat × Part K) (inner : List (Nat × Nat × Part K)) :
    List (Coll (GB K)) :=
  inner.filterMap fun u =>
    if (t.1 != u.1) && directHit (shiftGB gb t.2.2) t.2.2.r u.2.2
    then some ⟨(t.2.1 : Int), (u.2.1 : Int), gb⟩ else none

/-- declarative form of the DIRECT search: ghost boxes × outer × inner, filtered -/
def directSpec (ring : List (GB K)) (cand : List (Nat × Part K)) (nInner : Nat) :
    List (Coll (GB K)) :=
  ring.flatMap fun gb => (indexed cand).flatMap fun t =>
    directPairs gb t ((indexed cand).take nInner)

theorem directLoopJ_eq (gborig g : GB K) (i ip : Nat) (r1 : K)
    (inner : List (Nat × Nat × Part K)) (acc : List (Coll (GB K))) :
    directLoopJ gborig g i ip r1 inner acc = acc ++ inner.filterMap fun u =>
      if (i != u.1) && directHit g r1 u.2.2 then some ⟨(ip : Int), (u.2.1 : Int), gborig⟩ else none := by
  induction inner generalizing acc with
  | nil => simp [directLoopJ]
  | cons u rest ih =>
    obtain ⟨j, jp, p2⟩ := u
    simp only [directLoopJ, List.filterMap_cons]
    by_cases hij : i = j
    · subst hij; simp [ih]
    · have h1 : (i == j) = false := by simpa using hij
      have h2 : (i != j) = true := by simpa using hij
      simp only [h1, Bool.false_eq_true, if_false, h2, Bool.true_and]
      cases hh : directHit g r1 p2
      · simp [ih]
      · simp [ih]

theorem directLoopI_eq (gb : GB K) (inner outer : List (Nat × Nat × Part K))
    (acc : List (Coll (GB K))) :
    directLoopI gb inner outer acc = acc ++ outer.flatMap fun t => directPairs gb t inner := by
  induction outer generalizing acc with
  | nil => simp [directLoopI]
  | cons t rest ih =>
    obtain ⟨i, ip, p1⟩ := t
    simp only [directLoopI, ih, directLoopJ_eq, List.flatMap_cons, directPairs, List.append_assoc]

theorem foldl_append_flatMap {β γ : Type} (f : β → List γ) (l : List β) (init : List γ) :
    l.foldl (fun acc x => acc ++ f x) init = init ++ l.flatMap f := by
  induction l generalizing init with
  | nil => simp
  | cons x r ih => simp [ih, List.append_assoc]

/-- pairs found for outer particle `(ip,p1)` against the later particles `rest` -/
def linePairs (dt : K) (gb : GB K) (ip : Nat) (p1 : Part K) (rest : List (Nat × Part K)) :
    List (Coll (GB K)) :=
  rest.filterMap fun u =>
    if lineHit dt (shiftGB gb p1) p1.r u.2 then some ⟨(ip : Int), (u.1 : Int), gb⟩ else none

/-- all pairs `i < j` (by position) in one ghost box -/
def lineSpecI (dt : K) (gb : GB K) : List (Nat × Part K) → List (Coll (GB K))
  | [] => []
  | (ip, p1) :: rest => linePairs dt gb ip p1 rest ++ lineSpecI dt gb rest

def lineSpec (dt : K) (ring : List (GB K)) (cand : List (Nat × Part K)) : List (Coll (GB K)) :=
  ring.flatMap fun gb => lineSpecI dt gb cand

theorem lineLoopJ_eq (dt : K) (gborig g : GB K) (ip : Nat) (r1 : K)
    (rest : List (Nat × Part K)) (acc : List (Coll (GB K))) :
    lineLoopJ dt gborig g ip r1 rest acc = acc ++ rest.filterMap fun u =>
      if lineHit dt g r1 u.2 then some ⟨(ip : Int), (u.1 : Int), gborig⟩ else none := by
  induction rest generalizing acc with
  | nil => simp [lineLoopJ]
  | cons u r ih =>
    obtain ⟨jp, p2⟩ := u
    simp only [lineLoopJ, List.filterMap_cons]
    cases hh : lineHit dt g r1 p2 <;> simp [ih]

theorem lineLoopI_eq (dt : K) (gb : GB K) (cand : List (Nat × Part K)) (acc : List (Coll (GB K))) :
    lineLoopI dt gb cand acc = acc ++ lineSpecI dt gb cand := by
  induction cand generalizing acc with
  | nil => simp [lineLoopI, lineSpecI]
  | cons t rest ih =>
    obtain ⟨ip, p1⟩ := t
    simp only [lineLoopI, ih, lineLoopJ_eq, lineSpecI, linePairs, List.append_assoc]

theorem mem_lineSpecI (dt : K) (gb : GB K) (cand : List (Nat × Part K)) (c : Coll (GB K)) :
    c ∈ lineSpecI dt gb cand ↔
      ∃ i j : Nat, ∃ (hij : i < j) (hj : j < cand.length),
        lineHit dt (shiftGB gb (cand[i]'(by omega)).2) (cand[i]'(by omega)).2.r cand[j].2 = true ∧
        c = ⟨((cand[i]'(by omega)).1 : Int), (cand[j].1 : Int), gb⟩ := by
  induction cand with
  | nil => simp [lineSpecI]
  | cons t rest ih =>
    obtain ⟨ip, p1⟩ := t
    simp only [lineSpecI, List.mem_append, linePairs, List.mem_filterMap, ih]
    constructor
    · rintro (⟨u, hu, hc⟩ | ⟨i, j, hij, hj, hh, hc⟩)
      · obtain ⟨k, hk, rfl⟩ := List.getElem_of_mem hu
        split at hc
        · rename_i hh
          refine ⟨0, k + 1, by omega, by simp; omega, ?_, ?_⟩
          · simpa using hh
          · simpa using (Option.some.inj hc).symm
        · cases hc
      · refine ⟨i + 1, j + 1, by omega, by simp; omega, ?_, ?_⟩
        · simpa using hh
        · simpa using hc
    · rintro ⟨i, j, hij, hj, hh, hc⟩
      cases i with
      | zero =>
        left
        obtain ⟨k, rfl⟩ : ∃ k, j = k + 1 := ⟨j - 1, by omega⟩
        have hk : k < rest.length := by simpa using hj
        refine ⟨rest[k], List.getElem_mem hk, ?_⟩
        have hh' : lineHit dt (shiftGB gb p1) p1.r rest[k].2 = true := by simpa using hh
        simp only [hh', if_true]
        simpa using hc.symm
      | succ i =>
        right
        obtain ⟨k, rfl⟩ : ∃ k, j = k + 1 := ⟨j - 1, by omega⟩
        have hk : k < rest.length := by simpa using hj
        refine ⟨i, k, by omega, hk, ?_, ?_⟩
        · simpa using hh
        · simpa using hc

theorem mem_indexed (cand : List (Nat × Part K)) (t : Nat × Nat × Part K) :
    t ∈ indexed cand ↔ ∃ (h : t.1 < cand.length), t.2.1 = cand[t.1].1 ∧ t.2.2 = cand[t.1].2 := by
  unfold indexed
  simp only [List.mem_map, Prod.exists]
  constructor
  · rintro ⟨a, b, i, hm, rfl⟩
    have := List.mem_zipIdx_iff_getElem?.mp hm
    simp only at this
    obtain ⟨h, e⟩ := List.getElem?_eq_some_iff.mp this
    exact ⟨h, by simp [e], by simp [e]⟩
  · rintro ⟨h, e1, e2⟩
    obtain ⟨i, ip, p⟩ := t
    simp only at h e1 e2
    refine ⟨cand[i].1, cand[i].2, i, ?_, by simp [e1, e2]⟩
    apply List.mem_zipIdx_iff_getElem?.mpr
    simp [h]

theorem indexed_length (cand : List (Nat × Part K)) : (indexed cand).length = cand.length := by
  simp [indexed]

theorem indexed_getElem (cand : List (Nat × Part K)) (k : Nat) (hk : k < cand.length) :
    (indexed cand)[k]'(by simpa [indexed] using hk) = (k, cand[k].1, cand[k].2) := by
  simp [indexed]

theorem mem_indexed_take (cand : List (Nat × Part K)) (n : Nat) (u : Nat × Nat × Part K) :
    u ∈ (indexed cand).take n ↔ u ∈ indexed cand ∧ u.1 < n := by
  rw [List.mem_take_iff_getElem]
  constructor
  · rintro ⟨k, hk, rfl⟩
    have hk' : k < cand.length := by rw [indexed_length] at hk; omega
    refine ⟨List.getElem_mem _, ?_⟩
    rw [indexed_getElem cand k hk']; simp; omega
  · rintro ⟨hm, hn⟩
    obtain ⟨h, e1, e2⟩ := (mem_indexed cand u).mp hm
    refine ⟨u.1, by rw [indexed_length]; omega, ?_⟩
    rw [indexed_getElem cand u.1 h]
    ext <;> simp [e1, e2]

theorem mem_directSpec (ring : List (GB K)) (cand : List (Nat × Part K)) (nInner : Nat)
    (c : Coll (GB K)) :
    c ∈ directSpec ring cand nInner ↔
      ∃ gb ∈ ring, ∃ (i j : Nat) (hi : i < cand.length) (hj : j < cand.length),
        j < nInner ∧ i ≠ j ∧ directHit (shiftGB gb cand[i].2) cand[i].2.r cand[j].2 = true ∧
        c = ⟨(cand[i].1 : Int), (cand[j].1 : Int), gb⟩ := by
  unfold directSpec directPairs
  simp only [List.mem_flatMap, List.mem_filterMap]
  constructor
  · rintro ⟨gb, hgb, t, ht, u, hu, hc⟩
    obtain ⟨hti, e1, e2⟩ := (mem_indexed cand t).mp ht
    obtain ⟨hu1, hun⟩ := (mem_indexed_take cand nInner u).mp hu
    obtain ⟨hui, f1, f2⟩ := (mem_indexed cand u).mp hu1
    split at hc
    · rename_i hcond
      simp only [Bool.and_eq_true, bne_iff_ne, ne_eq] at hcond
      refine ⟨gb, hgb, t.1, u.1, hti, hui, hun, hcond.1, ?_, ?_⟩
      · rw [← e2, ← f2]; exact hcond.2
      · rw [← e1, ← f1]; exact (Option.some.inj hc).symm
    · cases hc
  · rintro ⟨gb, hgb, i, j, hi, hj, hjn, hij, hh, hc⟩
    refine ⟨gb, hgb, (i, cand[i].1, cand[i].2), (mem_indexed cand _).mpr ⟨hi, rfl, rfl⟩,
      (j, cand[j].1, cand[j].2), (mem_indexed_take cand nInner _).mpr
        ⟨(mem_indexed cand _).mpr ⟨hj, rfl, rfl⟩, hjn⟩, ?_⟩
    have : ((i != j) && directHit (shiftGB gb cand[i].2) cand[i].2.r cand[j].2) = true := by
      simp [hij, hh]
    simp only [this, if_true, hc]

end loops

theorem swapSeq_perm {β : Type} (news : List Nat) (i : Nat) (a : Array β) :
    (swapSeq news i a).toList.Perm a.toList := by
  induction news generalizing i a with
  | nil => exact List.Perm.refl _
  | cons n r ih =>
    refine (ih (i+1) _).trans ?_
    unfold Array.swapIfInBounds
    split
    · split
      · exact (Array.swap_perm ..).toList
      · exact List.Perm.refl _
    · exact List.Perm.refl _

section ordered
variable {K : Type} [Field K] [LinearOrder K] [IsStrictOrderedRing K]

instance fieldScalarO : ScalarO K where
  toScalar := fieldScalar
  lt a b := decide (a < b)
  le a b := decide (a ≤ b)

@[simp] theorem sco_lt (a b : K) : ScalarO.lt a b = decide (a < b) := rfl
@[simp] theorem sco_le (a b : K) : ScalarO.le a b = decide (a ≤ b) := rfl
@[simp] theorem gt_iff' (a b : K) : gt a b = decide (b < a) := rfl

theorem cmin_eq_min (a b : K) : cmin a b = min a b := by
  unfold cmin
  simp only [gt_iff', decide_eq_true_eq]
  split
  · rename_i h; exact (min_eq_right h.le).symm
  · rename_i h; exact (min_eq_left (not_lt.mp h)).symm

/-- two `continue` guards in a row -/
theorem guards_iff (a b : Prop) [Decidable a] [Decidable b] :
    (if a then false else if b then false else true) = true ↔ ¬a ∧ ¬b := by
  by_cases a <;> by_cases b <;> simp [*]

/-- the DIRECT pair test in exact arithmetic: overlapping (`‖d‖² ≤ (r₁+r₂)²`) and not receding
    (`d·dv ≤ 0`) -/
theorem directHit_iff (g : GB K) (r1 : K) (p2 : Part K) :
    directHit g r1 p2 = true ↔
      (g.x - p2.x)^2 + (g.y - p2.y)^2 + (g.z - p2.z)^2 ≤ (r1 + p2.r)^2 ∧
      (g.vx - p2.vx)*(g.x - p2.x) + (g.vy - p2.vy)*(g.y - p2.y) + (g.vz - p2.vz)*(g.z - p2.z) ≤ 0 := by
  simp only [directHit, guards_iff, gt_iff', decide_eq_true_eq, sq, not_lt]
  rfl

theorem lineHit_iff (dt : K) (g : GB K) (r1 : K) (p2 : Part K) :
    lineHit dt g r1 p2 = true ↔ lineRmin2 dt g p2 ≤ (r1 + p2.r)^2 := by
  simp only [lineHit, gt_iff', decide_eq_true_eq, sq, ← not_lt]
  split <;> simp [*]

/-! ### the line search: quadratic minimisation -/

/-- squared separation at time `τ` before the end of the step -/
def sep2 (q : LineQ K) (τ : K) : K :=
  (q.dx1 - τ*q.dvx1)^2 + (q.dy1 - τ*q.dvy1)^2 + (q.dz1 - τ*q.dvz1)^2

theorem lineQ_r1 (dt : K) (g : GB K) (p2 : Part K) : (lineQ dt g p2).r1 = sep2 (lineQ dt g p2) 0 := by
  simp only [sep2, zero_mul, sub_zero, sq]; rfl

theorem lineQ_r2 (dt : K) (g : GB K) (p2 : Part K) : (lineQ dt g p2).r2 = sep2 (lineQ dt g p2) dt := by
  simp only [sep2, sq]; rfl

theorem lineRmin2Gen_eq (q : LineQ K) (tc : K) (inr : Bool) :
    lineRmin2Gen q tc inr = if inr then min (min q.r1 q.r2) (sep2 q tc) else min q.r1 q.r2 := by
  simp only [lineRmin2Gen, cmin_eq_min, sep2, sq]

/-- the code's `rmin2_ab` in terms of the squared separation along the step -/
theorem lineRmin2_eq (dt : K) (g : GB K) (p2 : Part K) :
    lineRmin2 dt g p2 =
      if lineInRange dt (lineTc (lineQ dt g p2)) then
        min (min (sep2 (lineQ dt g p2) 0) (sep2 (lineQ dt g p2) dt))
          (sep2 (lineQ dt g p2) (lineTc (lineQ dt g p2)))
      else min (sep2 (lineQ dt g p2) 0) (sep2 (lineQ dt g p2) dt) := by
  rw [lineRmin2, lineRmin2Gen_eq, lineQ_r1, lineQ_r2]

theorem lineInRange_iff (dt tc : K) : lineInRange dt tc = true ↔ 0 ≤ tc/dt ∧ tc/dt ≤ 1 := by
  simp only [lineInRange, sco_le, Bool.and_eq_true, decide_eq_true_eq]; rfl

theorem sep2_const {q : LineQ K} (h : q.dvx1 = 0 ∧ q.dvy1 = 0 ∧ q.dvz1 = 0) (σ τ : K) :
    sep2 q σ = sep2 q τ := by
  simp only [sep2, h.1, h.2.1, h.2.2, mul_zero]

/-- `sep2` is a quadratic with leading coefficient `A = |dv|²` and vertex `t_closest = B/A` -/
theorem sep2_sub (q : LineQ K) (τ σ : K)
    (hA : q.dvx1*q.dvx1 + q.dvy1*q.dvy1 + q.dvz1*q.dvz1 ≠ 0) :
    sep2 q τ - sep2 q σ =
      (q.dvx1*q.dvx1 + q.dvy1*q.dvy1 + q.dvz1*q.dvz1) * ((τ - σ) * (τ + σ - 2 * lineTc q)) := by
  have hB : lineTc q * (q.dvx1*q.dvx1 + q.dvy1*q.dvy1 + q.dvz1*q.dvz1) =
      q.dx1*q.dvx1 + q.dy1*q.dvy1 + q.dz1*q.dvz1 := div_mul_cancel₀ _ hA
  unfold sep2
  linear_combination (2 * (τ - σ)) * hB

theorem dv_zero_of_A_zero (q : LineQ K)
    (hA : q.dvx1*q.dvx1 + q.dvy1*q.dvy1 + q.dvz1*q.dvz1 = 0) :
    q.dvx1 = 0 ∧ q.dvy1 = 0 ∧ q.dvz1 = 0 := by
  obtain ⟨h12, h3⟩ := (add_eq_zero_iff_of_nonneg
    (add_nonneg (mul_self_nonneg _) (mul_self_nonneg _)) (mul_self_nonneg _)).mp hA
  obtain ⟨h1, h2⟩ := mul_self_add_mul_self_eq_zero.mp h12
  exact ⟨h1, h2, mul_self_eq_zero.mp h3⟩

/-- the dv = 0 corner: whatever value `t_closest` has (C: NaN) and whichever way the range
    test goes, `rmin2_ab` is the (constant) squared separation -/
theorem lineRmin2Gen_dv0 (dt : K) (g : GB K) (p2 : Part K)
    (h : (lineQ dt g p2).dvx1 = 0 ∧ (lineQ dt g p2).dvy1 = 0 ∧ (lineQ dt g p2).dvz1 = 0)
    (tc : K) (inr : Bool) (τ : K) :
    lineRmin2Gen (lineQ dt g p2) tc inr = sep2 (lineQ dt g p2) τ := by
  rw [lineRmin2Gen_eq, lineQ_r1, lineQ_r2, sep2_const h 0 τ, sep2_const h dt τ, sep2_const h tc τ]
  cases inr <;> simp

/-- lower bound: the code's `rmin2_ab` is ≤ the squared separation at every time of the step -/
theorem lineRmin2_le (dt : K) (hdt : dt ≠ 0) (g : GB K) (p2 : Part K) (τ : K)
    (h0 : 0 ≤ τ/dt) (h1 : τ/dt ≤ 1) :
    lineRmin2 dt g p2 ≤ sep2 (lineQ dt g p2) τ := by
  rw [lineRmin2_eq]
  generalize lineQ dt g p2 = q
  by_cases hA : q.dvx1*q.dvx1 + q.dvy1*q.dvy1 + q.dvz1*q.dvz1 = 0
  · have hc := fun σ => sep2_const (dv_zero_of_A_zero q hA) σ τ
    rw [hc 0, hc dt, hc (lineTc q)]
    split <;> simp
  · have hApos : 0 < q.dvx1*q.dvx1 + q.dvy1*q.dvy1 + q.dvz1*q.dvz1 :=
      lt_of_le_of_ne (add_nonneg (add_nonneg (mul_self_nonneg _) (mul_self_nonneg _))
        (mul_self_nonneg _)) (Ne.symm hA)
    -- `sep2 q σ ≤ sep2 q τ` as soon as `σ` is not farther from the vertex than `τ` on its side
    have key : ∀ σ, 0 ≤ (τ - σ) * (τ + σ - 2 * lineTc q) → sep2 q σ ≤ sep2 q τ := fun σ h =>
      sub_nonneg.mp (sep2_sub q τ σ hA ▸ mul_nonneg hApos.le h)
    split
    · refine (min_le_right _ _).trans (key _ ?_)
      rw [show τ + lineTc q - 2 * lineTc q = τ - lineTc q by ring]
      exact mul_self_nonneg _
    · rename_i hin
      rw [lineInRange_iff] at hin
      generalize hs : τ/dt = s at h0 h1
      generalize hu : lineTc q/dt = u at hin
      obtain rfl : τ = s*dt := by rw [← hs]; field_simp
      have etc : lineTc q = u*dt := by rw [← hu]; field_simp
      rw [etc] at key
      have hdt2 : 0 ≤ dt*dt := mul_self_nonneg dt
      by_cases hneg : u < 0
      · refine (min_le_left _ _).trans (key 0 ?_)
        rw [show (s*dt - 0) * (s*dt + 0 - 2*(u*dt)) = dt*dt * (s * (s - 2*u)) by ring]
        exact mul_nonneg hdt2 (mul_nonneg h0 (by linarith))
      · have hgt : 1 < u := not_le.mp fun hle => hin ⟨not_lt.mp hneg, hle⟩
        refine (min_le_right _ _).trans (key dt ?_)
        rw [show (s*dt - dt) * (s*dt + dt - 2*(u*dt)) = dt*dt * ((1 - s) * (2*u - s - 1)) by ring]
        exact mul_nonneg hdt2 (mul_nonneg (by linarith) (by linarith))

/-- the bound is attained at a time of the step: `rmin2_ab` *is* the minimum -/
theorem lineRmin2_attained (dt : K) (hdt : dt ≠ 0) (g : GB K) (p2 : Part K) :
    ∃ τ, 0 ≤ τ/dt ∧ τ/dt ≤ 1 ∧ lineRmin2 dt g p2 = sep2 (lineQ dt g p2) τ := by
  rw [lineRmin2_eq]
  generalize lineQ dt g p2 = q
  have hmin : ∃ τ, 0 ≤ τ/dt ∧ τ/dt ≤ 1 ∧ min (sep2 q 0) (sep2 q dt) = sep2 q τ := by
    rcases le_total (sep2 q 0) (sep2 q dt) with h | h
    · exact ⟨0, by simp, by simp, min_eq_left h⟩
    · exact ⟨dt, by simp [hdt], by simp [hdt], min_eq_right h⟩
  split
  · rename_i hin
    obtain ⟨t0, a0, a1, e⟩ := hmin
    rcases le_total (min (sep2 q 0) (sep2 q dt)) (sep2 q (lineTc q)) with h | h
    · exact ⟨t0, a0, a1, by rw [min_eq_left h, e]⟩
    · obtain ⟨b0, b1⟩ := (lineInRange_iff dt (lineTc q)).mp hin
      exact ⟨lineTc q, b0, b1, min_eq_right h⟩
  · exact hmin
/-- `rmin2_ab` only depends on the relative position and velocity, and not on their sign -/
theorem lineRmin2_neg {dt : K} {g g' : GB K} {p p' : Part K}
    (hx : (lineQ dt g' p').dx1 = -(lineQ dt g p).dx1) (hy : (lineQ dt g' p').dy1 = -(lineQ dt g p).dy1)
    (hz : (lineQ dt g' p').dz1 = -(lineQ dt g p).dz1)
    (hvx : (lineQ dt g' p').dvx1 = -(lineQ dt g p).dvx1)
    (hvy : (lineQ dt g' p').dvy1 = -(lineQ dt g p).dvy1)
    (hvz : (lineQ dt g' p').dvz1 = -(lineQ dt g p).dvz1) :
    lineRmin2 dt g' p' = lineRmin2 dt g p := by
  have htc : lineTc (lineQ dt g' p') = lineTc (lineQ dt g p) := by
    simp only [lineTc, hx, hy, hz, hvx, hvy, hvz, sc_hadd, sc_hmul, neg_mul_neg]
  have hsep : ∀ τ, sep2 (lineQ dt g' p') τ = sep2 (lineQ dt g p) τ := fun τ => by
    unfold sep2; rw [hx, hy, hz, hvx, hvy, hvz]; ring
  rw [lineRmin2_eq, lineRmin2_eq, htc, hsep, hsep, hsep]

end ordered

end RV.Collision
