import RV.Proofs.OrbitPal
/-
  C11 (ii): reb_tools_particle_to_pal applied to the particle reb_particle_from_pal built returns
  (a, lambda mod 2pi, k, h, ix, iy).
-/
set_option linter.unusedSectionVars false
namespace RV.Orbit
variable {K : Type} [Field K] [LinearOrder K] [IsStrictOrderedRing K] {L : Libm K}

theorem libm_atan2 (L : Libm K) (x y : K) : @ScalarT.atan2 K L.orbitK.toScalarT x y = L.atan2 x y := rfl

theorem particleToPal_fields (G : K) (P pr : Part K) :
    let x := P.x - pr.x; let y := P.y - pr.y; let z := P.z - pr.z
    let vx := P.vx - pr.vx; let vy := P.vy - pr.vy; let vz := P.vz - pr.vz
    let mu := G * (P.m + pr.m)
    let r := L.sqrt (x * x + y * y + z * z)
    let cx := y * vz - z * vy; let cy := z * vx - x * vz; let cz := x * vy - y * vx
    let c2 := cx * cx + cy * cy + cz * cz
    let cc := L.sqrt c2
    let chat := x * vx + y * vy + z * vz
    let e := @particleToPal K L.orbitK G P pr
    e.ix = -(L.sqrt (2 / (1 + cz / cc)) / cc) * cy ∧ e.iy = L.sqrt (2 / (1 + cz / cc)) / cc * cx ∧
    e.k = cc / mu * (vy - vz / (cc + cz) * cy) - 1 / r * (x - z / (cc + cz) * cx) ∧
    e.h = cc / mu * (-vx + vz / (cc + cz) * cx) - 1 / r * (y - z / (cc + cz) * cy) ∧
    e.a = c2 / (mu * (1 - (e.k * e.k + e.h * e.h))) ∧
    e.lambda = L.atan2 (-r * vx + r * vz * cx / (cc + cz) - e.k * chat / (2 - (1 - L.sqrt (1 - (e.k * e.k + e.h * e.h)))))
                 (r * vy - r * vz * cy / (cc + cz) + e.h * chat / (2 - (1 - L.sqrt (1 - (e.k * e.k + e.h * e.h)))))
               - chat / cc * (1 - (1 - L.sqrt (1 - (e.k * e.k + e.h * e.h)))) :=
  ⟨rfl, rfl, rfl, rfl, rfl, rfl⟩

theorem particleToPal_of_palCore (hsqrt : ∀ x, 0 ≤ x → 0 ≤ L.sqrt x ∧ L.sqrt x ^ 2 = x)
    (G : K) (pr : Part K) (m a k h ix iy p q s c l iz an lam : K)
    (hcs : c ^ 2 + s ^ 2 = 1) (hp : p = k * s - h * c) (hq : q = k * c + h * s)
    (hl : (1 - l) ^ 2 = 1 - h ^ 2 - k ^ 2) (hl0 : 0 < 1 - l)
    (hiz : iz ^ 2 = 4 - ix ^ 2 - iy ^ 2) (hiz0 : 0 < iz)
    (han : an ^ 2 = G * (m + pr.m) / a) (han0 : 0 < an) (ha : 0 < a)
    (T : TrigSpec L) (hs : s = L.sin (lam + p)) (hc : c = L.cos (lam + p))
    (hatan2 : ∀ t rho : K, 0 < rho → -L.pi < t → t ≤ L.pi → L.atan2 (rho * L.sin t) (rho * L.cos t) = t)
    (hlam : 0 ≤ lam + p ∧ lam + p < 4 * L.pi) :
    let e := @particleToPal K L.orbitK G (fromPalCore pr m a k h ix iy p q s c l iz an) pr
    e.h = h ∧ e.k = k ∧ e.ix = ix ∧ e.iy = iy ∧ e.a = a ∧ ∃ n : ℤ, e.lambda = lam - n * (2 * L.pi) := by
  have GG := palCore_geometry pr m a k h ix iy p q s c l iz an hcs hp hq hl hl0 hiz hiz0 han0 ha
  have FF := @particleToPal_fields K _ _ _ L G (fromPalCore pr m a k h ix iy p q s c l iz an) pr
  dsimp only at GG FF ⊢
  generalize @particleToPal K L.orbitK G (fromPalCore pr m a k h ix iy p q s c l iz an) pr = ee at *
  generalize fromPalCore pr m a k h ix iy p q s c l iz an = P at *
  obtain ⟨hq1, hC, g0, g1, g2, g3, g4, g6, g7, g8, g9, g10, g11, g12⟩ := GG
  obtain ⟨f1, f2, f3, f4, f5, f6⟩ := FF
  generalize hCdef : a * an * (1 - l) = C at *
  have hCne : C ≠ 0 := hC.ne'
  have hane : a ≠ 0 := ha.ne'
  have hanne : an ≠ 0 := han0.ne'
  have hizne : iz ≠ 0 := hiz0.ne'
  have hl0ne : (1 : K) - l ≠ 0 := hl0.ne'
  have hrr : L.sqrt ((P.x - pr.x) * (P.x - pr.x) + (P.y - pr.y) * (P.y - pr.y) + (P.z - pr.z) * (P.z - pr.z)) = a * (1 - q) :=
    sqrt_eq_of_mul_self hsqrt (mul_pos ha hq1).le (by rw [g1]; ring)
  have hcc : L.sqrt (((P.y - pr.y) * (P.vz - pr.vz) - (P.z - pr.z) * (P.vy - pr.vy)) * ((P.y - pr.y) * (P.vz - pr.vz) - (P.z - pr.z) * (P.vy - pr.vy)) +
      ((P.z - pr.z) * (P.vx - pr.vx) - (P.x - pr.x) * (P.vz - pr.vz)) * ((P.z - pr.z) * (P.vx - pr.vx) - (P.x - pr.x) * (P.vz - pr.vz)) +
      ((P.x - pr.x) * (P.vy - pr.vy) - (P.y - pr.y) * (P.vx - pr.vx)) * ((P.x - pr.x) * (P.vy - pr.vy) - (P.y - pr.y) * (P.vx - pr.vx))) = C :=
    sqrt_eq_of_mul_self hsqrt hC.le g6
  have hmu' : G * (P.m + pr.m) = an ^ 2 * a := by rw [g0, han]; field_simp
  simp only [hrr, hcc, hmu'] at f1 f2 f3 f4 f5 f6
  have hfac := pal_fac hsqrt C _ iz hCne hiz0 g7
  have Hk : ee.k = k := f3.trans g8
  have Hh : ee.h = h := f4.trans g9
  have Hix : ee.ix = ix := by rw [f1, hfac, g4]; field_simp
  have Hiy : ee.iy = iy := by rw [f2, hfac, g3]; field_simp
  have he2 : 1 - (ee.k * ee.k + ee.h * ee.h) = (1 - l) * (1 - l) := by rw [Hk, Hh]; linear_combination -hl
  have Ha : ee.a = a := by
    rw [f5, he2, g6, ← hCdef]; field_simp
  have hsq : L.sqrt (1 - (ee.k * ee.k + ee.h * ee.h)) = 1 - l := sqrt_eq_of_mul_self hsqrt hl0.le he2
  refine ⟨Hh, Hk, Hix, Hiy, Ha, ?_⟩
  obtain ⟨t, j, t0, t1, te, tc, ts⟩ := T.reduce (lam + p) hlam.1 hlam.2
  rw [hsq, g10, Hk, Hh] at f6
  have hl2 : (2 : K) - (1 - (1 - l)) = 2 - l := by ring
  have hl3 : (1 : K) - (1 - (1 - l)) = 1 - l := by ring
  rw [hl2, hl3] at f6
  have A1 : -(a * (1 - q)) * (P.vx - pr.vx) + a * (1 - q) * (P.vz - pr.vz) * ((P.y - pr.y) * (P.vz - pr.vz) - (P.z - pr.z) * (P.vy - pr.vy)) /
      (C + ((P.x - pr.x) * (P.vy - pr.vy) - (P.y - pr.y) * (P.vx - pr.vx))) - k * (a * an * p) / (2 - l) = C * L.sin t := by
    rw [ts, ← hs, ← g11]; ring
  have A2 : a * (1 - q) * (P.vy - pr.vy) - a * (1 - q) * (P.vz - pr.vz) * ((P.z - pr.z) * (P.vx - pr.vx) - (P.x - pr.x) * (P.vz - pr.vz)) /
      (C + ((P.x - pr.x) * (P.vy - pr.vy) - (P.y - pr.y) * (P.vx - pr.vx))) + h * (a * an * p) / (2 - l) = C * L.cos t := by
    rw [tc, ← hc, ← g12]; ring
  rw [A1, A2, hatan2 t C hC t0 t1] at f6
  refine ⟨j, ?_⟩
  rw [f6, te, ← hCdef]; field_simp; ring

end RV.Orbit
