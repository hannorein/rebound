import RV.Proofs.Tree
/-
  Tree gravity at opening angle 0 on a forest (C15): with the leaf data left by `updGrav` the walk of every root
  tree adds the direct pair terms of all leaves except the particle's own (`accForest_zero`).
-/
set_option linter.unusedSectionVars false
namespace RV.C15
open RV RV.Tree

variable {K : Type} [Field K] [LinearOrder K] [IsStrictOrderedRing K]

/-- leaves carry the particle's mass and position (what `updGrav` leaves in every leaf) -/
def LeafData (ps : Nat → Pt K) : T K → Prop
  | .nil => True
  | .leaf _ g q => g.m = (ps q).m ∧ g.mx = (ps q).x ∧ g.my = (ps q).y ∧ g.mz = (ps q).z
  | .node _ _ _ ch => ∀ o, LeafData ps (ch o)

theorem LeafData_of_GravOK (ps : Nat → Pt K) : ∀ t : T K, GravOK ps t → LeafData ps t := by
  intro t
  induction t with
  | nil => intro _; trivial
  | leaf c g q => intro h; exact h
  | node c g n ch ih => intro h; exact fun o => ih o (h.2.2.2.2 o)

theorem foldl_flatMap {α β γ : Type} (f : α → β → α) (g : γ → List β) : ∀ (l : List γ) (a : α),
    (l.flatMap g).foldl f a = l.foldl (fun a o => (g o).foldl f a) a := by
  intro l
  induction l with
  | nil => intro a; rfl
  | cons o l ih => intro a; simp [List.flatMap_cons, List.foldl_append, ih]

/-- with `opening_angle2 = 0` every cell is opened and the accumulated acceleration is the direct pair sum over all other
    particles of the tree, each exactly once, added in tree order -/
theorem accCell_zero (sqrt : K → K) (G soft2 gx gy gz : K) (ps : Nat → Pt K) (pt : Nat) : ∀ (t : T K) (a : Acc K),
    WidthNZ t → LeafData ps t →
    accCell sqrt G soft2 0 gx gy gz pt t a =
      ((leaves t).filter (fun q => q ≠ pt)).foldl (pairForce sqrt G soft2 gx gy gz ps) a := by
  intro t
  induction t with
  | nil => intro a _ _; rfl
  | leaf c g q =>
    intro a _ hl
    obtain ⟨h1, h2, h3, h4⟩ := hl
    by_cases h : q = pt
    · simp [accCell, leaves, h]
    · simp [accCell, leaves, h, pairForce, h1, h2, h3, h4]
  | node c g n ch ih =>
    intro a hw hl
    obtain ⟨hw0, hwch⟩ := hw
    have hpos : (0 : K) < c.w * c.w := mul_self_pos.mpr hw0
    simp only [accCell, sc_hmul, zero_mul, so_lt, hpos, if_true, leaves]
    rw [List.filter_flatMap, foldl_flatMap]
    have : ∀ (l : List (Fin 8)) (a : Acc K),
        l.foldl (fun a o => accCell sqrt G soft2 0 gx gy gz pt (ch o) a) a =
        l.foldl (fun a o => ((leaves (ch o)).filter (fun q => q ≠ pt)).foldl (pairForce sqrt G soft2 gx gy gz ps) a) a := by
      intro l
      induction l with
      | nil => intro a; rfl
      | cons o l ihl => intro a; simp only [List.foldl_cons]; rw [ih o a (hwch o) (hl o)]; exact ihl _
    exact this _ a


theorem LeafData_updGrav (ps : Nat → Pt K) : ∀ t : T K, LeafData ps (updGrav ps t) := by
  intro t
  induction t with
  | nil => trivial
  | leaf c g q => exact ⟨rfl, rfl, rfl, rfl⟩
  | node c g n ch ih => simp only [updGrav, memo_eq, LeafData]; exact ih

/-- all root boxes: tree gravity with opening angle 0 after the gravity-data update = direct sum over every other particle -/
theorem accForest_zero (sqrt : K → K) (G soft2 : K) (ps : Nat → Pt K) (tie : Bool) (rc : Nat → Cell K)
    (forest : List (T K)) (hwf : ∀ r (h : r < forest.length), WF ps tie (rc r) forest[r]) (hw : ∀ r, (rc r).w ≠ 0)
    (p : Pt K) (pt : Nat) :
    accForest sqrt G soft2 0 p pt (forest.map (updGrav ps)) =
      ((forest.flatMap leaves).filter (fun q => q ≠ pt)).foldl (pairForce sqrt G soft2 p.x p.y p.z ps) ⟨0, 0, 0⟩ := by
  unfold accForest
  rw [List.filter_flatMap, foldl_flatMap, List.foldl_map]
  simp only [sc_zero]
  have : ∀ (l : List (T K)) (a : Acc K), (∀ t ∈ l, WidthNZ (updGrav ps t)) →
      l.foldl (fun a t => accCell sqrt G soft2 0 p.x p.y p.z pt (updGrav ps t) a) a =
      l.foldl (fun a t => ((leaves t).filter (fun q => q ≠ pt)).foldl (pairForce sqrt G soft2 p.x p.y p.z ps) a) a := by
    intro l
    induction l with
    | nil => intro a _; rfl
    | cons t l ih =>
      intro a h
      simp only [List.foldl_cons]
      rw [accCell_zero sqrt G soft2 p.x p.y p.z ps pt _ a (h t (by simp)) (LeafData_updGrav ps t), leaves_updGrav]
      exact ih _ (fun t' ht' => h t' (by simp [ht']))
  apply this
  intro t ht
  obtain ⟨r, hr, rfl⟩ := List.getElem_of_mem ht
  exact WidthNZ_of_WF ps tie _ (rc r) (hw r) (WF_updGrav ps tie _ _ (hwf r hr))

end RV.C15
