import RV.Proofs.OrbitAngles
/-
  C11 (ii), Pal (2009) elements: the reader applied to the particle `fromPal` built returns
  the Pal elements it was built from, given (p, q) solving Pal's Kepler equation.
-/
set_option linter.unusedSectionVars false
namespace RV.Orbit
variable {K : Type} [Field K] [LinearOrder K] [IsStrictOrderedRing K]

/-- the polynomial core of the Pal construction: with c²+s²=1, (1-l)² = 1-h²-k² and p = k s - h c,
    q = k c + h s: r = a(1-q), the in-plane angular momentum is a·an·(1-l), and the (k, h) components are
    recovered (scaled forms, no division); the multipliers were computed once by polynomial division -/
theorem pal_I1 (c s l h k : K) (hcs : c ^ 2 + s ^ 2 = 1) (hl : (1 - l) ^ 2 = 1 - h ^ 2 - k ^ 2) :
    let p := k * s - h * c; let q := k * c + h * s
    let D2 := 2 - l; let D1 := 1 - q
    let Xi := c * D2 + p * h - k * D2; let Eta := s * D2 - p * k - h * D2
    let Xi1 := -s * D2 + q * h; let Eta1 := c * D2 - q * k
    Xi ^ 2 + Eta ^ 2 = D2 ^ 2 * D1 ^ 2 ∧
    Xi * Eta1 - Eta * Xi1 = D2 ^ 2 * D1 * (1 - l) ∧
    (1 - l) * Eta1 - Xi = k * D1 * D2 ∧
    -(1 - l) * Xi1 - Eta = h * D1 * D2 ∧
    Xi1 ^ 2 + Eta1 ^ 2 = D2 ^ 2 * (1 - q) * (1 + q) := by
  intro p q D2 D1 Xi Eta Xi1 Eta1
  have hl' : (1 - l) ^ 2 - 1 + h ^ 2 + k ^ 2 = 0 := by linear_combination hl
  have hcs' : c ^ 2 + s ^ 2 - 1 = 0 := by linear_combination hcs
  refine ⟨?_, ?_, ?_, ?_, ?_⟩
  · simp only [Xi, Eta, D2, D1, p, q]
    linear_combination (h^2*k^2 - h^2*l^2 + 4*h^2*l - 4*h^2 + k^4 + 2*k^2*l - 4*k^2 + l^2 - 4*l + 4) * hcs' + (c^2*h^2 - c^2*k^2 - 2*c*h*k*s + k^2) * hl'
  · simp only [Xi, Eta, Xi1, Eta1, D2, D1, p, q]
    linear_combination ((l - 2)*(h^2 + k^2 + l - 2)) * hcs' + (-(l - 2)*(c*k + h*s - 1)) * hl'
  · simp only [Xi, Eta1, D2, D1, p, q]
    linear_combination (c) * hl'
  · simp only [Xi1, Eta, D2, D1, p, q]
    linear_combination (s) * hl'
  · simp only [Xi1, Eta1, D2, q]
    linear_combination (h^4 + h^2*k^2 + h^2*l^2 - 2*h^2*l + l^2 - 4*l + 4) * hcs' + (-c^2*h^2 + c^2*k^2 + 2*c*h*k*s + h^2) * hl'

/-- three more of the same kind: `r·v` and the two arguments of the `atan2` of
    `reb_tools_particle_to_pal` -/
theorem pal_I2 (c s l h k : K) (hcs : c ^ 2 + s ^ 2 = 1) (hl : (1 - l) ^ 2 = 1 - h ^ 2 - k ^ 2) :
    let p := k * s - h * c; let q := k * c + h * s
    let D2 := 2 - l
    let Xi := c * D2 + p * h - k * D2; let Eta := s * D2 - p * k - h * D2
    let Xi1 := -s * D2 + q * h; let Eta1 := c * D2 - q * k
    Xi * Xi1 + Eta * Eta1 = p * D2 ^ 2 * (1 - q) ∧ -Xi1 - k * p = s * (1 - l) * D2 ∧
    Eta1 + h * p = c * (1 - l) * D2 := by
  intro p q D2 Xi Eta Xi1 Eta1
  have hl' : (1 - l) ^ 2 - 1 + h ^ 2 + k ^ 2 = 0 := by linear_combination hl
  have hcs' : c ^ 2 + s ^ 2 - 1 = 0 := by linear_combination hcs
  refine ⟨?_, ?_, ?_⟩
  · simp only [Xi, Eta, Xi1, Eta1, D2, p, q]
    linear_combination (h*k*(h^2 + k^2 + l^2 - 2*l)) * hcs' + (-2*c^2*h*k - c*h^2*s + c*k^2*s + h*k) * hl'
  · simp only [Xi1, D2, p, q]; linear_combination (-s) * hl'
  · simp only [Eta1, D2, p, q]; linear_combination (-c) * hl'

/-- Cauchy–Schwarz: `q = k cos + h sin < 1` for a bound orbit -/
theorem pal_q_lt_one (c s l h k : K) (hcs : c ^ 2 + s ^ 2 = 1) (hl : (1 - l) ^ 2 = 1 - h ^ 2 - k ^ 2)
    (hl0 : 0 < 1 - l) : 0 < 1 - (k * c + h * s) := by
  have h1 : (k * c + h * s) ^ 2 + (k * s - h * c) ^ 2 = h ^ 2 + k ^ 2 := by
    linear_combination (h ^ 2 + k ^ 2) * hcs
  have h2 : (k * c + h * s) ^ 2 < 1 ^ 2 := by linarith [sq_nonneg (k * s - h * c), pow_pos hl0 2]
  exact sub_pos.mpr (lt_of_pow_lt_pow_left₀ 2 zero_le_one h2)

/-- Pal's rotation by (ix, iy, iz), iz² = 4 - ix² - iy²: norms, angular momentum, and the
    combinations the reader forms -/
theorem pal_rotation (xi eta dxi deta ix iy iz : K) (hiz : iz ^ 2 = 4 - ix ^ 2 - iy ^ 2)
    (hC : xi * deta - eta * dxi ≠ 0) (hiz0 : iz ≠ 0) :
    let W := eta * ix - xi * iy; let dW := deta * ix - dxi * iy
    let X := xi + 1 / 2 * iy * W; let Y := eta - 1 / 2 * ix * W; let Z := 1 / 2 * iz * W
    let VX := dxi + 1 / 2 * iy * dW; let VY := deta - 1 / 2 * ix * dW; let VZ := 1 / 2 * iz * dW
    let C := xi * deta - eta * dxi
    let HX := Y * VZ - Z * VY; let HY := Z * VX - X * VZ; let HZ := X * VY - Y * VX
    X * X + Y * Y + Z * Z = xi ^ 2 + eta ^ 2 ∧ VX * VX + VY * VY + VZ * VZ = dxi ^ 2 + deta ^ 2 ∧
    HX = C * iy * iz / 2 ∧ HY = -(C * ix * iz / 2) ∧ HZ = C * (1 - (ix ^ 2 + iy ^ 2) / 2) ∧
    HX * HX + HY * HY + HZ * HZ = C * C ∧ C + HZ = C * iz ^ 2 / 2 ∧
    X - Z / (C + HZ) * HX = xi ∧ Y - Z / (C + HZ) * HY = eta ∧
    VY - VZ / (C + HZ) * HY = deta ∧ -VX + VZ / (C + HZ) * HX = -dxi := by
  intro W dW X Y Z VX VY VZ C HX HY HZ
  have hiz' : iz ^ 2 - 4 + ix ^ 2 + iy ^ 2 = 0 := by linear_combination hiz
  have hC' : C ≠ 0 := hC
  have e1 : HX = C * iy * iz / 2 := by simp only [HX, Y, Z, VY, VZ, W, dW, C]; ring
  have e2 : HY = -(C * ix * iz / 2) := by simp only [HY, X, Z, VX, VZ, W, dW, C]; ring
  have e3 : HZ = C * (1 - (ix ^ 2 + iy ^ 2) / 2) := by simp only [HZ, X, Y, VX, VY, W, dW, C]; ring
  have e4 : C + HZ = C * iz ^ 2 / 2 := by rw [e3]; linear_combination (-C / 2) * hiz'
  have hden : C + HZ ≠ 0 := by
    rw [e4]; exact div_ne_zero (mul_ne_zero hC (pow_ne_zero 2 hiz0)) (by norm_num)
  have hzx : Z / (C + HZ) * HX = 1 / 2 * iy * W := by
    rw [e4, e1]; simp only [Z]; field_simp
  have hzy : Z / (C + HZ) * HY = -(1 / 2 * ix * W) := by
    rw [e4, e2]; simp only [Z]; field_simp
  have hvy : VZ / (C + HZ) * HY = -(1 / 2 * ix * dW) := by
    rw [e4, e2]; simp only [VZ]; field_simp
  have hvx : VZ / (C + HZ) * HX = 1 / 2 * iy * dW := by
    rw [e4, e1]; simp only [VZ]; field_simp
  refine ⟨?_, ?_, e1, e2, e3, ?_, e4, ?_, ?_, ?_, ?_⟩
  · simp only [X, Y, Z, W]; linear_combination ((eta*ix - iy*xi)^2/4) * hiz'
  · simp only [VX, VY, VZ, dW]; linear_combination ((deta*ix - dxi*iy)^2/4) * hiz'
  · rw [e1, e2, e3]; linear_combination (C ^ 2 * (ix ^ 2 + iy ^ 2) / 4) * hiz'
  · rw [hzx]; simp only [X]; ring
  · rw [hzy]; simp only [Y]; ring
  · rw [hvy]; simp only [VY]; ring
  · rw [hvx]; simp only [VX]; ring

/-- the in-plane position `(xi, eta)` and velocity `(dxi, deta)` of `reb_particle_from_pal`: the
    polynomial identities with the divisions put back -/
theorem pal_inplane (a an l h k c s p q : K) (hcs : c ^ 2 + s ^ 2 = 1) (hl : (1 - l) ^ 2 = 1 - h ^ 2 - k ^ 2)
    (hp : p = k * s - h * c) (hq : q = k * c + h * s)
    (ha : a ≠ 0) (han : an ≠ 0) (hD1 : 1 - q ≠ 0) (hD2 : 2 - l ≠ 0) :
    let xi := a * (c + p / (2 - l) * h - k); let eta := a * (s - p / (2 - l) * k - h)
    let dxi := an / (1 - q) * (-s + q / (2 - l) * h); let deta := an / (1 - q) * (c - q / (2 - l) * k)
    xi ^ 2 + eta ^ 2 = (a * (1 - q)) ^ 2 ∧ xi * deta - eta * dxi = a * an * (1 - l) ∧
    a * an * (1 - l) / (an ^ 2 * a) * deta - 1 / (a * (1 - q)) * xi = k ∧
    a * an * (1 - l) / (an ^ 2 * a) * (-dxi) - 1 / (a * (1 - q)) * eta = h ∧
    dxi ^ 2 + deta ^ 2 = an ^ 2 * (1 + q) / (1 - q) ∧
    xi * dxi + eta * deta = a * an * p ∧
    -(a * (1 - q)) * dxi - k * (a * an * p) / (2 - l) = a * an * (1 - l) * s ∧
    a * (1 - q) * deta + h * (a * an * p) / (2 - l) = a * an * (1 - l) * c := by
  intro xi eta dxi deta
  have II := pal_I1 c s l h k hcs hl
  have KK := pal_I2 c s l h k hcs hl
  dsimp only at II KK
  rw [← hp, ← hq] at II KK
  obtain ⟨I1, I2, I4, I5, I6⟩ := II
  obtain ⟨K1, K2, K3⟩ := KK
  refine ⟨?_, ?_, ?_, ?_, ?_, ?_, ?_, ?_⟩ <;> simp only [xi, eta, dxi, deta] <;> field_simp
  · linear_combination I1
  · linear_combination I2
  · linear_combination I4
  · linear_combination I5
  · linear_combination I6
  · linear_combination K1
  · linear_combination K2
  · linear_combination K3

variable {L : Libm K}

theorem palCore_rel (pr : Part K) (m a k h ix iy p q slp clp l iz an : K) :
    let P := fromPalCore pr m a k h ix iy p q slp clp l iz an
    let xi := a * (clp + p / (2 - l) * h - k); let eta := a * (slp - p / (2 - l) * k - h)
    let dxi := an / (1 - q) * (-slp + q / (2 - l) * h); let deta := an / (1 - q) * (clp - q / (2 - l) * k)
    let W := eta * ix - xi * iy; let dW := deta * ix - dxi * iy
    P.x - pr.x = xi + 1 / 2 * iy * W ∧ P.y - pr.y = eta - 1 / 2 * ix * W ∧ P.z - pr.z = 1 / 2 * iz * W ∧
    P.vx - pr.vx = dxi + 1 / 2 * iy * dW ∧ P.vy - pr.vy = deta - 1 / 2 * ix * dW ∧ P.vz - pr.vz = 1 / 2 * iz * dW ∧
    P.m = m := by
  simp only [fromPalCore, half, two, sc_hadd, sc_hmul, sc_hsub, sc_hdiv, sc_neg, sc_one, sc_ofNat, Nat.cast_ofNat]
  refine ⟨?_, ?_, ?_, ?_, ?_, ?_, trivial⟩ <;> ring

/-- the particle `fromPalCore` builds, relative to the primary: distance `a(1-q)`, speed, the
    angular momentum `C·(iy iz/2, -ix iz/2, 1 - (ix²+iy²)/2)` with `C = a·an·(1-l) > 0`, `r·v = a·an·p`,
    and the combinations from which both readers recover `k`, `h` and `λ + p` -/
theorem palCore_geometry (pr : Part K) (m a k h ix iy p q s c l iz an : K)
    (hcs : c ^ 2 + s ^ 2 = 1) (hp : p = k * s - h * c) (hq : q = k * c + h * s)
    (hl : (1 - l) ^ 2 = 1 - h ^ 2 - k ^ 2) (hl0 : 0 < 1 - l)
    (hiz : iz ^ 2 = 4 - ix ^ 2 - iy ^ 2) (hiz0 : 0 < iz) (han0 : 0 < an) (ha : 0 < a) :
    let P := fromPalCore pr m a k h ix iy p q s c l iz an
    let X := P.x - pr.x; let Y := P.y - pr.y; let Z := P.z - pr.z
    let VX := P.vx - pr.vx; let VY := P.vy - pr.vy; let VZ := P.vz - pr.vz
    let HX := Y * VZ - Z * VY; let HY := Z * VX - X * VZ; let HZ := X * VY - Y * VX
    let C := a * an * (1 - l)
    0 < 1 - q ∧ 0 < C ∧ P.m = m ∧
    X * X + Y * Y + Z * Z = (a * (1 - q)) ^ 2 ∧
    VX * VX + VY * VY + VZ * VZ = an ^ 2 * (1 + q) / (1 - q) ∧
    HX = C * iy * iz / 2 ∧ HY = -(C * ix * iz / 2) ∧ HX * HX + HY * HY + HZ * HZ = C * C ∧
    C + HZ = C * iz ^ 2 / 2 ∧
    C / (an ^ 2 * a) * (VY - VZ / (C + HZ) * HY) - 1 / (a * (1 - q)) * (X - Z / (C + HZ) * HX) = k ∧
    C / (an ^ 2 * a) * (-VX + VZ / (C + HZ) * HX) - 1 / (a * (1 - q)) * (Y - Z / (C + HZ) * HY) = h ∧
    X * VX + Y * VY + Z * VZ = a * an * p ∧
    a * (1 - q) * (-VX + VZ / (C + HZ) * HX) - k * (a * an * p) / (2 - l) = C * s ∧
    a * (1 - q) * (VY - VZ / (C + HZ) * HY) + h * (a * an * p) / (2 - l) = C * c := by
  have hq1 : 0 < 1 - q := hq ▸ pal_q_lt_one c s l h k hcs hl hl0
  have hC : 0 < a * an * (1 - l) := mul_pos (mul_pos ha han0) hl0
  have JJ := pal_inplane a an l h k c s p q hcs hl hp hq ha.ne' han0.ne' hq1.ne' (by linarith : (2 : K) - l ≠ 0)
  have EE := palCore_rel pr m a k h ix iy p q s c l iz an
  dsimp only at JJ EE ⊢
  obtain ⟨J1, J2, J4, J5, J6, M1, M2, M3⟩ := JJ
  obtain ⟨e1, e2, e3, e4, e5, e6, e7⟩ := EE
  generalize fromPalCore pr m a k h ix iy p q s c l iz an = P at *
  generalize a * (c + p / (2 - l) * h - k) = xi at *
  generalize a * (s - p / (2 - l) * k - h) = eta at *
  generalize an / (1 - q) * (-s + q / (2 - l) * h) = dxi at *
  generalize an / (1 - q) * (c - q / (2 - l) * k) = deta at *
  have RR := pal_rotation xi eta dxi deta ix iy iz hiz (by rw [J2]; exact hC.ne') hiz0.ne'
  dsimp only at RR
  rw [J2, ← e1, ← e2, ← e3, ← e4, ← e5, ← e6] at RR
  obtain ⟨r1, r2, r3, r4, -, r6, r7, r8, r9, r10, r11⟩ := RR
  refine ⟨hq1, hC, e7, r1.trans J1, r2.trans J6, r3, r4, r6, r7, ?_, ?_, ?_, ?_, ?_⟩
  · rw [r10, r8]; exact J4
  · rw [r11, r9]; exact J5
  · have hiz' : iz ^ 2 - 4 + ix ^ 2 + iy ^ 2 = 0 := by linear_combination hiz
    rw [e1, e2, e3, e4, e5, e6, ← M1]
    linear_combination ((eta * ix - xi * iy) * (deta * ix - dxi * iy) / 4) * hiz'
  · rw [r11, ← M2]; ring
  · rw [r10, ← M3]

theorem orbitBody_pal (v : Variant) (i : Inv K) (t0 : K) :
    let o := @orbitBody K L.orbitK v i t0
    o.pal_k = i.h / i.mu * (i.dvy - i.dvz / (i.h + i.hz) * i.hy) - 1 / i.d * (i.dx - i.dz / (i.h + i.hz) * i.hx) ∧
    o.pal_h = i.h / i.mu * (-i.dvx + i.dvz / (i.h + i.hz) * i.hx) - 1 / i.d * (i.dy - i.dz / (i.h + i.hz) * i.hy) ∧
    o.pal_ix = -(L.sqrt (2 / (1 + i.hz / i.h)) / i.h) * i.hy ∧
    o.pal_iy = L.sqrt (2 / (1 + i.hz / i.h)) / i.h * i.hx ∧
    o.a = i.a ∧ o.d = i.d :=
  ⟨rfl, rfl, rfl, rfl, rfl, rfl⟩

theorem invariants_rel2 (G : K) (P pr : Part K) :
    let i := @invariants K L.orbitK G P pr
    i.mu = G * (P.m + pr.m) ∧ i.dvx = P.vx - pr.vx ∧ i.dvy = P.vy - pr.vy ∧ i.dvz = P.vz - pr.vz ∧
    i.d = L.sqrt (i.dx * i.dx + i.dy * i.dy + i.dz * i.dz) ∧
    i.a = -i.mu / (i.dvx * i.dvx + i.dvy * i.dvy + i.dvz * i.dvz - 2 * (i.mu / i.d)) :=
  ⟨rfl, rfl, rfl, rfl, rfl, rfl⟩

/-- `√(2/(1 + h_z/|h|)) = 2/iz`, the factor of `pal_ix`, `pal_iy` in both readers -/
theorem pal_fac (hsqrt : ∀ x, 0 ≤ x → 0 ≤ L.sqrt x ∧ L.sqrt x ^ 2 = x) (C HZ iz : K) (hC : C ≠ 0) (hiz0 : 0 < iz)
    (h7 : C + HZ = C * iz ^ 2 / 2) : L.sqrt (2 / (1 + HZ / C)) = 2 / iz := by
  apply sqrt_eq_of_mul_self hsqrt (div_pos two_pos hiz0).le
  have : 1 + HZ / C = iz ^ 2 / 2 := by
    rw [one_add_div hC, h7]; field_simp
  rw [this]; field_simp

/-- reader ∘ Pal constructor, given the straight-line core and its inputs' defining relations -/
theorem reader_of_palCore (hsqrt : ∀ x, 0 ≤ x → 0 ≤ L.sqrt x ∧ L.sqrt x ^ 2 = x)
    (v : Variant) (G : K) (pr : Part K) (m a k h ix iy p q s c l iz an t0 : K) (o : Orb K)
    (ho : @orbitFromParticle K L.orbitK v G (fromPalCore pr m a k h ix iy p q s c l iz an) pr t0 = .ok o)
    (hcs : c ^ 2 + s ^ 2 = 1) (hp : p = k * s - h * c) (hq : q = k * c + h * s)
    (hl : (1 - l) ^ 2 = 1 - h ^ 2 - k ^ 2) (hl0 : 0 < 1 - l)
    (hiz : iz ^ 2 = 4 - ix ^ 2 - iy ^ 2) (hiz0 : 0 < iz)
    (han : an ^ 2 = G * (m + pr.m) / a) (han0 : 0 < an) (ha : 0 < a) :
    o.pal_h = h ∧ o.pal_k = k ∧ o.pal_ix = ix ∧ o.pal_iy = iy ∧ o.a = a ∧ o.d = a * (1 - q) := by
  have GG := palCore_geometry pr m a k h ix iy p q s c l iz an hcs hp hq hl hl0 hiz hiz0 han0 ha
  dsimp only at GG
  obtain ⟨hq1, hC, g0, g1, g2, g3, g4, g6, g7, g8, g9, -, -, -⟩ := GG
  replace ho := orbitFromParticle_ok L _ _ _ _ _ _ ho
  obtain ⟨i1, i2, i3, i4, i5, i6, i7⟩ := @invariants_rel K _ _ _ L G (fromPalCore pr m a k h ix iy p q s c l iz an) pr
  obtain ⟨j1, j2, j3, j4, j5, j6⟩ := @invariants_rel2 K _ _ _ L G (fromPalCore pr m a k h ix iy p q s c l iz an) pr
  obtain ⟨o1, o2, o3, o4, o5, o6⟩ := @orbitBody_pal K _ _ _ L v (@invariants K L.orbitK G (fromPalCore pr m a k h ix iy p q s c l iz an) pr) t0
  rw [ho] at o1 o2 o3 o4 o5 o6
  generalize @invariants K L.orbitK G (fromPalCore pr m a k h ix iy p q s c l iz an) pr = I at *
  generalize fromPalCore pr m a k h ix iy p q s c l iz an = P at *
  simp only [← i1, ← i2, ← i3, ← j2, ← j3, ← j4] at g1 g2 g3 g4 g6 g7 g8 g9 i4 i5 i6
  simp only [← i4, ← i5, ← i6] at g3 g4 g6 g7 g8 g9
  generalize a * an * (1 - l) = C at *
  have hd : I.d = a * (1 - q) := by
    rw [j5]; exact sqrt_eq_of_mul_self hsqrt (mul_pos ha hq1).le (by rw [g1]; ring)
  have hh : I.h = C := by
    rw [i7]; exact sqrt_eq_of_mul_self hsqrt hC.le g6
  have hmuI : I.mu = an ^ 2 * a := by
    rw [j1, g0, han]; field_simp
  have hfac := pal_fac hsqrt C I.hz iz hC.ne' hiz0 g7
  have hizne : iz ≠ 0 := hiz0.ne'
  have hCne : C ≠ 0 := hC.ne'
  rw [hh] at o1 o2 o3 o4
  refine ⟨?_, ?_, ?_, ?_, ?_, ?_⟩
  · rw [o2, hd, hmuI]; exact g9
  · rw [o1, hd, hmuI]; exact g8
  · rw [o3, hfac, g4]; field_simp
  · rw [o4, hfac, g3]; field_simp
  · rw [o5, j6, g2, hd, hmuI]
    have hane : a ≠ 0 := ha.ne'
    have hanne : an ≠ 0 := han0.ne'
    have hq1ne : 1 - q ≠ 0 := hq1.ne'
    have hden : an ^ 2 * (1 + q) / (1 - q) - 2 * (an ^ 2 * a / (a * (1 - q))) = -(an ^ 2) := by
      field_simp; ring
    rw [hden]; field_simp
  · rw [o6, hd]

theorem fromPal_eq (v : Variant) (G : K) (pr : Part K) (m a lam k h ix iy : K) :
    @fromPal K L.orbitK v G pr m a lam k h ix iy =
      fromPalCore pr m a k h ix iy (@solveKeplerPal K L.orbitK v h k lam).1 (@solveKeplerPal K L.orbitK v h k lam).2
        (L.sin (lam + (@solveKeplerPal K L.orbitK v h k lam).1)) (L.cos (lam + (@solveKeplerPal K L.orbitK v h k lam).1))
        (1 - L.sqrt (1 - h * h - k * k)) (L.sqrt (L.fabs (4 - ix * ix - iy * iy))) (L.sqrt (G * (m + pr.m) / a)) := rfl

/-- what `fromPalCore` is fed by `fromPal` for a bound orbit with `ix² + iy² < 4`, `a > 0`, μ > 0: the side
    conditions of `reader_of_palCore` and `particleToPal_of_palCore` on `l`, `iz`, `an` -/
theorem fromPal_side (hsqrt : ∀ x, 0 ≤ x → 0 ≤ L.sqrt x ∧ L.sqrt x ^ 2 = x) (mu a k h ix iy : K)
    (ha : 0 < a) (hmu : 0 < mu) (he : h * h + k * k < 1) (hi : ix * ix + iy * iy < 4) :
    (1 - (1 - L.sqrt (1 - h * h - k * k))) ^ 2 = 1 - h ^ 2 - k ^ 2 ∧ 0 < 1 - (1 - L.sqrt (1 - h * h - k * k)) ∧
    L.sqrt (4 - ix * ix - iy * iy) ^ 2 = 4 - ix ^ 2 - iy ^ 2 ∧ 0 < L.sqrt (4 - ix * ix - iy * iy) ∧
    L.sqrt (mu / a) ^ 2 = mu / a ∧ 0 < L.sqrt (mu / a) := by
  have hb0 : 0 < 1 - h * h - k * k := by linarith
  have hz0 : 0 < 4 - ix * ix - iy * iy := by linarith
  have hn0 : 0 < mu / a := div_pos hmu ha
  rw [sub_sub_cancel]
  exact ⟨by rw [(hsqrt _ hb0.le).2]; ring, sqrt_pos_of_pos hsqrt hb0, by rw [(hsqrt _ hz0.le).2]; ring,
    sqrt_pos_of_pos hsqrt hz0, (hsqrt _ hn0.le).2, sqrt_pos_of_pos hsqrt hn0⟩

end RV.Orbit
