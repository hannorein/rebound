import RV.Proofs.Collision
/-
  Geometric soundness of the pruning tests of the TREE and LINETREE collision walks
  (collision.c:579-585, 672-679), helper for RV/Props/C13.lean.  No square roots: everything is
  compared through squares.
-/
set_option linter.unusedSectionVars false
namespace RV.Collision
open RV
variable {K : Type} [Field K] [LinearOrder K] [IsStrictOrderedRing K]

theorem descends_iff (k maxR1 r1 w gx gy gz cx cy cz : K) :
    descends k maxR1 r1 w gx gy gz cx cy cz = true ↔
      (gx - cx)^2 + (gy - cy)^2 + (gz - cz)^2 < (r1 + maxR1 + k*w)^2 := by
  simp only [descends, sco_lt, decide_eq_true_eq, sq]

theorem descendsLine_iff (k maxR1 r1 D w gx gy gz cx cy cz : K) :
    descendsLine k maxR1 r1 D w gx gy gz cx cy cz = true ↔
      (gx - cx)^2 + (gy - cy)^2 + (gz - cz)^2 < (r1 + maxR1 + D + k*w)^2 := by
  simp only [descendsLine, sco_lt, decide_eq_true_eq, sq]

/-- Cauchy–Schwarz in three dimensions (Lagrange identity) -/
theorem cs3 (a1 a2 a3 b1 b2 b3 : K) :
    (a1*b1 + a2*b2 + a3*b3)^2 ≤ (a1^2 + a2^2 + a3^2) * (b1^2 + b2^2 + b3^2) := by
  have e : (a1^2 + a2^2 + a3^2) * (b1^2 + b2^2 + b3^2) - (a1*b1 + a2*b2 + a3*b3)^2
      = (a1*b2 - a2*b1)^2 + (a1*b3 - a3*b1)^2 + (a2*b3 - a3*b2)^2 := by ring
  exact sub_nonneg.mp (e ▸ by positivity)

theorem dot_le {a1 a2 a3 b1 b2 b3 A B : K} (hA : 0 ≤ A) (hB : 0 ≤ B)
    (ha : a1^2 + a2^2 + a3^2 ≤ A^2) (hb : b1^2 + b2^2 + b3^2 ≤ B^2) :
    a1*b1 + a2*b2 + a3*b3 ≤ A*B := by
  refine le_trans (le_abs_self _) (abs_le_of_sq_le_sq ?_ (mul_nonneg hA hB))
  rw [mul_pow]
  exact (cs3 ..).trans (mul_le_mul ha hb (by positivity) (sq_nonneg A))

/-- triangle inequality through squares, strict in the first argument -/
theorem tri_sq_lt {a1 a2 a3 b1 b2 b3 A B : K} (hA : 0 ≤ A) (hB : 0 ≤ B)
    (ha : a1^2 + a2^2 + a3^2 < A^2) (hb : b1^2 + b2^2 + b3^2 ≤ B^2) :
    (a1+b1)^2 + (a2+b2)^2 + (a3+b3)^2 < (A+B)^2 := by
  have hd := dot_le hA hB ha.le hb
  calc (a1+b1)^2 + (a2+b2)^2 + (a3+b3)^2
      = (a1^2 + a2^2 + a3^2) + (b1^2 + b2^2 + b3^2) + 2 * (a1*b1 + a2*b2 + a3*b3) := by ring
    _ < A^2 + B^2 + 2 * (A*B) := by linarith
    _ = (A+B)^2 := by ring

/-- the walk descends into a cell around `c` if the partner at `x2` lies within `k·w + s` of `c`
    and overlaps p1 by more than `S ≥ s`, provided the pruning radius bounds the partner's
    radius (hypothesis H: `r2 ≤ maxRadius1`).  The slack `s` makes up for a pruning constant `k`
    short of √3/2. -/
theorem descends_of_overlap_slack {k maxR1 r1 r2 w s S gx gy gz x2 y2 z2 cx cy cz : K}
    (hk : 0 ≤ k) (hw : 0 ≤ w) (hs : 0 ≤ s) (hsS : s ≤ S) (hH : r2 ≤ maxR1) (hm : 0 ≤ r1 + r2 - S)
    (hbox : (x2 - cx)^2 + (y2 - cy)^2 + (z2 - cz)^2 ≤ (k*w + s)^2)
    (hov : (gx - x2)^2 + (gy - y2)^2 + (gz - z2)^2 < (r1 + r2 - S)^2) :
    descends k maxR1 r1 w gx gy gz cx cy cz = true := by
  have hkw : 0 ≤ k*w + s := add_nonneg (mul_nonneg hk hw) hs
  have ht := tri_sq_lt hm hkw hov hbox
  simp only [sub_add_sub_cancel] at ht
  exact (descends_iff ..).mpr (ht.trans_le (pow_le_pow_left₀ (add_nonneg hm hkw) (by linarith) 2))

/-- a drift `τ·v` with `|τ| ≤ |dt|` is bounded by `D ≥ |dt|·|v|` -/
theorem drift_nb (τ dt a b c D : K) (hτ : τ^2 ≤ dt^2) (hD : dt^2 * (a^2 + b^2 + c^2) ≤ D^2) :
    (τ*a)^2 + (τ*b)^2 + (τ*c)^2 ≤ D^2 := by
  rw [mul_pow, mul_pow, mul_pow, ← mul_add, ← mul_add]
  exact (mul_le_mul_of_nonneg_right hτ (by positivity)).trans hD

/-- the LINETREE pruning test passes for a cell around `c` if the partner lies within `k·w + s` of
    `c` and its straight-line path came strictly within `r1 + r2 - S` of p1's at some time `τ` of the
    step; `D1`, `D2` bound the two drifts `|dt|·|v|` -/
theorem descendsLine_of_path_overlap {k maxR1 r1 r2 w s S dt τ D1 D2
    gx gy gz gvx gvy gvz x2 y2 z2 v2x v2y v2z cx cy cz : K}
    (hk : 0 ≤ k) (hw : 0 ≤ w) (hs : 0 ≤ s) (hsS : s ≤ S) (hH : r2 ≤ maxR1) (hm : 0 ≤ r1 + r2 - S)
    (hτ : τ^2 ≤ dt^2)
    (hD1 : 0 ≤ D1 ∧ dt^2 * (gvx^2 + gvy^2 + gvz^2) ≤ D1^2)
    (hD2 : 0 ≤ D2 ∧ dt^2 * (v2x^2 + v2y^2 + v2z^2) ≤ D2^2)
    (hbox : (x2 - cx)^2 + (y2 - cy)^2 + (z2 - cz)^2 ≤ (k*w + s)^2)
    (hov : (gx - x2 - τ*(gvx - v2x))^2 + (gy - y2 - τ*(gvy - v2y))^2 + (gz - z2 - τ*(gvz - v2z))^2
            < (r1 + r2 - S)^2) :
    descendsLine k maxR1 (r1 + D1) D2 w gx gy gz cx cy cz = true := by
  have hkw : 0 ≤ k*w + s := add_nonneg (mul_nonneg hk hw) hs
  have h1 := tri_sq_lt hm hD1.1 hov (drift_nb τ dt _ _ _ D1 hτ hD1.2)
  have h2 := tri_sq_lt (add_nonneg hm hD1.1) hD2.1 h1
    (drift_nb (-τ) dt _ _ _ D2 (by rwa [neg_sq]) hD2.2)
  have h3 := tri_sq_lt (add_nonneg (add_nonneg hm hD1.1) hD2.1) hkw h2 hbox
  have e : ∀ u x v v2 c' : K, u - x - τ*(v - v2) + τ*v + -τ*v2 + (x - c') = u - c' := by
    intros; ring
  rw [e, e, e] at h3
  exact (descendsLine_iff ..).mpr (h3.trans_le (pow_le_pow_left₀
    (add_nonneg (add_nonneg (add_nonneg hm hD1.1) hD2.1) hkw) (by linarith) 2))

end RV.Collision
