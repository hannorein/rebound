import RV.Proofs.VarAux
import RV.Proofs.VarKepler
import RV.Gen.C16Dispatch
import RV.Gen.C16Rescale
import RV.Proofs.VarDeriv
/-
  C16 — variational particles are the derivatives of the trajectory.

  What is proved here (exact arithmetic, any field of characteristic 0, every particle number): the variational code
  is the ε-part (first order) or ε₁ε₂-part (second order) of the ordinary model run on dual numbers (RV/Model/Dual.lean):
  the force loops of `reb_calculate_acceleration_var` — as translated from gravity.c with the softening the source has
  today (RV/Gen/C16VarLoops), and as the hand model of RV/Model/Var.lean, which is the translated kernel at softening 0
  and the definition the driver drv_c16 runs on IEEE doubles against the compiled code —, the WHFast tangent map (Jacobi
  term, f-g lines, correctors), move_to_com, rescale_var, the element-derivative constructors of derivatives.c, the
  `vary()` name dispatch and the MEGNO bookkeeping.

  The square root enters through an arbitrary function `sq` that is only required to square back to the squared
  distance on the pairs that occur (`PairOK`, `PairOKs`), so the statements hold for `Real.sqrt` on ℝ and are
  satisfiable in ℚ (examples below).  No two particles may coincide (`sq r² ≠ 0`: the C code divides by it).  The
  theorems about the hand model assume softening 0; `c16_softening_needed` shows that they are false otherwise.
-/
set_option linter.unusedVariables false
set_option linter.unusedSectionVars false
/-! ### the loop bodies translated from gravity.c (RV/Gen/C16VarLoops, regenerated every run)

`var1Body, var1TestBody, tpVar1Body, var2Body, tpVar2Body` are the bodies of the five inner loops of
`reb_calculate_acceleration_var` as the source has them today (with `softening2` in r²). -/
namespace RV.Var
open RV RV.Gen.C16VarLoops
variable {K : Type} [Field K] [CharZero K]

omit [CharZero K] in
/-- the source has the five loops the model assumes, in this order -/
theorem c16_varloops_heads : loopHeads = expectedHeads := by decide

omit [CharZero K] in
/-- at softening 0 the translated kernels are the hand-written kernels all other C16 theorems are about; the
    two first-order loops (active pairs, test particles × active) have the same body -/
theorem c16_translated_kernels_are_the_model (sq : K → K) (G : K) :
    (∀ pi pj di dj : GP K, var1Body sq G 0 pi pj di dj = var1Pair G sq (pi, di) (pj, dj)) ∧
    (∀ (s2 : K) (pi pj di dj : GP K), var1Body sq G s2 pi pj di dj = var1TestBody sq G s2 pi pj di dj) ∧
    (∀ pi pj d0 : GP K, tpVar1Body sq G 0 pi pj d0 = tpVar1Term G sq pi.x pi.y pi.z d0.x d0.y d0.z pj) ∧
    (∀ pi pj : RV2 K, var2Body sq G 0 pi pj = var2Pair G sq pi pj) ∧
    (∀ pi pj dd0 da0 db0 : GP K, tpVar2Body sq G 0 pi pj dd0 da0 db0
      = tpVar2Term G sq pi.x pi.y pi.z ⟨dd0.x, dd0.y, dd0.z⟩ ⟨da0.x, da0.y, da0.z⟩ ⟨db0.x, db0.y, db0.z⟩ pj) :=
  ⟨var1Body_eq_hand sq G, fun s2 => var1Body_eq_test sq G s2, tpVar1Body_eq_hand sq G, var2Body_eq_hand sq G, tpVar2Body_eq_hand sq G⟩

/-- **First order, any softening, ∀ N**:
    the loop over the translated kernel is the ε-part of the softened BASIC force loop on duals. -/
theorem c16_var1_softened_is_derivative (G s2 : K) (sq : K → K) (ps : List (RV1 K))
    (h : ps.Pairwise (fun e l => PairOKs sq s2 l.1 e.1)) :
    (accBasicAll (Dual.const G) (Dual.const s2) (Dual.sqrtLift sq) (ps.map dz1)).map epsV
      = loopLF V3.add V3.zero (fun a b : RV1 K => var1Body sq G s2 a.1 b.1 a.2 b.2) [] [] ps := by
  have := loopLF_hom V3.add V3.add V3.zero V3.zero epsV dz1
    (forcePair (Dual.const G) (Dual.const s2) (Dual.sqrtLift sq)) (fun a b : RV1 K => var1Body sq G s2 a.1 b.1 a.2 b.2) epsV_add rfl
    (fun pi pj => PairOKs sq s2 pi.1 pj.1) (fun pi pj hp => var1_pair_soft G s2 sq pi pj hp) ps [] []
    (fun _ _ _ hq => by cases hq) h
  simpa [accBasicAll] using this

/-- **Second order, any softening, ∀ N**: the `i<j` loop over the translated kernel is the ε₁ε₂-part of the
    softened force loop on `Dual (Dual K)` -/
theorem c16_var2_softened_is_second_derivative (G s2 : K) (sq : K → K) (ps : List (RV2 K))
    (h : ps.Pairwise (fun e l => PairOKs sq s2 l.p e.p)) :
    (accBasicAll (Dual.const (Dual.const G)) (Dual.const (Dual.const s2)) (Dual2.sqrtLift2 sq) (ps.map dz2)).map epsV2
      = loopEF V3.add (var2Body sq G s2) ps (ps.map (fun _ => V3.zero)) := by
  have h1 := loopLF_hom V3.add V3.add V3.zero V3.zero epsV2 dz2
      (forcePair (Dual.const (Dual.const G)) (Dual.const (Dual.const s2)) (Dual2.sqrtLift2 sq)) (var2Body sq G s2)
      epsV2_add rfl (fun pi pj => PairOKs sq s2 pi.p pj.p) (fun pi pj hp => var2_pair_soft G s2 sq pi pj hp)
      ps [] [] (fun _ _ _ hq => by cases hq) h
  simp only [List.map_nil] at h1
  simp only [accBasicAll]
  rw [h1, loopLF_eq_g]
  exact loopLFg_eq_loopEF V3.add (var2Body sq G s2) ps _ (by simp)
    (List.pairwise_of_forall (fun a b => var2Body_symm G s2 sq a b))

end RV.Var

namespace RV.Var
open RV
variable {K : Type} [Field K] [CharZero K]

/-! ### the lifts of the non-rational functions -/

/-- `sqrtLift` is the unique dual number with real part `sq s` whose square is `s + εδ` -/
theorem c16_sqrtLift_unique (sq : K → K) (s δ : K) (hs : sq s * sq s = s) (hne : sq s ≠ 0)
    (y : Dual K) :
    (y * y = (⟨s, δ⟩ : Dual K) ∧ y.re = sq s) ↔ y = Dual.sqrtLift sq ⟨s, δ⟩ := by
  obtain ⟨a, b⟩ := y
  have hmul : (⟨a, b⟩ : Dual K) * ⟨a, b⟩ = ⟨a * a, a * b + b * a⟩ := rfl
  simp only [hmul, Dual.sqrtLift, Dual.mk.injEq, sc_hdiv, sc_hmul, sc_ofNat]
  push_cast
  constructor
  · rintro ⟨⟨h1, h3⟩, h4⟩
    subst h4
    refine ⟨rfl, ?_⟩
    field_simp
    rw [← h3]; ring
  · rintro ⟨h1, h3⟩
    subst h1
    refine ⟨⟨hs, ?_⟩, rfl⟩
    rw [h3]; field_simp; ring

/-- the `s ↦ s^(-3/2)` lift `(s+εδ)^(-3/2) = s^(-3/2) − (3/2) s^(-5/2) δ ε` is what dual
    arithmetic computes for `1/(s·√s)` — the expression `r3inv = 1./(r2*_r)` of gravity.c -/
theorem c16_rinv3Lift (sq : K → K) (R : Dual K) (hs : sq R.re * sq R.re = R.re) (hne : sq R.re ≠ 0) :
    (Scalar.one : Dual K) / (R * Dual.sqrtLift sq R)
      = Dual.rinv3Lift (fun s => 1 / (s * sq s)) R := by
  obtain ⟨s, δ⟩ := R
  simp only at hs hne
  have hd : ∀ a b : Dual K, a / b = ⟨a.re / b.re, (a.eps * b.re - a.re * b.eps) / (b.re * b.re)⟩ :=
    fun _ _ => rfl
  have hm : ∀ a b : Dual K, a * b = ⟨a.re * b.re, a.re * b.eps + a.eps * b.re⟩ := fun _ _ => rfl
  simp only [hd, hm, Dual.rinv3Lift, Dual.sqrtLift, Dual.one_re, Dual.one_eps, Dual.mk.injEq,
    sc_zero, sc_one, sc_hmul, sc_hdiv, sc_hneg, sc_ofNat]
  generalize sq s = ρ at *
  rw [← hs]
  push_cast
  refine ⟨trivial, ?_⟩
  field_simp
  ring

/-- **First-order variational accelerations are the derivative of the force.**
    For every number of particles, `accVar1` — the loop of gravity.c:1031-1074 with the
    variational-mass terms — equals the ε-coefficient of the BASIC force loop evaluated
    at `real + ε·variational` (positions *and* masses), and the real part of that dual
    run is the ordinary force.  Hypotheses: softening 0, no coinciding pair. -/
theorem c16_var1_is_derivative (G : K) (sq : K → K) (ps : List (RV1 K))
    (h : ps.Pairwise (fun e l => PairOK sq l.1 e.1)) :
    (accBasicAll (Dual.const G) Scalar.zero (Dual.sqrtLift sq) (ps.map dz1)).map epsV
        = accVar1 G sq ps ∧
    (accBasicAll (Dual.const G) Scalar.zero (Dual.sqrtLift sq) (ps.map dz1)).map reV
        = accBasicAll G Scalar.zero sq (ps.map Prod.fst) := by
  constructor
  · have h' := c16_var1_softened_is_derivative G 0 sq ps (h.imp PairOK.soft)
    simp only [var1Body_eq_hand, Prod.mk.eta] at h'
    exact h'
  · have h1 := loopLF_hom V3.add V3.add V3.zero V3.zero reV dz1
      (forcePair (Dual.const G) Scalar.zero (Dual.sqrtLift sq))
      (fun a b => forcePair G Scalar.zero sq a.1 b.1) reV_add rfl
      (fun _ _ => True) (fun pi pj _ => re_pair G sq pi pj) ps [] []
      (fun _ _ _ hq => by cases hq) (List.pairwise_of_forall (fun _ _ => trivial))
    have h2 := loopLF_hom V3.add V3.add V3.zero V3.zero (fun a : V3 K => a) (Prod.fst : RV1 K → GP K)
      (forcePair G Scalar.zero sq) (fun a b => forcePair G Scalar.zero sq a.1 b.1)
      (fun _ _ => rfl) rfl (fun _ _ => True) (fun _ _ _ => ⟨rfl, rfl⟩) ps [] []
      (fun _ _ _ hq => by cases hq) (List.pairwise_of_forall (fun _ _ => trivial))
    simp only [List.map_nil, List.map_id'] at h1 h2
    simp only [accBasicAll]
    rw [h1, ← h2]

/-- the same with `N_active < N` and either `testparticle_type`: active pairs
    (gravity.c:1036-1074) followed by the test-particle loop (1075-1115) equal the ε-part of
    the force routine with the same split (gravity.c:161-222).  Test particles need not be
    separated from each other (they do not interact). -/
theorem c16_var1_split_is_derivative (G : K) (sq : K → K) (tptype : Bool) (act tst : List (RV1 K))
    (hact : act.Pairwise (fun e l => PairOK sq l.1 e.1))
    (htst : ∀ t ∈ tst, ∀ a ∈ act, PairOK sq t.1 a.1) :
    (accBasicSplit (Dual.const G) Scalar.zero (Dual.sqrtLift sq) tptype (act.map dz1) (tst.map dz1)).map epsV
        = accVar1Split G sq tptype act tst := by
  have h1 := loopLF_hom V3.add V3.add V3.zero V3.zero epsV dz1
      (forcePair (Dual.const G) Scalar.zero (Dual.sqrtLift sq)) (var1Pair G sq) epsV_add rfl
      (fun pi pj => PairOK sq pi.1 pj.1) (fun pi pj hp => var1_pair G sq pi pj hp) act [] []
      (fun _ _ _ hq => by cases hq) hact
  have h2 := crossLoop_hom V3.add V3.add V3.zero V3.zero epsV dz1
      (forcePair (Dual.const G) Scalar.zero (Dual.sqrtLift sq)) (var1Pair G sq) epsV_add rfl
      (fun pi pj => PairOK sq pi.1 pj.1) (fun pi pj hp => var1_pair G sq pi pj hp) tptype act tst
      (loopLF V3.add V3.zero (forcePair (Dual.const G) Scalar.zero (Dual.sqrtLift sq)) [] [] (act.map dz1)) htst
  simp only [List.map_nil] at h1
  rw [h1] at h2
  simp only [accBasicSplit, accVar1Split, List.map_append, h2.1, h2.2]

/-- the same under `gravity_ignore_terms` = 1 (WHFast/Jacobi: pair (1,0) skipped) or 2
    (every pair with particle 0 skipped): force and first-order variational loops skip the
    same pairs (gravity.c:145-146 vs 1006-1007), so the derivative relation is preserved -/
theorem c16_var1_ignore_terms (ign : Nat) (G : K) (sq : K → K) (ps : List (RV1 K))
    (h : ps.Pairwise (fun e l => PairOK sq l.1 e.1)) :
    (accBasicIgn ign (Dual.const G) Scalar.zero (Dual.sqrtLift sq) (ps.map dz1)).map epsV
        = accVar1Ign ign G sq ps := by
  have key : ∀ (done rest : List (RV1 K)) (accs : List (V3 (Dual K))),
      (∀ pi ∈ rest, ∀ pj ∈ done, PairOK sq pi.1 pj.1) → rest.Pairwise (fun e l => PairOK sq l.1 e.1) →
      (loopLF V3.add V3.zero (forcePair (Dual.const G) Scalar.zero (Dual.sqrtLift sq)) (done.map dz1) accs
          (rest.map dz1)).map epsV
        = loopLF V3.add V3.zero (var1Pair G sq) done (accs.map epsV) rest :=
    fun done rest accs h1 h2 => loopLF_hom V3.add V3.add V3.zero V3.zero epsV dz1
      (forcePair (Dual.const G) Scalar.zero (Dual.sqrtLift sq)) (var1Pair G sq) epsV_add rfl
      (fun pi pj => PairOK sq pi.1 pj.1) (fun pi pj hp => var1_pair G sq pi pj hp) rest done accs h1 h2
  match ign, ps, h with
  | 0, ps, h => simpa [accBasicIgn, accVar1Ign, loopIgn] using key [] ps [] (fun _ _ _ hq => by cases hq) h
  | 1, [], _ => rfl
  | 1, [_], _ => rfl
  | 1, p0 :: p1 :: rest, h =>
    rw [List.pairwise_cons, List.pairwise_cons] at h
    have := key [p0, p1] rest [V3.zero, V3.zero]
      (fun pi hpi pj hpj => by
        rcases List.mem_cons.mp hpj with hj | hj
        · subst hj; exact h.1 pi (by simp [hpi])
        · simp at hj; subst hj; exact h.2.1 pi hpi) h.2.2
    have hz : epsV (V3.zero : V3 (Dual K)) = V3.zero := rfl
    simpa [accBasicIgn, accVar1Ign, loopIgn, hz] using this
  | 2, [], _ => rfl
  | 2, [_], _ => rfl
  | 2, p0 :: p1 :: rest, h =>
    rw [List.pairwise_cons, List.pairwise_cons] at h
    have := key [p1] rest [V3.zero]
      (fun pi hpi pj hpj => by simp at hpj; subst hpj; exact h.2.1 pi hpi) h.2.2
    have hz : epsV (V3.zero : V3 (Dual K)) = V3.zero := rfl
    simp only [accBasicIgn, accVar1Ign, loopIgn, List.map_cons, List.map_nil, hz] at this ⊢
    rw [this]
  | n+3, ps, h => simpa [accBasicIgn, accVar1Ign, loopIgn] using key [] ps [] (fun _ _ _ hq => by cases hq) h

/-- **Second-order variational accelerations are the mixed second derivative.**
    For every number of particles, `accVar2` — the `i<j` loop of gravity.c:1167-1260 —
    equals the ε₁ε₂-coefficient of the BASIC force loop evaluated on `Dual (Dual K)` at
    `real + ε₁·(1st order a) + ε₂·(1st order b) + ε₁ε₂·(2nd order)`, masses included. -/
theorem c16_var2_is_second_derivative (G : K) (sq : K → K) (ps : List (RV2 K))
    (h : ps.Pairwise (fun e l => PairOK sq l.p e.p)) :
    (accBasicAll (Dual.const (Dual.const G)) Scalar.zero (Dual2.sqrtLift2 sq) (ps.map dz2)).map epsV2
        = accVar2 G sq ps := by
  have h' := c16_var2_softened_is_second_derivative G 0 sq ps (h.imp PairOK.soft)
  rw [show Gen.C16VarLoops.var2Body sq G 0 = var2Pair G sq from funext fun a => funext fun b => var2Body_eq_hand sq G a b] at h'
  exact h'

/-! ### single test-particle variations (`vc.testparticle >= 0`) -/

/-- first order: `tpVar1` (gravity.c:1117-1154) is the ε-part of the force on a test
    particle at `(x,y,z) + ε·(ddx,ddy,ddz)` due to the bodies `others` (which do not move
    and have no mass variation).  `others` is whatever the C loop sums over; a body of
    mass 0 contributes nothing (`c16_testparticle_massless_term`). -/
theorem c16_var1_testparticle_is_derivative (G : K) (sq : K → K) (x y z ddx ddy ddz : K)
    (others : List (GP K)) (h : ∀ pj ∈ others, PairOK sq ⟨0, x, y, z⟩ pj) :
    epsV (tpForce (Dual.const G) Scalar.zero (Dual.sqrtLift sq) ⟨x, ddx⟩ ⟨y, ddy⟩ ⟨z, ddz⟩ (others.map cGP))
      = tpVar1 G sq x y z ddx ddy ddz others := by
  simp only [tpForce, tpVar1]
  exact foldl_hom epsV V3.add V3.add epsV_add _ _ cGP others
    (fun pj hpj => tpVar1_term G sq x y z ddx ddy ddz pj (h pj hpj)) V3.zero

/-- second order: `tpVar2` (gravity.c:1262-1325) is the ε₁ε₂-part of the same force at
    `(x,y,z) + ε₁ k1 + ε₂ k2 + ε₁ε₂ dd` -/
theorem c16_var2_testparticle_is_second_derivative (G : K) (sq : K → K) (x y z : K) (dd k1 k2 : V3 K)
    (others : List (GP K)) (h : ∀ pj ∈ others, PairOK sq ⟨0, x, y, z⟩ pj) :
    epsV2 (tpForce (Dual.const (Dual.const G)) Scalar.zero (Dual2.sqrtLift2 sq)
        (d4 x k1.x k2.x dd.x) (d4 y k1.y k2.y dd.y) (d4 z k1.z k2.z dd.z) (others.map cGP2))
      = tpVar2 G sq x y z dd k1 k2 others := by
  simp only [tpForce, tpVar2]
  exact foldl_hom epsV2 V3.add V3.add epsV2_add _ _ cGP2 others
    (fun pj hpj => tpVar2_term G sq x y z dd k1 k2 pj (h pj hpj)) V3.zero

omit [CharZero K] in
/-- a massless body contributes nothing to a single test-particle variation -/
theorem c16_testparticle_massless_term (G : K) (sq : K → K) (x y z ddx ddy ddz : K) (pj : GP K)
    (hm : pj.m = 0) (a : V3 K) :
    V3.add a (tpVar1Term G sq x y z ddx ddy ddz pj) = a := by
  obtain ⟨ax, ay, az⟩ := a
  simp [V3.add, tpVar1Term, hm]

/-! ### WHFast tangent map, Jacobi term of the interaction step -/

/-- **Full statement (false of the code, F16).**  With the interior mass `η + ε·dη` the ε-part
    of the Jacobi kick `dt·G·η·x/|x|³` is the code's variation (integrator_whfast.c:385-394)
    *plus* the term `dt·G·dη·x/|x|³`, which the code does not have ("TODO Need to add mass
    terms").  So the WHFast tangent map is the derivative of the WHFast map only when no
    mass is varied. -/
theorem c16_whfast_jacobi_term_full (G eta deta dt : K) (sq : K → K) (x y z dx dy dz : K)
    (hs : sq (1 / (x*x + y*y + z*z)) * sq (1 / (x*x + y*y + z*z)) = 1 / (x*x + y*y + z*z))
    (hne : sq (1 / (x*x + y*y + z*z)) ≠ 0) :
    epsV (whJacKick (Dual.const G) ⟨eta, deta⟩ (Dual.const dt) Scalar.zero (Dual.sqrtLift sq) ⟨x, dx⟩ ⟨y, dy⟩ ⟨z, dz⟩)
      = V3.add (whJacKickVar G eta dt Scalar.zero sq x y z dx dy dz)
          (let c := dt * (sq (1 / (x*x + y*y + z*z)) * (1 / (x*x + y*y + z*z)) * G * deta); ⟨c*x, c*y, c*z⟩) :=
  whJac_full G eta deta dt sq x y z dx dy dz hs hne

/-- partial: the extra hypothesis `dη = 0` (no variational masses) names finding F16.
    This is the Jacobi term of the interaction step; the tangent map of the Kepler solver
    (`dX, dG, df, dg…`, integrator_whfast.c:310-342) is the next section. -/
theorem c16_whfast_jacobi_term_partial (G eta dt : K) (sq : K → K) (x y z dx dy dz : K)
    (hs : sq (1 / (x*x + y*y + z*z)) * sq (1 / (x*x + y*y + z*z)) = 1 / (x*x + y*y + z*z))
    (hne : sq (1 / (x*x + y*y + z*z)) ≠ 0) :
    epsV (whJacKick (Dual.const G) (Dual.const eta) (Dual.const dt) Scalar.zero (Dual.sqrtLift sq) ⟨x, dx⟩ ⟨y, dy⟩ ⟨z, dz⟩)
      = whJacKickVar G eta dt Scalar.zero sq x y z dx dy dz := by
  have := whJac_full G eta 0 dt sq x y z dx dy dz hs hne
  simp only [mul_zero, zero_mul] at this
  rw [show (Dual.const eta : Dual K) = ⟨eta, 0⟩ from rfl, this]
  simp [V3.add]

/-! ### WHFast tangent map, Kepler solver (model `Kepler.tangentUpdate` of C03, tied bitwise there) -/

/-- the first lines of the tangent map (integrator_whfast.c:315-320): `dbeta, deta0, dzeta0`
    are the ε-parts of `beta, eta0, zeta0` when `r0 ↦ r0 + ε·dr0`, `1/r0 ↦ 1/r0 − ε·dr0/r0²` -/
theorem c16_whfast_kepler_invariants_tangent (M r0 r0i : K) (p dp : Kepler.P6 K) :
    let dr0 := tanDr0 r0i p dp
    let I := Kepler.invariants (Dual.const M) (⟨r0, dr0⟩ : Dual K) ⟨r0i, -(dr0 * r0i * r0i)⟩ (dP6 p dp)
    let i0 := Kepler.invariants M r0 r0i p
    I.beta.eps = (-2) * M * dr0 * r0i * r0i - 2 * (dp.vx * p.vx + dp.vy * p.vy + dp.vz * p.vz) ∧
    I.eta0.eps = dp.x * p.vx + dp.y * p.vy + dp.z * p.vz + p.x * dp.vx + p.y * dp.vy + p.z * dp.vz ∧
    I.zeta0.eps = (-i0.beta) * dr0 - r0 * I.beta.eps ∧
    I.beta.re = i0.beta ∧ I.eta0.re = i0.eta0 ∧ I.zeta0.re = i0.zeta0 :=
  kepler_invariants_tangent M r0 r0i p dp

/-- partial: **given** the tangent map's own `dr0, dG1, dG2, dG3, dr` (`tanMid`, lines 315-331),
    its update lines (332-342: `df, dg, dfd, dgd` and the six `+=`) are exactly the ε-part of
    the real f-g update (lines 297-308) evaluated at `p + ε·dp`, `Gₖ + ε·dGₖ`,
    `1/r0 − ε·dr0/r0²`, `1/r − ε·dr/r²`.  The other half — that `dX` and `dGₖ`
    are the derivatives of the solution of Kepler's equation and of the Stiefel functions — is
    `c03_tangent_map_is_derivative_partial` with `c03_tangent_dX_unique` (RV/Props/C03Tan.lean). -/
theorem c16_whfast_kepler_fg_tangent_partial (M r0 r0i ri X beta eta0 zeta0 dt : K) (gs : Kepler.Cs6 K)
    (p dp : Kepler.P6 K) :
    let m := tanMid M r0 r0i ri X beta eta0 zeta0 gs p dp
    Kepler.tangentUpdate M r0 r0i ri X beta eta0 zeta0 (Kepler.fgCoeffs M r0i ri dt gs.c1 gs.c2 gs.c3) gs p dp
      = epsP6 (Kepler.fgUpdate (Dual.const M) ⟨r0i, -(m.dr0 * r0i * r0i)⟩ ⟨ri, -(m.dr * ri * ri)⟩ (Dual.const dt)
          ⟨gs.c1, m.dG1⟩ ⟨gs.c2, m.dG2⟩ ⟨gs.c3, m.dG3⟩ (dP6 p dp)) := by
  intro m
  rw [tangentUpdate_split]
  exact tanLines_is_eps M r0i ri dt gs p dp m

/-! ### WHFast symplectic correctors: the variational corrector is the ε-part of the real one -/

omit [CharZero K] in
/-- the schedule the code runs (with the refresh of the variational inertial positions after
    *each* Kepler step that precedes a force evaluation) is the dualisation of the real
    corrector's schedule — for every order, `inv`, `dt` and coefficient table -/
theorem c16_corrector_schedule_is_dualised (order : Nat) (inv dt : K) (as_ bs : List K) :
    correctorPair order inv dt as_ bs = (correctorReal order inv dt as_ bs).flatMap dualiseOp := by
  simp only [correctorPair, correctorReal, List.flatMap_assoc]
  apply List.flatMap_congr
  intro p _
  rfl

/-- **Compositional statement.**  `S` is the state of the code (Jacobi and inertial copies of real
    and variational particles), `D` the state of the real system run on dual numbers, `abs` reads
    a code state as a dual state.  If every exported primitive commutes with `abs` — Kepler step
    (tangent map; numerical in this check), force evaluation (`c16_var1_ignore_terms`),
    interaction step (`c16_whfast_jacobi_term_partial` + linearity) — and the *pair* of
    refreshes (real, then variational) is the dual refresh, then the whole corrector of any
    order commutes with `abs`: the variational particles after `reb_whfast_apply_corrector`
    are the ε-part of the real corrector.  A refresh of the real particles alone is *not*
    assumed to commute: a schedule that skips a variational refresh is not covered. -/
theorem c16_corrector_is_derivative {S D : Type} (step : WOp K → S → S) (stepD : WOp K → D → D)
    (abs : S → D)
    (hk : ∀ a s, abs (step (.kepler a) s) = stepD (.kepler a) (abs s))
    (ha : ∀ s, abs (step .acc s) = stepD .acc (abs s))
    (hi : ∀ b s, abs (step (.interaction b) s) = stepD (.interaction b) (abs s))
    (hr : ∀ s, abs (step .refreshVar (step .refreshReal s)) = stepD .refreshReal (abs s))
    (order : Nat) (inv dt : K) (as_ bs : List K) (s : S) :
    abs (runOps step (correctorPair order inv dt as_ bs) s)
      = runOps stepD (correctorReal order inv dt as_ bs) (abs s) := by
  have hZ : ∀ (a b : K) (s : S), abs (runOps step (corrZPair a b) s) = runOps stepD (corrZReal a b) (abs s) := by
    intro a b s
    simp only [runOps, corrZPair, corrZReal, List.foldl_cons, List.foldl_nil, hk, ha, hi, hr]
  simp only [correctorPair, correctorReal]
  generalize correctorStages order inv dt as_ bs = st
  induction st generalizing s with
  | nil => rfl
  | cons p r ih =>
    simp only [List.flatMap_cons, runOps, List.foldl_append] at ih ⊢
    have := hZ p.1 p.2 s
    simp only [runOps] at this
    rw [← this]
    exact ih _

/-! ### move_to_com -/

omit [CharZero K] in
/-- the first-order correction `com_shift` of `reb_simulation_move_to_com`
    (tools.c:279-299, each Cartesian component) is the ε-part of the centre of mass
    `Σ mᵢxᵢ / Σ mᵢ` evaluated at `m + ε·dm`, `x + ε·dx` -/
theorem c16_move_to_com_var1 (l : List (C1 K)) (hM : (l.map C1.m).sum ≠ 0) :
    comShift1 (massSum (l.map C1.m)) l = (comSimple (l.map dC1)).eps := by
  obtain ⟨a1, a2⟩ := dualMx_acc (Scalar.zero : Dual K) l
  obtain ⟨b1, b2⟩ := dualM_acc (Scalar.zero : Dual K) l
  simp only [comShift1, comSimple, massSum, Dual.div_eps, a1, a2, b1, b2, Dual.zero_re, Dual.zero_eps,
    sc_zero, sc_hadd, sc_hsub, sc_hmul, sc_hdiv, zero_add, massSum_acc]
  rw [comShift1_acc _ _ _ hM]
  field_simp
  ring

/-- the second-order correction (tools.c:174-259) is the ε₁ε₂-part of the centre of mass
    evaluated on `Dual (Dual K)` -/
theorem c16_move_to_com_var2 (l : List (C2 K)) (hM : (l.map C2.m).sum ≠ 0) :
    comShift2 (massSum (l.map C2.m)) l = (comSimple (l.map dC2)).eps.eps := by
  obtain ⟨a1, a2, a3, a4⟩ := dual2Mx_acc (Scalar.zero : Dual2 K) l
  obtain ⟨b1, b2, b3, b4⟩ := dual2M_acc (Scalar.zero : Dual2 K) l
  simp only [Dual.zero_re, Dual.zero_eps, sc_zero, zero_add] at a1 a2 a3 a4 b1 b2 b3 b4
  have hq := quot2_epseps (l.map (fun p => p.m * p.x)).sum
    (l.map (fun p => p.m * p.xa + p.ma * p.x)).sum
    (l.map (fun p => p.m * p.xb + p.mb * p.x)).sum
    (l.map (fun p => p.m * p.xx + p.ma * p.xb + p.mb * p.xa + p.mm * p.x)).sum
    (l.map C2.m).sum (l.map C2.ma).sum (l.map C2.mb).sum (l.map C2.mm).sum hM
  simp only [comSimple, massSum]
  have e : ∀ d : Dual2 K, d = ⟨⟨d.re.re, d.re.eps⟩, ⟨d.eps.re, d.eps.eps⟩⟩ := fun _ => rfl
  rw [e ((l.map dC2).foldl _ _), e (((l.map dC2).map Prod.fst).foldl _ _), a1, a2, a3, a4, b1, b2, b3, b4, hq]
  simp only [comShift2, massSum, massSum_acc, two, sc_zero, sc_hadd, sc_hsub, sc_hmul, sc_hdiv, sc_ofNat,
    zero_add]
  push_cast
  rw [comShift2_acc _ _ _ _ _ hM]
  ring

end RV.Var

/-! ### the hypotheses are necessary / satisfiable -/
namespace RV.Var
open RV

/-- **Softening must be 0.**  With softening² = 16, two unit masses at distance 3 and the
    variation δx₁ = 1, the ε-part of the softened force differs from what the variational
    loop `accVar1` of the hand model computes (2/3125 vs 2/27): that loop has no softening. -/
theorem c16_softening_needed :
    (accBasicAll (Dual.const (1:ℚ)) (Dual.const 16) (Dual.sqrtLift sqQ)
      ([(⟨1, 0, 0, 0⟩, ⟨0, 0, 0, 0⟩), (⟨1, 3, 0, 0⟩, ⟨0, 1, 0, 0⟩)].map dz1)).map epsV
    ≠ accVar1 1 sqQ [(⟨1, 0, 0, 0⟩, ⟨0, 0, 0, 0⟩), (⟨1, 3, 0, 0⟩, ⟨0, 1, 0, 0⟩)] := by
  simp only [accBasicAll, accVar1, loopLF, inner, forcePair, var1Pair, dz1, epsV, three, List.map_cons, List.map_nil,
    List.nil_append, List.cons_append, V3.add, V3.zero,
    Dual.add_re, Dual.add_eps, Dual.sub_re, Dual.sub_eps,
    Dual.mul_re, Dual.mul_eps, Dual.div_re, Dual.div_eps, Dual.neg_re, Dual.neg_eps,
    Dual.sqrtLift_re, Dual.sqrtLift_eps, Dual.const_re, Dual.const_eps, Dual.zero_eps,
    sc_zero, sc_one, sc_hadd, sc_hsub, sc_hmul, sc_hdiv, sc_hneg, sc_ofNat, sqQ]
  norm_num

/-- the hypotheses of the first/second-order theorems hold for a concrete non-trivial
    rational configuration (a 3-4-5 triangle, unequal masses, a massless body, mass variations) -/
example : ([(⟨1, 0, 0, 0⟩, ⟨1/10, 1, 0, 0⟩), (⟨1/1000, 3, 4, 0⟩, ⟨1/7, 0, 1, 2⟩), (⟨0, 3, 0, 0⟩, ⟨0, 0, 0, 1⟩)]
    : List (RV1 ℚ)).Pairwise (fun e l => PairOK sqQ l.1 e.1) := by
  simp only [List.pairwise_cons, List.mem_cons, List.not_mem_nil, or_false, forall_eq_or_imp, forall_eq,
    PairOK, r2of, sqQ, List.Pairwise.nil, and_true, IsEmpty.forall_iff, implies_true]
  norm_num

/-- over ℝ with the true square root the only hypothesis left is that no two particles coincide -/
theorem c16_var1_is_derivative_real (G : ℝ) (ps : List (RV1 ℝ))
    (h : ps.Pairwise (fun e l => r2of l.1 e.1 ≠ 0)) :
    (accBasicAll (Dual.const G) Scalar.zero (Dual.sqrtLift Real.sqrt) (ps.map dz1)).map epsV
        = accVar1 G Real.sqrt ps :=
  (c16_var1_is_derivative G Real.sqrt ps (h.imp (fun hne => pairOK_real _ _ hne))).1

theorem c16_var2_is_second_derivative_real (G : ℝ) (ps : List (RV2 ℝ))
    (h : ps.Pairwise (fun e l => r2of l.p e.p ≠ 0)) :
    (accBasicAll (Dual.const (Dual.const G)) Scalar.zero (Dual2.sqrtLift2 Real.sqrt) (ps.map dz2)).map epsV2
        = accVar2 G Real.sqrt ps :=
  c16_var2_is_second_derivative G Real.sqrt ps (h.imp (fun hne => pairOK_real _ _ hne))

/-- the abstract `exp`/`log` of the rescaling theorem are realised by the real functions -/
example : (∀ a b : ℝ, Real.exp (a + b) = Real.exp a * Real.exp b) ∧ (∀ s : ℝ, 0 < s → Real.exp (Real.log s) = s) :=
  ⟨Real.exp_add, fun _ hs => Real.exp_log hs⟩

end RV.Var

/-! ### reb_simulation_rescale_var -/
namespace RV.Var
open RV
variable {K : Type} [Field K] [LinearOrder K] [IsStrictOrderedRing K]

/-- **Rescaling changes only the recorded magnitude.**  `exp`/`log` are abstract with
    `exp (a+b) = exp a · exp b` and `exp (log s) = s` for `s > 0`.  For configurations with
    pairwise disjoint particle slots, after `reb_simulation_rescale_var` (tools.c:1298-1371;
    threshold `thr ≥ 0`, any synchronisation state, any mix of orders / test-particle
    sets / early returns): every configuration keeps `order`, `index`, `testparticle`;
    its represented variation `exp(lrescale)·δ` is unchanged in all six components;
    second-order sets and sets with `lrescale < 0` are not touched at all; and every
    slot that belongs to no configuration (in particular every real particle) is unchanged. -/
theorem c16_rescale_var (exp log : K → K) (hadd : ∀ a b, exp (a + b) = exp a * exp b)
    (hlog : ∀ s, 0 < s → exp (log s) = s) (thr : K) (hthr : 0 ≤ thr) (nReal : Nat) (sync : Bool)
    (cfgs : List (VC K)) (mem : Nat → P6 K) (hd : cfgs.Pairwise (DisjointCfg nReal)) :
    List.Forall₂ (CfgRel exp nReal mem (rescaleVar (fieldOps log) thr nReal sync mem cfgs).mem)
        cfgs (rescaleVar (fieldOps log) thr nReal sync mem cfgs).cfgs ∧
    (∀ k, (∀ vc ∈ cfgs, ¬ InRange nReal vc k) →
      (rescaleVar (fieldOps log) thr nReal sync mem cfgs).mem k = mem k) :=
  rescaleLoop_spec exp log hadd hlog thr hthr nReal sync cfgs mem false false hd

/-- real particles (slots `< N_real`) are never modified, given what `add_variation`
    guarantees: every configuration starts at or after `N_real` -/
theorem c16_rescale_real_particles_untouched (exp log : K → K) (hadd : ∀ a b, exp (a + b) = exp a * exp b)
    (hlog : ∀ s, 0 < s → exp (log s) = s) (thr : K) (hthr : 0 ≤ thr) (nReal : Nat) (sync : Bool)
    (cfgs : List (VC K)) (mem : Nat → P6 K) (hd : cfgs.Pairwise (DisjointCfg nReal))
    (hidx : ∀ vc ∈ cfgs, nReal ≤ vc.index) (k : Nat) (hk : k < nReal) :
    (rescaleVar (fieldOps log) thr nReal sync mem cfgs).mem k = mem k :=
  (c16_rescale_var exp log hadd hlog thr hthr nReal sync cfgs mem hd).2 k
    (fun vc hvc hin => by have := hidx vc hvc; have := hin.1; omega)

end RV.Var

/-! ### the element-derivative constructors (derivatives.c) are ε-parts of the constructors

`RV.Gen.C16Deriv.d_*` are the 65 `reb_particle_derivative_*` functions, translated mechanically
from src/derivatives.c by rv/extract_c16.py on every run and compared bit for bit with the
compiled functions.  `palMap` / `orbMap` are `reb_particle_from_pal` / `reb_particle_from_orbit`
relative to the primary (also tied bitwise).  Below: each first-derivative function is the
ε-part of the map on `Dual K`, each second-derivative function the ε₁ε₂-part on `Dual (Dual K)`
(`v1`: varied along ε₁, `v2`: along ε₂, `v12`: along both).  `o.sin`, `o.cos` are arbitrary
functions — the dual lift *is* the chain rule —, `o.sqrt` only has to satisfy the relations
between the different square roots the C code takes (stated per theorem; all true for the real
square root of positive arguments), `sgn` is the derivative of `fabs` (1 for inclination < π).
`_partial`: through Pal's implicit (p,q): the derivatives of (p,q) are those the function
itself computes (first order: closed forms, justified by `c16_pal_kepler_linearised`; second
order: `pq2_*`, read out of the generated function).
NOT proved (stay numerical, mpmath ≤3e-11): `h_lambda, k_lambda, h_h, k_h, k_k` (their formulas
were simplified with Pal's Kepler relations and sin²+cos²=1; `ring` alone does not close them)
and `e_e` (needs the reduction e² = 1 − (√(1−e²))² inside a degree-10 identity). -/
namespace RV.Var
open RV RV.Gen.C16Deriv
variable {K : Type} [Field K] [CharZero K]

/-- the first derivatives of (p,q) used by every function through the implicit Pal variables
    solve the linearised Pal Kepler equations  p = k·sin F − h·cos F,  q = k·cos F + h·sin F,
    F = λ+p:  for each of λ, h, k the ε-parts of both residuals vanish (given the equations
    themselves and sin²+cos² = 1) -/
theorem c16_pal_kepler_linearised (o : DOps K) (sgn : K → K) (lam k h p q : K)
    (hP : p = k * o.sin (lam + p) - h * o.cos (lam + p)) (hQ : q = k * o.cos (lam + p) + h * o.sin (lam + p))
    (hT : o.sin (lam + p) * o.sin (lam + p) + o.cos (lam + p) * o.cos (lam + p) = 1) (hq : 1 - q ≠ 0) :
    let R1 := fun (l' k' h' p' q' : Dual K) => p' - (k' * (o.lift sgn).sin (l' + p') - h' * (o.lift sgn).cos (l' + p'))
    let R2 := fun (l' k' h' p' q' : Dual K) => q' - (k' * (o.lift sgn).cos (l' + p') + h' * (o.lift sgn).sin (l' + p'))
    let S := o.sin (lam + p)
    let C := o.cos (lam + p)
    (R1 (var1 lam) (cst k) (cst h) ⟨p, q / (1 - q)⟩ ⟨q, -p / (1 - q)⟩).eps = 0 ∧
    (R2 (var1 lam) (cst k) (cst h) ⟨p, q / (1 - q)⟩ ⟨q, -p / (1 - q)⟩).eps = 0 ∧
    (R1 (cst lam) (cst k) (var1 h) ⟨p, 1 / (1 - q) * (-C)⟩ ⟨q, 1 / (1 - q) * (S - h)⟩).eps = 0 ∧
    (R2 (cst lam) (cst k) (var1 h) ⟨p, 1 / (1 - q) * (-C)⟩ ⟨q, 1 / (1 - q) * (S - h)⟩).eps = 0 ∧
    (R1 (cst lam) (var1 k) (cst h) ⟨p, 1 / (1 - q) * S⟩ ⟨q, 1 / (1 - q) * (C - k)⟩).eps = 0 ∧
    (R2 (cst lam) (var1 k) (cst h) ⟨p, 1 / (1 - q) * S⟩ ⟨q, 1 / (1 - q) * (C - k)⟩).eps = 0 := by
  simp only [cst, var1, lift_sin, lift_cos, Dual.add_re, Dual.add_eps, Dual.sub_eps, Dual.mul_eps,
    Dual.const_re, Dual.const_eps, sc_zero, sc_hadd, sc_hsub, sc_hmul, sc_hneg]
  generalize o.sin (lam + p) = s at *
  generalize o.cos (lam + p) = cc at *
  refine ⟨?_, ?_, ?_, ?_, ?_, ?_⟩
  · field_simp; linear_combination hQ
  · field_simp; linear_combination -hP
  · field_simp; linear_combination (-cc) * hQ
  · field_simp; linear_combination h * hT + s * hQ
  · field_simp; linear_combination s * hQ
  · field_simp; linear_combination k * hT + cc * hQ

theorem c16_deriv_a_is_eps (o : DOps K) (sgn : K → K) (G m M a lam k h ix iy p q : K)
    (hS : o.sqrt (G * (m + M) / a) * o.sqrt (G * (m + M) / a) = G * (m + M) / a)
    (hS3 : o.sqrt (G * (m + M) / (a * a * a)) * a = o.sqrt (G * (m + M) / a))
    (hS1 : o.sqrt (G * (m + M) / a) ≠ 0) (ha : a ≠ 0) :
    d_a o G m M a lam k h ix iy p q
      = epsP7 (palMap (o.lift sgn) (cst G) (cst m) (cst M) (var1 a) (cst lam) (cst k) (cst h) (cst ix) (cst iy) (cst p) (cst q)) := by
  change palOut (F := K) _ _ _ _ _ _ _ _ = _
  rw [palMap_eq_palOut, epsP7_palOut _ _ _ _ _ _ _ _ (palIz_eps o sgn ix iy)]
  deriv_unfold [d_a]
  generalize o.sin (lam + p) = s
  generalize o.cos (lam + p) = cc
  generalize o.sqrt (1 - h * h - k * k) = L
  generalize o.sqrt (o.fabs (4 - ix * ix - iy * iy)) = iz
  generalize G * (m + M) = μ at *
  generalize o.sqrt (μ / a) = S1 at *
  generalize o.sqrt (μ / (a * a * a)) = S3 at *
  have e3 : S3 = S1 / a := by field_simp; linear_combination hS3
  have eμ : μ = S1 * S1 * a := by field_simp at hS; linear_combination -hS
  subst e3; subst eμ
  congr 1 <;> field_id

theorem c16_deriv_ix_is_eps (o : DOps K) (sgn : K → K) (G m M a lam k h ix iy p q : K)
    (hsgn : sgn (4 - ix * ix - iy * iy) = 1) :
    d_ix o G m M a lam k h ix iy p q
      = epsP7 (palMap (o.lift sgn) (cst G) (cst m) (cst M) (cst a) (cst lam) (cst k) (cst h) (var1 ix) (cst iy) (cst p) (cst q)) := by
  deriv_unfold [d_ix]
  rw [hsgn]
  generalize o.sin (lam + p) = s
  generalize o.cos (lam + p) = cc
  generalize o.sqrt (1 - h * h - k * k) = L
  generalize o.sqrt (o.fabs (4 - ix * ix - iy * iy)) = iz
  generalize o.sqrt (G * (m + M) / a) = S1
  deriv_finish

theorem c16_deriv_lambda_is_eps_partial (o : DOps K) (sgn : K → K) (G m M a lam k h ix iy p q : K)
    (hq : 1 - q ≠ 0) (hl : 2 - (1 - o.sqrt (1 - h * h - k * k)) ≠ 0) :
    d_lambda o G m M a lam k h ix iy p q
      = epsP7 (palMap (o.lift sgn) (cst G) (cst m) (cst M) (cst a) (var1 lam) (cst k) (cst h) (cst ix) (cst iy)
          ⟨p, q / (1 - q)⟩ ⟨q, -p / (1 - q)⟩) := by
  change palOut (F := K) _ _ _ _ _ _ _ _ = _
  rw [palMap_eq_palOut, epsP7_palOut _ _ _ _ _ _ _ _ (palIz_eps o sgn ix iy)]
  deriv_unfold [d_lambda]
  generalize o.sin (lam + p) = s
  generalize o.cos (lam + p) = cc
  generalize o.sqrt (1 - h * h - k * k) = L
  generalize o.sqrt (o.fabs (4 - ix * ix - iy * iy)) = iz
  generalize o.sqrt (G * (m + M) / a) = S1
  congr 1 <;> field_id

theorem c16_deriv_m_is_eps (o : DOps K) (sgn : K → K) (G m M a lam k h ix iy p q : K)
    (hS : o.sqrt (G / (a * (m + M))) * o.sqrt (G * (m + M) / a) = G / a) (hS1 : o.sqrt (G * (m + M) / a) ≠ 0) (ha : a ≠ 0) :
    d_m o G m M a lam k h ix iy p q
      = epsP7 (palMap (o.lift sgn) (cst G) (var1 m) (cst M) (cst a) (cst lam) (cst k) (cst h) (cst ix) (cst iy) (cst p) (cst q)) := by
  deriv_unfold [d_m]
  generalize o.sin (lam + p) = s
  generalize o.cos (lam + p) = cc
  generalize o.sqrt (1 - h * h - k * k) = L
  generalize o.sqrt (o.fabs (4 - ix * ix - iy * iy)) = iz
  generalize hS1' : o.sqrt (G * (m + M) / a) = S1 at *
  generalize hS2' : o.sqrt (G / (a * (m + M))) = S2 at *
  have e2 : S2 = G / (a * S1) := by field_simp; field_simp at hS; linear_combination hS
  subst e2
  deriv_finish

theorem c16_deriv_iy_is_eps (o : DOps K) (sgn : K → K) (G m M a lam k h ix iy p q : K)
    (hsgn : sgn (4 - ix * ix - iy * iy) = 1) :
    d_iy o G m M a lam k h ix iy p q
      = epsP7 (palMap (o.lift sgn) (cst G) (cst m) (cst M) (cst a) (cst lam) (cst k) (cst h) (cst ix) (var1 iy) (cst p) (cst q)) := by
  deriv_unfold [d_iy]
  rw [hsgn]
  generalize o.sin (lam + p) = s
  generalize o.cos (lam + p) = cc
  generalize o.sqrt (1 - h * h - k * k) = L
  generalize o.sqrt (o.fabs (4 - ix * ix - iy * iy)) = iz
  generalize o.sqrt (G * (m + M) / a) = S1
  deriv_finish

theorem c16_deriv_h_is_eps_partial (o : DOps K) (sgn : K → K) (G m M a lam k h ix iy p q : K)
    (hq : 1 - q ≠ 0) (hl : 2 - (1 - o.sqrt (1 - h * h - k * k)) ≠ 0) (hL : o.sqrt (1 - h * h - k * k) ≠ 0) :
    d_h o G m M a lam k h ix iy p q
      = epsP7 (palMap (o.lift sgn) (cst G) (cst m) (cst M) (cst a) (cst lam) (cst k) (var1 h) (cst ix) (cst iy)
          ⟨p, 1 / (1 - q) * (-o.cos (lam + p))⟩ ⟨q, 1 / (1 - q) * (o.sin (lam + p) - h)⟩) := by
  change palOut (F := K) _ _ _ _ _ _ _ _ = _
  rw [palMap_eq_palOut, epsP7_palOut _ _ _ _ _ _ _ _ (palIz_eps o sgn ix iy)]
  deriv_unfold [d_h]
  generalize o.sin (lam + p) = s
  generalize o.cos (lam + p) = cc
  generalize o.sqrt (1 - h * h - k * k) = L at *
  generalize o.sqrt (o.fabs (4 - ix * ix - iy * iy)) = iz
  generalize o.sqrt (G * (m + M) / a) = S1
  congr 1 <;> field_id

theorem c16_deriv_k_is_eps_partial (o : DOps K) (sgn : K → K) (G m M a lam k h ix iy p q : K)
    (hq : 1 - q ≠ 0) (hl : 2 - (1 - o.sqrt (1 - h * h - k * k)) ≠ 0) (hL : o.sqrt (1 - h * h - k * k) ≠ 0) :
    d_k o G m M a lam k h ix iy p q
      = epsP7 (palMap (o.lift sgn) (cst G) (cst m) (cst M) (cst a) (cst lam) (var1 k) (cst h) (cst ix) (cst iy)
          ⟨p, 1 / (1 - q) * o.sin (lam + p)⟩ ⟨q, 1 / (1 - q) * (o.cos (lam + p) - k)⟩) := by
  change palOut (F := K) _ _ _ _ _ _ _ _ = _
  rw [palMap_eq_palOut, epsP7_palOut _ _ _ _ _ _ _ _ (palIz_eps o sgn ix iy)]
  deriv_unfold [d_k]
  generalize o.sin (lam + p) = s
  generalize o.cos (lam + p) = cc
  generalize o.sqrt (1 - h * h - k * k) = L at *
  generalize o.sqrt (o.fabs (4 - ix * ix - iy * iy)) = iz
  generalize o.sqrt (G * (m + M) / a) = S1
  congr 1 <;> field_id

theorem c16_deriv_inc_is_eps (o : DOps K) (sgn : K → K) (G m M a e inc Om om f : K) :
    d_inc o G m M a e inc Om om f
      = epsP7 (orbMap (o.lift sgn) (cst G) (cst m) (cst M) (cst a) (cst e) (var1 inc) (cst Om) (cst om) (cst f)) := by
  deriv_unfold [d_inc]
  generalize o.sqrt (G * (m + M) / a / (1 - e * e)) = V0
  deriv_finish

theorem c16_deriv_Omega_is_eps (o : DOps K) (sgn : K → K) (G m M a e inc Om om f : K) :
    d_Omega o G m M a e inc Om om f
      = epsP7 (orbMap (o.lift sgn) (cst G) (cst m) (cst M) (cst a) (cst e) (cst inc) (var1 Om) (cst om) (cst f)) := by
  -- unfolded, the two sides are the same expression (so also for `omega` and for the second derivatives in Ω, ω alone)
  deriv_unfold [d_Omega]

theorem c16_deriv_omega_is_eps (o : DOps K) (sgn : K → K) (G m M a e inc Om om f : K) :
    d_omega o G m M a e inc Om om f
      = epsP7 (orbMap (o.lift sgn) (cst G) (cst m) (cst M) (cst a) (cst e) (cst inc) (cst Om) (var1 om) (cst f)) := by
  deriv_unfold [d_omega]

theorem c16_deriv_f_is_eps (o : DOps K) (sgn : K → K) (G m M a e inc Om om f : K)
    (hr : 1 + e * o.cos f ≠ 0) :
    d_f o G m M a e inc Om om f
      = epsP7 (orbMap (o.lift sgn) (cst G) (cst m) (cst M) (cst a) (cst e) (cst inc) (cst Om) (cst om) (var1 f)) := by
  deriv_unfold [d_f]
  generalize o.sqrt (G * (m + M) / a / (1 - e * e)) = V0
  deriv_finish

theorem c16_deriv_e_is_eps (o : DOps K) (sgn : K → K) (G m M a e inc Om om f : K)
    (hr : 1 + e * o.cos f ≠ 0) (he : 1 - e * e ≠ 0) (ha : a ≠ 0)
    (hA : o.sqrt (G * (m + M) / a) * o.sqrt (G * (m + M) / a) = G * (m + M) / a)
    (hE : o.sqrt (1 - e * e) * o.sqrt (1 - e * e) = 1 - e * e)
    (hV : o.sqrt (G * (m + M) / a / (1 - e * e)) * o.sqrt (1 - e * e) = o.sqrt (G * (m + M) / a))
    (hV0 : o.sqrt (G * (m + M) / a / (1 - e * e)) ≠ 0) :
    d_e o G m M a e inc Om om f
      = epsP7 (orbMap (o.lift sgn) (cst G) (cst m) (cst M) (cst a) (var1 e) (cst inc) (cst Om) (cst om) (cst f)) := by
  deriv_unfold [d_e]
  generalize G * (m + M) = μ at *
  generalize o.sqrt (μ / a / (1 - e * e)) = V0 at *
  generalize o.sqrt (μ / a) = A at *
  generalize o.sqrt (1 - e * e) = Eo at *
  have hEo : Eo ≠ 0 := by intro h0; rw [h0] at hE; simp at hE; exact he hE.symm
  have eA : A = V0 * Eo := hV.symm
  subst eA
  have eμ : μ = V0 * Eo * (V0 * Eo) * a := by field_simp at hA; linear_combination -hA
  subst eμ
  refine ⟨?_, ?_, ?_, ?_, ?_, ?_, ?_⟩
  · trivial
  · field_simp; ring1
  · field_simp; ring1
  · field_simp; ring1
  all_goals (rw [← hE]; field_simp; ring1)

theorem c16_deriv2_m_m_is_eps (o : DOps K) (sgn : K → K) (G m M a lam k h ix iy p q : K)
    (hq : 1 - q ≠ 0) (hl : 2 - (1 - o.sqrt (1 - h * h - k * k)) ≠ 0) (ha : a ≠ 0) (hm : m + M ≠ 0) (hS1 : o.sqrt (G * (m + M) / a) ≠ 0) (hS : o.sqrt (G * (m + M) / a) * o.sqrt (G * (m + M) / a) = G * (m + M) / a) (hSm : o.sqrt (G / (a * (m + M))) = o.sqrt (G * (m + M) / a) / (m + M)) (hSmm : o.sqrt (G / (a * (m + M) * (m + M) * (m + M))) = o.sqrt (G * (m + M) / a) / ((m + M) * (m + M))) :
    d_m_m o G m M a lam k h ix iy p q
      = epsP72 (palMap (lift2 o sgn) (c2 G) (v12 m) (c2 M) (c2 a) (c2 lam) (c2 k) (c2 h) (c2 ix) (c2 iy)
          ⟨⟨p, 0⟩, ⟨0, 0⟩⟩ ⟨⟨q, 0⟩, ⟨0, 0⟩⟩) := by
  refine (palOut_vel _ _ _ _ _).trans ?_
  deriv2_unfold [d_m_m]
  simp only [hSmm]
  generalize o.sqrt (1 - h * h - k * k) = L at *
  generalize o.sqrt (o.fabs (4 - ix * ix - iy * iy)) = iz at *
  generalize o.sqrt (G * (m + M) / a) = S1 at *
  generalize m + M = T at *
  obtain rfl := eq_of_sq_eq_div hm ha hS
  generalize 2 - (1 - L) = D at *
  generalize 1 - q = Q at *
  congr 1 <;> field_id

theorem c16_deriv2_m_a_is_eps (o : DOps K) (sgn : K → K) (G m M a lam k h ix iy p q : K)
    (hq : 1 - q ≠ 0) (hl : 2 - (1 - o.sqrt (1 - h * h - k * k)) ≠ 0) (ha : a ≠ 0) (hm : m + M ≠ 0) (hS1 : o.sqrt (G * (m + M) / a) ≠ 0) (hS : o.sqrt (G * (m + M) / a) * o.sqrt (G * (m + M) / a) = G * (m + M) / a) (hSm : o.sqrt (G / (a * (m + M))) = o.sqrt (G * (m + M) / a) / (m + M)) (hS3 : o.sqrt (G * (m + M) / (a * a * a)) = o.sqrt (G * (m + M) / a) / a) (hSma : o.sqrt (G / (a * a * a * (m + M))) = o.sqrt (G * (m + M) / a) / (a * (m + M))) :
    d_m_a o G m M a lam k h ix iy p q
      = epsP72 (palMap (lift2 o sgn) (c2 G) (v1 m) (c2 M) (v2 a) (c2 lam) (c2 k) (c2 h) (c2 ix) (c2 iy)
          ⟨⟨p, 0⟩, ⟨0, 0⟩⟩ ⟨⟨q, 0⟩, ⟨0, 0⟩⟩) := by
  refine (palOut_vel _ _ _ _ _).trans ?_
  deriv2_unfold [d_m_a]
  simp only [hSma]
  generalize o.sqrt (1 - h * h - k * k) = L at *
  generalize o.sqrt (o.fabs (4 - ix * ix - iy * iy)) = iz at *
  generalize o.sqrt (G * (m + M) / a) = S1 at *
  generalize m + M = T at *
  obtain rfl := eq_of_sq_eq_div hm ha hS
  generalize 2 - (1 - L) = D at *
  generalize 1 - q = Q at *
  congr 1 <;> field_id

theorem c16_deriv2_m_lambda_is_eps_partial (o : DOps K) (sgn : K → K) (G m M a lam k h ix iy p q : K)
    (hq : 1 - q ≠ 0) (hl : 2 - (1 - o.sqrt (1 - h * h - k * k)) ≠ 0) (ha : a ≠ 0) (hm : m + M ≠ 0) (hS1 : o.sqrt (G * (m + M) / a) ≠ 0) (hS : o.sqrt (G * (m + M) / a) * o.sqrt (G * (m + M) / a) = G * (m + M) / a) (hSm : o.sqrt (G / (a * (m + M))) = o.sqrt (G * (m + M) / a) / (m + M)) :
    d_m_lambda o G m M a lam k h ix iy p q
      = epsP72 (palMap (lift2 o sgn) (c2 G) (v1 m) (c2 M) (c2 a) (v2 lam) (c2 k) (c2 h) (c2 ix) (c2 iy)
          ⟨⟨p, 0⟩, ⟨q / (1 - q), 0⟩⟩ ⟨⟨q, 0⟩, ⟨-p / (1 - q), 0⟩⟩) := by
  refine (palOut_vel _ _ _ _ _).trans ?_
  deriv2_unfold [d_m_lambda]
  simp only [hSm]
  generalize o.sqrt (1 - h * h - k * k) = L at *
  generalize o.sqrt (o.fabs (4 - ix * ix - iy * iy)) = iz at *
  generalize o.sqrt (G * (m + M) / a) = S1 at *
  generalize m + M = T at *
  obtain rfl := eq_of_sq_eq_div hm ha hS
  generalize 2 - (1 - L) = D at *
  congr 1 <;> field_id

theorem c16_deriv2_m_h_is_eps_partial (o : DOps K) (sgn : K → K) (G m M a lam k h ix iy p q : K)
    (hq : 1 - q ≠ 0) (hl : 2 - (1 - o.sqrt (1 - h * h - k * k)) ≠ 0) (hL : o.sqrt (1 - h * h - k * k) ≠ 0) (ha : a ≠ 0) (hm : m + M ≠ 0) (hS1 : o.sqrt (G * (m + M) / a) ≠ 0) (hS : o.sqrt (G * (m + M) / a) * o.sqrt (G * (m + M) / a) = G * (m + M) / a) (hSm : o.sqrt (G / (a * (m + M))) = o.sqrt (G * (m + M) / a) / (m + M)) :
    d_m_h o G m M a lam k h ix iy p q
      = epsP72 (palMap (lift2 o sgn) (c2 G) (v1 m) (c2 M) (c2 a) (c2 lam) (c2 k) (v2 h) (c2 ix) (c2 iy)
          ⟨⟨p, 0⟩, ⟨1 / (1 - q) * (-o.cos (lam + p)), 0⟩⟩ ⟨⟨q, 0⟩, ⟨1 / (1 - q) * (o.sin (lam + p) - h), 0⟩⟩) := by
  refine (palOut_vel _ _ _ _ _).trans ?_
  deriv2_unfold [d_m_h]
  simp only [hSm]
  generalize o.sqrt (1 - h * h - k * k) = L at *
  generalize o.sqrt (o.fabs (4 - ix * ix - iy * iy)) = iz at *
  generalize o.sqrt (G * (m + M) / a) = S1 at *
  generalize m + M = T at *
  obtain rfl := eq_of_sq_eq_div hm ha hS
  generalize 2 - (1 - L) = D at *
  generalize 1 - q = Q at *
  congr 1 <;> field_id

theorem c16_deriv2_m_k_is_eps_partial (o : DOps K) (sgn : K → K) (G m M a lam k h ix iy p q : K)
    (hq : 1 - q ≠ 0) (hl : 2 - (1 - o.sqrt (1 - h * h - k * k)) ≠ 0) (hL : o.sqrt (1 - h * h - k * k) ≠ 0) (ha : a ≠ 0) (hm : m + M ≠ 0) (hS1 : o.sqrt (G * (m + M) / a) ≠ 0) (hS : o.sqrt (G * (m + M) / a) * o.sqrt (G * (m + M) / a) = G * (m + M) / a) (hSm : o.sqrt (G / (a * (m + M))) = o.sqrt (G * (m + M) / a) / (m + M)) :
    d_m_k o G m M a lam k h ix iy p q
      = epsP72 (palMap (lift2 o sgn) (c2 G) (v1 m) (c2 M) (c2 a) (c2 lam) (v2 k) (c2 h) (c2 ix) (c2 iy)
          ⟨⟨p, 0⟩, ⟨1 / (1 - q) * o.sin (lam + p), 0⟩⟩ ⟨⟨q, 0⟩, ⟨1 / (1 - q) * (o.cos (lam + p) - k), 0⟩⟩) := by
  refine (palOut_vel _ _ _ _ _).trans ?_
  deriv2_unfold [d_m_k]
  simp only [hSm]
  generalize o.sqrt (1 - h * h - k * k) = L at *
  generalize o.sqrt (o.fabs (4 - ix * ix - iy * iy)) = iz at *
  generalize o.sqrt (G * (m + M) / a) = S1 at *
  generalize m + M = T at *
  obtain rfl := eq_of_sq_eq_div hm ha hS
  generalize 2 - (1 - L) = D at *
  generalize 1 - q = Q at *
  congr 1 <;> field_id

theorem c16_deriv2_m_ix_is_eps (o : DOps K) (sgn : K → K) (G m M a lam k h ix iy p q : K)
    (hq : 1 - q ≠ 0) (hl : 2 - (1 - o.sqrt (1 - h * h - k * k)) ≠ 0) (hsgn : sgn (4 - ix * ix - iy * iy) = 1) (hiz : o.sqrt (o.fabs (4 - ix * ix - iy * iy)) ≠ 0) (ha : a ≠ 0) (hm : m + M ≠ 0) (hS1 : o.sqrt (G * (m + M) / a) ≠ 0) (hS : o.sqrt (G * (m + M) / a) * o.sqrt (G * (m + M) / a) = G * (m + M) / a) (hSm : o.sqrt (G / (a * (m + M))) = o.sqrt (G * (m + M) / a) / (m + M)) :
    d_m_ix o G m M a lam k h ix iy p q
      = epsP72 (palMap (lift2 o sgn) (c2 G) (v1 m) (c2 M) (c2 a) (c2 lam) (c2 k) (c2 h) (v2 ix) (c2 iy)
          ⟨⟨p, 0⟩, ⟨0, 0⟩⟩ ⟨⟨q, 0⟩, ⟨0, 0⟩⟩) := by
  deriv2_unfold [palOut, d_m_ix]
  rw [hsgn]
  simp only [hSm]
  generalize o.sqrt (1 - h * h - k * k) = L at *
  generalize o.sqrt (o.fabs (4 - ix * ix - iy * iy)) = iz at *
  generalize o.sqrt (G * (m + M) / a) = S1 at *
  generalize m + M = T at *
  obtain rfl := eq_of_sq_eq_div hm ha hS
  generalize 2 - (1 - L) = D at *
  generalize 1 - q = Q at *
  deriv_finish

theorem c16_deriv2_m_iy_is_eps (o : DOps K) (sgn : K → K) (G m M a lam k h ix iy p q : K)
    (hq : 1 - q ≠ 0) (hl : 2 - (1 - o.sqrt (1 - h * h - k * k)) ≠ 0) (hsgn : sgn (4 - ix * ix - iy * iy) = 1) (hiz : o.sqrt (o.fabs (4 - ix * ix - iy * iy)) ≠ 0) (ha : a ≠ 0) (hm : m + M ≠ 0) (hS1 : o.sqrt (G * (m + M) / a) ≠ 0) (hS : o.sqrt (G * (m + M) / a) * o.sqrt (G * (m + M) / a) = G * (m + M) / a) (hSm : o.sqrt (G / (a * (m + M))) = o.sqrt (G * (m + M) / a) / (m + M)) :
    d_m_iy o G m M a lam k h ix iy p q
      = epsP72 (palMap (lift2 o sgn) (c2 G) (v1 m) (c2 M) (c2 a) (c2 lam) (c2 k) (c2 h) (c2 ix) (v2 iy)
          ⟨⟨p, 0⟩, ⟨0, 0⟩⟩ ⟨⟨q, 0⟩, ⟨0, 0⟩⟩) := by
  deriv2_unfold [palOut, d_m_iy]
  rw [hsgn]
  simp only [hSm]
  generalize o.sqrt (1 - h * h - k * k) = L at *
  generalize o.sqrt (o.fabs (4 - ix * ix - iy * iy)) = iz at *
  generalize o.sqrt (G * (m + M) / a) = S1 at *
  generalize m + M = T at *
  obtain rfl := eq_of_sq_eq_div hm ha hS
  generalize 2 - (1 - L) = D at *
  generalize 1 - q = Q at *
  deriv_finish

theorem c16_deriv2_a_a_is_eps (o : DOps K) (sgn : K → K) (G m M a lam k h ix iy p q : K)
    (hq : 1 - q ≠ 0) (hl : 2 - (1 - o.sqrt (1 - h * h - k * k)) ≠ 0) (ha : a ≠ 0) (hm : m + M ≠ 0) (hS1 : o.sqrt (G * (m + M) / a) ≠ 0) (hS : o.sqrt (G * (m + M) / a) * o.sqrt (G * (m + M) / a) = G * (m + M) / a) (hS3 : o.sqrt (G * (m + M) / (a * a * a)) = o.sqrt (G * (m + M) / a) / a) (hS5 : o.sqrt (G * (m + M) / (a * a * a * a * a)) = o.sqrt (G * (m + M) / a) / (a * a)) :
    d_a_a o G m M a lam k h ix iy p q
      = epsP72 (palMap (lift2 o sgn) (c2 G) (c2 m) (c2 M) (v12 a) (c2 lam) (c2 k) (c2 h) (c2 ix) (c2 iy)
          ⟨⟨p, 0⟩, ⟨0, 0⟩⟩ ⟨⟨q, 0⟩, ⟨0, 0⟩⟩) := by
  -- the generated function ends with the rotation `palOut` of its derivatives of ξ, η, ξ', η': compare those (VarDeriv)
  change palOut (F := K) _ _ _ _ _ _ _ _ = _
  deriv2_unfold [d_a_a]
  simp only [hS5]
  generalize o.sqrt (1 - h * h - k * k) = L at *
  generalize o.sqrt (o.fabs (4 - ix * ix - iy * iy)) = iz at *
  generalize G * (m + M) = μ at *
  generalize o.sqrt (μ / a) = S1 at *
  obtain rfl := (div_eq_iff ha).mp hS.symm
  generalize 2 - (1 - L) = D at *
  generalize 1 - q = Q at *
  congr 1 <;> field_id

theorem c16_deriv2_a_lambda_is_eps_partial (o : DOps K) (sgn : K → K) (G m M a lam k h ix iy p q : K)
    (hq : 1 - q ≠ 0) (hl : 2 - (1 - o.sqrt (1 - h * h - k * k)) ≠ 0) (ha : a ≠ 0) (hm : m + M ≠ 0) (hS1 : o.sqrt (G * (m + M) / a) ≠ 0) (hS : o.sqrt (G * (m + M) / a) * o.sqrt (G * (m + M) / a) = G * (m + M) / a) (hS3 : o.sqrt (G * (m + M) / (a * a * a)) = o.sqrt (G * (m + M) / a) / a) :
    d_a_lambda o G m M a lam k h ix iy p q
      = epsP72 (palMap (lift2 o sgn) (c2 G) (c2 m) (c2 M) (v1 a) (v2 lam) (c2 k) (c2 h) (c2 ix) (c2 iy)
          ⟨⟨p, 0⟩, ⟨q / (1 - q), 0⟩⟩ ⟨⟨q, 0⟩, ⟨-p / (1 - q), 0⟩⟩) := by
  change palOut (F := K) _ _ _ _ _ _ _ _ = _
  deriv2_unfold [d_a_lambda]
  simp only [hS3]
  generalize o.sqrt (1 - h * h - k * k) = L at *
  generalize o.sqrt (o.fabs (4 - ix * ix - iy * iy)) = iz at *
  generalize G * (m + M) = μ at *
  generalize o.sqrt (μ / a) = S1 at *
  obtain rfl := (div_eq_iff ha).mp hS.symm
  generalize 2 - (1 - L) = D at *
  congr 1 <;> field_id

theorem c16_deriv2_a_h_is_eps_partial (o : DOps K) (sgn : K → K) (G m M a lam k h ix iy p q : K)
    (hq : 1 - q ≠ 0) (hl : 2 - (1 - o.sqrt (1 - h * h - k * k)) ≠ 0) (hL : o.sqrt (1 - h * h - k * k) ≠ 0) (ha : a ≠ 0) (hm : m + M ≠ 0) (hS1 : o.sqrt (G * (m + M) / a) ≠ 0) (hS : o.sqrt (G * (m + M) / a) * o.sqrt (G * (m + M) / a) = G * (m + M) / a) (hS3 : o.sqrt (G * (m + M) / (a * a * a)) = o.sqrt (G * (m + M) / a) / a) :
    d_a_h o G m M a lam k h ix iy p q
      = epsP72 (palMap (lift2 o sgn) (c2 G) (c2 m) (c2 M) (v1 a) (c2 lam) (c2 k) (v2 h) (c2 ix) (c2 iy)
          ⟨⟨p, 0⟩, ⟨1 / (1 - q) * (-o.cos (lam + p)), 0⟩⟩ ⟨⟨q, 0⟩, ⟨1 / (1 - q) * (o.sin (lam + p) - h), 0⟩⟩) := by
  change palOut (F := K) _ _ _ _ _ _ _ _ = _
  deriv2_unfold [d_a_h]
  simp only [hS3]
  generalize o.sqrt (1 - h * h - k * k) = L at *
  generalize o.sqrt (o.fabs (4 - ix * ix - iy * iy)) = iz at *
  generalize G * (m + M) = μ at *
  generalize o.sqrt (μ / a) = S1 at *
  obtain rfl := (div_eq_iff ha).mp hS.symm
  generalize 2 - (1 - L) = D at *
  generalize 1 - q = Q at *
  congr 1 <;> field_id

theorem c16_deriv2_a_k_is_eps_partial (o : DOps K) (sgn : K → K) (G m M a lam k h ix iy p q : K)
    (hq : 1 - q ≠ 0) (hl : 2 - (1 - o.sqrt (1 - h * h - k * k)) ≠ 0) (hL : o.sqrt (1 - h * h - k * k) ≠ 0) (ha : a ≠ 0) (hm : m + M ≠ 0) (hS1 : o.sqrt (G * (m + M) / a) ≠ 0) (hS : o.sqrt (G * (m + M) / a) * o.sqrt (G * (m + M) / a) = G * (m + M) / a) (hS3 : o.sqrt (G * (m + M) / (a * a * a)) = o.sqrt (G * (m + M) / a) / a) :
    d_a_k o G m M a lam k h ix iy p q
      = epsP72 (palMap (lift2 o sgn) (c2 G) (c2 m) (c2 M) (v1 a) (c2 lam) (v2 k) (c2 h) (c2 ix) (c2 iy)
          ⟨⟨p, 0⟩, ⟨1 / (1 - q) * o.sin (lam + p), 0⟩⟩ ⟨⟨q, 0⟩, ⟨1 / (1 - q) * (o.cos (lam + p) - k), 0⟩⟩) := by
  change palOut (F := K) _ _ _ _ _ _ _ _ = _
  deriv2_unfold [d_a_k]
  simp only [hS3]
  generalize o.sqrt (1 - h * h - k * k) = L at *
  generalize o.sqrt (o.fabs (4 - ix * ix - iy * iy)) = iz at *
  generalize G * (m + M) = μ at *
  generalize o.sqrt (μ / a) = S1 at *
  obtain rfl := (div_eq_iff ha).mp hS.symm
  generalize 2 - (1 - L) = D at *
  generalize 1 - q = Q at *
  congr 1 <;> field_id

theorem c16_deriv2_a_ix_is_eps (o : DOps K) (sgn : K → K) (G m M a lam k h ix iy p q : K)
    (hq : 1 - q ≠ 0) (hl : 2 - (1 - o.sqrt (1 - h * h - k * k)) ≠ 0) (hsgn : sgn (4 - ix * ix - iy * iy) = 1) (hiz : o.sqrt (o.fabs (4 - ix * ix - iy * iy)) ≠ 0) (ha : a ≠ 0) (hm : m + M ≠ 0) (hS1 : o.sqrt (G * (m + M) / a) ≠ 0) (hS : o.sqrt (G * (m + M) / a) * o.sqrt (G * (m + M) / a) = G * (m + M) / a) (hS3 : o.sqrt (G * (m + M) / (a * a * a)) = o.sqrt (G * (m + M) / a) / a) :
    d_a_ix o G m M a lam k h ix iy p q
      = epsP72 (palMap (lift2 o sgn) (c2 G) (c2 m) (c2 M) (v1 a) (c2 lam) (c2 k) (c2 h) (v2 ix) (c2 iy)
          ⟨⟨p, 0⟩, ⟨0, 0⟩⟩ ⟨⟨q, 0⟩, ⟨0, 0⟩⟩) := by
  deriv2_unfold [palOut, d_a_ix]
  rw [hsgn]
  simp only [hS3]
  generalize o.sqrt (1 - h * h - k * k) = L at *
  generalize o.sqrt (o.fabs (4 - ix * ix - iy * iy)) = iz at *
  generalize G * (m + M) = μ at *
  generalize o.sqrt (μ / a) = S1 at *
  obtain rfl := (div_eq_iff ha).mp hS.symm
  generalize 2 - (1 - L) = D at *
  generalize 1 - q = Q at *
  deriv_finish

theorem c16_deriv2_a_iy_is_eps (o : DOps K) (sgn : K → K) (G m M a lam k h ix iy p q : K)
    (hq : 1 - q ≠ 0) (hl : 2 - (1 - o.sqrt (1 - h * h - k * k)) ≠ 0) (hsgn : sgn (4 - ix * ix - iy * iy) = 1) (hiz : o.sqrt (o.fabs (4 - ix * ix - iy * iy)) ≠ 0) (ha : a ≠ 0) (hm : m + M ≠ 0) (hS1 : o.sqrt (G * (m + M) / a) ≠ 0) (hS : o.sqrt (G * (m + M) / a) * o.sqrt (G * (m + M) / a) = G * (m + M) / a) (hS3 : o.sqrt (G * (m + M) / (a * a * a)) = o.sqrt (G * (m + M) / a) / a) :
    d_a_iy o G m M a lam k h ix iy p q
      = epsP72 (palMap (lift2 o sgn) (c2 G) (c2 m) (c2 M) (v1 a) (c2 lam) (c2 k) (c2 h) (c2 ix) (v2 iy)
          ⟨⟨p, 0⟩, ⟨0, 0⟩⟩ ⟨⟨q, 0⟩, ⟨0, 0⟩⟩) := by
  deriv2_unfold [palOut, d_a_iy]
  rw [hsgn]
  simp only [hS3]
  generalize o.sqrt (1 - h * h - k * k) = L at *
  generalize o.sqrt (o.fabs (4 - ix * ix - iy * iy)) = iz at *
  generalize G * (m + M) = μ at *
  generalize o.sqrt (μ / a) = S1 at *
  obtain rfl := (div_eq_iff ha).mp hS.symm
  generalize 2 - (1 - L) = D at *
  generalize 1 - q = Q at *
  deriv_finish

theorem c16_deriv2_lambda_lambda_is_eps_partial (o : DOps K) (sgn : K → K) (G m M a lam k h ix iy p q : K)
    (hq : 1 - q ≠ 0) (hl : 2 - (1 - o.sqrt (1 - h * h - k * k)) ≠ 0) :
    d_lambda_lambda o G m M a lam k h ix iy p q
      = epsP72 (palMap (lift2 o sgn) (c2 G) (c2 m) (c2 M) (c2 a) (v12 lam) (c2 k) (c2 h) (c2 ix) (c2 iy)
          ⟨⟨p, q / (1 - q)⟩, ⟨q / (1 - q), (pq2_lambda_lambda o G m M a lam k h ix iy p q).1⟩⟩ ⟨⟨q, -p / (1 - q)⟩, ⟨-p / (1 - q), (pq2_lambda_lambda o G m M a lam k h ix iy p q).2⟩⟩) := by
  change palOut (F := K) _ _ _ _ _ _ _ _ = _
  deriv2_unfold [d_lambda_lambda, pq2_lambda_lambda]
  generalize o.sqrt (1 - h * h - k * k) = L at *
  generalize o.sqrt (o.fabs (4 - ix * ix - iy * iy)) = iz at *
  generalize o.sqrt (G * (m + M) / a) = S1 at *
  generalize 2 - (1 - L) = D at *
  congr 1 <;> field_id

theorem c16_deriv2_lambda_ix_is_eps_partial (o : DOps K) (sgn : K → K) (G m M a lam k h ix iy p q : K)
    (hq : 1 - q ≠ 0) (hl : 2 - (1 - o.sqrt (1 - h * h - k * k)) ≠ 0) (hsgn : sgn (4 - ix * ix - iy * iy) = 1) (hiz : o.sqrt (o.fabs (4 - ix * ix - iy * iy)) ≠ 0) :
    d_lambda_ix o G m M a lam k h ix iy p q
      = epsP72 (palMap (lift2 o sgn) (c2 G) (c2 m) (c2 M) (c2 a) (v1 lam) (c2 k) (c2 h) (v2 ix) (c2 iy)
          ⟨⟨p, q / (1 - q)⟩, ⟨0, 0⟩⟩ ⟨⟨q, -p / (1 - q)⟩, ⟨0, 0⟩⟩) := by
  deriv2_unfold [palOut, d_lambda_ix]
  rw [hsgn]
  generalize o.sqrt (1 - h * h - k * k) = L at *
  generalize o.sqrt (o.fabs (4 - ix * ix - iy * iy)) = iz at *
  generalize o.sqrt (G * (m + M) / a) = S1 at *
  generalize 2 - (1 - L) = D at *
  deriv_finish

theorem c16_deriv2_lambda_iy_is_eps_partial (o : DOps K) (sgn : K → K) (G m M a lam k h ix iy p q : K)
    (hq : 1 - q ≠ 0) (hl : 2 - (1 - o.sqrt (1 - h * h - k * k)) ≠ 0) (hsgn : sgn (4 - ix * ix - iy * iy) = 1) (hiz : o.sqrt (o.fabs (4 - ix * ix - iy * iy)) ≠ 0) :
    d_lambda_iy o G m M a lam k h ix iy p q
      = epsP72 (palMap (lift2 o sgn) (c2 G) (c2 m) (c2 M) (c2 a) (v1 lam) (c2 k) (c2 h) (c2 ix) (v2 iy)
          ⟨⟨p, q / (1 - q)⟩, ⟨0, 0⟩⟩ ⟨⟨q, -p / (1 - q)⟩, ⟨0, 0⟩⟩) := by
  deriv2_unfold [palOut, d_lambda_iy]
  rw [hsgn]
  generalize o.sqrt (1 - h * h - k * k) = L at *
  generalize o.sqrt (o.fabs (4 - ix * ix - iy * iy)) = iz at *
  generalize o.sqrt (G * (m + M) / a) = S1 at *
  generalize 2 - (1 - L) = D at *
  deriv_finish

theorem c16_deriv2_h_ix_is_eps_partial (o : DOps K) (sgn : K → K) (G m M a lam k h ix iy p q : K)
    (hq : 1 - q ≠ 0) (hl : 2 - (1 - o.sqrt (1 - h * h - k * k)) ≠ 0) (hL : o.sqrt (1 - h * h - k * k) ≠ 0) (hsgn : sgn (4 - ix * ix - iy * iy) = 1) (hiz : o.sqrt (o.fabs (4 - ix * ix - iy * iy)) ≠ 0) :
    d_h_ix o G m M a lam k h ix iy p q
      = epsP72 (palMap (lift2 o sgn) (c2 G) (c2 m) (c2 M) (c2 a) (c2 lam) (c2 k) (v1 h) (v2 ix) (c2 iy)
          ⟨⟨p, 1 / (1 - q) * (-o.cos (lam + p))⟩, ⟨0, 0⟩⟩ ⟨⟨q, 1 / (1 - q) * (o.sin (lam + p) - h)⟩, ⟨0, 0⟩⟩) := by
  deriv2_unfold [palOut, d_h_ix]
  rw [hsgn]
  generalize o.sqrt (1 - h * h - k * k) = L at *
  generalize o.sqrt (o.fabs (4 - ix * ix - iy * iy)) = iz at *
  generalize o.sqrt (G * (m + M) / a) = S1 at *
  generalize 2 - (1 - L) = D at *
  generalize 1 - q = Q at *
  deriv_finish

theorem c16_deriv2_h_iy_is_eps_partial (o : DOps K) (sgn : K → K) (G m M a lam k h ix iy p q : K)
    (hq : 1 - q ≠ 0) (hl : 2 - (1 - o.sqrt (1 - h * h - k * k)) ≠ 0) (hL : o.sqrt (1 - h * h - k * k) ≠ 0) (hsgn : sgn (4 - ix * ix - iy * iy) = 1) (hiz : o.sqrt (o.fabs (4 - ix * ix - iy * iy)) ≠ 0) :
    d_h_iy o G m M a lam k h ix iy p q
      = epsP72 (palMap (lift2 o sgn) (c2 G) (c2 m) (c2 M) (c2 a) (c2 lam) (c2 k) (v1 h) (c2 ix) (v2 iy)
          ⟨⟨p, 1 / (1 - q) * (-o.cos (lam + p))⟩, ⟨0, 0⟩⟩ ⟨⟨q, 1 / (1 - q) * (o.sin (lam + p) - h)⟩, ⟨0, 0⟩⟩) := by
  deriv2_unfold [palOut, d_h_iy]
  rw [hsgn]
  generalize o.sqrt (1 - h * h - k * k) = L at *
  generalize o.sqrt (o.fabs (4 - ix * ix - iy * iy)) = iz at *
  generalize o.sqrt (G * (m + M) / a) = S1 at *
  generalize 2 - (1 - L) = D at *
  generalize 1 - q = Q at *
  deriv_finish

theorem c16_deriv2_k_ix_is_eps_partial (o : DOps K) (sgn : K → K) (G m M a lam k h ix iy p q : K)
    (hq : 1 - q ≠ 0) (hl : 2 - (1 - o.sqrt (1 - h * h - k * k)) ≠ 0) (hL : o.sqrt (1 - h * h - k * k) ≠ 0) (hsgn : sgn (4 - ix * ix - iy * iy) = 1) (hiz : o.sqrt (o.fabs (4 - ix * ix - iy * iy)) ≠ 0) :
    d_k_ix o G m M a lam k h ix iy p q
      = epsP72 (palMap (lift2 o sgn) (c2 G) (c2 m) (c2 M) (c2 a) (c2 lam) (v1 k) (c2 h) (v2 ix) (c2 iy)
          ⟨⟨p, 1 / (1 - q) * o.sin (lam + p)⟩, ⟨0, 0⟩⟩ ⟨⟨q, 1 / (1 - q) * (o.cos (lam + p) - k)⟩, ⟨0, 0⟩⟩) := by
  deriv2_unfold [palOut, d_k_ix]
  rw [hsgn]
  generalize o.sqrt (1 - h * h - k * k) = L at *
  generalize o.sqrt (o.fabs (4 - ix * ix - iy * iy)) = iz at *
  generalize o.sqrt (G * (m + M) / a) = S1 at *
  generalize 2 - (1 - L) = D at *
  generalize 1 - q = Q at *
  deriv_finish

theorem c16_deriv2_k_iy_is_eps_partial (o : DOps K) (sgn : K → K) (G m M a lam k h ix iy p q : K)
    (hq : 1 - q ≠ 0) (hl : 2 - (1 - o.sqrt (1 - h * h - k * k)) ≠ 0) (hL : o.sqrt (1 - h * h - k * k) ≠ 0) (hsgn : sgn (4 - ix * ix - iy * iy) = 1) (hiz : o.sqrt (o.fabs (4 - ix * ix - iy * iy)) ≠ 0) :
    d_k_iy o G m M a lam k h ix iy p q
      = epsP72 (palMap (lift2 o sgn) (c2 G) (c2 m) (c2 M) (c2 a) (c2 lam) (v1 k) (c2 h) (c2 ix) (v2 iy)
          ⟨⟨p, 1 / (1 - q) * o.sin (lam + p)⟩, ⟨0, 0⟩⟩ ⟨⟨q, 1 / (1 - q) * (o.cos (lam + p) - k)⟩, ⟨0, 0⟩⟩) := by
  deriv2_unfold [palOut, d_k_iy]
  rw [hsgn]
  generalize o.sqrt (1 - h * h - k * k) = L at *
  generalize o.sqrt (o.fabs (4 - ix * ix - iy * iy)) = iz at *
  generalize o.sqrt (G * (m + M) / a) = S1 at *
  generalize 2 - (1 - L) = D at *
  generalize 1 - q = Q at *
  deriv_finish

theorem c16_deriv2_ix_ix_is_eps (o : DOps K) (sgn : K → K) (G m M a lam k h ix iy p q : K)
    (hq : 1 - q ≠ 0) (hl : 2 - (1 - o.sqrt (1 - h * h - k * k)) ≠ 0) (hsgn : sgn (4 - ix * ix - iy * iy) = 1) (hiz : o.sqrt (o.fabs (4 - ix * ix - iy * iy)) ≠ 0) (habs : o.fabs (4 - ix * ix - iy * iy) = 4 - ix * ix - iy * iy) (hz2 : o.sqrt (4 - ix * ix - iy * iy) * o.sqrt (4 - ix * ix - iy * iy) = 4 - ix * ix - iy * iy) :
    d_ix_ix o G m M a lam k h ix iy p q
      = epsP72 (palMap (lift2 o sgn) (c2 G) (c2 m) (c2 M) (c2 a) (c2 lam) (c2 k) (c2 h) (v12 ix) (c2 iy)
          ⟨⟨p, 0⟩, ⟨0, 0⟩⟩ ⟨⟨q, 0⟩, ⟨0, 0⟩⟩) := by
  deriv2_unfold [palOut, d_ix_ix]
  rw [hsgn]
  simp only [habs] at *
  generalize o.sqrt (1 - h * h - k * k) = L at *
  generalize o.sqrt (4 - ix * ix - iy * iy) = iz at *
  generalize o.sqrt (G * (m + M) / a) = S1 at *
  generalize 2 - (1 - L) = D at *
  generalize 1 - q = Q at *
  deriv_finish

theorem c16_deriv2_ix_iy_is_eps (o : DOps K) (sgn : K → K) (G m M a lam k h ix iy p q : K)
    (hq : 1 - q ≠ 0) (hl : 2 - (1 - o.sqrt (1 - h * h - k * k)) ≠ 0) (hsgn : sgn (4 - ix * ix - iy * iy) = 1) (hiz : o.sqrt (o.fabs (4 - ix * ix - iy * iy)) ≠ 0) (habs : o.fabs (4 - ix * ix - iy * iy) = 4 - ix * ix - iy * iy) (hz2 : o.sqrt (4 - ix * ix - iy * iy) * o.sqrt (4 - ix * ix - iy * iy) = 4 - ix * ix - iy * iy) :
    d_ix_iy o G m M a lam k h ix iy p q
      = epsP72 (palMap (lift2 o sgn) (c2 G) (c2 m) (c2 M) (c2 a) (c2 lam) (c2 k) (c2 h) (v1 ix) (v2 iy)
          ⟨⟨p, 0⟩, ⟨0, 0⟩⟩ ⟨⟨q, 0⟩, ⟨0, 0⟩⟩) := by
  deriv2_unfold [palOut, d_ix_iy]
  rw [hsgn]
  simp only [habs] at *
  generalize o.sqrt (1 - h * h - k * k) = L at *
  generalize o.sqrt (4 - ix * ix - iy * iy) = iz at *
  generalize o.sqrt (G * (m + M) / a) = S1 at *
  generalize 2 - (1 - L) = D at *
  generalize 1 - q = Q at *
  deriv_finish

theorem c16_deriv2_iy_iy_is_eps (o : DOps K) (sgn : K → K) (G m M a lam k h ix iy p q : K)
    (hq : 1 - q ≠ 0) (hl : 2 - (1 - o.sqrt (1 - h * h - k * k)) ≠ 0) (hsgn : sgn (4 - ix * ix - iy * iy) = 1) (hiz : o.sqrt (o.fabs (4 - ix * ix - iy * iy)) ≠ 0) (habs : o.fabs (4 - ix * ix - iy * iy) = 4 - ix * ix - iy * iy) (hz2 : o.sqrt (4 - ix * ix - iy * iy) * o.sqrt (4 - ix * ix - iy * iy) = 4 - ix * ix - iy * iy) :
    d_iy_iy o G m M a lam k h ix iy p q
      = epsP72 (palMap (lift2 o sgn) (c2 G) (c2 m) (c2 M) (c2 a) (c2 lam) (c2 k) (c2 h) (c2 ix) (v12 iy)
          ⟨⟨p, 0⟩, ⟨0, 0⟩⟩ ⟨⟨q, 0⟩, ⟨0, 0⟩⟩) := by
  deriv2_unfold [palOut, d_iy_iy]
  rw [hsgn]
  simp only [habs] at *
  generalize o.sqrt (1 - h * h - k * k) = L at *
  generalize o.sqrt (4 - ix * ix - iy * iy) = iz at *
  generalize o.sqrt (G * (m + M) / a) = S1 at *
  generalize 2 - (1 - L) = D at *
  generalize 1 - q = Q at *
  deriv_finish

theorem c16_deriv2_m_e_is_eps (o : DOps K) (sgn : K → K) (G m M a e inc Om om f : K)
    (hr : 1 + e * o.cos f ≠ 0) (he : 1 - e * e ≠ 0) (ha : a ≠ 0) (hm : m + M ≠ 0) (hV0 : o.sqrt (G * (m + M) / a / (1 - e * e)) ≠ 0) (hV2 : o.sqrt (G * (m + M) / a / (1 - e * e)) * o.sqrt (G * (m + M) / a / (1 - e * e)) = G * (m + M) / a / (1 - e * e)) (hE : o.sqrt (1 - e * e) * o.sqrt (1 - e * e) = 1 - e * e) (hA : o.sqrt (G * (m + M) / a) = o.sqrt (G * (m + M) / a / (1 - e * e)) * o.sqrt (1 - e * e)) :
    d_m_e o G m M a e inc Om om f
      = epsP72 (orbMap (lift2 o sgn) (c2 G) (v1 m) (c2 M) (c2 a) (v2 e) (c2 inc) (c2 Om) (c2 om) (c2 f)) := by
  deriv2_unfold [d_m_e]
  simp only [hA]
  generalize m + M = T at *
  generalize o.sqrt (G * T / a / (1 - e * e)) = V0 at *
  generalize o.sqrt (1 - e * e) = Eo at *
  have he' : (1:K) - e ^ 2 ≠ 0 := by rw [sq]; exact he
  have hEo : Eo ≠ 0 := by intro h0; rw [h0] at hE; simp at hE; exact he hE.symm
  rw [← hE] at hV2
  obtain rfl := eq_of_sq_eq_div₂ hm ha (mul_ne_zero hEo hEo) hV2
  refine ⟨trivial, ?_, ?_, ?_, ?_, ?_, ?_⟩
  iterate 3 field_id
  all_goals first | trivial | (rw [← hE]; field_id)

theorem c16_deriv2_m_inc_is_eps (o : DOps K) (sgn : K → K) (G m M a e inc Om om f : K)
    (hr : 1 + e * o.cos f ≠ 0) (he : 1 - e * e ≠ 0) (ha : a ≠ 0) (hm : m + M ≠ 0) (hV0 : o.sqrt (G * (m + M) / a / (1 - e * e)) ≠ 0) (hV2 : o.sqrt (G * (m + M) / a / (1 - e * e)) * o.sqrt (G * (m + M) / a / (1 - e * e)) = G * (m + M) / a / (1 - e * e)) (hTm : o.sqrt (m + M) ≠ 0) (hZ : o.sqrt (G / a / (1 - e * e)) = o.sqrt (G * (m + M) / a / (1 - e * e)) / (m + M) * o.sqrt (m + M)) :
    d_m_inc o G m M a e inc Om om f
      = epsP72 (orbMap (lift2 o sgn) (c2 G) (v1 m) (c2 M) (c2 a) (c2 e) (v2 inc) (c2 Om) (c2 om) (c2 f)) := by
  deriv2_unfold [d_m_inc]
  simp only [hZ]
  generalize m + M = T at *
  generalize o.sqrt (G * T / a / (1 - e * e)) = V0 at *
  generalize o.sqrt T = Tm at *
  have he' : (1:K) - e ^ 2 ≠ 0 := by rw [sq]; exact he
  obtain rfl := eq_of_sq_eq_div₂ hm ha he hV2
  deriv_finish

theorem c16_deriv2_m_Omega_is_eps (o : DOps K) (sgn : K → K) (G m M a e inc Om om f : K)
    (hr : 1 + e * o.cos f ≠ 0) (he : 1 - e * e ≠ 0) (ha : a ≠ 0) (hm : m + M ≠ 0) (hV0 : o.sqrt (G * (m + M) / a / (1 - e * e)) ≠ 0) (hV2 : o.sqrt (G * (m + M) / a / (1 - e * e)) * o.sqrt (G * (m + M) / a / (1 - e * e)) = G * (m + M) / a / (1 - e * e)) (hTm : o.sqrt (m + M) ≠ 0) (hZ : o.sqrt (G / a / (1 - e * e)) = o.sqrt (G * (m + M) / a / (1 - e * e)) / (m + M) * o.sqrt (m + M)) :
    d_m_Omega o G m M a e inc Om om f
      = epsP72 (orbMap (lift2 o sgn) (c2 G) (v1 m) (c2 M) (c2 a) (c2 e) (c2 inc) (v2 Om) (c2 om) (c2 f)) := by
  deriv2_unfold [d_m_Omega]
  simp only [hZ]
  generalize m + M = T at *
  generalize o.sqrt (G * T / a / (1 - e * e)) = V0 at *
  generalize o.sqrt T = Tm at *
  have he' : (1:K) - e ^ 2 ≠ 0 := by rw [sq]; exact he
  obtain rfl := eq_of_sq_eq_div₂ hm ha he hV2
  deriv_finish

theorem c16_deriv2_m_omega_is_eps (o : DOps K) (sgn : K → K) (G m M a e inc Om om f : K)
    (hr : 1 + e * o.cos f ≠ 0) (he : 1 - e * e ≠ 0) (ha : a ≠ 0) (hm : m + M ≠ 0) (hV0 : o.sqrt (G * (m + M) / a / (1 - e * e)) ≠ 0) (hV2 : o.sqrt (G * (m + M) / a / (1 - e * e)) * o.sqrt (G * (m + M) / a / (1 - e * e)) = G * (m + M) / a / (1 - e * e)) (hTm : o.sqrt (m + M) ≠ 0) (hZ : o.sqrt (G / a / (1 - e * e)) = o.sqrt (G * (m + M) / a / (1 - e * e)) / (m + M) * o.sqrt (m + M)) :
    d_m_omega o G m M a e inc Om om f
      = epsP72 (orbMap (lift2 o sgn) (c2 G) (v1 m) (c2 M) (c2 a) (c2 e) (c2 inc) (c2 Om) (v2 om) (c2 f)) := by
  deriv2_unfold [d_m_omega]
  simp only [hZ]
  generalize m + M = T at *
  generalize o.sqrt (G * T / a / (1 - e * e)) = V0 at *
  generalize o.sqrt T = Tm at *
  have he' : (1:K) - e ^ 2 ≠ 0 := by rw [sq]; exact he
  obtain rfl := eq_of_sq_eq_div₂ hm ha he hV2
  deriv_finish

theorem c16_deriv2_m_f_is_eps (o : DOps K) (sgn : K → K) (G m M a e inc Om om f : K)
    (hr : 1 + e * o.cos f ≠ 0) (he : 1 - e * e ≠ 0) (ha : a ≠ 0) (hm : m + M ≠ 0) (hV0 : o.sqrt (G * (m + M) / a / (1 - e * e)) ≠ 0) (hV2 : o.sqrt (G * (m + M) / a / (1 - e * e)) * o.sqrt (G * (m + M) / a / (1 - e * e)) = G * (m + M) / a / (1 - e * e)) (hTm : o.sqrt (m + M) ≠ 0) (hZ : o.sqrt (G / a / (1 - e * e)) = o.sqrt (G * (m + M) / a / (1 - e * e)) / (m + M) * o.sqrt (m + M)) :
    d_m_f o G m M a e inc Om om f
      = epsP72 (orbMap (lift2 o sgn) (c2 G) (v1 m) (c2 M) (c2 a) (c2 e) (c2 inc) (c2 Om) (c2 om) (v2 f)) := by
  deriv2_unfold [d_m_f]
  simp only [hZ]
  generalize m + M = T at *
  generalize o.sqrt (G * T / a / (1 - e * e)) = V0 at *
  generalize o.sqrt T = Tm at *
  have he' : (1:K) - e ^ 2 ≠ 0 := by rw [sq]; exact he
  obtain rfl := eq_of_sq_eq_div₂ hm ha he hV2
  deriv_finish

theorem c16_deriv2_a_e_is_eps (o : DOps K) (sgn : K → K) (G m M a e inc Om om f : K)
    (hr : 1 + e * o.cos f ≠ 0) (he : 1 - e * e ≠ 0) (ha : a ≠ 0) (hm : m + M ≠ 0) (hV0 : o.sqrt (G * (m + M) / a / (1 - e * e)) ≠ 0) (hV2 : o.sqrt (G * (m + M) / a / (1 - e * e)) * o.sqrt (G * (m + M) / a / (1 - e * e)) = G * (m + M) / a / (1 - e * e)) (hE : o.sqrt (1 - e * e) * o.sqrt (1 - e * e) = 1 - e * e) (hA : o.sqrt (G * (m + M) / a) = o.sqrt (G * (m + M) / a / (1 - e * e)) * o.sqrt (1 - e * e)) :
    d_a_e o G m M a e inc Om om f
      = epsP72 (orbMap (lift2 o sgn) (c2 G) (c2 m) (c2 M) (v1 a) (v2 e) (c2 inc) (c2 Om) (c2 om) (c2 f)) := by
  deriv2_unfold [d_a_e]
  generalize m + M = T at *
  generalize o.sqrt (G * T / a / (1 - e * e)) = V0 at *
  generalize o.sqrt (1 - e * e) = Eo at *
  have he' : (1:K) - e ^ 2 ≠ 0 := by rw [sq]; exact he
  have hEo : Eo ≠ 0 := by intro h0; rw [h0] at hE; simp at hE; exact he hE.symm
  rw [← hE] at hV2
  obtain rfl := eq_of_sq_eq_div₂ hm ha (mul_ne_zero hEo hEo) hV2
  refine ⟨trivial, ?_, ?_, ?_, ?_, ?_, ?_⟩
  iterate 3 field_id
  all_goals first | trivial | (rw [← hE]; field_id)

theorem c16_deriv2_a_inc_is_eps (o : DOps K) (sgn : K → K) (G m M a e inc Om om f : K)
    (hr : 1 + e * o.cos f ≠ 0) (he : 1 - e * e ≠ 0) (ha : a ≠ 0) (hm : m + M ≠ 0) (hV0 : o.sqrt (G * (m + M) / a / (1 - e * e)) ≠ 0) (hV2 : o.sqrt (G * (m + M) / a / (1 - e * e)) * o.sqrt (G * (m + M) / a / (1 - e * e)) = G * (m + M) / a / (1 - e * e)) (hA3 : o.sqrt (a * a * a) ≠ 0) (hY : o.sqrt (G * (m + M) / (1 - e * e)) = o.sqrt (G * (m + M) / a / (1 - e * e)) / a * o.sqrt (a * a * a)) :
    d_a_inc o G m M a e inc Om om f
      = epsP72 (orbMap (lift2 o sgn) (c2 G) (c2 m) (c2 M) (v1 a) (c2 e) (v2 inc) (c2 Om) (c2 om) (c2 f)) := by
  deriv2_unfold [d_a_inc]
  simp only [hY]
  generalize m + M = T at *
  generalize o.sqrt (G * T / a / (1 - e * e)) = V0 at *
  generalize o.sqrt (a * a * a) = A3 at *
  have he' : (1:K) - e ^ 2 ≠ 0 := by rw [sq]; exact he
  obtain rfl := eq_of_sq_eq_div₂ hm ha he hV2
  deriv_finish

theorem c16_deriv2_a_Omega_is_eps (o : DOps K) (sgn : K → K) (G m M a e inc Om om f : K)
    (hr : 1 + e * o.cos f ≠ 0) (he : 1 - e * e ≠ 0) (ha : a ≠ 0) (hm : m + M ≠ 0) (hV0 : o.sqrt (G * (m + M) / a / (1 - e * e)) ≠ 0) (hV2 : o.sqrt (G * (m + M) / a / (1 - e * e)) * o.sqrt (G * (m + M) / a / (1 - e * e)) = G * (m + M) / a / (1 - e * e)) (hA3 : o.sqrt (a * a * a) ≠ 0) (hY : o.sqrt (G * (m + M) / (1 - e * e)) = o.sqrt (G * (m + M) / a / (1 - e * e)) / a * o.sqrt (a * a * a)) :
    d_a_Omega o G m M a e inc Om om f
      = epsP72 (orbMap (lift2 o sgn) (c2 G) (c2 m) (c2 M) (v1 a) (c2 e) (c2 inc) (v2 Om) (c2 om) (c2 f)) := by
  deriv2_unfold [d_a_Omega]
  simp only [hY]
  generalize m + M = T at *
  generalize o.sqrt (G * T / a / (1 - e * e)) = V0 at *
  generalize o.sqrt (a * a * a) = A3 at *
  have he' : (1:K) - e ^ 2 ≠ 0 := by rw [sq]; exact he
  obtain rfl := eq_of_sq_eq_div₂ hm ha he hV2
  deriv_finish

theorem c16_deriv2_a_omega_is_eps (o : DOps K) (sgn : K → K) (G m M a e inc Om om f : K)
    (hr : 1 + e * o.cos f ≠ 0) (he : 1 - e * e ≠ 0) (ha : a ≠ 0) (hm : m + M ≠ 0) (hV0 : o.sqrt (G * (m + M) / a / (1 - e * e)) ≠ 0) (hV2 : o.sqrt (G * (m + M) / a / (1 - e * e)) * o.sqrt (G * (m + M) / a / (1 - e * e)) = G * (m + M) / a / (1 - e * e)) (hA3 : o.sqrt (a * a * a) ≠ 0) (hY : o.sqrt (G * (m + M) / (1 - e * e)) = o.sqrt (G * (m + M) / a / (1 - e * e)) / a * o.sqrt (a * a * a)) :
    d_a_omega o G m M a e inc Om om f
      = epsP72 (orbMap (lift2 o sgn) (c2 G) (c2 m) (c2 M) (v1 a) (c2 e) (c2 inc) (c2 Om) (v2 om) (c2 f)) := by
  deriv2_unfold [d_a_omega]
  simp only [hY]
  generalize m + M = T at *
  generalize o.sqrt (G * T / a / (1 - e * e)) = V0 at *
  generalize o.sqrt (a * a * a) = A3 at *
  have he' : (1:K) - e ^ 2 ≠ 0 := by rw [sq]; exact he
  obtain rfl := eq_of_sq_eq_div₂ hm ha he hV2
  deriv_finish

theorem c16_deriv2_a_f_is_eps (o : DOps K) (sgn : K → K) (G m M a e inc Om om f : K)
    (hr : 1 + e * o.cos f ≠ 0) (he : 1 - e * e ≠ 0) (ha : a ≠ 0) (hm : m + M ≠ 0) (hV0 : o.sqrt (G * (m + M) / a / (1 - e * e)) ≠ 0) (hV2 : o.sqrt (G * (m + M) / a / (1 - e * e)) * o.sqrt (G * (m + M) / a / (1 - e * e)) = G * (m + M) / a / (1 - e * e)) (hA3 : o.sqrt (a * a * a) ≠ 0) (hY : o.sqrt (G * (m + M) / (1 - e * e)) = o.sqrt (G * (m + M) / a / (1 - e * e)) / a * o.sqrt (a * a * a)) :
    d_a_f o G m M a e inc Om om f
      = epsP72 (orbMap (lift2 o sgn) (c2 G) (c2 m) (c2 M) (v1 a) (c2 e) (c2 inc) (c2 Om) (c2 om) (v2 f)) := by
  deriv2_unfold [d_a_f]
  simp only [hY]
  generalize m + M = T at *
  generalize o.sqrt (G * T / a / (1 - e * e)) = V0 at *
  generalize o.sqrt (a * a * a) = A3 at *
  have he' : (1:K) - e ^ 2 ≠ 0 := by rw [sq]; exact he
  obtain rfl := eq_of_sq_eq_div₂ hm ha he hV2
  deriv_finish

theorem c16_deriv2_e_inc_is_eps (o : DOps K) (sgn : K → K) (G m M a e inc Om om f : K)
    (hr : 1 + e * o.cos f ≠ 0) (he : 1 - e * e ≠ 0) (ha : a ≠ 0) (hm : m + M ≠ 0) (hV0 : o.sqrt (G * (m + M) / a / (1 - e * e)) ≠ 0) (hV2 : o.sqrt (G * (m + M) / a / (1 - e * e)) * o.sqrt (G * (m + M) / a / (1 - e * e)) = G * (m + M) / a / (1 - e * e)) (hE : o.sqrt (1 - e * e) * o.sqrt (1 - e * e) = 1 - e * e) (hA : o.sqrt (G * (m + M) / a) = o.sqrt (G * (m + M) / a / (1 - e * e)) * o.sqrt (1 - e * e)) :
    d_e_inc o G m M a e inc Om om f
      = epsP72 (orbMap (lift2 o sgn) (c2 G) (c2 m) (c2 M) (c2 a) (v1 e) (v2 inc) (c2 Om) (c2 om) (c2 f)) := by
  deriv2_unfold [d_e_inc]
  simp only [hA]
  generalize m + M = T at *
  generalize o.sqrt (G * T / a / (1 - e * e)) = V0 at *
  generalize o.sqrt (1 - e * e) = Eo at *
  have he' : (1:K) - e ^ 2 ≠ 0 := by rw [sq]; exact he
  have hEo : Eo ≠ 0 := by intro h0; rw [h0] at hE; simp at hE; exact he hE.symm
  rw [← hE] at hV2
  obtain rfl := eq_of_sq_eq_div₂ hm ha (mul_ne_zero hEo hEo) hV2
  refine ⟨trivial, ?_, ?_, ?_, ?_, ?_, ?_⟩
  iterate 3 field_id
  all_goals first | trivial | (rw [← hE]; field_id)

theorem c16_deriv2_e_Omega_is_eps (o : DOps K) (sgn : K → K) (G m M a e inc Om om f : K)
    (hr : 1 + e * o.cos f ≠ 0) (he : 1 - e * e ≠ 0) (ha : a ≠ 0) (hm : m + M ≠ 0) (hV0 : o.sqrt (G * (m + M) / a / (1 - e * e)) ≠ 0) (hV2 : o.sqrt (G * (m + M) / a / (1 - e * e)) * o.sqrt (G * (m + M) / a / (1 - e * e)) = G * (m + M) / a / (1 - e * e)) (hE : o.sqrt (1 - e * e) * o.sqrt (1 - e * e) = 1 - e * e) (hA : o.sqrt (G * (m + M) / a) = o.sqrt (G * (m + M) / a / (1 - e * e)) * o.sqrt (1 - e * e)) :
    d_e_Omega o G m M a e inc Om om f
      = epsP72 (orbMap (lift2 o sgn) (c2 G) (c2 m) (c2 M) (c2 a) (v1 e) (c2 inc) (v2 Om) (c2 om) (c2 f)) := by
  deriv2_unfold [d_e_Omega]
  simp only [hA]
  generalize m + M = T at *
  generalize o.sqrt (G * T / a / (1 - e * e)) = V0 at *
  generalize o.sqrt (1 - e * e) = Eo at *
  have he' : (1:K) - e ^ 2 ≠ 0 := by rw [sq]; exact he
  have hEo : Eo ≠ 0 := by intro h0; rw [h0] at hE; simp at hE; exact he hE.symm
  rw [← hE] at hV2
  obtain rfl := eq_of_sq_eq_div₂ hm ha (mul_ne_zero hEo hEo) hV2
  refine ⟨trivial, ?_, ?_, ?_, ?_, ?_, ?_⟩
  iterate 3 field_id
  all_goals first | trivial | (rw [← hE]; field_id)

theorem c16_deriv2_e_omega_is_eps (o : DOps K) (sgn : K → K) (G m M a e inc Om om f : K)
    (hr : 1 + e * o.cos f ≠ 0) (he : 1 - e * e ≠ 0) (ha : a ≠ 0) (hm : m + M ≠ 0) (hV0 : o.sqrt (G * (m + M) / a / (1 - e * e)) ≠ 0) (hV2 : o.sqrt (G * (m + M) / a / (1 - e * e)) * o.sqrt (G * (m + M) / a / (1 - e * e)) = G * (m + M) / a / (1 - e * e)) (hE : o.sqrt (1 - e * e) * o.sqrt (1 - e * e) = 1 - e * e) (hA : o.sqrt (G * (m + M) / a) = o.sqrt (G * (m + M) / a / (1 - e * e)) * o.sqrt (1 - e * e)) :
    d_e_omega o G m M a e inc Om om f
      = epsP72 (orbMap (lift2 o sgn) (c2 G) (c2 m) (c2 M) (c2 a) (v1 e) (c2 inc) (c2 Om) (v2 om) (c2 f)) := by
  deriv2_unfold [d_e_omega]
  simp only [hA]
  generalize m + M = T at *
  generalize o.sqrt (G * T / a / (1 - e * e)) = V0 at *
  generalize o.sqrt (1 - e * e) = Eo at *
  have he' : (1:K) - e ^ 2 ≠ 0 := by rw [sq]; exact he
  have hEo : Eo ≠ 0 := by intro h0; rw [h0] at hE; simp at hE; exact he hE.symm
  rw [← hE] at hV2
  obtain rfl := eq_of_sq_eq_div₂ hm ha (mul_ne_zero hEo hEo) hV2
  refine ⟨trivial, ?_, ?_, ?_, ?_, ?_, ?_⟩
  iterate 3 field_id
  all_goals first | trivial | (rw [← hE]; field_id)

theorem c16_deriv2_e_f_is_eps (o : DOps K) (sgn : K → K) (G m M a e inc Om om f : K)
    (hr : 1 + e * o.cos f ≠ 0) (he : 1 - e * e ≠ 0) (ha : a ≠ 0) (hm : m + M ≠ 0) (hV0 : o.sqrt (G * (m + M) / a / (1 - e * e)) ≠ 0) (hV2 : o.sqrt (G * (m + M) / a / (1 - e * e)) * o.sqrt (G * (m + M) / a / (1 - e * e)) = G * (m + M) / a / (1 - e * e)) (hE : o.sqrt (1 - e * e) * o.sqrt (1 - e * e) = 1 - e * e) (hA : o.sqrt (G * (m + M) / a) = o.sqrt (G * (m + M) / a / (1 - e * e)) * o.sqrt (1 - e * e)) :
    d_e_f o G m M a e inc Om om f
      = epsP72 (orbMap (lift2 o sgn) (c2 G) (c2 m) (c2 M) (c2 a) (v1 e) (c2 inc) (c2 Om) (c2 om) (v2 f)) := by
  deriv2_unfold [d_e_f]
  simp only [hA]
  generalize m + M = T at *
  generalize o.sqrt (G * T / a / (1 - e * e)) = V0 at *
  generalize o.sqrt (1 - e * e) = Eo at *
  have he' : (1:K) - e ^ 2 ≠ 0 := by rw [sq]; exact he
  have hEo : Eo ≠ 0 := by intro h0; rw [h0] at hE; simp at hE; exact he hE.symm
  rw [← hE] at hV2
  obtain rfl := eq_of_sq_eq_div₂ hm ha (mul_ne_zero hEo hEo) hV2
  refine ⟨trivial, ?_, ?_, ?_, ?_, ?_, ?_⟩
  iterate 3 field_id
  all_goals first | trivial | (rw [← hE]; field_id)

theorem c16_deriv2_inc_inc_is_eps (o : DOps K) (sgn : K → K) (G m M a e inc Om om f : K)
    (hr : 1 + e * o.cos f ≠ 0) (he : 1 - e * e ≠ 0) (ha : a ≠ 0) (hm : m + M ≠ 0) (hV0 : o.sqrt (G * (m + M) / a / (1 - e * e)) ≠ 0) (hV2 : o.sqrt (G * (m + M) / a / (1 - e * e)) * o.sqrt (G * (m + M) / a / (1 - e * e)) = G * (m + M) / a / (1 - e * e)) :
    d_inc_inc o G m M a e inc Om om f
      = epsP72 (orbMap (lift2 o sgn) (c2 G) (c2 m) (c2 M) (c2 a) (c2 e) (v12 inc) (c2 Om) (c2 om) (c2 f)) := by
  deriv2_unfold [d_inc_inc]
  generalize m + M = T at *
  generalize o.sqrt (G * T / a / (1 - e * e)) = V0 at *
  have he' : (1:K) - e ^ 2 ≠ 0 := by rw [sq]; exact he
  obtain rfl := eq_of_sq_eq_div₂ hm ha he hV2
  deriv_finish

theorem c16_deriv2_inc_Omega_is_eps (o : DOps K) (sgn : K → K) (G m M a e inc Om om f : K)
    (hr : 1 + e * o.cos f ≠ 0) (he : 1 - e * e ≠ 0) (ha : a ≠ 0) (hm : m + M ≠ 0) (hV0 : o.sqrt (G * (m + M) / a / (1 - e * e)) ≠ 0) (hV2 : o.sqrt (G * (m + M) / a / (1 - e * e)) * o.sqrt (G * (m + M) / a / (1 - e * e)) = G * (m + M) / a / (1 - e * e)) :
    d_inc_Omega o G m M a e inc Om om f
      = epsP72 (orbMap (lift2 o sgn) (c2 G) (c2 m) (c2 M) (c2 a) (c2 e) (v1 inc) (v2 Om) (c2 om) (c2 f)) := by
  deriv2_unfold [d_inc_Omega]
  generalize m + M = T at *
  generalize o.sqrt (G * T / a / (1 - e * e)) = V0 at *
  have he' : (1:K) - e ^ 2 ≠ 0 := by rw [sq]; exact he
  obtain rfl := eq_of_sq_eq_div₂ hm ha he hV2
  deriv_finish

theorem c16_deriv2_inc_omega_is_eps (o : DOps K) (sgn : K → K) (G m M a e inc Om om f : K)
    (hr : 1 + e * o.cos f ≠ 0) (he : 1 - e * e ≠ 0) (ha : a ≠ 0) (hm : m + M ≠ 0) (hV0 : o.sqrt (G * (m + M) / a / (1 - e * e)) ≠ 0) (hV2 : o.sqrt (G * (m + M) / a / (1 - e * e)) * o.sqrt (G * (m + M) / a / (1 - e * e)) = G * (m + M) / a / (1 - e * e)) :
    d_inc_omega o G m M a e inc Om om f
      = epsP72 (orbMap (lift2 o sgn) (c2 G) (c2 m) (c2 M) (c2 a) (c2 e) (v1 inc) (c2 Om) (v2 om) (c2 f)) := by
  deriv2_unfold [d_inc_omega]
  generalize m + M = T at *
  generalize o.sqrt (G * T / a / (1 - e * e)) = V0 at *
  have he' : (1:K) - e ^ 2 ≠ 0 := by rw [sq]; exact he
  obtain rfl := eq_of_sq_eq_div₂ hm ha he hV2
  deriv_finish

theorem c16_deriv2_inc_f_is_eps (o : DOps K) (sgn : K → K) (G m M a e inc Om om f : K)
    (hr : 1 + e * o.cos f ≠ 0) (he : 1 - e * e ≠ 0) (ha : a ≠ 0) (hm : m + M ≠ 0) (hV0 : o.sqrt (G * (m + M) / a / (1 - e * e)) ≠ 0) (hV2 : o.sqrt (G * (m + M) / a / (1 - e * e)) * o.sqrt (G * (m + M) / a / (1 - e * e)) = G * (m + M) / a / (1 - e * e)) :
    d_inc_f o G m M a e inc Om om f
      = epsP72 (orbMap (lift2 o sgn) (c2 G) (c2 m) (c2 M) (c2 a) (c2 e) (v1 inc) (c2 Om) (c2 om) (v2 f)) := by
  deriv2_unfold [d_inc_f]
  generalize m + M = T at *
  generalize o.sqrt (G * T / a / (1 - e * e)) = V0 at *
  have he' : (1:K) - e ^ 2 ≠ 0 := by rw [sq]; exact he
  obtain rfl := eq_of_sq_eq_div₂ hm ha he hV2
  deriv_finish

theorem c16_deriv2_Omega_Omega_is_eps (o : DOps K) (sgn : K → K) (G m M a e inc Om om f : K)
    (hr : 1 + e * o.cos f ≠ 0) (he : 1 - e * e ≠ 0) (ha : a ≠ 0) (hm : m + M ≠ 0) (hV0 : o.sqrt (G * (m + M) / a / (1 - e * e)) ≠ 0) (hV2 : o.sqrt (G * (m + M) / a / (1 - e * e)) * o.sqrt (G * (m + M) / a / (1 - e * e)) = G * (m + M) / a / (1 - e * e)) :
    d_Omega_Omega o G m M a e inc Om om f
      = epsP72 (orbMap (lift2 o sgn) (c2 G) (c2 m) (c2 M) (c2 a) (c2 e) (c2 inc) (v12 Om) (c2 om) (c2 f)) := by
  deriv2_unfold [d_Omega_Omega]

theorem c16_deriv2_omega_Omega_is_eps (o : DOps K) (sgn : K → K) (G m M a e inc Om om f : K)
    (hr : 1 + e * o.cos f ≠ 0) (he : 1 - e * e ≠ 0) (ha : a ≠ 0) (hm : m + M ≠ 0) (hV0 : o.sqrt (G * (m + M) / a / (1 - e * e)) ≠ 0) (hV2 : o.sqrt (G * (m + M) / a / (1 - e * e)) * o.sqrt (G * (m + M) / a / (1 - e * e)) = G * (m + M) / a / (1 - e * e)) :
    d_omega_Omega o G m M a e inc Om om f
      = epsP72 (orbMap (lift2 o sgn) (c2 G) (c2 m) (c2 M) (c2 a) (c2 e) (c2 inc) (v2 Om) (v1 om) (c2 f)) := by
  deriv2_unfold [d_omega_Omega]

theorem c16_deriv2_Omega_f_is_eps (o : DOps K) (sgn : K → K) (G m M a e inc Om om f : K)
    (hr : 1 + e * o.cos f ≠ 0) (he : 1 - e * e ≠ 0) (ha : a ≠ 0) (hm : m + M ≠ 0) (hV0 : o.sqrt (G * (m + M) / a / (1 - e * e)) ≠ 0) (hV2 : o.sqrt (G * (m + M) / a / (1 - e * e)) * o.sqrt (G * (m + M) / a / (1 - e * e)) = G * (m + M) / a / (1 - e * e)) :
    d_Omega_f o G m M a e inc Om om f
      = epsP72 (orbMap (lift2 o sgn) (c2 G) (c2 m) (c2 M) (c2 a) (c2 e) (c2 inc) (v1 Om) (c2 om) (v2 f)) := by
  deriv2_unfold [d_Omega_f]
  generalize m + M = T at *
  generalize o.sqrt (G * T / a / (1 - e * e)) = V0 at *
  have he' : (1:K) - e ^ 2 ≠ 0 := by rw [sq]; exact he
  obtain rfl := eq_of_sq_eq_div₂ hm ha he hV2
  deriv_finish

theorem c16_deriv2_omega_omega_is_eps (o : DOps K) (sgn : K → K) (G m M a e inc Om om f : K)
    (hr : 1 + e * o.cos f ≠ 0) (he : 1 - e * e ≠ 0) (ha : a ≠ 0) (hm : m + M ≠ 0) (hV0 : o.sqrt (G * (m + M) / a / (1 - e * e)) ≠ 0) (hV2 : o.sqrt (G * (m + M) / a / (1 - e * e)) * o.sqrt (G * (m + M) / a / (1 - e * e)) = G * (m + M) / a / (1 - e * e)) :
    d_omega_omega o G m M a e inc Om om f
      = epsP72 (orbMap (lift2 o sgn) (c2 G) (c2 m) (c2 M) (c2 a) (c2 e) (c2 inc) (c2 Om) (v12 om) (c2 f)) := by
  deriv2_unfold [d_omega_omega]

theorem c16_deriv2_omega_f_is_eps (o : DOps K) (sgn : K → K) (G m M a e inc Om om f : K)
    (hr : 1 + e * o.cos f ≠ 0) (he : 1 - e * e ≠ 0) (ha : a ≠ 0) (hm : m + M ≠ 0) (hV0 : o.sqrt (G * (m + M) / a / (1 - e * e)) ≠ 0) (hV2 : o.sqrt (G * (m + M) / a / (1 - e * e)) * o.sqrt (G * (m + M) / a / (1 - e * e)) = G * (m + M) / a / (1 - e * e)) :
    d_omega_f o G m M a e inc Om om f
      = epsP72 (orbMap (lift2 o sgn) (c2 G) (c2 m) (c2 M) (c2 a) (c2 e) (c2 inc) (c2 Om) (v1 om) (v2 f)) := by
  deriv2_unfold [d_omega_f]
  generalize m + M = T at *
  generalize o.sqrt (G * T / a / (1 - e * e)) = V0 at *
  have he' : (1:K) - e ^ 2 ≠ 0 := by rw [sq]; exact he
  obtain rfl := eq_of_sq_eq_div₂ hm ha he hV2
  deriv_finish

theorem c16_deriv2_f_f_is_eps (o : DOps K) (sgn : K → K) (G m M a e inc Om om f : K)
    (hr : 1 + e * o.cos f ≠ 0) (he : 1 - e * e ≠ 0) (ha : a ≠ 0) (hm : m + M ≠ 0) (hV0 : o.sqrt (G * (m + M) / a / (1 - e * e)) ≠ 0) (hV2 : o.sqrt (G * (m + M) / a / (1 - e * e)) * o.sqrt (G * (m + M) / a / (1 - e * e)) = G * (m + M) / a / (1 - e * e)) :
    d_f_f o G m M a e inc Om om f
      = epsP72 (orbMap (lift2 o sgn) (c2 G) (c2 m) (c2 M) (c2 a) (c2 e) (c2 inc) (c2 Om) (c2 om) (v12 f)) := by
  deriv2_unfold [d_f_f]
  generalize m + M = T at *
  generalize o.sqrt (G * T / a / (1 - e * e)) = V0 at *
  have he' : (1:K) - e ^ 2 ≠ 0 := by rw [sq]; exact he
  obtain rfl := eq_of_sq_eq_div₂ hm ha he hV2
  deriv_finish

end RV.Var

/-! ### `vary()` name dispatch (rebound/particle.py, rebound/variation.py) — finite tables, `decide`

`RV.Gen.C16Dispatch` is regenerated from particle.py / derivatives.c on every run. -/
namespace RV.Var
open RV.Gen.C16Dispatch

/-- the source has the shape the model assumes: it swaps by list position and builds the
    symbol as prefix + name (+ "_" + name2) -/
theorem c16_dispatch_source_shape : swapsPairs = true ∧ namePatternOk = true := by decide

/-- every documented parameter name (both docstrings) is accepted and maps to the C function of
    exactly that name, which exists -/
theorem c16_dispatch_first_order_documented :
    ∀ d ∈ documented, ∀ v ∈ d, dispatch1 variationTypes shortcuts v = some v ∧ cFunctions.contains v = true := by
  decide +kernel

/-- the table and the documentation list the same names -/
theorem c16_dispatch_documented_eq_table : ∀ d ∈ documented, d = variationTypes := by decide +kernel

/-- pairs: the dispatch is symmetric, and the resulting C function exists exactly when both
    names belong to one element family (classical or Pal; `m`, `a` are in both) -/
theorem c16_dispatch_second_order :
    ∀ v1 ∈ variationTypes, ∀ v2 ∈ variationTypes,
      dispatch2 variationTypes shortcuts v1 v2 = dispatch2 variationTypes shortcuts v2 v1 ∧
      ((dispatch2 variationTypes shortcuts v1 v2).any (fun n => cFunctions.contains n)
        = ((orbFamily.contains v1 && orbFamily.contains v2) || (palFamily.contains v1 && palFamily.contains v2))) := by
  decide +kernel

/-- the shortcuts reach documented names, and no C function is unreachable from the table -/
theorem c16_dispatch_shortcuts_and_coverage :
    (∀ p ∈ shortcuts, variationTypes.contains p.2 = true) ∧ shortcuts = shortcuts2 ∧
    (∀ n ∈ cFunctions, (variationTypes.any (fun v => dispatch1 variationTypes shortcuts v == some n)) ||
       (variationTypes.any (fun v1 => variationTypes.any (fun v2 => dispatch2 variationTypes shortcuts v1 v2 == some n))) = true) := by
  decide +kernel

end RV.Var

/-! ### MEGNO bookkeeping (reb_tools_megno_update) -/
namespace RV.Var
open RV
variable {K : Type} [Field K] [CharZero K]

/-- **The recurrences compute the defined sums and time averages.**  After any history of
    updates `(t_i, dY_i, dt_i)` starting from any state: the counter counts; `megno_Ys` is the
    sum of the `dY`; `megno_Yss` is the time integral Σ Y(t_i)·dt_i of Y(t_i) = Ys_i/t_i (so
    `reb_simulation_megno` = Yss/t is the time average <Y>); `megno_mean_t` is the arithmetic mean
    of the update times and `megno_mean_Y` the arithmetic mean of the reported <Y> values
    (both stated multiplied by n; any `isZero`, any times — division by t=0 follows field
    conventions exactly as in the model). -/
theorem c16_megno_running_sums (isZero : K → Bool) (l : List (K × K × K)) (s : Megno K) :
    let r := megnoRun isZero s l
    r.n = s.n + l.length ∧
    r.Ys = s.Ys + (l.map (fun u => u.2.1)).sum ∧
    r.Yss = s.Yss + yIntegral s.Ys l ∧
    r.meanT * (r.n : K) = s.meanT * (s.n : K) + (l.map (fun u => u.1)).sum ∧
    r.meanY * (r.n : K) = s.meanY * (s.n : K) + (megnoValues isZero s l).sum := by
  induction l generalizing s with
  | nil => simp [megnoRun, megnoValues, yIntegral]
  | cons u r ih =>
    obtain ⟨t, dY, dt⟩ := u
    have hn : ((s.n + 1 : ℕ) : K) ≠ 0 := by exact_mod_cast Nat.succ_ne_zero s.n
    have := ih (megnoUpdate isZero s t dY dt)
    simp only [megnoRun, List.foldl_cons] at this ⊢
    obtain ⟨h1, h2, h3, h4, h5⟩ := this
    refine ⟨?_, ?_, ?_, ?_, ?_⟩
    · rw [h1]; simp [megnoUpdate]; omega
    · rw [h2]; simp [megnoUpdate]; ring
    · rw [h3]; simp [megnoUpdate, yIntegral]; ring
    · rw [h4]; simp only [megnoUpdate, sc_hadd, sc_hsub, sc_hdiv, sc_ofNat, List.map_cons, List.sum_cons]
      field_simp; push_cast; ring
    · rw [h5]; simp only [megnoUpdate, megnoValues, sc_hadd, sc_hsub, sc_hdiv, sc_hmul, sc_ofNat, sc_one, List.sum_cons]
      field_simp; push_cast; ring

/-- `megno_var_t` (and `megno_cov_Yt`, same weight) is *not* the textbook sum of squares: each
    update adds Welford's increment `(t−m_old)(t−m_new)` times `((n−1)/n)²`.  The Lyapunov
    estimate cov/var is therefore a least-squares slope with weights tending to 1 — consistent,
    but not the unweighted fit the comment in the source suggests. -/
theorem c16_megno_var_increment (isZero : K → Bool) (s : Megno K) (t dY dt : K) :
    let s' := megnoUpdate isZero s t dY dt
    let n : K := ((s.n + 1 : ℕ) : K)
    s'.var - s.var = ((n - 1) / n) ^ 2 * ((t - s.meanT) * (t - s'.meanT)) ∧
    t - s'.meanT = (n - 1) / n * (t - s.meanT) := by
  have hn : ((s.n + 1 : ℕ) : K) ≠ 0 := by exact_mod_cast Nat.succ_ne_zero s.n
  simp only [megnoUpdate, sc_hadd, sc_hsub, sc_hdiv, sc_hmul, sc_ofNat, sc_one]
  constructor <;> (field_simp; ring)

end RV.Var

/-! ### rescale_var rescales the complete persistent state of IAS15 (tables regenerated from the source every run) -/
namespace RV.Var
open RV.Gen.C16Rescale

/-- The arrays divided by `scale` in the IAS15 branch of `reb_simulation_rescale_var` are exactly the
    per-particle arrays of `struct reb_integrator_ias15` that survive from one step attempt to the next
    (csx, csv and all seven components of b, e, br, er — br/er are read by `predict_next_step` when the
    *next* attempt is rejected), each once; the declared array size and the loop bound equal their number
    and the loop divides every entry of the rescaled particles' range.  The scratch arrays
    (at, x0, v0, a0, csa0, g, csb: first use in a step attempt is a plain assignment) need no rescaling. -/
theorem c16_rescale_ias15_state_complete :
    rescaled.Nodup ∧ declaredArraySize = rescaled.length ∧ loopBound = rescaled.length ∧ loopShapeOk = true ∧
    (∀ a ∈ persistentArrays ias15Members writtenFirst, a ∈ rescaled) ∧
    (∀ a ∈ rescaled, a ∈ persistentArrays ias15Members writtenFirst) ∧
    (persistentArrays ias15Members writtenFirst).length = 30 := by
  decide +kernel

end RV.Var
