import RV.Proofs.OrbitArgs
import RV.Proofs.OrbitRoundTrip
import RV.Proofs.OrbitAngles
import RV.Proofs.OrbitReal
import RV.Proofs.OrbitPal
import RV.Proofs.OrbitPalInverse
import RV.Proofs.OrbitFront
import RV.Gen.C11Args
import Mathlib.Data.Rat.Defs
import Mathlib.Algebra.Order.Field.Rat
/-
  C11 — orbital elements ↔ Cartesian coordinates; the two particle constructors.

  (i) front ends.  `cValidate t` / `pyValidate t` (RV/Model/OrbitArgs.lean) are the
  transcriptions of the decision chains of `reb_particle_from_fmt_errV` and
  `Particle.__init__`, parameterised by the membership lists `t` of their counters;
  RV/Gen/C11Args.lean holds the lists extracted from the two source files on this run.
-/
namespace RV.C11
open RV RV.OrbitArgs RV.Orbit RV.Gen.C11

/-- the lists found in the sources are the documented ones; the only tolerated deviation is
    `primary` in the C counter `Nnonpal` (finding C11:fmt-primary-with-pal-rejected, tools.c:777) -/
theorem c11_source_tables :
    pyTab = stdTab ∧ pyPeri = [.omega, .pomega] ∧ (cTab = stdTab ∨ cTab = cTabPrimaryNonpal) := by
  decide

/-- FULL STATEMENT (holds for the documented lists): the C and the Python constructor take
    the same decision — same error code, or same plan (Cartesian / Pal / classical with the
    same choice of a-or-P, primary, pericentre argument and anomaly) — on every one of the
    2²⁸ combinations of present arguments. -/
theorem c11_front_ends_agree (p : Presence) : cValidate stdTab p = pyValidate stdTab p :=
  agree_std p

/-- with the lists of the unchanged tree (`primary` counted as a non-Pal element by C only)
    the two front ends differ exactly on: primary given, some Pal element given, none of
    e, inc, Omega, omega, pomega, f, M, E, theta, T given -/
theorem c11_front_ends_differ_iff (p : Presence) :
    cValidate cTabPrimaryNonpal p ≠ pyValidate stdTab p ↔
      (p.primary = true ∧ palAny p = true ∧ nonpalAny p = false) := by
  rw [differ_iff_counts, pal_pos, nonpal_pos]

/-- … so the full statement is false of the unchanged tree (finding C11:fmt-primary-with-pal-rejected): witness
    `sim, primary, a, h`: C answers error 7, Python builds the Pal orbit -/
theorem c11_front_ends_agree_fails_unfixed :
    ¬ ∀ p : Presence, cValidate cTabPrimaryNonpal p = pyValidate stdTab p := by
  intro h
  have := h { Presence.none with sim := true, primary := true, a := true, h := true }
  revert this
  decide

/-- PARTIAL statement that holds for whatever lists the sources contain on this run
    (fixed or unfixed): outside the C11:fmt-primary-with-pal-rejected class the two front ends agree -/
theorem c11_front_ends_agree_partial (p : Presence)
    (hPrimaryPal : ¬ (p.primary = true ∧ palAny p = true ∧ nonpalAny p = false)) :
    cValidate cTab p = pyValidate pyTab p := by
  have hs := c11_source_tables
  rw [hs.1]
  rcases hs.2.2 with h | h <;> rw [h]
  · exact agree_std p
  · exact Decidable.byContradiction fun hne => hPrimaryPal ((c11_front_ends_differ_iff p).mp hne)

/-- the plan is Cartesian (orbital machinery not entered, Pal arguments silently ignored)
    iff no orbital argument is present and Pal is not mixed with non-Pal elements -/
theorem c11_cartesian_iff (p : Presence) :
    cValidate stdTab p = .ok .cartesian ↔
      ((nonpalAny p && palAny p) = false ∧ orbAny p = false) := by
  rw [cValidate_eq, pal_pos, nonpal_pos, orb_pos]
  exact core_cart _ _ _ _ _ _

/-! every structural error code is produced by some combination, in both front ends -/
example : cValidate stdTab { Presence.none with sim := true, a := true, e := true, h := true } = .error .palMix ∧
          pyValidate stdTab { Presence.none with sim := true, a := true, e := true, h := true } = .error .palMix := by decide
example : cValidate stdTab { Presence.none with sim := true, a := true, x := true } = .error .cartMix ∧
          pyValidate stdTab { Presence.none with sim := true, a := true, x := true } = .error .cartMix := by decide
example : cValidate stdTab { Presence.none with a := true } = .error .noSim ∧
          pyValidate stdTab { Presence.none with a := true } = .error .noSim := by decide
example : cValidate stdTab { Presence.none with sim := true, e := true } = .error .noAP ∧
          pyValidate stdTab { Presence.none with sim := true, e := true } = .error .noAP := by decide
example : cValidate stdTab { Presence.none with sim := true, a := true, P := true } = .error .bothAP ∧
          pyValidate stdTab { Presence.none with sim := true, a := true, P := true } = .error .bothAP := by decide
example : cValidate stdTab { Presence.none with sim := true, a := true, omega := true, pomega := true } = .error .bothPeri ∧
          pyValidate stdTab { Presence.none with sim := true, a := true, omega := true, pomega := true } = .error .bothPeri := by decide
example : cValidate stdTab { Presence.none with sim := true, a := true, f := true, T := true } = .error .manyLong ∧
          pyValidate stdTab { Presence.none with sim := true, a := true, f := true, T := true } = .error .manyLong := by decide
example : cValidate stdTab { Presence.none with sim := true, P := true, pomega := true, l := true, primary := true } =
            .ok (.classical true true .pomega .l) := by decide
example : cValidate stdTab { Presence.none with sim := true, a := true, l := true, ix := true } =
            .ok (.pal false false true) := by decide
example : cValidate stdTab { Presence.none with m := true, vy := true, h := true } = .ok .cartesian := by decide


/-! ## (ii) elements → particle → elements

Statements are about RV/Model/Orbit.lean — the definitions `drv_c11` runs on IEEE doubles
against tools.c — instantiated at an arbitrary ordered field `K` with an abstract libm `L`
(`Libm K`: arbitrary functions `cos sin sqrt acos fmod …` and constants `pi tiny`), of which
only the stated properties are assumed. -/
section elements
variable {K : Type} [Field K] [LinearOrder K] [IsStrictOrderedRing K]

/-- `reb_particle_from_orbit_err` rejects exactly the documented inputs, in first-match
    order (each error ↔ its condition given that no earlier test fired); `cf` is `cos f`.
    `v.asymLe` says whether the source tests `e cos f ≤ -1` (repaired) or `< -1` (original):
    `beyond false x ↔ x < -1`, `beyond true x ↔ x ≤ -1`, `notBeyond` the negations;
    `v.aStrict` whether it tests `a ≥ 0` / `a ≤ 0` (fixes/C11-reject-a-zero.diff) or
    `a > 0` / `a < 0`: `aPos false a ↔ 0 < a`, `aPos true a ↔ 0 ≤ a`, `aNeg` likewise. -/
theorem c11_fromOrbit_rejects_exactly (v : Variant) (tiny pm a e cf : K) :
    (fromOrbitCheck v tiny pm a e cf = some .radial ↔ e = 1) ∧
    (fromOrbitCheck v tiny pm a e cf = some .negE ↔ e < 0) ∧
    (fromOrbitCheck v tiny pm a e cf = some .boundE ↔ (1 < e ∧ aPos v.aStrict a)) ∧
    (fromOrbitCheck v tiny pm a e cf = some .unboundE ↔ (0 ≤ e ∧ e < 1 ∧ aNeg v.aStrict a)) ∧
    (fromOrbitCheck v tiny pm a e cf = some .fRange ↔
      (e ≠ 1 ∧ 0 ≤ e ∧ (1 < e → ¬ aPos v.aStrict a) ∧ (e < 1 → ¬ aNeg v.aStrict a) ∧ beyond v.asymLe (e * cf))) ∧
    (fromOrbitCheck v tiny pm a e cf = some .noMass ↔
      (e ≠ 1 ∧ 0 ≤ e ∧ (1 < e → ¬ aPos v.aStrict a) ∧ (e < 1 → ¬ aNeg v.aStrict a) ∧
        notBeyond v.asymLe (e * cf) ∧ pm < tiny)) ∧
    (fromOrbitCheck v tiny pm a e cf = none ↔
      (e ≠ 1 ∧ 0 ≤ e ∧ (1 < e → ¬ aPos v.aStrict a) ∧ (e < 1 → ¬ aNeg v.aStrict a) ∧
        notBeyond v.asymLe (e * cf) ∧ tiny ≤ pm)) :=
  check_iff v tiny pm a e cf

/-- the wrapper returns error `err` iff the tests say so, and otherwise the particle of
    `fromOrbitCore` fed with the libm values -/
theorem c11_fromOrbit_error_or_core (L : Libm K) (v : Variant) (G : K) (pr : Orbit.Part K)
    (m a e inc Om om f : K) :
    (∀ err, @fromOrbit K L.orbitK v G pr m a e inc Om om f = .error err ↔
        fromOrbitCheck v L.tiny pr.m a e (L.cos f) = some err) ∧
    (∀ P, @fromOrbit K L.orbitK v G pr m a e inc Om om f = .ok P →
        fromOrbitCheck v L.tiny pr.m a e (L.cos f) = none ∧
        P = fromOrbitCore pr m a e
              ⟨L.cos Om, L.sin Om, L.cos om, L.sin om, L.cos f, L.sin f, L.cos inc, L.sin inc⟩
              (L.sqrt (v0sq G pr.m m a e))) :=
  ⟨fun err => fromOrbit_error_iff L v G pr m a e inc Om om f err,
   fun P h => fromOrbit_ok L v G pr m a e inc Om om f P h⟩

/-- what every variant of the guard gives: `1 - e²  ≠ 0` and `1 + e cos f ≥ 0` -/
theorem c11_fromOrbit_guard (v : Variant) (tiny pm a e cf : K)
    (h : fromOrbitCheck v tiny pm a e cf = none) :
    1 - e * e ≠ 0 ∧ 0 ≤ 1 + e * cf := by
  obtain ⟨h1, h0, -, -, hf, -⟩ := (check_none_iff v tiny pm a e cf).mp h
  refine ⟨fun h => ?_, by linarith [notBeyond_le hf]⟩
  have : (e - 1) * (e + 1) = 0 := by linear_combination -h
  rcases mul_eq_zero.mp this with h | h
  · exact h1 (sub_eq_zero.mp h)
  · linarith

/-- accepted input has all three denominators `1 - e²`, `1 + e cos f`, `a` non-zero, and
    `a(1-e²) > 0`, `1 + e cos f > 0` (so `r > 0` and the argument of the `sqrt` giving `v0` is
    ≥ 0 for μ ≥ 0).  FULL for the repaired source (`v.aStrict`, `v.asymLe` both true: no extra
    hypothesis); PARTIAL for the original tests: `a ≠ 0` (finding C11:a-zero-accepted) and
    `e cos f ≠ -1` (finding C11:asymptote-equality-accepted) must be assumed — see the two
    theorems below. -/
theorem c11_fromOrbit_denominators_partial (v : Variant) (tiny pm a e cf : K)
    (h : fromOrbitCheck v tiny pm a e cf = none) (ha : v.aStrict = false → a ≠ 0)
    (hasym : v.asymLe = false → e * cf ≠ -1) :
    1 - e * e ≠ 0 ∧ 1 + e * cf ≠ 0 ∧ 0 < a * (1 - e * e) ∧ 0 < 1 + e * cf :=
  guard_denoms v tiny pm a e cf h ha hasym

/-- the unchanged guard (`<`) accepts `e cos f = -1` exactly (division by zero in `r`) -/
theorem c11_fromOrbit_accepts_asymptote (tiny : K) :
    ∃ pm a e cf : K, fromOrbitCheck Variant.unfixed tiny pm a e cf = none ∧ 1 + e * cf = 0 := by
  refine ⟨tiny, -1, 2, -1 / 2, ?_, by norm_num⟩
  rw [check_none_iff]
  norm_num [notBeyond, aPos, aNeg, Variant.unfixed]

/-- the original sign tests accept `a = 0` (division by zero in `v0`), whatever the other
    repairs; with fixes/C11-reject-a-zero.diff (`v.aStrict`) `a = 0` is always rejected -/
theorem c11_fromOrbit_accepts_a_zero (v : Variant) (hv : v.aStrict = false) (tiny : K) :
    ∃ pm a e cf : K, fromOrbitCheck v tiny pm a e cf = none ∧ a = 0 := by
  refine ⟨tiny, 0, 0, 1, ?_, rfl⟩
  rw [check_none_iff, hv]
  rcases v with ⟨v1, v2, asymLe, v4, v5⟩
  cases asymLe <;> norm_num [notBeyond, aPos, aNeg]

theorem c11_fromOrbit_rejects_a_zero_fixed (v : Variant) (hv : v.aStrict = true) (tiny pm e cf : K) :
    fromOrbitCheck v tiny pm 0 e cf ≠ none := by
  intro h
  obtain ⟨h1, h0, hb, hu, _⟩ := (check_none_iff v tiny pm 0 e cf).mp h
  rw [hv] at hb hu
  rcases lt_or_gt_of_ne h1 with he | he
  · exact hu he (by simp [aNeg])
  · exact hb he (by simp [aPos])

/-- defining relations of the particle returned by `fromOrbitCore` over any field: with the
    four identities `c² + s² = 1`, `v0² = μ/a/(1-e²)` and the three denominators non-zero,
    `|Δx| = r = a(1-e²)/(1+e cos f)` (squared), vis-viva `v² = μ(2/r - 1/a)`,
    `h² = μ a (1-e²)`, `h = H·(sin i sin Ω, -sin i cos Ω, cos i)` with `H² = h²`
    (so `h_z = h cos i`), and `Δx·Δv = r v0 e sin f` -/
theorem c11_fromOrbit_defining_relations (G : K) (pr : Orbit.Part K) (m a e cO sO co so cf sf ci si v0 : K)
    (hO : cO ^ 2 + sO ^ 2 = 1) (ho : co ^ 2 + so ^ 2 = 1) (hf : cf ^ 2 + sf ^ 2 = 1)
    (hi : ci ^ 2 + si ^ 2 = 1)
    (ha : a ≠ 0) (he : 1 - e * e ≠ 0) (hd : 1 + e * cf ≠ 0)
    (hv : v0 ^ 2 = G * (m + pr.m) / a / (1 - e * e)) :
    let P := fromOrbitCore pr m a e ⟨cO, sO, co, so, cf, sf, ci, si⟩ v0
    let mu := G * (m + pr.m)
    let r := a * (1 - e * e) / (1 + e * cf)
    let dx := P.x - pr.x; let dy := P.y - pr.y; let dz := P.z - pr.z
    let dvx := P.vx - pr.vx; let dvy := P.vy - pr.vy; let dvz := P.vz - pr.vz
    let hx := dy * dvz - dz * dvy; let hy := dz * dvx - dx * dvz; let hz := dx * dvy - dy * dvx
    let H := a * (1 - e * e) * v0
    (dx ^ 2 + dy ^ 2 + dz ^ 2 = r ^ 2) ∧
    (dvx ^ 2 + dvy ^ 2 + dvz ^ 2 = mu * (2 / r - 1 / a)) ∧
    (hx ^ 2 + hy ^ 2 + hz ^ 2 = mu * a * (1 - e * e)) ∧
    (H ^ 2 = mu * a * (1 - e * e) ∧ hz = H * ci ∧ hx = H * si * sO ∧ hy = -(H * si * cO)) ∧
    (dx * dvx + dy * dvy + dz * dvz = r * v0 * e * sf) :=
  core_relations G pr m a e cO sO co so cf sf ci si v0 hO ho hf hi ha he hd hv

/-- PARTIAL round trip on the two model functions: for a libm whose `cos, sin` satisfy
    `c²+s²=1` and whose `sqrt` is a non-negative square root on non-negative arguments, the
    reader applied to the particle the constructor accepted (μ > 0, and outside the two
    findings `a = 0`, `e cos f = -1`) reports the distance `r`, the semi-major axis `a`, the
    eccentricity vector `e·(pericentre direction)` and the eccentricity `e` it was built
    from.  Missing for the full statement: the angles (inc, Ω, ω, f, M, l, θ), which go
    through `acos` and the near-planar / near-circular switches. -/
theorem c11_reader_of_constructor_partial (L : Libm K)
    (htrig : ∀ x, L.cos x ^ 2 + L.sin x ^ 2 = 1)
    (hsqrt : ∀ x, 0 ≤ x → 0 ≤ L.sqrt x ∧ L.sqrt x ^ 2 = x)
    (v : Variant) (G : K) (pr : Orbit.Part K) (m a e inc Om om f t0 : K) (P : Orbit.Part K) (o : Orb K)
    (hP : @fromOrbit K L.orbitK v G pr m a e inc Om om f = .ok P)
    (ho : @orbitFromParticle K L.orbitK v G P pr t0 = .ok o)
    (hmu : 0 < G * (m + pr.m)) (ha : a ≠ 0) (hasym : v.asymLe = false → e * L.cos f ≠ -1) :
    o.d = a * (1 - e * e) / (1 + e * L.cos f) ∧ o.a = a ∧
    o.ex = e * (L.cos Om * L.cos om - L.sin Om * L.sin om * L.cos inc) ∧
    o.ey = e * (L.sin Om * L.cos om + L.cos Om * L.sin om * L.cos inc) ∧
    o.ez = e * (L.sin om * L.sin inc) ∧ o.e = e :=
  reader_of_constructor L htrig hsqrt v G pr m a e inc Om om f t0 P o hP ho hmu ha hasym

/-- FULL (value level): the two front ends build the same particle.  `frontC` is the model of
    `reb_particle_from_fmt_errV` (tools.c:752-920) and `frontPy` the model of `Particle.__init__`
    (particle.py:300-431), each in its own operation order and with its own decision chain; both are tied
    bit for bit to the real code on every run.  For every set of argument values (present or absent, any
    `G`, `t`, centre of mass), with the documented membership lists, they return the same error number or
    the same particle in exact arithmetic, provided libm `pow` satisfies `pow x 2 = x·x`, `pow x 3 = x·x·x`,
    `pow x ½ = sqrt x`, `pow x ⅓ = cbrt x` (the only places where the Python code differs from the C code:
    `P**2`, `math.pi**2`, `(...)**(1./3.)`, `a**3`, `(...)**0.5`).  In IEEE arithmetic these four equalities
    hold only to rounding: that is the documented "≤ 4 ulp where a period or pericentre time is converted". -/
theorem c11_front_ends_same_particle (L : Libm K) (PS : PowSpec L) (v : Variant) (G t : K) (com : Orbit.Part K)
    (g : FArgs K) :
    @frontC K L.orbitK v stdTab G t com g = @frontPy K L.orbitK v stdTab G t com g := by
  unfold frontC frontPy
  rw [← agree_std (g.presence true)]
  cases hv : cValidate stdTab (g.presence true) with
  | error e => rfl
  | ok plan =>
    cases plan with
    | cartesian => rfl
    | pal u pg lg =>
      simp only [sc_zero, sc_one, sc_hadd, sc_hmul, sc_hdiv, libm_pi, front_a_val L PS]
    | classical u pg pe lo =>
      obtain ⟨hcnt, hperi⟩ := classical_plan_facts _ u pg pe lo hv
      have hc2 : (g.f.isSome.toNat + (g.M.isSome.toNat + (g.E.isSome.toNat + (g.l.isSome.toNat + (g.theta.isSome.toNat + (g.T.isSome.toNat + 0)))))) ≤ 1 := hcnt
      have hp2 : ¬ (g.omega.isSome = true ∧ g.pomega.isSome = true) := hperi
      clear hcnt hperi hv
      simp only [sc_zero, sc_one, sc_hadd, sc_hmul, sc_hsub, sc_hdiv, libm_pi, front_a_val L PS, front_n_val L PS]
      -- the two constructors look at `omega`/`pomega` and at the six longitudes in different orders: the
      -- same value is picked when at most one of each group is present
      rcases ho : g.omega with _ | w <;> rcases hp : g.pomega with _ | pw
      case some.some => exact absurd ⟨by rw [ho]; rfl, by rw [hp]; rfl⟩ hp2
      all_goals
        rcases hf : g.f with _ | fv <;> rcases hth : g.theta with _ | thv <;> rcases hl : g.l with _ | lv <;>
        rcases hT : g.T with _ | Tv <;> rcases hM : g.M with _ | Mv <;> rcases hE : g.E with _ | Ev <;>
        simp only [hf, hth, hl, hT, hM, hE, Option.isSome_some, Option.isSome_none, Bool.toNat_true, Bool.toNat_false] at hc2 <;>
        -- `omega`: `hc2` is false when two longitudes are present; otherwise both sides pick the same value
        first
          | omega
          | rfl

/-- … and for the lists extracted from the sources on this run, when the C lists are the documented ones (`hC`) -/
theorem c11_front_ends_same_particle_gen (L : Libm K) (PS : PowSpec L) (v : Variant) (G t : K) (com : Orbit.Part K)
    (g : FArgs K) (hC : cTab = stdTab) :
    @frontC K L.orbitK v cTab G t com g = @frontPy K L.orbitK v pyTab G t com g := by
  rw [hC, c11_source_tables.1]
  exact c11_front_ends_same_particle L PS v G t com g

/-- `PowSpec` is satisfiable: over ℚ with `sqrt = cbrt = id` and `pow` defined on the four exponents -/
example : PowSpec (K := ℚ)
    { sqrt := id, sin := id, cos := id, fabs := id, tan := id, atan2 := fun x _ => x, acos := id, asin := id, atan := id,
      exp := id, log := id, sinh := id, cosh := id, tanh := id, acosh := id, cbrt := id, floor := id, ceil := id,
      pow := fun x y => if y = 2 then x * x else if y = 3 then x * x * x else x, fmod := fun x _ => x, pi := 3, tiny := 0 } where
  sq := fun x => by simp
  cube := fun x => by norm_num
  half := fun x => by norm_num
  third := fun x => by norm_num

/-- the quadrant logic of `acos2`: for θ ∈ (-π, π], ρ > 0 and a disambiguator with the sign of
    sin θ, `acos2(ρ cos θ, ρ, dis) = θ` (`TrigSpec`: c²+s²=1, cos 0 = 1, cos π = -1,
    acos∘cos = id on [0,π], sin > 0 on (0,π), parity, addition formulas) -/
theorem c11_acos2_quadrant {L : Libm K} (T : TrigSpec L) (t rho dis : K) (hr : 0 < rho)
    (h0 : -L.pi < t) (h1 : t ≤ L.pi)
    (hd1 : L.sin t < 0 → dis < 0) (hd2 : 0 < L.sin t → 0 ≤ dis) :
    @acos2 K L.orbitK (rho * L.cos t) rho dis = t :=
  acos2_angle' T t rho dis hr h0 h1 hd1 hd2

/-- FULL inverse on the generic branch (the code's own branch condition: not
    `inc < 1e-8 || inc > π - 1e-8`), elliptic and hyperbolic alike, non-circular (e ≠ 0):
    `orbitFromParticle (fromOrbit (a, e, inc, Ω, ω, f))` returns `(a, e, inc, Ω, ω, f)` for
    Ω ∈ (-π, π], ω, f ∈ [0, 2π) (the ranges the reader reports), and θ, ϖ are
    Ω ± (ω + f), Ω ± ω modulo 2π with the sign the reported inclination selects.
    Remaining hypotheses: μ > 0, `a ≠ 0` (finding C11:a-zero-accepted; `e cos f ≠ -1` only for
    the unrepaired asymptote test). -/
theorem c11_reader_inverse_generic {L : Libm K} (T : TrigSpec L) (hf : FmodSpec L.fmod)
    (hsqrt : ∀ x, 0 ≤ x → 0 ≤ L.sqrt x ∧ L.sqrt x ^ 2 = x)
    (v : Variant) (G : K) (pr : Orbit.Part K) (m a e inc Om om f t0 : K) (P : Orbit.Part K) (o : Orb K)
    (hP : @fromOrbit K L.orbitK v G pr m a e inc Om om f = .ok P)
    (ho : @orbitFromParticle K L.orbitK v G P pr t0 = .ok o)
    (hmu : 0 < G * (m + pr.m)) (ha : a ≠ 0) (hasym : v.asymLe = false → e * L.cos f ≠ -1)
    (he : e ≠ 0)
    (hi1 : ¬ inc < 1 / 100000000) (hi2 : ¬ L.pi - 1 / 100000000 < inc)
    (hO : -L.pi < Om ∧ Om ≤ L.pi) (hom : 0 ≤ om ∧ om < 2 * L.pi) (hff : 0 ≤ f ∧ f < 2 * L.pi) :
    o.a = a ∧ o.e = e ∧ o.inc = inc ∧ o.Omega = Om ∧ o.omega = om ∧ o.f = f ∧
    (inc < L.pi / 2 → (∃ n : ℤ, o.theta = Om + (om + f) - n * (2 * L.pi)) ∧ (∃ n : ℤ, o.pomega = Om + om - n * (2 * L.pi))) ∧
    (¬ inc < L.pi / 2 → (∃ n : ℤ, o.theta = Om - (om + f) - n * (2 * L.pi)) ∧ (∃ n : ℤ, o.pomega = Om - om - n * (2 * L.pi))) := by
  have hpi := T.pi_pos
  have hinc0 : 0 < inc := lt_of_lt_of_le (by norm_num) (not_lt.mp hi1)
  have hinc1 : inc < L.pi := lt_of_le_of_lt (not_lt.mp hi2) (sub_lt_self _ (by norm_num))
  obtain ⟨M, r, H, hr, hH, he0, ex1, ex2, ex3, hA, hE, Hinc, HOm, a1, a2, a3, a4⟩ :=
    reader_inverse_core T hsqrt v G pr m a e inc Om om f t0 P o hP ho hmu ha hasym hinc0 hinc1 hO
  have hepos : 0 < e := lt_of_le_of_ne he0 (Ne.symm he)
  have hsi : 0 < L.sin inc := T.sin_pos inc hinc0 hinc1
  have hrho : 0 < H * L.sin inc := mul_pos hH hsi
  obtain ⟨g1, g2, g3, g4⟩ := readerAngles_generic (L := L) inc Om e M r (P.x - pr.x) (P.y - pr.y) (P.z - pr.z)
    (e * (L.cos Om * L.cos om - L.sin Om * L.sin om * L.cos inc))
    (e * (L.sin Om * L.cos om + L.cos Om * L.sin om * L.cos inc)) (e * (L.sin om * L.sin inc))
    (H * L.sin inc * L.cos Om) (H * L.sin inc * L.sin Om) (H * L.sin inc) hi1 hi2
  obtain ⟨tw, jw, tw0, tw1, twe, twc, tws⟩ := T.reduce₁ om hom
  have hw : @acos2 K L.orbitK (H * L.sin inc * L.cos Om * (e * (L.cos Om * L.cos om - L.sin Om * L.sin om * L.cos inc)) +
      H * L.sin inc * L.sin Om * (e * (L.sin Om * L.cos om + L.cos Om * L.sin om * L.cos inc))) (H * L.sin inc * e)
      (e * (L.sin om * L.sin inc)) = tw :=
    acos2_wpf T e H inc Om om tw _ _ _ hepos hH hsi tw0 tw1 twc tws rfl rfl (by ring)
  have Hom : o.omega = om := by
    rw [a1, g1, hw]
    exact mod2pi_unique hf hpi tw om (-jw) hom.1 hom.2 (by rw [twe]; push_cast; ring)
  obtain ⟨tu, ju, tu0, tu1, tue, tuc, tus⟩ := T.reduce_add om f hom hff
  have hwpf : @acos2 K L.orbitK (H * L.sin inc * L.cos Om * (P.x - pr.x) + H * L.sin inc * L.sin Om * (P.y - pr.y))
      (H * L.sin inc * r) (P.z - pr.z) = tu :=
    acos2_wpf T r H inc Om (om + f) tu _ _ _ hr hH hsi tu0 tu1 tuc tus
      (by rw [ex1, T.cos_add, T.sin_add]) (by rw [ex2, T.cos_add, T.sin_add]) (by rw [ex3, T.sin_add])
  have Hf : o.f = f := by
    rw [a2, g2, hw, hwpf]
    exact mod2pi_unique hf hpi (tu - tw) f (jw - ju) hff.1 hff.2 (by rw [twe, tue]; push_cast; ring)
  refine ⟨hA, hE, Hinc, HOm, Hom, Hf, ?_, ?_⟩
  · intro hp
    obtain ⟨p1, p2⟩ := g3 hp
    constructor
    · obtain ⟨n, hn⟩ := mod2piCore_congr L.fmod hf L.pi hpi (Om + tu)
      refine ⟨n + ju, ?_⟩
      rw [a3, p2, hwpf]
      have : @mod2pi K L.orbitK (Om + tu) = Om + tu - n * (2 * L.pi) := hn
      rw [this, tue]; push_cast; ring
    · refine ⟨jw, ?_⟩
      rw [a4, p1, hw, twe]; ring
  · intro hp
    obtain ⟨p1, p2⟩ := g4 hp
    constructor
    · obtain ⟨n, hn⟩ := mod2piCore_congr L.fmod hf L.pi hpi (Om - tu)
      refine ⟨n - ju, ?_⟩
      rw [a3, p2, hwpf]
      have : @mod2pi K L.orbitK (Om - tu) = Om - tu - n * (2 * L.pi) := hn
      rw [this, tue]; push_cast; ring
    · refine ⟨-jw, ?_⟩
      rw [a4, p1, hw, twe]; push_cast; ring

/-- PARTIAL, any branch of the switch (in particular the near-planar one,
    `inc < 1e-8 || inc > π - 1e-8`, as long as 0 < inc < π): a, e, inc, Ω come back exactly.
    Missing there: ω and f — in that branch the code reports the broken angles
    (acos of the x-components of r and e), which equal ω, f only up to O(inc²). -/
theorem c11_reader_inverse_anybranch_partial {L : Libm K} (T : TrigSpec L)
    (hsqrt : ∀ x, 0 ≤ x → 0 ≤ L.sqrt x ∧ L.sqrt x ^ 2 = x)
    (v : Variant) (G : K) (pr : Orbit.Part K) (m a e inc Om om f t0 : K) (P : Orbit.Part K) (o : Orb K)
    (hP : @fromOrbit K L.orbitK v G pr m a e inc Om om f = .ok P)
    (ho : @orbitFromParticle K L.orbitK v G P pr t0 = .ok o)
    (hmu : 0 < G * (m + pr.m)) (ha : a ≠ 0) (hasym : v.asymLe = false → e * L.cos f ≠ -1)
    (hinc0 : 0 < inc) (hinc1 : inc < L.pi) (hO : -L.pi < Om ∧ Om ≤ L.pi) :
    o.a = a ∧ o.e = e ∧ o.inc = inc ∧ o.Omega = Om := by
  obtain ⟨_, _, _, _, _, _, _, _, _, hA, hE, Hinc, HOm, _⟩ :=
    reader_inverse_core T hsqrt v G pr m a e inc Om om f t0 P o hP ho hmu ha hasym hinc0 hinc1 hO
  exact ⟨hA, hE, Hinc, HOm⟩

/-- PARTIAL, near-planar branch taken at exactly inc = 0 (the model makes the C code's 0/0 → NaN
    → 0 explicit): with the node given as Ω = 0 the reader returns (a, e, 0, 0, ω, f).
    (For Ω ≠ 0 it returns the equivalent set (0, Ω+ω); retrograde-planar not proved.) -/
theorem c11_reader_inverse_planar_partial {L : Libm K} (T : TrigSpec L) (hf : FmodSpec L.fmod)
    (hsqrt : ∀ x, 0 ≤ x → 0 ≤ L.sqrt x ∧ L.sqrt x ^ 2 = x)
    (v : Variant) (G : K) (pr : Orbit.Part K) (m a e om f t0 : K) (P : Orbit.Part K) (o : Orb K)
    (hP : @fromOrbit K L.orbitK v G pr m a e 0 0 om f = .ok P)
    (ho : @orbitFromParticle K L.orbitK v G P pr t0 = .ok o)
    (hmu : 0 < G * (m + pr.m)) (ha : a ≠ 0) (hasym : v.asymLe = false → e * L.cos f ≠ -1)
    (he : e ≠ 0) (hom : 0 ≤ om ∧ om < 2 * L.pi) (hff : 0 ≤ f ∧ f < 2 * L.pi) :
    o.a = a ∧ o.e = e ∧ o.inc = 0 ∧ o.Omega = 0 ∧ o.omega = om ∧ o.f = f := by
  have hpi := T.pi_pos
  obtain ⟨hd, hA, hex, hey, hez, hE⟩ := reader_of_constructor L T.sq hsqrt v G pr m a e 0 0 om f t0 P o hP ho hmu ha hasym
  obtain ⟨r, H, hr, hH, he0, hrv, ex1, ex2, ex3, hhx, hhy, hhz⟩ := constructor_geometry L T.sq hsqrt v G pr m a e 0 0 om f P hP hmu ha hasym
  have hepos : 0 < e := lt_of_le_of_ne he0 (Ne.symm he)
  simp only [T.cos_zero, T.sin_zero] at hex hey hez ex1 ex2 ex3 hhx hhy hhz
  replace ho := orbitFromParticle_ok L _ _ _ _ _ _ ho
  obtain ⟨i1, i2, i3, i4, i5, i6, i7⟩ := @invariants_rel K _ _ _ L G P pr
  obtain ⟨M, a1, a2, a3, a4, a5⟩ := @orbitBody_angles K _ _ _ L v (@invariants K L.orbitK G P pr) t0
  have oinc := @orbitBody_inc K _ _ _ L v (@invariants K L.orbitK G P pr) t0
  have oOm := @orbitBody_Omega K _ _ _ L v (@invariants K L.orbitK G P pr) t0
  rw [ho] at a1 a2 a3 a4 a5 oinc oOm
  generalize @invariants K L.orbitK G P pr = I at *
  rw [hhx] at i4; rw [hhy] at i5; rw [hhz] at i6
  have i4' : I.hx = 0 := by rw [i4]; ring
  have i5' : I.hy = 0 := by rw [i5]; ring
  have i6' : I.hz = H := by rw [i6]; ring
  have hh : I.h = H := by
    rw [i7]; apply sqrt_eq_of_mul_self hsqrt (le_of_lt hH)
    rw [i4', i5', i6']; ring
  have Hinc : o.inc = 0 := by
    rw [oinc, i6', hh]
    have := acos2_angle' T 0 H 1 hH (neg_lt_zero.mpr hpi) hpi.le (fun h => absurd (T.sin_zero ▸ h) (lt_irrefl 0))
      (fun _ => zero_le_one)
    rwa [T.cos_zero, mul_one] at this
  have hnn : L.sqrt ((-I.hy) * (-I.hy) + I.hx * I.hx) = 0 := by
    apply sqrt_eq_of_mul_self hsqrt (le_refl 0)
    rw [i4', i5']; ring
  have HOm : o.Omega = 0 := by
    rw [oOm, hnn, i5', i4', neg_zero]; exact acos2_zero_zero 0
  rw [Hinc, HOm, hE, hnn, i5', i4', neg_zero, hex, hey, hez, i1, i2, i3] at a1 a2 a3 a4
  rw [a5] at hd
  have hod : o.d = r := by rw [a5, hd, hrv]
  obtain ⟨g1, g2, g3, g4⟩ := readerAngles_planar (L := L) 0 0 e M o.d (P.x - pr.x) (P.y - pr.y) (P.z - pr.z)
    (e * (1 * L.cos om - 0 * L.sin om * 1)) (e * (0 * L.cos om + 1 * L.sin om * 1)) (e * (L.sin om * 0))
    0 0 0 (Or.inl (by norm_num))
  obtain ⟨p1, p2⟩ := g3 (div_pos hpi two_pos)
  obtain ⟨tw, jw, tw0, tw1, twe, twc, tws⟩ := T.reduce₁ om hom
  obtain ⟨tu, ju, tu0, tu1, tue, tuc, tus⟩ := T.reduce_add om f hom hff
  have hpw : @acos2 K L.orbitK (e * (1 * L.cos om - 0 * L.sin om * 1)) e (e * (0 * L.cos om + 1 * L.sin om * 1)) = tw := by
    have e1 : e * (1 * L.cos om - 0 * L.sin om * 1) = e * L.cos tw := by rw [twc]; ring
    have e2 : e * (0 * L.cos om + 1 * L.sin om * 1) = e * L.sin tw := by rw [tws]; ring
    rw [e1, e2]
    exact acos2_angle T tw e e hepos hepos tw0 tw1
  have hth : @acos2 K L.orbitK (P.x - pr.x) o.d (P.y - pr.y) = tu := by
    have e1 : P.x - pr.x = o.d * L.cos tu := by rw [ex1, hod, tuc, T.cos_add]; ring
    have e2 : P.y - pr.y = o.d * L.sin tu := by rw [ex2, hod, tus, T.sin_add]; ring
    rw [e1, e2]
    exact acos2_angle T tu _ _ (by rw [hod]; exact hr) (by rw [hod]; exact hr) tu0 tu1
  refine ⟨hA, hE, Hinc, HOm, ?_, ?_⟩
  · rw [a1, p1, hpw]
    exact mod2pi_unique hf hpi (tw - 0) om (-jw) hom.1 hom.2 (by rw [twe]; push_cast; ring)
  · rw [a2, p2, hth, hpw]
    exact mod2pi_unique hf hpi (tu - tw) f (jw - ju) hff.1 hff.2 (by rw [twe, tue]; push_cast; ring)

/-- PARTIAL, exactly circular orbit (e = 0) given with ω = 0, generic inclination: the reader
    returns (a, 0, inc, Ω, 0, f).  (For ω ≠ 0 it returns the equivalent (0, ω+f).) -/
theorem c11_reader_inverse_circular_partial {L : Libm K} (T : TrigSpec L) (hf : FmodSpec L.fmod)
    (hsqrt : ∀ x, 0 ≤ x → 0 ≤ L.sqrt x ∧ L.sqrt x ^ 2 = x)
    (v : Variant) (G : K) (pr : Orbit.Part K) (m a inc Om f t0 : K) (P : Orbit.Part K) (o : Orb K)
    (hP : @fromOrbit K L.orbitK v G pr m a 0 inc Om 0 f = .ok P)
    (ho : @orbitFromParticle K L.orbitK v G P pr t0 = .ok o)
    (hmu : 0 < G * (m + pr.m)) (ha : a ≠ 0)
    (hi1 : ¬ inc < 1 / 100000000) (hi2 : ¬ L.pi - 1 / 100000000 < inc)
    (hO : -L.pi < Om ∧ Om ≤ L.pi) (hff : 0 ≤ f ∧ f < 2 * L.pi) :
    o.a = a ∧ o.e = 0 ∧ o.inc = inc ∧ o.Omega = Om ∧ o.omega = 0 ∧ o.f = f := by
  have hpi := T.pi_pos
  have hinc0 : 0 < inc := lt_of_lt_of_le (by norm_num) (not_lt.mp hi1)
  have hinc1 : inc < L.pi := lt_of_le_of_lt (not_lt.mp hi2) (sub_lt_self _ (by norm_num))
  obtain ⟨M, r, H, hr, hH, -, ex1, ex2, ex3, hA, hE, Hinc, HOm, a1, a2, -, -⟩ :=
    reader_inverse_core T hsqrt v G pr m a 0 inc Om 0 f t0 P o hP ho hmu ha (fun _ => by simp) hinc0 hinc1 hO
  have hsi : 0 < L.sin inc := T.sin_pos inc hinc0 hinc1
  obtain ⟨g1, g2, -, -⟩ := readerAngles_generic (L := L) inc Om 0 M r (P.x - pr.x) (P.y - pr.y) (P.z - pr.z)
    (0 * (L.cos Om * L.cos 0 - L.sin Om * L.sin 0 * L.cos inc))
    (0 * (L.sin Om * L.cos 0 + L.cos Om * L.sin 0 * L.cos inc)) (0 * (L.sin 0 * L.sin inc))
    (H * L.sin inc * L.cos Om) (H * L.sin inc * L.sin Om) (H * L.sin inc) hi1 hi2
  -- the eccentricity vector vanishes: `acos2 0 0 _ = 0`
  have hw : @acos2 K L.orbitK (H * L.sin inc * L.cos Om * (0 * (L.cos Om * L.cos 0 - L.sin Om * L.sin 0 * L.cos inc)) +
      H * L.sin inc * L.sin Om * (0 * (L.sin Om * L.cos 0 + L.cos Om * L.sin 0 * L.cos inc))) (H * L.sin inc * 0)
      (0 * (L.sin 0 * L.sin inc)) = 0 := by
    have e1 : H * L.sin inc * L.cos Om * (0 * (L.cos Om * L.cos 0 - L.sin Om * L.sin 0 * L.cos inc)) +
      H * L.sin inc * L.sin Om * (0 * (L.sin Om * L.cos 0 + L.cos Om * L.sin 0 * L.cos inc)) = 0 := by ring
    rw [e1, mul_zero]; exact acos2_zero_zero _
  have Hom : o.omega = 0 := by
    rw [a1, g1, hw]
    exact mod2pi_unique hf hpi 0 0 0 le_rfl (by linarith) (by simp)
  obtain ⟨tu, ju, tu0, tu1, tue, tuc, tus⟩ := T.reduce_add 0 f ⟨le_rfl, mul_pos two_pos hpi⟩ hff
  have hwpf : @acos2 K L.orbitK (H * L.sin inc * L.cos Om * (P.x - pr.x) + H * L.sin inc * L.sin Om * (P.y - pr.y))
      (H * L.sin inc * r) (P.z - pr.z) = tu :=
    acos2_wpf T r H inc Om (0 + f) tu _ _ _ hr hH hsi tu0 tu1 tuc tus
      (by rw [ex1, T.cos_add, T.sin_add]) (by rw [ex2, T.cos_add, T.sin_add]) (by rw [ex3, T.sin_add])
  have Hf : o.f = f := by
    rw [a2, g2, hw, hwpf]
    exact mod2pi_unique hf hpi (tu - 0) f (-ju) hff.1 hff.2 (by rw [tue]; push_cast; ring)
  exact ⟨hA, hE, Hinc, HOm, Hom, Hf⟩

/-- the same over ℝ with `Real.cos, Real.sin, Real.arccos, Real.sqrt, Real.pi` and the C-style
    `fmod` on the reals — no abstract hypothesis left -/
theorem c11_reader_inverse_generic_real
    (v : Variant) (G : ℝ) (pr : Orbit.Part ℝ) (m a e inc Om om f t0 : ℝ) (P : Orbit.Part ℝ) (o : Orb ℝ)
    (hP : @fromOrbit ℝ (realLibm fmodR).orbitK v G pr m a e inc Om om f = .ok P)
    (ho : @orbitFromParticle ℝ (realLibm fmodR).orbitK v G P pr t0 = .ok o)
    (hmu : 0 < G * (m + pr.m)) (ha : a ≠ 0) (hasym : v.asymLe = false → e * Real.cos f ≠ -1)
    (he : e ≠ 0)
    (hi1 : ¬ inc < 1 / 100000000) (hi2 : ¬ Real.pi - 1 / 100000000 < inc)
    (hO : -Real.pi < Om ∧ Om ≤ Real.pi) (hom : 0 ≤ om ∧ om < 2 * Real.pi) (hff : 0 ≤ f ∧ f < 2 * Real.pi) :
    o.a = a ∧ o.e = e ∧ o.inc = inc ∧ o.Omega = Om ∧ o.omega = om ∧ o.f = f :=
  let h := c11_reader_inverse_generic (realTrigSpec fmodR) fmodR_spec (realSqrtSpec fmodR) v G pr m a e inc Om om f t0
    P o hP ho hmu ha hasym he hi1 hi2 hO hom hff
  ⟨h.1, h.2.1, h.2.2.1, h.2.2.2.1, h.2.2.2.2.1, h.2.2.2.2.2.1⟩

/-- PARTIAL inverse for Pal (2009) elements, on the model functions: the reader applied to
    `reb_particle_from_pal (a, λ, k, h, ix, iy)` reports `pal_h = h`, `pal_k = k`, `pal_ix = ix`,
    `pal_iy = iy`, `a`, and the distance `a(1 - q)`, for a bound orbit (`h²+k² < 1`), `ix²+iy² < 4`,
    `a > 0`, μ > 0.  The only numerical hypothesis is that the output `(p, q)` of
    `reb_tools_solve_kepler_pal` satisfies Pal's Kepler equation `p = k sin(λ+p) - h cos(λ+p)`,
    `q = k cos(λ+p) + h sin(λ+p)` (its repaired update is the Newton step for exactly this system:
    `c11_pal_step_is_newton_fixed`).  Missing: λ, which reb_orbit does not report as such (its
    mean longitude `l` goes through `acos`). -/
theorem c11_reader_of_fromPal_partial {L : Libm K} (hsq : ∀ x, L.cos x ^ 2 + L.sin x ^ 2 = 1)
    (hsqrt : ∀ x, 0 ≤ x → 0 ≤ L.sqrt x ∧ L.sqrt x ^ 2 = x) (hfabs : ∀ x, 0 ≤ x → L.fabs x = x)
    (v : Variant) (G : K) (pr : Orbit.Part K) (m a lam k h ix iy t0 : K) (o : Orb K)
    (ho : @orbitFromParticle K L.orbitK v G (@fromPal K L.orbitK v G pr m a lam k h ix iy) pr t0 = .ok o)
    (hK : (@solveKeplerPal K L.orbitK v h k lam).1 = k * L.sin (lam + (@solveKeplerPal K L.orbitK v h k lam).1)
            - h * L.cos (lam + (@solveKeplerPal K L.orbitK v h k lam).1) ∧
          (@solveKeplerPal K L.orbitK v h k lam).2 = k * L.cos (lam + (@solveKeplerPal K L.orbitK v h k lam).1)
            + h * L.sin (lam + (@solveKeplerPal K L.orbitK v h k lam).1))
    (ha : 0 < a) (hmu : 0 < G * (m + pr.m)) (he : h * h + k * k < 1) (hi : ix * ix + iy * iy < 4) :
    o.pal_h = h ∧ o.pal_k = k ∧ o.pal_ix = ix ∧ o.pal_iy = iy ∧ o.a = a ∧
    o.d = a * (1 - (@solveKeplerPal K L.orbitK v h k lam).2) := by
  rw [fromPal_eq, hfabs _ (by linarith)] at ho
  obtain ⟨s1, s2, s3, s4, s5, s6⟩ := fromPal_side hsqrt (G * (m + pr.m)) a k h ix iy ha hmu he hi
  exact reader_of_palCore hsqrt v G pr m a k h ix iy _ _ _ _ _ _ _ t0 o ho
    (by linear_combination hsq (lam + (@solveKeplerPal K L.orbitK v h k lam).1)) hK.1 hK.2 s1 s2 s3 s4 s5 s6 ha

/-- FULL inverse for Pal elements through `reb_tools_particle_to_pal` (the routine
    derivatives.c uses), on the model functions: applied to `reb_particle_from_pal (a, λ, k, h, ix, iy)`
    it returns h, k, ix, iy, a exactly and λ modulo 2π (bound orbit, `ix²+iy² < 4`, `a > 0`, μ > 0,
    `0 ≤ λ+p < 4π`).  Hypotheses: the solver output satisfies Pal's Kepler equation; `TrigSpec`;
    `atan2(ρ sin t, ρ cos t) = t` for t ∈ (-π, π], ρ > 0. -/
theorem c11_particleToPal_of_fromPal {L : Libm K} (T : TrigSpec L)
    (hsqrt : ∀ x, 0 ≤ x → 0 ≤ L.sqrt x ∧ L.sqrt x ^ 2 = x) (hfabs : ∀ x, 0 ≤ x → L.fabs x = x)
    (hatan2 : ∀ t rho : K, 0 < rho → -L.pi < t → t ≤ L.pi → L.atan2 (rho * L.sin t) (rho * L.cos t) = t)
    (v : Variant) (G : K) (pr : Orbit.Part K) (m a lam k h ix iy : K)
    (hK : (@solveKeplerPal K L.orbitK v h k lam).1 = k * L.sin (lam + (@solveKeplerPal K L.orbitK v h k lam).1)
            - h * L.cos (lam + (@solveKeplerPal K L.orbitK v h k lam).1) ∧
          (@solveKeplerPal K L.orbitK v h k lam).2 = k * L.cos (lam + (@solveKeplerPal K L.orbitK v h k lam).1)
            + h * L.sin (lam + (@solveKeplerPal K L.orbitK v h k lam).1))
    (ha : 0 < a) (hmu : 0 < G * (m + pr.m)) (he : h * h + k * k < 1) (hi : ix * ix + iy * iy < 4)
    (hlam : 0 ≤ lam + (@solveKeplerPal K L.orbitK v h k lam).1 ∧ lam + (@solveKeplerPal K L.orbitK v h k lam).1 < 4 * L.pi) :
    let e := @particleToPal K L.orbitK G (@fromPal K L.orbitK v G pr m a lam k h ix iy) pr
    e.h = h ∧ e.k = k ∧ e.ix = ix ∧ e.iy = iy ∧ e.a = a ∧ ∃ n : ℤ, e.lambda = lam - n * (2 * L.pi) := by
  rw [fromPal_eq]
  rw [hfabs _ (by linarith)]
  obtain ⟨s1, s2, s3, s4, s5, s6⟩ := fromPal_side hsqrt (G * (m + pr.m)) a k h ix iy ha hmu he hi
  exact particleToPal_of_palCore hsqrt G pr m a k h ix iy _ _ _ _ _ _ _ lam
    (by linear_combination T.sq (lam + (@solveKeplerPal K L.orbitK v h k lam).1)) hK.1 hK.2 s1 s2 s3 s4 s5 s6 ha
    T rfl rfl hatan2 hlam

/-- the polynomial core of the Pal construction: with c²+s²=1, (1-l)² = 1-h²-k² and
    p = k s - h c, q = k c + h s: r = a(1-q), the in-plane angular momentum is a·an·(1-l),
    and the (k, h) components are recovered (scaled forms, no division) -/
theorem c11_pal_inplane_identities (c s l h k : K) (hcs : c ^ 2 + s ^ 2 = 1)
    (hl : (1 - l) ^ 2 = 1 - h ^ 2 - k ^ 2) :
    let p := k * s - h * c; let q := k * c + h * s
    let D2 := 2 - l; let D1 := 1 - q
    let Xi := c * D2 + p * h - k * D2; let Eta := s * D2 - p * k - h * D2
    let Xi1 := -s * D2 + q * h; let Eta1 := c * D2 - q * k
    Xi ^ 2 + Eta ^ 2 = D2 ^ 2 * D1 ^ 2 ∧
    Xi * Eta1 - Eta * Xi1 = D2 ^ 2 * D1 * (1 - l) ∧
    (1 - l) * Eta1 - Xi = k * D1 * D2 ∧
    -(1 - l) * Xi1 - Eta = h * D1 * D2 ∧
    Xi1 ^ 2 + Eta1 ^ 2 = D2 ^ 2 * (1 - q) * (1 + q) :=
  pal_I1 c s l h k hcs hl

/-- `reb_mod2pi` maps into `[0, 2π)` and changes its argument by a multiple of `2π`, for any
    `fmod` with the C semantics (|fmod x y| < y, sign of x, x - fmod x y ∈ yℤ) -/
theorem c11_mod2pi_range (fmod : K → K → K) (h : FmodSpec fmod) (pi : K) (hpi : 0 < pi) (f : K) :
    (0 ≤ mod2piCore fmod pi f ∧ mod2piCore fmod pi f < 2 * pi) ∧
    ∃ n : ℤ, mod2piCore fmod pi f = f - n * (2 * pi) :=
  ⟨mod2piCore_range fmod h pi hpi f, mod2piCore_congr fmod h pi hpi f⟩

/-- ranges of what `reb_orbit_from_particle` reports, on the model function itself:
    f, l, M, θ, ω ∈ [0, 2π); inc ∈ [0, π]; Ω ∈ [-π, π] — for any libm with `acos x ∈ [0, π]`
    and a C-like `fmod` -/
theorem c11_reader_ranges (L : Libm K) (hf : FmodSpec L.fmod) (hpi : 0 < L.pi)
    (hacos : ∀ x, 0 ≤ L.acos x ∧ L.acos x ≤ L.pi) (v : Variant) (G : K) (p pr : Orbit.Part K) (t0 : K)
    (o : Orb K) (h : @orbitFromParticle K L.orbitK v G p pr t0 = .ok o) :
    (0 ≤ o.f ∧ o.f < 2 * L.pi) ∧ (0 ≤ o.l ∧ o.l < 2 * L.pi) ∧ (0 ≤ o.M ∧ o.M < 2 * L.pi) ∧
    (0 ≤ o.theta ∧ o.theta < 2 * L.pi) ∧ (0 ≤ o.omega ∧ o.omega < 2 * L.pi) ∧
    (0 ≤ o.inc ∧ o.inc ≤ L.pi) ∧ (-L.pi ≤ o.Omega ∧ o.Omega ≤ L.pi) := by
  replace h := orbitFromParticle_ok L _ _ _ _ _ _ h
  subst h
  have := acos2_range L hpi hacos
  exact ⟨mod2pi_range L hf hpi _, mod2pi_range L hf hpi _, mod2pi_range L hf hpi _,
    mod2pi_range L hf hpi _, mod2pi_range L hf hpi _, ⟨(this _ _ (1 : K)).2.2 (by norm_num), (this _ _ _).2.1⟩,
    ⟨(this _ _ _).1, (this _ _ _).2.1⟩⟩

/-- `reb_E_to_f`, elliptic branch, as an algebraic identity: if `tan(f/2) = s·tan(E/2)` with
    `s² = (1+e)/(1-e)` (what the code computes) then, in the tangent half-angle form of the
    cosines, `cos f = (cos E - e)/(1 - e cos E)` and `(1 - e cos E)(1 + e cos f) = 1 - e²`
    (the radius from E equals the radius from f) -/
theorem c11_E_to_f_halfangle_elliptic {F : Type} [Field F] (e tE s : F) (hs : s ^ 2 * (1 - e) = 1 + e)
    (h1 : 1 + tE ^ 2 ≠ 0) (h2 : 1 + (s * tE) ^ 2 ≠ 0) (h3 : 1 - e ≠ 0) :
    let cE := (1 - tE ^ 2) / (1 + tE ^ 2)
    let cf := (1 - (s * tE) ^ 2) / (1 + (s * tE) ^ 2)
    cf * (1 - e * cE) = cE - e ∧ (1 - e * cE) * (1 + e * cf) = 1 - e ^ 2 := by
  have hs2 : s ^ 2 = (1 + e) / (1 - e) := by field_simp; linear_combination hs
  have h2' : 1 + (1 + e) / (1 - e) * tE ^ 2 ≠ 0 := by
    have : (s * tE) ^ 2 = (1 + e) / (1 - e) * tE ^ 2 := by rw [mul_pow, hs2]
    rw [← this]; exact h2
  have h2'' : (1 - e) + (1 + e) * tE ^ 2 ≠ 0 := by
    intro h; apply h2'; field_simp; linear_combination h
  have hcf : (1 - (1 + e) / (1 - e) * tE ^ 2) / (1 + (1 + e) / (1 - e) * tE ^ 2)
      = ((1 - e) - (1 + e) * tE ^ 2) / ((1 - e) + (1 + e) * tE ^ 2) := by
    rw [div_eq_div_iff h2' h2'']; field_simp
  simp only [mul_pow, hs2, hcf]
  have e1 : 1 - e * ((1 - tE ^ 2) / (1 + tE ^ 2)) = (1 - e + (1 + e) * tE ^ 2) / (1 + tE ^ 2) := by
    field_simp; ring
  have e2 : 1 + e * ((1 - e - (1 + e) * tE ^ 2) / (1 - e + (1 + e) * tE ^ 2))
      = (1 - e ^ 2) * (1 + tE ^ 2) / (1 - e + (1 + e) * tE ^ 2) := by
    field_simp; ring
  rw [e1, e2]
  constructor <;> field_simp
  ring

/-- hyperbolic branch: `tan(f/2) = s·tanh(H/2)`, `s² = (e+1)/(e-1)`, `cosh H = (1+t²)/(1-t²)` -/
theorem c11_E_to_f_halfangle_hyperbolic {F : Type} [Field F] (e tH s : F) (hs : s ^ 2 * (e - 1) = e + 1)
    (h1 : 1 - tH ^ 2 ≠ 0) (h2 : 1 + (s * tH) ^ 2 ≠ 0) (h3 : e - 1 ≠ 0) :
    let cH := (1 + tH ^ 2) / (1 - tH ^ 2)
    let cf := (1 - (s * tH) ^ 2) / (1 + (s * tH) ^ 2)
    cf * (e * cH - 1) = e - cH ∧ (1 - e * cH) * (1 + e * cf) = 1 - e ^ 2 := by
  have hs2 : s ^ 2 = (e + 1) / (e - 1) := by field_simp; linear_combination hs
  have h2' : 1 + (e + 1) / (e - 1) * tH ^ 2 ≠ 0 := by
    have : (s * tH) ^ 2 = (e + 1) / (e - 1) * tH ^ 2 := by rw [mul_pow, hs2]
    rw [← this]; exact h2
  have h2'' : (e - 1) + (e + 1) * tH ^ 2 ≠ 0 := by
    intro h; apply h2'; field_simp; linear_combination h
  have hcf : (1 - (e + 1) / (e - 1) * tH ^ 2) / (1 + (e + 1) / (e - 1) * tH ^ 2)
      = ((e - 1) - (e + 1) * tH ^ 2) / ((e - 1) + (e + 1) * tH ^ 2) := by
    rw [div_eq_div_iff h2' h2'']; field_simp
  simp only [mul_pow, hs2, hcf]
  have e1 : 1 - e * ((1 + tH ^ 2) / (1 - tH ^ 2)) = -((e - 1) + (e + 1) * tH ^ 2) / (1 - tH ^ 2) := by
    field_simp; ring
  have e1' : e * ((1 + tH ^ 2) / (1 - tH ^ 2)) - 1 = ((e - 1) + (e + 1) * tH ^ 2) / (1 - tH ^ 2) := by
    field_simp; ring
  have e2 : 1 + e * ((e - 1 - (e + 1) * tH ^ 2) / (e - 1 + (e + 1) * tH ^ 2))
      = (e ^ 2 - 1) * (1 - tH ^ 2) / (e - 1 + (e + 1) * tH ^ 2) := by
    field_simp; ring
  rw [e1, e1', e2]
  constructor <;> field_simp <;> ring

/-- Pal's Kepler solver (`reb_tools_solve_kepler_pal`, low-e branch): the update of the
    repaired source (`fixed = true`, fixes/C16-pal-kepler-jacobian.diff) is the Newton step:
    J·(Δq, Δp) = (f0, f1) with J the Jacobian of (f0, f1) with respect to (q, p) -/
theorem c11_pal_step_is_newton_fixed {F : Type} [Field F] (h k cl sl c s pn qn : F)
    (hcs : c ^ 2 + s ^ 2 = 1) (hq : qn - 1 ≠ 0) :
    let r := palStepCore true h k cl sl c s pn qn
    let dq := qn - r.2.1
    let dp := pn - r.1
    c * dq + ((-qn) * s + s + pn * c) * dp = r.2.2.1 ∧
    (-s) * dq + ((-qn) * c + c - pn * s) * dp = r.2.2.2 := by
  -- all that is used of `fac = 1/(qn - 1)` is `fac * (qn - 1) = 1`
  have hf : 1 / (qn - 1) * (qn - 1) = 1 := one_div_mul_cancel hq
  simp only [palStepCore, sc_hadd, sc_hsub, sc_hmul, sc_hdiv, sc_neg, sc_one, if_true]
  generalize 1 / (qn - 1) = fac at hf ⊢
  constructor
  · linear_combination (fac * (qn - 1) * (qn * c + pn * s - (k * cl + h * sl))) * hcs
      + (qn * c + pn * s - (k * cl + h * sl)) * hf
  · linear_combination (fac * (qn - 1) * ((-qn) * s + pn * c - (k * sl - h * cl))) * hcs
      + ((-qn) * s + pn * c - (k * sl - h * cl)) * hf

/-- … and the update of the unchanged tree (`fixed = false`: off-diagonal entries of the
    inverse Jacobian swapped) is not (finding C11:pal-kepler-lowe-unconverged):
    witness cos p = 3/5, sin p = 4/5, p = 1, q = 0, h = k = 0 -/
theorem c11_pal_step_not_newton_unfixed :
    ¬ ∀ (h k cl sl c s pn qn : ℚ), c ^ 2 + s ^ 2 = 1 → qn - 1 ≠ 0 →
      (let r := palStepCore false h k cl sl c s pn qn
       c * (qn - r.2.1) + ((-qn) * s + s + pn * c) * (pn - r.1) = r.2.2.1) := by
  intro H
  have := H 0 0 1 0 (3 / 5) (4 / 5) 1 0 (by norm_num) (by norm_num)
  simp only [palStepCore, sc_hadd, sc_hsub, sc_hmul, sc_hdiv, sc_hneg, sc_neg, sc_one] at this
  norm_num at this

/-! the hypotheses are satisfiable: concrete instances over ℚ -/
example : fromOrbitCheck Variant.unfixed (1 / 1000 : ℚ) 1 2 (1 / 2) (-1) = none := by decide +kernel
example : fromOrbitCheck Variant.unfixed (1 / 1000 : ℚ) 1 (-2) 3 (-1 / 2) = some .fRange := by decide +kernel
example : fromOrbitCheck Variant.unfixed (1 / 1000 : ℚ) 0 2 (1 / 2) 1 = some .noMass := by decide +kernel
example : fromOrbitCheck Variant.unfixed (1 / 1000 : ℚ) 1 2 1 1 = some .radial := by decide +kernel
example : fromOrbitCheck Variant.unfixed (1 / 1000 : ℚ) 1 2 (-1) 1 = some .negE := by decide +kernel
example : fromOrbitCheck Variant.unfixed (1 / 1000 : ℚ) 1 2 3 1 = some .boundE := by decide +kernel
example : fromOrbitCheck Variant.unfixed (1 / 1000 : ℚ) 1 (-2) (1 / 2) 1 = some .unboundE := by decide +kernel
/-- a rational orbit: a = 1, e = 3/5, all angles with (cos, sin) = (3/5, 4/5):
    `v0² = μ/a/(1-e²)` with μ = 16/25 gives v0 = 1 -/
example : ∀ P : Orbit.Part ℚ, P = fromOrbitCore (⟨0, 0, 0, 0, 0, 0, 1⟩ : Orbit.Part ℚ) 0 1 (3 / 5)
      ⟨3 / 5, 4 / 5, 3 / 5, 4 / 5, 3 / 5, 4 / 5, 3 / 5, 4 / 5⟩ 1 →
    P.vx ^ 2 + P.vy ^ 2 + P.vz ^ 2 = (16 / 25) * (2 / ((16 / 25) / (1 + 9 / 25)) - 1) := by
  intro P hP
  subst hP
  have := (c11_fromOrbit_defining_relations (16 / 25 : ℚ) ⟨0, 0, 0, 0, 0, 0, 1⟩ 0 1 (3 / 5)
    (3 / 5) (4 / 5) (3 / 5) (4 / 5) (3 / 5) (4 / 5) (3 / 5) (4 / 5) 1
    (by norm_num) (by norm_num) (by norm_num) (by norm_num) (by norm_num) (by norm_num) (by norm_num)
    (by norm_num)).2.1
  simp only [sub_zero] at this
  rw [this]; norm_num

end elements
end RV.C11
