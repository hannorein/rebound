import RV.Proofs.C01Saba
import RV.Proofs.C01Whfast
import RV.Proofs.C01WhfastSym
import RV.Proofs.C01WhfastOrd
import RV.Proofs.C01WhfastOrd3
import RV.Proofs.C01Eos
import RV.Proofs.C01EosOrd
import RV.Proofs.C01EosAllN
import RV.Proofs.C01Janus
import RV.Proofs.C01JanusWords
import RV.Proofs.C01JanusW10
import RV.Proofs.C01Ias15
import RV.Proofs.C01Leapfrog
import RV.Proofs.C01Mercurius
import RV.Proofs.C01BsLinear
import RV.Proofs.C01Trace
import RV.Proofs.C01Ias15Sweep
import RV.Proofs.C01Dispatch
import RV.Proofs.C01Changeover
import RV.Proofs.C01ChangeoverAll
import RV.Proofs.C01ChangeoverMono
import RV.Proofs.C01Flow
/-
  C01 — every integrator converges to the true N-body solution at its advertised order.   **PARTIAL.**

  Not proved: the analytic convergence theorem (error = O(dtᵖ)), anything about the adaptive integrators' step-size
  control (IAS15, BS), MERCURIUS' encounter switching (the changeover *functions* are treated below), TRACE's accept/reject
  logic, and that the primitives (Kepler solver, force routines, coordinate transformations) compute what their names say
  (C02, C03, C12).

  Proved, of the *current source* (tables and schedules are regenerated from /repo on every run into RV/Gen/C01*.lean by
  executing the control flow of the C text; coefficients are the decimal literals as exact rationals, which the check
  confirms round to the doubles the compiler produces): the complete set of algebraic facts from which the textbook theorem
  follows — consistency, symmetry, and the order conditions of every member of the option lattice, in the strongest
  form available: agreement of `Π exp(cᵢ dt Lᵢ)` with `exp(dt(A+B))` on **all** words of the free algebra up to the
  advertised (generalised) order.
-/
namespace RV.C01.Props
open RV.C01 RV.C01.Gen RV.C01.Adv

/-! ### the translator found everything (an extraction that silently finds less fails here) -/
theorem c01_extraction_complete :
    (sabaCounts = [("c literals", 35), ("d literals", 30), ("cc literals", 4), ("types", 18)] ∧ sabaStep.length = 18 ∧ sabaTwoUnsync.length = 18) ∧
    (whCounts = [("a", 8), ("b", 19), ("accepted", 64), ("rejected", 128)] ∧ whA.length = 8 ∧
      whB.map (fun p => (p.1, p.2.length)) = corrConditions ∧ whCorr.length = 10 ∧ whCore.length = 7) ∧
    (eosCounts = [("types", 9), ("tables", 18), ("literals", 70)] ∧ eosOuter.map (·.1) = [0, 1, 2, 3, 4, 5, 6, 7, 8] ∧
      eosInner.length = 36 ∧ eosParts.length = 9 ∧ eosOuterTwoUnsync.length = 9) ∧
    (janusCounts = [("schemes", 5)] ∧ janusSchemes.map (fun e => (e.1, e.2.1)) = [(2, 1), (4, 5), (6, 9), (8, 15), (10, 33)]
      ∧ janusStep.map (·.1) = [2, 4, 6, 8, 10] ∧ ∀ e ∈ janusSchemes, e.2.2.length = 17) ∧
    (iasCounts = [("h", 8), ("rr", 28), ("c", 21), ("d", 21), ("w", 8)] ∧ iasH.length = 8 ∧ iasRR.length = 28 ∧
      iasC.length = 21 ∧ iasD.length = 21 ∧ iasW.length = 8) :=
  ⟨Saba.counts, Whfast.counts, Eos.counts, Janus.counts, Ias15.counts⟩

/-! ### the two-phase step driver (src/integrator.c) -/
/-- executing the switch statements of `reb_integrator_part1`, `reb_integrator_part2`, `reb_simulation_synchronize` for each of the
    twelve values of the integrator enumeration reaches that family's own routine (no missing or crossed case; `none` only advances
    time), and `reb_simulation_reset_integrator` resets every family with state and selects IAS15 -/
theorem c01_step_driver_dispatch :
    (dispatch.map (fun r => (r.2.2.1, r.2.1)) =
      [("ias15", 0), ("whfast", 1), ("sei", 2), ("leapfrog", 4), ("none", 7), ("janus", 8), ("mercurius", 9), ("saba", 10), ("eos", 11),
       ("bs", 12), ("whfast512", 21), ("trace", 25)] ∧ (dispatch.map (·.2.1)).Nodup) ∧
    (∀ r ∈ dispatch,
      (r.2.2.1 = "none" → r.2.2.2.1 = "" ∧ r.2.2.2.2.1 = "advance_time" ∧ r.2.2.2.2.2 = "") ∧
      (r.2.2.1 ≠ "none" → r.2.2.2.1 = Dispatch.expected r.2.2.1 "part1" ∧ r.2.2.2.2.1 = Dispatch.expected r.2.2.1 "part2" ∧
        r.2.2.2.2.2 = Dispatch.expected r.2.2.1 "synchronize")) ∧
    ((∀ r ∈ dispatch, r.2.2.1 ≠ "none" → r.2.2.1 ≠ "leapfrog" → Dispatch.expected r.2.2.1 "reset" ∈ dispatchResetCalls) ∧
      dispatchResetIntegrator = 0 ∧ dispatchResetCalls.Nodup) :=
  ⟨Dispatch.enumeration, Dispatch.no_crossed_case, Dispatch.reset_complete⟩

/-- the user-ODE sub-stepping loop at the end of `reb_integrator_part2`, executed by the translator for five valuations of
    (t, r->dt, r->dt_last_done, dt_proposed) with r->dt ≠ r->dt_last_done (adaptive integrator) and both signs: the sub-steps start at
    `t − dt_last_done`, tile exactly the step just done, respect `|dt_proposed|`, and `r->t` is restored -/
theorem c01_user_ode_interval : odeLoop.length = 5 ∧ ∀ e ∈ odeLoop,
    (e.2.1.head?.map (·.1)) = some (e.1.1 - e.1.2.2.1) ∧ Dispatch.contiguous e.2.1 = true ∧
    (e.2.1.map (·.2)).foldl (· + ·) 0 = e.1.2.2.1 ∧ e.2.2 = e.1.1 ∧
    (∀ c ∈ e.2.1, (0 < c.2) = (0 < e.1.2.2.1) ∧ (e.1.2.2.2 = 0 ∨ Dispatch.absR c.2 ≤ Dispatch.absR e.1.2.2.2)) ∧
    (e.1.2.2.2 = 0 → e.2.1.length = 1) := Dispatch.ode_loop_interval

/-! ### SABA (18 types) -/
/-- every type has the documented number of stages, and that many kicks and one more drift per step -/
theorem c01_saba_stages : (∀ t ∈ sabaTypes, sabaStages.lookup t.2.1 = some t.2.2 ∧ (sabaStep.lookup t.2.1).isSome) ∧
    (∀ t ∈ sabaTypes, ∀ s ∈ sabaStep.lookup t.2.1,
      (s.filter (fun o => o.kind == 1 && o.a != 0)).length = t.2.2 ∧ countKind 0 s = t.2.2 + 1) :=
  ⟨Saba.stages, Saba.stage_count⟩
/-- drift, centre-of-mass and kick coefficients each sum to 1 -/
theorem c01_saba_consistent : ∀ e ∈ sabaStep, Consistent e.2 tolSaba := Saba.consistent
/-- every step is a palindrome (correctors included) -/
theorem c01_saba_symmetric : ∀ e ∈ sabaStep, Palindrome e.2 := Saba.symmetric
/-- every kick uses forces evaluated at the current positions -/
theorem c01_saba_fresh : ∀ e ∈ sabaStep, Fresh e.2 := Saba.fresh
/-- quadrature conditions `Σ dᵢ c̄ᵢᵏ = 1/(k+1)`, `k < p₁` -/
theorem c01_saba_quadrature : ∀ e ∈ sabaStep, ∀ lim ∈ saba.lookup e.1, Quadrature e.2 (lim.getD 1 0) tolSaba := Saba.quadrature
/-- advertised generalised order of every type, on all words (modified-kick / lazy correctors as jerk terms) -/
theorem c01_saba_order : (∀ e ∈ sabaStep, (saba.lookup e.1).isSome) ∧
    ∀ e ∈ sabaStep, ∀ lim ∈ saba.lookup e.1, WordOrder e.2 lim κWH tolSaba := ⟨Saba.advertised_known, Saba.order⟩
/-- two steps with safe_mode = 0 and a final synchronize = two synchronized steps -/
theorem c01_saba_unsync : ∀ e ∈ sabaStep, ∀ two ∈ sabaTwoUnsync.lookup e.1, norm two = norm (e.2 ++ e.2) := Saba.unsync

/-! ### WHFast (4 coordinate systems × 4 kernels × 6 first correctors × second corrector) -/
/-- the source accepts exactly the documented lattice (64 of 192 combinations) -/
theorem c01_whfast_lattice : whAccepted = whLattice ∧ (∀ cfg ∈ whAccepted, (Whfast.stepOf cfg).isSome ∧ (Whfast.twoOf cfg).isSome) ∧
    whJumpNoop = [(0, true), (1, false), (2, false), (3, true)] := ⟨Whfast.lattice.1, Whfast.lattice.2, Whfast.jump_noop⟩
/-- corrector tables: `a_k = k·a₁`, `a₁² = 7/40`, `corrector2_b = a₁/12` -/
theorem c01_whfast_table_a : (∀ k ∈ List.range 8, Near (whA.getD k 0) (((k : Rat) + 1) * whA.getD 0 0) tolWH) ∧
    Near (whA.getD 0 0 ^ 2) (7/40) tolWH ∧ Near (12 * whC2B) (whA.getD 0 0) tolWH := Whfast.table_a
/-- cross-table consistency: the correctors of order 3, 5, 7, 11, 17 satisfy the first 1, 2, 3, 5, 8 odd-moment conditions
    with the *same* targets `μ_k`, all even moments vanish, and they do not advance time -/
theorem c01_whfast_corrector_moments : ∀ oc ∈ corrConditions, ∀ s ∈ whCorr.lookup (oc.1, true),
    (∀ i ∈ List.range oc.2, Near (moment s (2 * i + 1)) (corrMu.getD i 0) tolWH) ∧
    (∀ i ∈ List.range (oc.2 + 1), Near (moment s (2 * i)) 0 tolWH) ∧
    Near (driftSum s) 0 tolWH ∧ Near (kickSum s) 0 tolWH := Whfast.corrector_moments
/-- … and the targets are the Taylor coefficients of `((x/2)/sinh(x/2) − 1)/x` -/
theorem c01_whfast_corrector_targets : ∀ n ∈ List.range 9,
    sumQ ((List.range (n + 1)).map (fun i => cschCoeff i * sinhcCoeff (n - i))) = (if n = 0 then 1 else 0) :=
  Whfast.targets_generating_function
theorem c01_whfast_corrector_inverse : ∀ oc ∈ corrConditions, ∀ p ∈ whCorr.lookup (oc.1, true),
    ∀ m ∈ whCorr.lookup (oc.1, false), norm m = invG (norm p) := Whfast.corrector_inverse
/-- Kepler, centre-of-mass and kick coefficients sum to 1 for every accepted configuration; the jump steps too where they act -/
theorem c01_whfast_consistent : ∀ cfg ∈ whAccepted, ∀ s ∈ Whfast.stepOf cfg,
    Consistent s tolWH ∧ (cfg.1 = 1 ∨ cfg.1 = 2 → jumpSum s = 1) := Whfast.consistent
theorem c01_whfast_fresh : ∀ cfg ∈ whAccepted, ∀ s ∈ Whfast.stepOf cfg, Fresh s := Whfast.fresh
/-- PARTIAL (hypotheses `kernel ≠ composition` and: `corrector2 = 0`, or the second corrector's inverse is an inverse —
    `whCorr2IsInverse`, false on the tree with finding F18, true once it is repaired): the step is `χ ∘ K ∘ χ⁻¹`, `K` a
    palindrome.  Full strength (`∀ cfg ∈ whAccepted`) is false on the unrepaired tree: see the next two theorems. -/
theorem c01_whfast_symmetric_partial : ∀ cfg ∈ whAccepted, (cfg.2.2.2 = 0 ∨ whCorr2IsInverse = true) → cfg.2.1 ≠ 2 →
    ∀ s ∈ Whfast.stepOf cfg, SplitSym s (Whfast.preLen cfg) := Whfast.symmetric_partial
theorem c01_whfast_composition_kernel_not_symmetric : ∀ core ∈ whCore.lookup (0, 2), ¬ Palindrome core :=
  Whfast.composition_kernel_not_symmetric
/-- FINDING F18: `reb_whfast_apply_corrector2(r, -1.)` is not the inverse of `reb_whfast_apply_corrector2(r, 1.)`.
    `whCorr2IsInverse` is re-derived from the operator lists; while it is false no configuration with `corrector2 = 1` is
    `χ ∘ K ∘ χ⁻¹` and corrector followed by "inverse" deviates from the identity on the words with two `B`s and two `A`s;
    once the source is repaired the same theorem certifies the identity on all words with ≤ 3 `B`s up to length 6. -/
theorem c01_whfast_corrector2_not_inverse :
    whCorr2IsInverse = decide (norm whCorr2_m = invG (norm whCorr2_p)) ∧
    (whCorr2IsInverse = false → ∀ cfg ∈ whAccepted, cfg.2.2.2 = 1 → ∀ s ∈ Whfast.stepOf cfg, ¬ SplitSym s (Whfast.preLen cfg)) ∧
    (WordIdentity (whCorr2_p ++ whCorr2_m) [4, 4, 3] κWH tolWH ∧
      (whCorr2IsInverse = false → ¬ WordIdentity (whCorr2_p ++ whCorr2_m) [4, 4, 4] κWH (1/1000)) ∧
      (whCorr2IsInverse = true → WordIdentity (whCorr2_p ++ whCorr2_m) [6, 6, 6, 6] κWH tolWH)) :=
  ⟨Whfast.corrector2_flag, Whfast.symmetric_fails_with_corrector2, Whfast.corrector2_not_inverse⟩
/-- PARTIAL (`corrector2 = 0` or repaired second corrector): unsynchronised stepping = synchronized stepping -/
theorem c01_whfast_unsync_partial : ∀ cfg ∈ whAccepted, (cfg.2.2.2 = 0 ∨ whCorr2IsInverse = true) → ∀ s ∈ Whfast.stepOf cfg, ∀ two ∈ Whfast.twoOf cfg,
    norm two = norm (s ++ s) := Whfast.unsync_partial
/-- advertised generalised order, Jacobi coordinates, all kernels × first correctors (second corrector off) -/
theorem c01_whfast_order_partial : ∀ kern ∈ [0, 1, 2, 3], ∀ corr ∈ [0, 3, 5, 7, 11, 17], ∀ s ∈ Whfast.stepOf (0, kern, corr, 0),
    Quadrature s ((whfast kern corr).getD 1 0) tolWH ∧ WordOrder s (whfastWords kern corr) κWH tolWH := Whfast.order_jacobi
theorem c01_whfast_order_other_coordinates :
    (∀ corr ∈ [0, 3, 5, 7, 11, 17], ∀ s ∈ Whfast.stepOf (3, 0, corr, 0),
      Quadrature s ((whfast 0 corr).getD 1 0) tolWH ∧ WordOrder s (whfastWords 0 corr) κWH tolWH) ∧
    (∀ coord ∈ [1, 2], ∀ s ∈ Whfast.stepOf (coord, 0, 0, 0), Quadrature s 2 tolWH ∧ Palindrome s) :=
  ⟨Whfast.order_barycentric, Whfast.order_heliocentric⟩
/-- F18 seen in the order conditions: with the (unrepaired) second corrector the `ε²` words agree to length 3 but not 4 -/
theorem c01_whfast_order_with_corrector2 : ∀ kern ∈ [1, 2, 3], ∀ corr ∈ [3, 17], ∀ s ∈ Whfast.stepOf (0, kern, corr, 1),
    WordOrder s [4, 4, 3] κWH tolWH ∧ (whCorr2IsInverse = false → ¬ WordOrder s [4, 4, 4] κWH (1/1000)) ∧
    (whCorr2IsInverse = true → WordOrder s [4, 4, 4] κWH tolWH) := Whfast.order_with_corrector2

/-! ### EOS (9 × 9 splittings, any n) -/
theorem c01_eos_consistent : (∀ e ∈ eosOuter, Consistent e.2 tolEOS) ∧ (∀ e ∈ eosInner, Consistent e.2 tolEOS) := Eos.consistent
/-- `pre ∘ K ∘ pre⁻¹`, `K` a palindrome, `post` literally the reversed negated `pre` -/
theorem c01_eos_symmetric : ∀ e ∈ eosOuter, SplitSym e.2 (Eos.preLen e.1) := Eos.symmetric
theorem c01_eos_fresh : (∀ e ∈ eosOuter, Fresh e.2) ∧ (∀ e ∈ eosInner, Fresh e.2) := Eos.fresh
theorem c01_eos_unsync : ∀ e ∈ eosOuter, ∀ two ∈ eosOuterTwoUnsync.lookup e.1, norm two = norm (e.2 ++ e.2) := Eos.unsync
/-- the loop over `n` sub-steps as modelled = as unrolled from the source for n = 1..4; merging sub-steps is exact;
    Φ1 = X with n = 1 is the same scheme as Φ0 = X -/
theorem c01_eos_inner_loop : (∀ e ∈ eosInner, ∀ p ∈ Eos.partsOf e.1.1,
      innerSched p.1 p.2.1 p.2.2.1 p.2.2.2.1 p.2.2.2.2.1 p.2.2.2.2.2 e.1.2 = e.2) ∧
    (∀ e ∈ eosParts, norm e.2.2.2.2.1 = norm (e.2.2.2.2.2.1 ++ e.2.2.1)) ∧
    (∀ e ∈ eosOuter, ∀ i ∈ eosInner.lookup (e.1, 1), norm i = norm e.2) := ⟨Eos.inner_loop_model, Eos.inner_merge.1, Eos.inner_merge.2⟩
/-- **every n ≥ 1**: the inner scheme with `n` sub-steps (as modelled by `innerSched`) advances drift, centre of mass and kicks
    by exactly the sums of one sub-step, hence is consistent, for all nine types -/
theorem c01_eos_inner_all_n : ∀ e ∈ eosParts, ∀ n : Nat, 1 ≤ n →
    Consistent (innerSched e.2.1 e.2.2.1 e.2.2.2.1 e.2.2.2.2.1 e.2.2.2.2.2.1 e.2.2.2.2.2.2 n) tolEOS := by
  intro e he n hn
  obtain ⟨hd, hc, hk, pd, pc, pk, h1⟩ := Eos.all_n_hypotheses e he
  exact EosAllN.inner_consistent_all_n _ _ _ _ _ _ hd hc hk pd pc pk tolEOS h1 n hn
/-- advertised (generalised) order of all nine types, on all words of the free algebra -/
theorem c01_eos_order : (∀ e ∈ eosOuter, (eos.lookup e.1).isSome) ∧
    ∀ ty ∈ [0, 1, 2, 3, 4, 5, 6, 7, 8], ∀ s ∈ eosOuter.lookup ty, ∀ lim ∈ eos.lookup ty, WordOrder s lim κEOS tolEOS :=
  ⟨Eos.advertised_known, Eos.order⟩
/-- LF, LF4, LF6, LF8 as symmetric compositions of leapfrog: all composition order conditions -/
theorem c01_eos_composition_order : ∀ tp ∈ eosComposition, ∀ s ∈ eosOuter.lookup tp.1,
    IsLeapfrogComposition s ∧ CompositionOrder (kicks s) tp.2 tolEOS := Eos.composition_order

/-! ### JANUS (orders 2, 4, 6, 8, 10) -/
theorem c01_janus_structure : ∀ e ∈ janusSchemes, ∀ s ∈ janusStep.lookup e.1,
    kicks s = Janus.stageSizes e.2.1 e.2.2 ∧ IsLeapfrogComposition s ∧ countKind 1 s = e.2.1 := Janus.scheme_structure
theorem c01_janus_consistent_symmetric : (∀ e ∈ janusStep, Consistent e.2 tolJanus) ∧ (∀ e ∈ janusStep, Palindrome e.2) ∧
    (∀ e ∈ janusStep, Fresh e.2) := ⟨Janus.consistent, Janus.symmetric, Janus.fresh⟩
theorem c01_janus_power_sums : ∀ e ∈ janusStep, Near (powerSum (kicks e.2) 1) 1 tolJanus ∧
    ∀ j ∈ List.range (e.1 / 2), j = 0 ∨ Near (powerSum (kicks e.2) (2 * j + 1)) 0 tolJanus := Janus.power_sums
/-- all order conditions of a symmetric composition up to the advertised order (2 … 10) -/
theorem c01_janus_order : ∀ e ∈ janusStep, CompositionOrder (kicks e.2) e.1 tolJanus := Janus.composition_order
/-- directly on the words in `A`, `B`: orders 2, 4, 6, 8 in full, order 10 up to length 6 -/
theorem c01_janus_order_words : (∀ o ∈ [2, 4, 6], ∀ s ∈ janusStep.lookup o, WordOrder s (List.replicate (o + 1) o) 0 tolJanus) ∧
    (∀ s ∈ janusStep.lookup 8, WordOrder s (List.replicate 9 8) 0 tolJanus) ∧
    (∀ s ∈ janusStep.lookup 10, WordOrder s (List.replicate 7 6) 0 tolJanus) :=
  ⟨Janus.words_2_4_6, Janus.words_8, Janus.words_10_partial⟩

/-- **order 10 directly on all 2047 A/B words** (kernel time sharded over the 8 three-letter prefixes; each shard = the words
    below its prefix and the prefix's prefixes; together they are all words of length ≤ 10) -/
theorem c01_janus_order10_all_words :
    ((∀ u ∈ Janus.prefixes3, sizeT (mkTPath (List.replicate 11 10) u 11 0 0 1) = 258) ∧
      sizeT (mkT (List.replicate 11 10) 11 0 0 1) = 2047 ∧ 8 * 255 + 7 = 2047) ∧
    ∀ u ∈ Janus.prefixes3, ∀ s ∈ janusStep.lookup 10, WordOrderOn s (List.replicate 11 10) u 0 tolJanus :=
  ⟨Janus.words_10_cover, Janus.words_10_all⟩

/-! ### IAS15 (constants, one predictor-corrector sweep) -/
theorem c01_ias15_constants : AllNear iasRR (rrOf iasH) tolIAS ∧ AllNear iasC (cOf iasH) tolIAS ∧ AllNear iasD (dOf iasH) tolIAS :=
  ⟨Ias15.rr_differences, Ias15.c_recurrence, Ias15.d_recurrence⟩
theorem c01_ias15_radau : (iasH.getD 0 1 = 0 ∧ (∀ x ∈ iasH, Near (radau8 x) 0 tolIAS) ∧
    (∀ p ∈ iasH.zip iasH.tail, p.1 < p.2) ∧ (∀ x ∈ iasH, 0 ≤ x ∧ x < 1)) ∧
    (∀ k ∈ List.range 15, Near (sumQ ((iasW.zip iasH).map (fun p => p.1 * p.2 ^ k))) (2 / ((k : Rat) + 1)) tolIAS) :=
  ⟨Ias15.radau_nodes, Ias15.w_quadrature⟩

/-- the predictor-corrector sweep as linear algebra on the tables of the current source: the end-of-step weights integrate
    a0 + Σ b_j s^{j+1} term by term; the tables c and d are mutually inverse (b = C·g, g = D·b) -/
theorem c01_ias15_tables_inverse :
    (iasPosW = (List.range 8).map (fun (j : Nat) => 1 / (((j : Rat) + 1) * ((j : Rat) + 2))) ∧
      iasVelW = (List.range 8).map (fun (j : Nat) => 1 / ((j : Rat) + 1))) ∧
    (∀ i ∈ List.range 7, ∀ j ∈ List.range 7, Near (Ias.triProd iasC iasD i j) (if i = j then 1 else 0) tolIAS) :=
  ⟨Ias15Sweep.update_weights, Ias15Sweep.c_d_inverse⟩
/-- **one corrector sweep is the Gauss–Radau collocation update**: for a force that depends on time only, a(s) = s^{p+1}
    (p ≤ 6), one sweep from any starting b returns b = e_p; hence (the sweep being linear in the sampled forces) every force
    polynomial of degree ≤ 7 in time is represented exactly after one sweep -/
theorem c01_ias15_sweep_exact : ∀ p ∈ List.range 7, ∀ b0 ∈ [[0, 0, 0, 0, 0, 0, 0], [1, -2, 3/7, 5, -1/3, 2, 9]],
    ∀ j ∈ List.range 7, Near ((Ias.sweep iasRR iasC iasD (Ias.samples iasH (fun s => s ^ (p + 1))) b0).getD j 0)
      (if j = p then 1 else 0) tolIAS := Ias15Sweep.sweep_exact
/-- **the fact that makes IAS15 15th order**: with the b's of one sweep the end-of-step velocity is exact for forces sᵖ up to
    p = 14 and the position up to p = 13 (Gauss–Radau quadrature with 8 nodes), and not beyond -/
theorem c01_ias15_step_exact : (∀ p ∈ List.range 15,
      Near (Ias.increment iasVelW (if p = 0 then 1 else 0) (Ias.sweep iasRR iasC iasD (Ias.samples iasH (fun s => s ^ p)) [0, 0, 0, 0, 0, 0, 0]))
        (1 / ((p : Rat) + 1)) tolIAS) ∧
    (∀ p ∈ List.range 14,
      Near (Ias.increment iasPosW (if p = 0 then 1 else 0) (Ias.sweep iasRR iasC iasD (Ias.samples iasH (fun s => s ^ p)) [0, 0, 0, 0, 0, 0, 0]))
        (1 / (((p : Rat) + 1) * ((p : Rat) + 2))) tolIAS) ∧
    ¬ Near (Ias.increment iasVelW 0 (Ias.sweep iasRR iasC iasD (Ias.samples iasH (fun s => s ^ 15)) [0, 0, 0, 0, 0, 0, 0])) (1 / 16) (1 / 10^9) ∧
    ¬ Near (Ias.increment iasPosW 0 (Ias.sweep iasRR iasC iasD (Ias.samples iasH (fun s => s ^ 14)) [0, 0, 0, 0, 0, 0, 0])) (1 / (15 * 16)) (1 / 10^9) :=
  Ias15Sweep.step_exact

/-! ### LEAPFROG -/
theorem c01_leapfrog : leapfrogStep = [⟨0, 1/2, 1⟩, ⟨2, 0, 0⟩, ⟨1, 1, 0⟩, ⟨0, 1/2, 1⟩] ∧
    (Consistent leapfrogStep 0 ∧ Palindrome leapfrogStep ∧ Fresh leapfrogStep ∧
      WordOrder leapfrogStep [2, 2, 2] 0 0 ∧ ¬ WordOrder leapfrogStep [3, 3, 2] 0 (1/100)) :=
  ⟨Leapfrog.schedule, Leapfrog.properties⟩

/-! ### MERCURIUS away from close encounters (both safe modes, both synchronisation states) -/
/-- safe mode: kick ½, jump ½, Kepler + centre of mass 1, jump ½, kick ½: consistent, palindrome, fresh forces, second order -/
theorem c01_mercurius_safe : mercCounts = [("schedules", 7)] ∧
    merc_safe = [⟨2, 0, 0⟩, ⟨1, 1/2, 0⟩, ⟨3, 1/2, 0⟩, ⟨0, 1, 1⟩, ⟨3, 1/2, 0⟩, ⟨2, 0, 0⟩, ⟨1, 1/2, 0⟩] ∧
    (Consistent merc_safe 0 ∧ Palindrome merc_safe ∧ Fresh merc_safe ∧ jumpSum merc_safe = 1 ∧
      Quadrature merc_safe 2 0 ∧ WordOrder merc_safe [2, 2, 2] 0 0 ∧ ¬ WordOrder merc_safe [3, 3, 2] 0 (1/100)) :=
  ⟨Mercurius.counts, Mercurius.safe_schedule, Mercurius.safe_properties⟩
/-- safe_mode = 0: the leading kick is ½ when synchronized and 1 when not (chosen by the *state*, not by the option);
    first step ++ later step ++ synchronize is what two steps + synchronize execute -/
theorem c01_mercurius_unsafe_states : merc_unsafe_first = [⟨2, 0, 0⟩, ⟨1, 1/2, 0⟩, ⟨3, 1/2, 0⟩, ⟨0, 1, 1⟩, ⟨3, 1/2, 0⟩] ∧
    merc_unsafe_next = [⟨2, 0, 0⟩, ⟨1, 1, 0⟩, ⟨3, 1/2, 0⟩, ⟨0, 1, 1⟩, ⟨3, 1/2, 0⟩] ∧
    merc_sync_only = [⟨2, 0, 0⟩, ⟨1, 1/2, 0⟩] ∧
    merc_two_unsync = merc_unsafe_first ++ merc_unsafe_next ++ merc_sync_only ∧
    Fresh merc_unsafe_first ∧ Fresh merc_unsafe_next ∧ Fresh merc_two_unsync := Mercurius.unsafe_states
/-- unsynchronised stepping (also across an intermediate synchronize) = synchronized stepping; safe mode entered in an
    unsynchronised state first completes the pending half kick -/
theorem c01_mercurius_unsync : norm merc_two_unsync = norm (merc_safe ++ merc_safe) ∧
    norm merc_three_unsync_resync = norm (merc_safe ++ merc_safe ++ merc_safe) ∧
    kickSum merc_three_unsync_resync = 3 ∧ driftSum merc_three_unsync_resync = 3 ∧ jumpSum merc_three_unsync_resync = 3 ∧
    merc_safe_from_unsync = merc_sync_only ++ merc_safe := Mercurius.unsync

/-! ### TRACE on its splitting path (encounter checks not interpreted: no pericentre flag, or PARTIAL_BS) -/
/-- all three peri modes, no pericentre flag: kick ½ (own force evaluation), jump ½, Kepler + centre of mass 1, jump ½, kick ½ —
    consistent, palindrome, fresh, jump sum 1, order exactly 2, and the same word as MERCURIUS' safe step -/
theorem c01_trace_splitting_step :
    (tracePeriModes = [("REB_TRACE_PERI_PARTIAL_BS", 0), ("REB_TRACE_PERI_FULL_BS", 1), ("REB_TRACE_PERI_FULL_IAS15", 2)] ∧
      traceStep.map (·.1) = [(0, 0, 0), (0, 0, 1), (0, 1, 0), (0, 1, 1), (1, 0, 0), (1, 0, 1), (2, 0, 0), (2, 0, 1)] ∧
      traceJumpNoop = [(0, false), (1, true)]) ∧
    ∀ pm ∈ [0, 1, 2], ∀ s ∈ traceStep.lookup (pm, 0, 0), s = Trace.dh ∧ Consistent s 0 ∧ Palindrome s ∧ Fresh s ∧
      jumpSum s = 1 ∧ Quadrature s 2 0 ∧ WordOrder s [2, 2, 2] 0 0 ∧ ¬ WordOrder s [3, 3, 2] 0 (1/100) ∧ norm s = norm merc_safe :=
  ⟨Trace.counts, Trace.splitting_step⟩
/-- pericentre flag with PARTIAL_BS: the same scheme without jump steps; a rejected first attempt restores the backup and
    executes exactly the same schedule again -/
theorem c01_trace_pericentre_and_rejection :
    (∀ s ∈ traceStep.lookup (0, 1, 0), s = [⟨2, 0, 0⟩, ⟨1, 1/2, 0⟩, ⟨0, 1, 1⟩, ⟨2, 0, 0⟩, ⟨1, 1/2, 0⟩] ∧
      Consistent s 0 ∧ Palindrome s ∧ Fresh s ∧ WordOrder s [2, 2, 2] 0 0) ∧
    (∀ e ∈ traceStep, e.1.2.2 = 1 → ∀ s0 ∈ traceStep.lookup (e.1.1, e.1.2.1, 0), e.2 = s0 ++ [⟨5, 0, 0⟩] ++ s0) :=
  ⟨Trace.pericentre_partial, Trace.rejected_attempt⟩

/-! ### BS (Gragg–Bulirsch–Stoer): sequence, modified midpoint, Aitken–Neville extrapolation -/
/-- `sequence[k] = 4k+2`, `coeff[k] = (1/sequence[k])²`, 9 rows; and the hand model of `extrapolate` is the linear map the
    translator obtained by executing the source's `extrapolate` on a symbolic table, for every k = 1..8 (rows y1, C, D[0..k]) -/
theorem c01_bs_model_is_source : (bsSequenceLength = 9 ∧ bsSequence = (List.range 9).map Gbs.seq ∧ bsCoeffs = (List.range 9).map Gbs.coeff) ∧
    bsExtrapolate.map (·.1) = [1, 2, 3, 4, 5, 6, 7, 8] ∧
    (∀ e ∈ bsExtrapolate, 1 ≤ e.1 ∧ e.1 ≤ 8 ∧ e.2.length = e.1 + 3 ∧
      Bs.transpose e.2 (e.1 + 1) = (List.range (e.1 + 1)).map (Bs.modelColumn e.1)) :=
  ⟨Bs.sequence_formula, Bs.extrapolate_count, Bs.extrapolate_model⟩
/-- **the algebraic heart of GBS**: the extrapolated value is linear in the modified-midpoint results, and whenever these are a
    polynomial of degree ≤ k in the abscissa h² = (H/n_i)² (any rational coefficients), row k returns the polynomial's value at
    h = 0 — for every row k ≤ 8 the code can reach; the next power is *not* reproduced (sharp) -/
theorem c01_bs_extrapolation_exact :
    (∀ (a : Rat) (x T U : Nat → Rat) (k : Nat), Gbs.extrap x (fun i => T i + a * U i) k = Gbs.extrap x T k + a * Gbs.extrap x U k) ∧
    (∀ k ∈ List.range 9, ∀ a : List Rat, a.length ≤ k + 1 →
      Gbs.extrap Gbs.coeff (fun i => Gbs.polyFrom a 0 (Gbs.coeff i)) k = a.headD 0) ∧
    (∀ k ∈ List.range 9, Gbs.extrap Gbs.coeff (fun i => Gbs.coeff i ^ (k + 1)) k ≠ 0) :=
  ⟨BsLinear.extrap_linear, BsLinear.extrap_exact, fun k hk => (Bs.monomials k hk).2.1⟩
/-- modified midpoint + extrapolation, rows 0..k, integrates y' = (t − c)ᵈ exactly for d ≤ 2k+1 and not for d = 2k+2
    (k ≤ 5, two intervals) — what the search observes on the compiled code with a user ODE -/
theorem c01_bs_quadrature_exact : ∀ k ∈ List.range 6, ∀ p ∈ [((0 : Rat), (1 : Rat), (0 : Rat)), (-3/7, 5/3, 2/9)],
    (∀ d ∈ List.range (2 * k + 2),
      Gbs.gbs (fun t _ => (t - p.2.2) ^ d) p.1 p.2.1 (7/10) k =
        7/10 + ((p.1 + p.2.1 - p.2.2) ^ (d + 1) - (p.1 - p.2.2) ^ (d + 1)) / ((d : Rat) + 1)) ∧
    Gbs.gbs (fun t _ => (t - p.2.2) ^ (2 * k + 2)) p.1 p.2.1 (7/10) k ≠
        7/10 + ((p.1 + p.2.1 - p.2.2) ^ (2 * k + 3) - (p.1 - p.2.2) ^ (2 * k + 3)) / ((2 * k + 2 : Nat) + 1 : Rat) :=
  Bs.quadrature_exact
/-- a state-dependent instance, y' = y on [0, ½]: each further row reduces the error by more than a factor 100 -/
theorem c01_bs_linear_ode_rows : ∀ k ∈ List.range 4,
    let e := fun k => Gbs.gbs (fun _ y => y) 0 (1/2) 1 k - 1648721270700128 / 1000000000000000
    (if e (k+1) < 0 then -(e (k+1)) else e (k+1)) * 100 < (if e k < 0 then -(e k) else e k) := Bs.linear_ode_rows

/-! ### MERCURIUS changeover functions (integrator_mercurius.c:42-79; `L_infinity` uses `exp` and is not modelled) -/
/-- the hand model (RV/Model/Changeover.lean, operation order of the source) equals the three C functions executed by the translator
    at 61 exact rational (d, dcrit) points each -/
theorem c01_changeover_model_is_source : changeover_mercury.length = 61 ∧ changeover_C4.length = 61 ∧ changeover_C5.length = 61 ∧
    (∀ e ∈ changeover_mercury, Changeover.Lmercury e.1.1 e.1.2 = e.2) ∧ (∀ e ∈ changeover_C4, Changeover.LC4 e.1.1 e.1.2 = e.2) ∧
    (∀ e ∈ changeover_C5, Changeover.LC5 e.1.1 e.1.2 = e.2) := ChangeoverT.model_is_source
/-- **for all d and all dcrit > 0** (ℚ): each of L_mercury, L_C4, L_C5 is 0 for d < dcrit/10, 1 for d > dcrit, lies in [0,1],
    is continuous at both joins, and is mirror-symmetric inside the transition (L(d) + L(d') = 1 when y(d') = 1 − y(d)) -/
theorem c01_changeover_properties : ∀ p ∈ [Changeover.pMercury, Changeover.pC4, Changeover.pC5], ∀ d dcrit : Rat, 0 < dcrit →
    ((d < dcrit / 10 → Changeover.changeover p d dcrit = 0) ∧ (dcrit < d → Changeover.changeover p d dcrit = 1) ∧
      (0 ≤ Changeover.changeover p d dcrit ∧ Changeover.changeover p d dcrit ≤ 1) ∧
      Changeover.changeover p (dcrit / 10) dcrit = 0 ∧ Changeover.changeover p dcrit dcrit = 1) ∧
    (∀ d', 0 ≤ Changeover.yOf d dcrit → Changeover.yOf d dcrit ≤ 1 → Changeover.yOf d' dcrit = 1 - Changeover.yOf d dcrit →
      Changeover.changeover p d dcrit + Changeover.changeover p d' dcrit = 1) := by
  intro p hp d dcrit hc
  have hs : ChangeoverAll.SmoothStep p := by
    simp only [List.mem_cons, List.not_mem_nil, or_false] at hp
    rcases hp with rfl | rfl | rfl
    · exact ChangeoverAll.ss_mercury
    · exact ChangeoverAll.ss_c4
    · exact ChangeoverAll.ss_c5
  exact ⟨ChangeoverAll.changeover_properties p hs d dcrit hc, fun d' h0 h1 h => ChangeoverAll.changeover_mirror p hs d d' dcrit h0 h1 h⟩
/-- non-vacuity: the hypotheses are satisfiable inside the transition zone (d = 0.4, d' = 0.7, dcrit = 1: y = 1/3, y' = 2/3) -/
example : (0 : Rat) < 1 ∧ 0 ≤ Changeover.yOf (4/10) 1 ∧ Changeover.yOf (4/10) 1 ≤ 1 ∧ Changeover.yOf (7/10) 1 = 1 - Changeover.yOf (4/10) 1 ∧
    Changeover.Lmercury (4/10) 1 = 17/81 := by decide +kernel
/-- L_mercury is monotone non-decreasing in the distance: for all `d ≤ d'` and every dcrit > 0 -/
theorem c01_changeover_mercury_monotone (d d' dcrit : Rat) (hc : 0 < dcrit) (h : d ≤ d') :
    Changeover.Lmercury d dcrit ≤ Changeover.Lmercury d' dcrit := ChangeoverMono.mercury_changeover_mono d d' dcrit hc h
/-- L_C4 and L_C5 are monotone non-decreasing in the distance, for all `d ≤ d'` and every dcrit > 0 (the degree-9 / degree-11
    polynomials are monotone on [0,1] because their derivatives over ℝ are 630 y⁴(1−y)⁴ and 2772 y⁵(1−y)⁵ — mean-value theorem,
    `ChangeoverMono.strict_of_deriv` — and ℚ → ℝ is an order embedding commuting with the source's operation order) -/
theorem c01_changeover_c4_c5_monotone (d d' dcrit : Rat) (hc : 0 < dcrit) (h : d ≤ d') :
    Changeover.LC4 d dcrit ≤ Changeover.LC4 d' dcrit ∧ Changeover.LC5 d dcrit ≤ Changeover.LC5 d' dcrit :=
  ⟨ChangeoverMono.c4_changeover_mono d d' dcrit hc h, ChangeoverMono.c5_changeover_mono d d' dcrit hc h⟩
/-- non-vacuity: strict increase inside the transition zone (dcrit = 1, d = 0.4 → 0.7), both functions -/
example : Changeover.LC4 (4/10) 1 < Changeover.LC4 (7/10) 1 ∧ Changeover.LC5 (4/10) 1 < Changeover.LC5 (7/10) 1 ∧
    Changeover.LC4 (4/10) 1 = 2851/19683 := by decide +kernel
/-- inside the transition zone the changeover is a strict interpolation (no plateau): for `dcrit/10 ≤ d < d' ≤ dcrit` all three
    polynomial changeover functions strictly increase, so a pair moving inward always shifts weight from the Kepler to the
    interaction part (derivatives 30 y²(1−y)², 630 y⁴(1−y)⁴, 2772 y⁵(1−y)⁵ are positive on (0,1)) -/
theorem c01_changeover_strict_in_zone (d d' dcrit : Rat) (hc : 0 < dcrit) (hlo : dcrit / 10 ≤ d) (h : d < d') (hhi : d' ≤ dcrit) :
    Changeover.Lmercury d dcrit < Changeover.Lmercury d' dcrit ∧ Changeover.LC4 d dcrit < Changeover.LC4 d' dcrit ∧
    Changeover.LC5 d dcrit < Changeover.LC5 d' dcrit := ChangeoverMono.all_strict d d' dcrit hc hlo h hhi
/-- non-vacuity: the zone hypotheses are satisfiable (dcrit = 7/3, d = 1, d' = 2) -/
example : (0 : Rat) < 7/3 ∧ (7/3 : Rat) / 10 ≤ 1 ∧ (1 : Rat) < 2 ∧ (2 : Rat) ≤ 7/3 := by decide +kernel
/-- smoothness at the joins: the three polynomials (cast to ℝ, same operation order as the source) have derivatives
    `30 y²(1−y)²`, `630 y⁴(1−y)⁴`, `2772 y⁵(1−y)⁵` at every real `y` — zeros of multiplicity 2, 4, 5 at both ends of the
    transition, so the changeover joins the constant pieces 0 and 1 with 2, 4, 5 vanishing derivatives (no force jump at
    `0.1·dcrit` or `dcrit`) -/
theorem c01_changeover_derivative_form :
    (∀ a : Rat, ((Changeover.pMercury a : Rat) : ℝ) = ChangeoverMono.mR a ∧ ((Changeover.pC4 a : Rat) : ℝ) = ChangeoverMono.c4R a ∧
      ((Changeover.pC5 a : Rat) : ℝ) = ChangeoverMono.c5R a) ∧
    ∀ y : ℝ, HasDerivAt ChangeoverMono.mR (30 * y^2 * (1-y)^2) y ∧ HasDerivAt ChangeoverMono.c4R (630 * y^4 * (1-y)^4) y ∧
      HasDerivAt ChangeoverMono.c5R (2772 * y^5 * (1-y)^5) y :=
  ⟨fun a => ⟨ChangeoverMono.m_cast a, ChangeoverMono.c4_cast a, ChangeoverMono.c5_cast a⟩,
   fun y => ⟨ChangeoverMono.m_hasDeriv y, ChangeoverMono.c4_hasDeriv y, ChangeoverMono.c5_hasDeriv y⟩⟩
/-- grid form, an instance of `c01_changeover_mercury_monotone` and `c01_changeover_c4_c5_monotone`: monotone on a grid of 251
    distances across the transition -/
theorem c01_changeover_monotone_partial : ∀ L ∈ [Changeover.Lmercury, Changeover.LC4, Changeover.LC5], ∀ k ∈ List.range 250,
    L ((k : Rat) / 200 * (7/3)) (7/3) ≤ L (((k : Rat) + 1) / 200 * (7/3)) (7/3) := by
  intro L hL k _
  have hk : (k : Rat) / 200 * (7/3) ≤ ((k : Rat) + 1) / 200 * (7/3) := by linarith
  simp only [List.mem_cons, List.not_mem_nil, or_false] at hL
  rcases hL with rfl | rfl | rfl
  · exact ChangeoverMono.mercury_changeover_mono _ _ _ (by norm_num) hk
  · exact ChangeoverMono.c4_changeover_mono _ _ _ (by norm_num) hk
  · exact ChangeoverMono.c5_changeover_mono _ _ _ (by norm_num) hk

/-! ### the abstract lemmas (any monoid, any flows, any step size) -/
open Flow in
/-- running a schedule backwards with negated times undoes it; a palindromic schedule satisfies `S(−h) ∘ S(h) = id` -/
theorem c01_palindrome_reversible {M ι K : Type} [Monoid M] [AddGroup K] (φ : ι → K → M) (hφ : Flows φ) (S : List (ι × K)) :
    evalS φ (negS S).reverse * evalS φ S = 1 ∧ (S.reverse = S → evalS φ (negS S) * evalS φ S = 1) :=
  ⟨reverse_neg_cancel φ hφ S, palindrome_reversible φ hφ S⟩
open Flow in
/-- normalising a schedule (merging neighbours, dropping identities and force evaluations) does not change its map, and every
    generated schedule that is a palindrome is time-reversible as a word in any flows, for every step size -/
theorem c01_schedules_reversible {M : Type} [Monoid M] (φ : Nat → (Rat × Rat) → M) (hφ : Flows φ) (s : List Op) (h : Rat) :
    evalS φ (timesOf h (norm s)) = evalS φ (timesOf h (raw s)) ∧
    (Palindrome s → evalS φ (timesOf (-h) (norm s)) * evalS φ (timesOf h (norm s)) = 1) :=
  ⟨norm_sound φ hφ h s, fun hs => palindrome_step_reversible φ hφ s hs h⟩
open Flow in
/-- drift and kick are exact flows on phase space (additive in the time) for an arbitrary force field, so every palindromic
    generated schedule is reversible as a map of positions and velocities -/
theorem c01_drift_kick_exact_flows {V : Type} [AddCommGroup V] [Module Rat V] (a g : V → V) :
    (∀ σ τ (s : V × V), drift σ (drift τ s) = drift (σ + τ) s) ∧ (∀ s : V × V, drift 0 s = s) ∧
    (∀ σ τ (s : V × V), kick a g σ (kick a g τ s) = kick a g (σ + τ) s) ∧ (∀ s : V × V, kick a g 0 s = s) ∧
    (∀ (s : List Op), Palindrome s → ∀ (h : Rat) (x : V × V),
      (evalS (phaseFlow a g) (timesOf (-h) (norm s)) * evalS (phaseFlow a g) (timesOf h (norm s))) x = x) :=
  ⟨drift_add, drift_zero, kick_add a g, kick_zero a g, fun s hs h x => phase_space_reversible a g s hs h x⟩

/-- non-vacuity: the hypotheses of the abstract lemmas are satisfiable by the real thing — SABA(10,6,4), the default
    integrator type, is a palindrome of 17 operators and the phase-space flows are flows -/
example : Palindrome sabaStep_REB_SABA_10_6_4 ∧ (norm sabaStep_REB_SABA_10_6_4).length = 17 := by decide +kernel
example : Flow.Flows (Flow.phaseFlow (V := Rat) (fun x => -x) (fun x => x)) := Flow.phaseFlow_flows _ _
end RV.C01.Props
