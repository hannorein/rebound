import RV.Proofs.Kepler
import RV.Proofs.KeplerTerm
import RV.Proofs.KeplerDefect
import RV.Model.Kepler512
/-
  C03 — Kepler propagation is exact for every two-body orbit and time step.

  Statements are about the definitions of RV/Model/Kepler.lean — the same ones `drv_c03`
  runs on IEEE doubles, bit for bit against the compiled `reb_whfast_kepler_solver` —
  instantiated at an arbitrary field `K` (exact arithmetic), and about the table that
  rv/extract_c03.py reads out of src/integrator_whfast.c (RV/Gen/C03Table.lean).

  What is proved: the constants are the inverse factorials; the Horner series is the
  truncated Stumpff series; the argument-doubling loop body preserves the defining
  relations of the Stumpff functions exactly; scaling turns them into the Stiefel
  G-relations; and *if* the four numbers handed to the f-g update satisfy the G-relations
  and `X` solves the universal Kepler equation, the updated particle has the same energy,
  the same angular momentum vector, the same Laplace vector, radius `r0 + η0 G1 + ζ0 G2`
  and radial velocity `η0 G0 + ζ0 G1`: it lies on the same conic, at the point selected by
  `X`.  Further sections: the mass parameter `eta*G` per coordinate system and the jump and
  centre-of-mass steps in closed form; termination of the argument halving and the bounded
  Newton/quartic loops; how the truncation defect travels through the duplications; the
  bisection invariant and its brackets; WHFast512's Kepler step (same f-g update, series
  without halving).  What is not proved (D in DESIGN.md): that the Newton / quartic / bisection
  iterations converge to the root, and IEEE error growth; these are the job of the
  search against a 50-digit reference.
-/
set_option linter.unusedSectionVars false
set_option linter.unusedVariables false
namespace RV.Kepler
open RV RV.Gen.C03
variable {K : Type} [Field K]

/-- `invfactorial[n] = 1/n!` for every entry of the table in the C source (n < 35) -/
theorem c03_invfactorial_table (i : Fin 35) : (invfact i : K) = 1 / (Nat.factorial i : K) :=
  invfact_eq i

/-- the entries as written in the source: numerator 1, denominator n! (as integers) -/
theorem c03_invfactorial_entries (i : Fin 35) :
    invfactNum[i] = 1 ∧ invfactDen[i] = Nat.factorial i := table_nat i

/-- the constants the hand-written model relies on are the ones in the source -/
theorem c03_source_constants :
    invfactCount = 35 ∧ invfactDeclared = 35 ∧ nmaxCs3 = 13 ∧ nmaxCs6 = 15 ∧
    divCs3 = (4, 1) ∧ divCs6 = (4, 1) ∧ 2 ≤ nmaxNewt ∧ 2 ≤ nmaxQuart := by decide

variable [CharZero K]

/-! ### series part of stumpff_cs3 -/

/-- Horner evaluation = Stumpff series truncated after z⁵/13! resp. z⁵/12!, and
    `c1 = 1 − z c3`, `c0 = 1 − z c2` (how the code computes them). -/
theorem c03_series_closed_form (z : K) :
    (cs3Series z).c3 = 1/6 - z/120 + z^2/5040 - z^3/362880 + z^4/39916800 - z^5/6227020800 ∧
    (cs3Series z).c2 = 1/2 - z/24 + z^2/720 - z^3/40320 + z^4/3628800 - z^5/479001600 ∧
    (cs3Series z).c1 = 1 - z * (cs3Series z).c3 ∧
    (cs3Series z).c0 = 1 - z * (cs3Series z).c2 := cs3Series_eq z

/-- the third Stumpff relation holds for the truncated series up to an explicit
    remainder of order z⁶/(13!)² · 8.9e8 ≈ 2.3e-11 z⁶  (≤ 2.3e-17 for |z| ≤ 0.1). -/
theorem c03_series_truncation_residual (z : K) :
    (cs3Series z).c1 ^ 2 - (1 + (cs3Series z).c0) * (cs3Series z).c2 =
      z^6 * (z^6 - 143*z^5 + 14040*z^4 - 864864*z^3 + 28828800*z^2 - 389188800*z + 889574400)
        / 38775788043632640000 := by
  obtain ⟨e3, e2, e1, e0⟩ := cs3Series_eq z
  rw [e1, e0, e3, e2]
  ring

/-- one pass of the loop body `cs[3] = (cs[2]+cs[0]*cs[3])*0.25; cs[2] = cs[1]*cs[1]*0.5;
    cs[1] = cs[0]*cs[1]; cs[0] = 2.*cs[0]*cs[0]-1.` maps Stumpff values at `z` to
    Stumpff values at `4z`. -/
theorem c03_duplication {z : K} {c : Cs3 K} (h : StumpffRel z c) :
    StumpffRel (4 * z) (cs3DupStep c) := cs3DupStep_rel h

/-- the whole `for(;n>0;n--)` loop -/
theorem c03_duplication_loop (n : Nat) {z : K} {c : Cs3 K} (h : StumpffRel z c) :
    StumpffRel (4 ^ n * z) (cs3Dup n c) := by
  induction n generalizing z c with
  | zero => simpa [cs3Dup] using h
  | succ n ih =>
    have := ih (cs3DupStep_rel h)
    simp only [cs3Dup]
    convert this using 1
    ring


/-- `c0² + z c1² = 1` ("cos² + sin² = 1") is a consequence of the relations -/
theorem c03_stumpff_pythagoras {z : K} {c : Cs3 K} (h : StumpffRel z c) :
    c.c0 ^ 2 + z * c.c1 ^ 2 = 1 := h.pythagoras

/-- stiefel_Gs3: scaling by powers of X gives the G-relations for (β, X) -/
theorem c03_stiefel_scaling {β X : K} {c : Cs3 K} (h : StumpffRel (β * (X * X)) c) :
    GRel β X (scaleGs3 X c) := by
  obtain ⟨h0, h1, h2⟩ := h
  refine ⟨?_, ?_, ?_⟩ <;> simp only [scaleGs3, sc_hmul]
  · rw [h0]; ring
  · rw [h1]; ring
  · linear_combination (X * X) * h2

/-! ### f-g update (lines 297-308) -/
section fg
variable {M dt r0 X : K} {p : P6 K} {g : Cs3 K}

/-- Wronskian of the update: `(1+f)(1+ġ) − g ḟ = 1` -/
theorem c03_fg_wronskian (h : KeplerStep M dt r0 X p g) (rne : newR M r0 p g ≠ 0) :
    let c := fgCoeffs M (1 / r0) (1 / newR M r0 p g) dt g.c1 g.c2 g.c3
    (1 + c.f) * (1 + c.gd) - c.g * c.fd = 1 :=
  h.toSc.wronskian rne

/-- angular momentum `x × v` is unchanged -/
theorem c03_fg_angular_momentum (h : KeplerStep M dt r0 X p g) (rne : newR M r0 p g ≠ 0) :
    let q := fgUpdate M (1 / r0) (1 / newR M r0 p g) dt g.c1 g.c2 g.c3 p
    Lx q = Lx p ∧ Ly q = Ly p ∧ Lz q = Lz p :=
  h.angular_momentum rne

/-- the new radius: `|x'|² = (r0 + η0 G1 + ζ0 G2)²` -/
theorem c03_fg_radius (h : KeplerStep M dt r0 X p g) :
    rr (fgUpdate M (1 / r0) (1 / newR M r0 p g) dt g.c1 g.c2 g.c3 p) = (newR M r0 p g) ^ 2 := by
  rw [fgUpdate, fgApply_rr, ← h.hr0]
  exact h.toSc.radius

/-- energy: `2M/r' − v'² = β` with `r' = r0 + η0 G1 + ζ0 G2` (= |x'| by `c03_fg_radius`) -/
theorem c03_fg_energy (h : KeplerStep M dt r0 X p g) (rne : newR M r0 p g ≠ 0) :
    2 * M / newR M r0 p g - vv (fgUpdate M (1 / r0) (1 / newR M r0 p g) dt g.c1 g.c2 g.c3 p)
      = (invariants M r0 (1 / r0) p).beta := by
  rw [fgUpdate, fgApply_vv, ← h.hr0]
  exact h.toSc.energy rne

/-- `x'·v' = η0 G0 + ζ0 G1` (radial velocity times radius at the new point) -/
theorem c03_fg_radial_velocity (h : KeplerStep M dt r0 X p g) (rne : newR M r0 p g ≠ 0) :
    xv (fgUpdate M (1 / r0) (1 / newR M r0 p g) dt g.c1 g.c2 g.c3 p)
      = (invariants M r0 (1 / r0) p).eta0 * g.c0 + (invariants M r0 (1 / r0) p).zeta0 * g.c1 := by
  rw [fgUpdate, fgApply_xv, ← h.hr0]
  exact h.toSc.radial rne

/-- the Laplace–Runge–Lenz vector is unchanged -/
theorem c03_fg_laplace (h : KeplerStep M dt r0 X p g) (rne : newR M r0 p g ≠ 0) :
    let q := fgUpdate M (1 / r0) (1 / newR M r0 p g) dt g.c1 g.c2 g.c3 p
    Ax M (newR M r0 p g) q = Ax M r0 p ∧ Ay M (newR M r0 p g) q = Ay M r0 p ∧
    Az M (newR M r0 p g) q = Az M r0 p := by
  obtain ⟨-, e2, e3, e4⟩ := invariants_eq M r0 p
  have hE := c03_fg_energy h rne
  have hV := c03_fg_radial_velocity h rne
  have l1 := h.toSc.laplace1 rne
  have l2 := h.toSc.laplace2 rne
  rw [e2] at hE
  rw [e3, e4] at hV
  dsimp only at l1 l2 ⊢
  have hvp : vv p - M / r0 = M / r0 - (2 * M * (1 / r0) - vv p) := by ring
  have hvq : vv (fgUpdate M (1 / r0) (1 / newR M r0 p g) dt g.c1 g.c2 g.c3 p) - M / newR M r0 p g
      = M / newR M r0 p g - (2 * M * (1 / r0) - vv p) := by linear_combination -hE
  refine ⟨?_, ?_, ?_⟩ <;> dsimp only [Ax, Ay, Az] <;> rw [hV, hvp, hvq] <;> dsimp only [fgUpdate, fgApply]
  · linear_combination p.x * l1 + p.vx * l2
  · linear_combination p.y * l1 + p.vy * l2
  · linear_combination p.z * l1 + p.vz * l2

/-- **the step moves the particle along its own conic** (summary of the above): same energy,
    same angular momentum vector, same Laplace vector (hence same orbit as a point set, same
    orientation), at the point of radius `r0 + η0 G1 + ζ0 G2`.
    `_partial`: the hypotheses `KeplerStep` — that the numbers `g` produced by
    series+duplication+scaling satisfy the G-relations *exactly* and that the iteration
    returned an exact root `X` of `r0 X + η0 G2 + ζ0 G3 = dt` — hold in exact arithmetic
    only up to the series truncation (`c03_series_truncation_residual`) and are not proved
    for the Newton/quartic/bisection iterates; with IEEE doubles everything holds to
    rounding, which the search measures.  That the point reached is the one at time
    `t + dt` is the (unproved, analytic) meaning of the universal Kepler equation. -/
theorem c03_kepler_step_same_conic_partial (h : KeplerStep M dt r0 X p g) (rne : newR M r0 p g ≠ 0) :
    let r' := newR M r0 p g
    let q := fgUpdate M (1 / r0) (1 / r') dt g.c1 g.c2 g.c3 p
    rr q = r' ^ 2 ∧ 2 * M / r' - vv q = 2 * M / r0 - vv p ∧
    (Lx q = Lx p ∧ Ly q = Ly p ∧ Lz q = Lz p) ∧
    (Ax M r' q = Ax M r0 p ∧ Ay M r' q = Ay M r0 p ∧ Az M r' q = Az M r0 p) := by
  refine ⟨c03_fg_radius h, ?_, c03_fg_angular_momentum h rne, c03_fg_laplace h rne⟩
  rw [c03_fg_energy h rne, (invariants_eq M r0 p).2.1]
  ring

end fg

/-! ### stumpff_cs (six functions, used by the tangent map) -/

/-- the loop body of stumpff_cs (lines 99-104) preserves the relations
    `c1 = 1 − z c3, c2 = 1/2 − z c4, c3 = 1/6 − z c5, c1² = (1+c0) c2` with `z ↦ 4z` -/
theorem c03_stumpff6_duplication {s : Cs5 K} (h : Stumpff6Rel s) :
    Stumpff6Rel (cs6DupStep s) ∧ (cs6DupStep s).z = 4 * s.z := ⟨cs6DupStep_rel h, cs6DupStep_z s⟩

/-- on the first four functions stumpff_cs performs exactly the duplication of stumpff_cs3 -/
theorem c03_stumpff6_agrees_with_cs3 {s : Cs5 K} (h : Stumpff6Rel s) :
    cs5To3 (cs6DupStep s) = cs3DupStep (cs5To3 s) ∧ StumpffRel s.z (cs5To3 s) :=
  ⟨cs6DupStep_cs3 h, cs5To3_rel h⟩

/-- the series part of stumpff_cs satisfies the three linear relations by construction -/
theorem c03_stumpff6_series (z : K) :
    (cs6Series z).z = z ∧ (cs6Series z).c1 = 1 - z * (cs6Series z).c3 ∧
    (cs6Series z).c2 = 1 / 2 - z * (cs6Series z).c4 ∧ (cs6Series z).c3 = 1 / 6 - z * (cs6Series z).c5 ∧
    (cs6Series z).c5 = 1/120 - z/5040 + z^2/362880 - z^3/39916800 + z^4/6227020800 - z^5/1307674368000 ∧
    (cs6Series z).c4 = 1/24 - z/720 + z^2/40320 - z^3/3628800 + z^4/479001600 - z^5/87178291200 := by
  obtain ⟨-, i1, i2, i3, i4, i5, i6, i7, i8, i9, i10, i11, i12, i13, i14, i15, -⟩ := invfact_vals (K := K)
  dsimp only [cs6Series]
  rw [i1, i2, i3, i4, i5, i6, i7, i8, i9, i10, i11, i12, i13, i14, i15]
  exact ⟨rfl, rfl, rfl, rfl, by ring, by ring⟩

/-! ### mass parameter handed to the solver by reb_whfast_kepler_step -/
section mass
variable (G m0 pj0m : K) (nact : Nat) (ms : List K)

/-- one mass parameter per particle 1 … N_real-1 -/
theorem c03_mass_parameter_count (c : Coord) : (massParams c G m0 pj0m nact ms).length = ms.length := by
  simp [massParams, etas_length]

/-- Jacobi: `M_i = G (m0 + Σ_{1≤k≤min(i, N_active-1)} m_k)` — the interior mass, test
    particles (i ≥ N_active) see all active masses.  (`ms[k-1] = p_j[k].m`, `nact = N_active-1`) -/
theorem c03_mass_parameter_jacobi (i : Nat) (h : i < ms.length) :
    (massParams .jacobi G m0 pj0m nact ms)[i]? = some ((m0 + (ms.take (min (i + 1) nact)).sum) * G) := by
  simp only [massParams, etas, List.getElem?_map, jacobiEtas_get m0 nact ms i h, Option.map_some, sc_hmul]

/-- democratic heliocentric: `M_i = G m0` for every particle -/
theorem c03_mass_parameter_dh (i : Nat) (h : i < ms.length) :
    (massParams .dh G m0 pj0m nact ms)[i]? = some (m0 * G) := by
  simp [massParams, etas, h]

/-- WHDS: `M_i = G (m0 + m_i)` for active particles, `G m0` for test particles -/
theorem c03_mass_parameter_whds (i : Nat) (h : i < ms.length) :
    (massParams .whds G m0 pj0m nact ms)[i]? = some ((if i < nact then m0 + ms[i] else m0) * G) := by
  simp only [massParams, List.getElem?_map, whds_get m0 pj0m nact ms i h, Option.map_some, sc_hmul]

/-- barycentric: `M_i = G · p_j[0].m` (slot 0 of the barycentric set carries the total mass, C12) -/
theorem c03_mass_parameter_barycentric (i : Nat) (h : i < ms.length) :
    (massParams .bary G m0 pj0m nact ms)[i]? = some (pj0m * G) := by
  simp [massParams, etas, h]

/-- MERCURIUS and TRACE (democratic heliocentric, in place): `M_i = G · particles[0].m` -/
theorem c03_mass_parameter_hybrid (i : Nat) (h : i < ms.length) :
    (hybridMassParams G m0 ms)[i]? = some (G * m0) ∧ (hybridMassParams G m0 ms).length = ms.length := by
  simp [hybridMassParams, h]

/-- democratic-heliocentric jump step of MERCURIUS and TRACE (one component): every particle i ≥ 1 is
    shifted by `dt/m0 · Σ m_k v_k`, the sum running over the **active** particles 1 … N_active−1 when
    `testparticle_type == 0` and over all particles when it is 1. -/
theorem c03_hybrid_jump_shift (t1 : Bool) (nact : Nat) (dt : K) (mv : List (K × K)) (xs : List K) :
    mercuriusJump t1 nact dt m0 mv xs
      = xs.map (fun x => x + dt * ((((if t1 then mv else mv.take nact).map (fun p => p.1 * p.2)).sum) / m0)) ∧
    traceJump t1 nact dt m0 mv xs
      = xs.map (fun x => x + (((if t1 then mv else mv.take nact).map (fun p => p.1 * p.2)).sum) * (dt / m0)) := by
  simp only [mercuriusJump, traceJump, jumpSources, jumpSum_eq, sc_zero, zero_add, sc_hadd, sc_hmul, sc_hdiv]
  cases t1 <;> simp

/-- hence a lone type-0 test particle (N_active = 1) is not moved by the jump step **whatever its mass**:
    together with `c03_mass_parameter_hybrid` (M = G·m0) and the absence of other bodies in the
    interaction step, one MERCURIUS / TRACE step of a star plus one type-0 test particle is the Kepler
    step with μ = G·m0. -/
theorem c03_hybrid_jump_lone_testparticle (dt : K) (mv : List (K × K)) (xs : List K) :
    mercuriusJump false 0 dt m0 mv xs = xs ∧ traceJump false 0 dt m0 mv xs = xs := by
  obtain ⟨h1, h2⟩ := c03_hybrid_jump_shift (m0 := m0) false 0 dt mv xs
  rw [h1, h2]
  simp

/-- WHFast's own jump step (`reb_whfast_jump_step`), democratic heliocentric: every particle i ≥ 1, active or
    test, is shifted by `dt · (Σ_active m_k v_k)/m0`. -/
theorem c03_whfast_jump_dh (dt : K) (act : List (K × K × K)) (tst : List K) :
    whfastJumpDH dt m0 act tst =
      (act.map (fun a => a.2.2 + dt * ((act.map (fun a => a.1 * a.2.1)).sum / m0)),
       tst.map (fun x => x + dt * ((act.map (fun a => a.1 * a.2.1)).sum / m0))) := by
  simp only [whfastJumpDH, whJumpSumDH_eq, sc_zero, zero_add, sc_hadd, sc_hmul, sc_hdiv]

/-- WHDS: active particle i is shifted by `dt · Σ_{active k ≠ i} m_k v_k/(m0+m_k)` (its own term is
    subtracted), test particles by the full sum. -/
theorem c03_whfast_jump_whds (dt : K) (act : List (K × K × K)) (tst : List K) :
    whfastJumpWHDS dt m0 act tst =
      (act.map (fun a => a.2.2 + dt * ((act.map (fun b => b.1 * b.2.1 / (m0 + b.1))).sum - a.1 * a.2.1 / (m0 + a.1))),
       tst.map (fun x => x + dt * (act.map (fun b => b.1 * b.2.1 / (m0 + b.1))).sum)) := by
  simp only [whfastJumpWHDS, whJumpSumWHDS_eq, sc_zero, zero_add, sc_hadd, sc_hsub, sc_hmul, sc_hdiv]

/-- **why a two-body WHFast step is (or is not) the pure Kepler step**: with a single body next to the star
    * as a test particle (no active body besides the star) neither jump moves it, whatever its mass;
    * as the only active body, the WHDS jump leaves it where it is (its own term cancels: with
      `c03_mass_parameter_whds`, M = G(m0+m) the step is the exact two-body motion), while the democratic
      heliocentric jump shifts it by `dt·m v/m0` — the splitting is exact only for m = 0 there (this is why the
      full-step search asserts dh / barycentric / MERCURIUS / TRACE with massive bodies only as type-0 test
      particles). -/
theorem c03_whfast_jump_single_body (dt m v x : K) :
    whfastJumpDH dt m0 [] [x] = ([], [x]) ∧ whfastJumpWHDS dt m0 [] [x] = ([], [x]) ∧
    whfastJumpWHDS dt m0 [(m, v, x)] [] = ([x], []) ∧
    whfastJumpDH dt m0 [(m, v, x)] [] = ([x + dt * (m * v / m0)], []) := by
  simp only [c03_whfast_jump_dh, c03_whfast_jump_whds, List.map_nil, List.map_cons, List.sum_nil, List.sum_cons,
    zero_div, mul_zero, add_zero, sub_self, and_self]

/-- `reb_whfast_com_step`: slot 0 of `p_jh` (total mass, centre of mass — C12) moves on a straight line; two
    steps compose additively (so the half steps of a DKD scheme merge) -/
theorem c03_whfast_com_step (dt dt' x0 v0 : K) :
    whfastComStep dt x0 v0 = x0 + dt * v0 ∧
    whfastComStep dt' (whfastComStep dt x0 v0) v0 = whfastComStep (dt + dt') x0 v0 := by
  simp only [whfastComStep, sc_hadd, sc_hmul]
  exact ⟨trivial, by ring⟩

end mass

/-- Newton (≤ WHFAST_NMAX_NEWT-1 passes) and quartic (≤ WHFAST_NMAX_QUART-1 passes) loops
    are bounded: for every scalar type, `Float` included, whenever they return they have made
    at most `rem` further iterations. -/
theorem c03_newton_quartic_bounded {F : Type} [KScalar F] (c : Ctx F) (rem : Nat) :
    (∀ X oldX gs ri it mh r, newtLoop c rem X oldX gs ri it mh = .ok r → r.2.2.2.2.1 ≤ it + rem) ∧
    (∀ X prev gs it mh r, quartLoop c rem X prev gs it mh = .ok r → r.2.2.2.1 ≤ it + rem) :=
  ⟨newtLoop_iters c rem, quartLoop_iters c rem⟩

section term
variable {R : Type} [Field R] [LinearOrder R] [IsStrictOrderedRing R] [Archimedean R]

/-- the argument-halving loop `while(fabs(z)>thr){z=z/4;n++}` (threshold `thr` = 0.1 and
    divisor as extracted from the source) exits for every `z` of an
    Archimedean ordered field, after `n` passes with `thr·4^(n-1) < |z|` (so
    `n ≤ ⌈log₄(|z|/thr)⌉ + 1`), leaving `|z/4ⁿ| ≤ thr`.
    `fin` is the extra loop condition (`isfinite(z)` in the source since repo commit 0889693,
    `fun _ => true` before it; every element of such a field is finite).
    `_partial`: a statement about an Archimedean field, not about every double: without the
    `isfinite` condition `z = ±inf` never leaves the loop — finding F14; the Float model reports
    it as fuel exhaustion (`Hang.stumpff`) and the compiled solver was observed to hang on
    the same inputs. -/
theorem c03_halving_terminates_partial (fin : R → Bool) (hfin : ∀ x, fin x = true) (z : R) :
    ∃ n : Nat, (∀ fuel, n + 1 ≤ fuel →
        halve (fun x => |x|) (lit thrCs3.1 thrCs3.2 : R) (lit divCs3.1 divCs3.2) fin fuel z 0 = some (z / 4 ^ n, n)) ∧
      |z / 4 ^ n| ≤ (thrCs3.1 : R) / (thrCs3.2 : R) ∧ (∀ j < n, (thrCs3.1 : R) / (thrCs3.2 : R) * 4 ^ j < |z|) := by
  have e1 : (lit thrCs3.1 thrCs3.2 : R) = (thrCs3.1 : R) / (thrCs3.2 : R) := lit_eq _ _
  have e2 : (lit divCs3.1 divCs3.2 : R) = 4 := by simp [lit_eq, divCs3]
  have hp : 0 < thrCs3.1 ∧ 0 < thrCs3.2 := by decide
  have hthr : (0 : R) < (thrCs3.1 : R) / (thrCs3.2 : R) :=
    div_pos (Nat.cast_pos.2 hp.1) (Nat.cast_pos.2 hp.2)
  obtain ⟨n, h1, h2, h3⟩ := halve_terminates ((thrCs3.1 : R) / (thrCs3.2 : R)) 4 fin hfin hthr (by norm_num) z
  refine ⟨n, ?_, h2, h3⟩
  intro fuel hf
  rw [e1, e2, h1 fuel hf 0]; simp

end term

/-- exact algebra of one duplication step on the defects `D0 = c0 − (1 − z c2)`, `D1 = c1 − (1 − z c3)`,
    `D2 = c1² − (1+c0) c2` of the three Stumpff relations (any input, no hypotheses):
    the quadratic defect is annihilated, the linear ones obey a linear recursion; and the defect of
    `c0² + z c1² = 1` is `(1+c0) D0 + z D2`. -/
theorem c03_defect_recursion (z : K) (c : Cs3 K) :
    D2 (cs3DupStep c) = 0 ∧
    D1 (4 * z) (cs3DupStep c) = c.c0 * D1 z c + D0 z c ∧
    D0 (4 * z) (cs3DupStep c) = 2 * (1 + c.c0) * D0 z c + 2 * z * D2 c ∧
    DP z c = (1 + c.c0) * D0 z c + z * D2 c ∧
    (StumpffRel z c ↔ D0 z c = 0 ∧ D1 z c = 0 ∧ D2 c = 0) :=
  ⟨(defect_step z c).1, (defect_step z c).2.1, (defect_step z c).2.2, defect_pythagoras z c, D_rel_iff z c⟩

section defect
variable {R : Type} [Field R] [LinearOrder R] [IsStrictOrderedRing R]

/-- **what stumpff_cs3 returns, in exact arithmetic, for `n+1 ≥ 1` halvings**: starting from the Horner
    series at `z` (whose only defect is the explicit `δ = z⁶·P(z)/13!²` of
    `c03_series_truncation_residual`), after `n+1` duplications the quadratic relation holds exactly and
      |c0 − (1 − Z c2)| ≤ 2·4ⁿ |z δ|,   |c1 − (1 − Z c3)| ≤ (4ⁿ−1)/3 · 2 |z δ|,
      |c0² + Z c1² − 1| ≤ 4ⁿ⁺¹ |z δ| = |Z| |δ|            (Z = 4ⁿ⁺¹ z the full argument)
    as long as the intermediate and final `c0` lie in [−1, 1] (cosines: the elliptic case).
    With |z| ≤ 0.1, |δ| ≤ 2.3e-17: the truncation contributes ≤ 2.3e-17·|Z| to `cos² + sin² = 1`, below
    the measured rounding growth 40 ε |Z|.
    `_partial`: the hypothesis `|c0| ≤ 1` is not derived (it holds for the exact cosine; for the
    truncated data it holds up to the very defects bounded here), and the hyperbolic case (c0 = cosh
    grows) is not covered. -/
theorem c03_truncation_through_duplication_partial (n : Nat) (z : R)
    (hc : ∀ k ≤ n + 1, 1 ≤ k → |(cs3Dup k (cs3Series z)).c0| ≤ 1) :
    let c := cs3Dup (n + 1) (cs3Series z)
    let Z := 4 ^ (n + 1) * z
    let δ := D2 (cs3Series z)
    D2 c = 0 ∧ |D0 Z c| ≤ 2 * 4 ^ n * |z * δ| ∧ |D1 Z c| ≤ (4 ^ n - 1) / 3 * (2 * |z * δ|) ∧
    |DP Z c| ≤ 4 ^ (n + 1) * |z * δ| := by
  intro c Z δ
  obtain ⟨s2, s1, s0⟩ := defect_step z (cs3Series z)
  obtain ⟨z0, z1⟩ := defect_series z
  rw [z0, mul_zero, zero_add, mul_assoc] at s0
  rw [z0, z1, mul_zero, add_zero] at s1
  obtain ⟨b0, b1⟩ := defect_bound n (4 * z) _ s2 fun k hk => hc (k + 1) (by omega) (by omega)
  rw [s0, abs_mul, abs_of_pos (two_pos : (0 : R) < 2), show (4 : R) ^ n * (4 * z) = Z by ring] at b0 b1
  rw [s1, abs_zero, zero_add] at b1
  have hD2 : D2 c = 0 := D2_cs3Dup n _ s2
  refine ⟨hD2, b0.trans_eq (by ring), b1, ?_⟩
  rw [defect_pythagoras, hD2, mul_zero, add_zero, abs_mul]
  have h1c : |(1 : R) + c.c0| ≤ 2 := by
    have := abs_le.1 (hc (n + 1) le_rfl n.succ_pos)
    exact abs_le.2 ⟨by linarith, by linarith⟩
  calc |1 + c.c0| * |D0 Z c| ≤ 2 * (4 ^ n * (2 * |z * δ|)) := mul_le_mul h1c b0 (abs_nonneg _) two_pos.le
    _ = 4 ^ (n + 1) * |z * δ| := by ring

end defect

/-! ### bisection fallback (lines 251-287) over an ordered field -/
section bisect
variable {R : Type} [Field R] [LinearOrder R] [IsStrictOrderedRing R]

/-- loop invariant of the bisection: one pass of the body (`bisectUpdate`, the branch taken on
    `s >= 0.` as in the source) keeps `F ≤ 0` at the lower end and `0 ≤ F` at the upper end of the
    bracket — for *any* function `F` whose value at the midpoint is the `s` the code computed —, stays
    inside the old bracket, halves its width and proposes its midpoint: a root that is bracketed stays
    bracketed. -/
theorem c03_bisection_invariant (F : R → R) (Xmin Xmax : R) (hle : Xmin ≤ Xmax)
    (hlo : F Xmin ≤ 0) (hhi : 0 ≤ F Xmax) :
    let X := (Xmax + Xmin) / 2
    let r := bisectUpdate (ScalarO.le (Scalar.zero : R) (F X)) X Xmin Xmax
    F r.1 ≤ 0 ∧ 0 ≤ F r.2.1 ∧ Xmin ≤ r.1 ∧ r.1 ≤ r.2.1 ∧ r.2.1 ≤ Xmax ∧
      r.2.1 - r.1 = (Xmax - Xmin) / 2 ∧ r.2.2 = (r.2.1 + r.1) / 2 := by
  intro X r
  have hX1 : Xmin ≤ X := by show Xmin ≤ (Xmax + Xmin) / 2; linarith
  have hX2 : X ≤ Xmax := by show (Xmax + Xmin) / 2 ≤ Xmax; linarith
  have hr : r = bisectUpdate (ScalarO.le (Scalar.zero : R) (F X)) X Xmin Xmax := rfl
  simp only [bisectUpdate, sc_ofNat, Nat.cast_ofNat] at hr
  by_cases h : (0 : R) ≤ F X
  · have : ScalarO.le (Scalar.zero : R) (F X) = true := decide_eq_true h
    rw [this] at hr
    simp only [if_true] at hr
    rw [hr]
    refine ⟨hlo, h, le_refl _, hX1, hX2, ?_, rfl⟩
    show (Xmax + Xmin) / 2 - Xmin = (Xmax - Xmin) / 2; ring
  · have : ScalarO.le (Scalar.zero : R) (F X) = false := decide_eq_false h
    rw [this] at hr
    simp only [Bool.false_eq_true, if_false] at hr
    rw [hr]
    refine ⟨le_of_lt (not_le.1 h), hhi, hX1, hX2, le_refl _, ?_, rfl⟩
    show Xmax - (Xmax + Xmin) / 2 = (Xmax - Xmin) / 2; ring

/-- hyperbolic bracket as coded, for both signs of dt (with the swap for dt < 0): it is ordered, equals `[dt/(a+r0), dt/q]` for dt > 0 and `[dt/q, dt/(a+r0)]` for dt < 0,
    and lies strictly on the side of 0 that has the sign of dt.  `a = |vq·dt|`, `0 < q ≤ a + r0`. -/
theorem c03_hyperbolic_bracket_ordered (q a r0 dt : R) (hq : 0 < q) (hqr : q ≤ a + r0) :
    let b := hypBracket q a r0 dt
    b.1 ≤ b.2 ∧ (0 < dt → b = (dt / (a + r0), dt / q) ∧ 0 < b.1) ∧
      (dt < 0 → b = (dt / q, dt / (a + r0)) ∧ b.2 < 0) := by
  have har : 0 < a + r0 := lt_of_lt_of_le hq hqr
  have key : 1 / (a + r0) ≤ 1 / q := one_div_le_one_div_of_le hq hqr
  by_cases hdt : dt < 0
  · have : ScalarO.lt dt (Scalar.zero : R) = true := decide_eq_true hdt
    simp only [hypBracket, this, if_true, sc_hdiv, sc_hadd]
    refine ⟨?_, fun h => absurd h (not_lt.2 (le_of_lt hdt)), fun _ => ⟨trivial, div_neg_of_neg_of_pos hdt har⟩⟩
    rw [div_eq_mul_one_div dt q, div_eq_mul_one_div dt (a + r0)]
    exact mul_le_mul_of_nonpos_left key (le_of_lt hdt)
  · have : ScalarO.lt dt (Scalar.zero : R) = false := decide_eq_false hdt
    simp only [hypBracket, this, Bool.false_eq_true, if_false, sc_hdiv, sc_hadd]
    refine ⟨?_, fun h => ⟨trivial, div_pos h har⟩, fun h => absurd h hdt⟩
    rw [div_eq_mul_one_div dt q, div_eq_mul_one_div dt (a + r0)]
    exact mul_le_mul_of_nonneg_left key (not_lt.1 hdt)

/-- the hypothesis of the previous theorem holds: the pericentre distance of line 260,
    `q = h²/M/(1 + sqrt(1 − h²β/M²))`, satisfies `0 < q ≤ r0` (for any `e ≥ 0` with `e² = 1 − h²β/M²`) -/
theorem c03_pericentre_le_r0 (M r0 v2 eta0 e : R) (hM : 0 < M) (hr0 : 0 < r0)
    (hh : 0 < r0 * r0 * v2 - eta0 * eta0) (he : 0 ≤ e)
    (hee : e * e = 1 - (r0 * r0 * v2 - eta0 * eta0) * (2 * M * (1 / r0) - v2) / (M * M)) :
    0 < (r0 * r0 * v2 - eta0 * eta0) / M / (1 + e) ∧ (r0 * r0 * v2 - eta0 * eta0) / M / (1 + e) ≤ r0 := by
  have h1e : 0 < 1 + e := by linarith
  refine ⟨div_pos (div_pos hh hM) h1e, ?_⟩
  rw [div_le_iff₀ h1e, div_le_iff₀ hM]
  -- with h² = r0² v² − η0²:  (r0 M e)² = (h² − r0 M)² + h² η0², so h² − r0 M ≤ r0 M e
  have key : (r0 * M * e) ^ 2 = (r0 * r0 * v2 - eta0 * eta0 - r0 * M) ^ 2
      + (r0 * r0 * v2 - eta0 * eta0) * (eta0 * eta0) := by
    rw [mul_pow, sq e, hee]; field_simp; ring
  have := abs_le_of_sq_le_sq (key ▸ le_add_of_nonneg_right (mul_nonneg hh.le (mul_self_nonneg eta0)))
    (mul_nonneg (mul_nonneg hr0.le hM.le) he)
  linarith [le_abs_self (r0 * r0 * v2 - eta0 * eta0 - r0 * M)]

/-- elliptic bracket `[X_pp·k, X_pp·(k+1)]`, `k = floor(dt·invperiod)`: ordered, one period wide; and the
    Kepler function at its ends has the right signs for both signs of dt: at a whole number of periods
    (`G1 = G2 = 0`, `G3 = X/β` by the G-relations) it equals `kP − dt`, and `kP ≤ dt < (k+1)P`.
    `_partial`: that `G2` vanishes at multiples of `X_per_period` (periodicity of the cosine) is a
    hypothesis (analysis); the corresponding sign statement for the hyperbolic bracket,
    `f(dt/(a+r0)) ≤ 0 ≤ f(dt/q)`, is NOT proved: it is equivalent to the monotonicity of
    `t ↦ sinh t − t` between pericentre and the end point and is not a polynomial consequence of the
    G-relations at the two bracket ends. -/
theorem c03_elliptic_bracket_partial (M r0 eta0 beta dt xpp P k : R) (hb : beta ≠ 0) (hP : 0 < P) (hx : 0 < xpp)
    (hxP : xpp * M / beta = P) (hk1 : k * P ≤ dt) (hk2 : dt < (k + 1) * P) :
    let f := fun (X G2 G3 : R) => r0 * X + eta0 * G2 + (M - beta * r0) * G3 - dt
    (ellBracket xpp k).1 < (ellBracket xpp k).2 ∧ (ellBracket xpp k).2 - (ellBracket xpp k).1 = xpp ∧
    f (ellBracket xpp k).1 0 ((ellBracket xpp k).1 / beta) ≤ 0 ∧
    0 < f (ellBracket xpp k).2 0 ((ellBracket xpp k).2 / beta) := by
  intro f
  have e1 : ∀ X : R, f X 0 (X / beta) = X * M / beta - dt := by
    intro X; show r0 * X + eta0 * 0 + (M - beta * r0) * (X / beta) - dt = _
    field_simp; ring
  have a1 : xpp * k * M / beta = k * P := by rw [← hxP]; ring
  have a2 : (xpp * k + xpp) * M / beta = (k + 1) * P := by rw [← hxP]; ring
  dsimp only [ellBracket]
  rw [e1, e1, a1, a2]
  exact ⟨by linarith, by ring, by linarith, by linarith⟩

end bisect

/-! ### WHFast512 (integrator_whfast512.c:167-336), exact arithmetic (fused multiply-adds = multiply, then add) -/

/-- the vectorised f-g update at the end of `reb_whfast512_kepler_step` is the scalar update of
    `reb_whfast_kepler_solver`; hence every `c03_fg_*` theorem (same energy, angular momentum, Laplace
    vector, radius `r0 + η0 G1 + ζ0 G2`) holds for WHFast512 under the same hypotheses -/
theorem c03_whfast512_fg_is_scalar_fg (M r0i ri dt g1 g2 g3 : K) (p : P6 K) :
    fg512 M r0i ri dt g1 g2 g3 p = fgUpdate M r0i ri dt g1 g2 g3 p := by
  dsimp only [fg512, fgUpdate, fgApply, fgCoeffs, sc_neg]
  rw [P6.mk.injEq]
  refine ⟨?_, ?_, ?_, ?_, ?_, ?_⟩ <;> ring

/-- its NEWTON_STEP is the Newton step of the scalar solver on the same G values -/
theorem c03_whfast512_newton_step (r0 eta0 zeta0 beta dt X : K) :
    let g := gs13_512 beta X
    newton512 r0 eta0 zeta0 beta dt X =
      (1 / (r0 + (eta0 * g.1 + zeta0 * g.2.1)) * (X * (eta0 * g.1 + zeta0 * g.2.1) - eta0 * g.2.1 - zeta0 * g.2.2 + dt),
       1 / (r0 + (eta0 * g.1 + zeta0 * g.2.1))) := by
  dsimp only [newton512, sc_one]
  rw [Prod.mk.injEq]
  exact ⟨by ring, by ring⟩

/-- its G functions are the Stumpff series truncated after z⁸/19!, z⁸/18!, evaluated at the FULL argument
    `z = β X²` — there is no argument halving and no duplication, so (unlike `c03_duplication_loop` for the
    scalar code) the G-relations hold only up to a truncation term of order z⁹, which is not small once
    `|β| X² ≳ 10`: with the fixed iteration schedule and no fallback this is finding FC03b. -/
theorem c03_whfast512_series_no_halving (beta X : K) :
    let z := X * X * beta
    let c3 := 1/6 - z/120 + z^2/5040 - z^3/362880 + z^4/39916800 - z^5/6227020800 + z^6/1307674368000
                - z^7/355687428096000 + z^8/121645100408832000
    let c2 := 1/2 - z/24 + z^2/720 - z^3/40320 + z^4/3628800 - z^5/479001600 + z^6/87178291200
                - z^7/20922789888000 + z^8/6402373705728000
    gs13_512 beta X = (X - z * (c3 * X), c2 * (X * X), c3 * X * (X * X)) := by
  obtain ⟨-, -, i2, i3, i4, i5, i6, i7, i8, i9, i10, i11, i12, i13, i14, i15, i16, i17, i18, i19⟩ :=
    invfact_vals (K := K)
  dsimp only [gs13_512, horner512]
  rw [i2, i3, i4, i5, i6, i7, i8, i9, i10, i11, i12, i13, i14, i15, i16, i17, i18, i19, Prod.mk.injEq, Prod.mk.injEq]
  exact ⟨by ring, by ring, by ring⟩

/-! ### the hypotheses are satisfiable (concrete, non-degenerate rational instances) -/

/-- Stumpff relations at z = 1: (c0,c1,c2,c3) = (3/5, 4/5, 2/5, 1/5) -/
example : StumpffRel (1 : ℚ) ⟨3/5, 4/5, 2/5, 1/5⟩ := by
  constructor <;> norm_num

/-- an eccentric orbit: x = (3,4,0), v = (1,0,1), M = 15/2 (β = 1, η0 = 3, ζ0 = 5/2),
    X = 1, G = (3/5,4/5,2/5,1/5), dt = 67/10, new radius 42/5 ≠ 0 -/
example : KeplerStep (15/2 : ℚ) (67/10) 5 1 ⟨3, 4, 0, 1, 0, 1⟩ ⟨3/5, 4/5, 2/5, 1/5⟩ ∧
    newR (15/2 : ℚ) 5 ⟨3, 4, 0, 1, 0, 1⟩ ⟨3/5, 4/5, 2/5, 1/5⟩ = 42/5 := by
  have e := invariants_eq (15/2 : ℚ) 5 ⟨3, 4, 0, 1, 0, 1⟩
  obtain ⟨e1, e2, e3, e4⟩ := e
  refine ⟨⟨by norm_num [rr], by norm_num, ⟨?_, ?_, ?_⟩, ?_⟩, ?_⟩
  · rw [e2]; norm_num [vv]
  · rw [e2]; norm_num [vv]
  · norm_num
  · rw [e3, e4]; norm_num [vv, xv]
  · simp only [newR]; rw [e3, e4]; norm_num [vv, xv]

/-- six-function relations at z = 1 -/
example : Stumpff6Rel (⟨1, 4/5, 2/5, 1/5, 1/10, -1/30⟩ : Cs5 ℚ) := by
  constructor <;> norm_num

/-- jump steps on concrete data: a single active body of mass 2 with velocity 3 next to a star of mass 4:
    dh shifts it by dt·2·3/4, WHDS not at all -/
example : whfastJumpDH (1/2 : ℚ) 4 [(2, 3, 10)] [] = ([10 + 1/2 * (2 * 3 / 4)], []) ∧
    whfastJumpWHDS (1/2 : ℚ) 4 [(2, 3, 10)] [] = ([10], []) := by
  obtain ⟨_, _, h3, h4⟩ := c03_whfast_jump_single_body (K := ℚ) (m0 := 4) (1/2) 2 3 10
  exact ⟨h4, h3⟩

end RV.Kepler
