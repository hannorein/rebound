import RV.Proofs.SyncCorr
import RV.Proofs.SyncSaba
import RV.Proofs.SyncSabaPhys
import RV.Proofs.SyncMerc
import RV.Proofs.SyncInt
import RV.Proofs.SyncVar
import RV.Proofs.SyncEos
import RV.Proofs.SyncKeepPhys
import Mathlib.Tactic.Ring
/-
  C09 — deferred synchronisation never changes the physics.

  Statements are about the flag machines of RV/Model/Sync.lean — the same functions the
  driver `drv_c09` runs to predict the primitive-call lists that rv/c09.py replays through
  the real exported C primitives — with the floating-point kernels left *uninterpreted*
  (`Sem`): every theorem of the "bitwise" part therefore holds for IEEE doubles.
-/
namespace RV.Sync
variable {T PJ X V A : Type}

/-! ### bitwise part: pure dataflow, no algebraic hypothesis -/

/-- With `keep_unsynchronized`, `synchronize` leaves the internal coordinates `p_jh` untouched
    and changes no flag (beyond the allocation bookkeeping every entry point does). -/
theorem c09_whfast_keep_sync_preserves_internal (S : Sem T PJ X V A) (c : Config)
    (hk : c.keep = true) (x : Flags × St PJ X V A) :
    (apply S c .synchronize x).2.pj = x.2.pj ∧ (apply S c .synchronize x).1 = initF x.1 ∧
    (x.1.allocated = true → (apply S c .synchronize x).1 = x.1) := by
  rw [apply_sync]
  refine ⟨exec_sync_keep_pj S c hk _ _, syncOps_keep_flags c hk _, fun h => ?_⟩
  rw [syncOps_keep_flags c hk, initF_of_allocated h]

/-- Diagnostics / copies / snapshots (`read`) do not touch anything. -/
theorem c09_whfast_read_is_identity (S : Sem T PJ X V A) (c : Config) (x : Flags × St PJ X V A) :
    apply S c .read x = x := rfl

/-- **Interleaving theorem.**  `keep_unsynchronized = 1`, `safe_mode = 0`, any kernel, corrector,
    corrector2, coordinate system, any initial flags and state: for every sequence `σ` of steps,
    synchronisations and read-only calls, the internal coordinates and the flags after `σ` are
    those of the run that performs only the steps of `σ`; and what `synchronize` then shows the
    user (positions, velocities) is the same too.  No hypothesis on the primitives. -/
theorem c09_whfast_keep_unsynchronized_bitwise (S : Sem T PJ X V A) (c : Config)
    (hk : c.keep = true) (hs : c.safe = false) (σ : List (Op (X × V)))
    (hσ : ∀ o ∈ σ, o.benign = true) (x : Flags × St PJ X V A) :
    let a := run S c σ x
    let b := run S c (σ.filter Op.isStep) x
    a.2.pj = b.2.pj ∧ initF a.1 = initF b.1 ∧
    (apply S c .synchronize a).1 = (apply S c .synchronize b).1 ∧
    (apply S c .synchronize a).2.pj = (apply S c .synchronize b).2.pj ∧
    (apply S c .synchronize a).2.pos = (apply S c .synchronize b).2.pos ∧
    (apply S c .synchronize a).2.vel = (apply S c .synchronize b).2.vel := by
  intro a b
  have h := rel_run S c hk hs σ hσ x x (Rel.refl x)
  exact ⟨h.2.1, h.1, rel_sync_obs S c h⟩

/-- **Interleaving theorem over the full operation alphabet of the model** (`step`, `synchronize`,
    `read`, `setRecalc` = the user sets `recalculate_coordinates_this_timestep`, `poke x` = the user
    overwrites particle positions / velocities): keep_unsynchronized = 1, safe_mode = 0, *every*
    sequence σ, no side condition — the synchronize and read-only calls of σ can be dropped
    (`Op.isKept` keeps steps, flag settings and particle edits in place) without changing the
    internal coordinates, the flags, or what a final synchronize shows.  This holds although a
    particle edit made while unsynchronised is physically meaningless (it is overwritten, with a
    warning, by the synchronize part1 performs before recalculating): WHFast's part1 always
    synchronises before `from_inertial`, so what it reads never depends on an earlier output call. -/
theorem c09_whfast_keep_unsynchronized_bitwise_all_ops (S : Sem T PJ X V A) (c : Config)
    (hk : c.keep = true) (hs : c.safe = false) (σ : List (Op (X × V))) (x : Flags × St PJ X V A) :
    let a := run S c σ x
    let b := run S c (σ.filter Op.isKept) x
    a.2.pj = b.2.pj ∧ initF a.1 = initF b.1 ∧
    (apply S c .synchronize a).2.pj = (apply S c .synchronize b).2.pj ∧
    (apply S c .synchronize a).2.pos = (apply S c .synchronize b).2.pos ∧
    (apply S c .synchronize a).2.vel = (apply S c .synchronize b).2.vel := by
  intro a b
  have h := rel_run_all S c hk hs σ x x (Rel.refl x)
  exact ⟨h.2.1, h.1, (rel_sync_obs S c h).2⟩

/-- `synchronize ∘ synchronize = synchronize` on flags, internal coordinates, positions and
    velocities — every option combination, every flag state. -/
theorem c09_whfast_synchronize_idempotent (S : Sem T PJ X V A) (c : Config)
    (x : Flags × St PJ X V A) :
    let y := apply S c .synchronize x
    let z := apply S c .synchronize y
    z.1 = y.1 ∧ z.2.pj = y.2.pj ∧ z.2.pos = y.2.pos ∧ z.2.vel = y.2.vel := by
  intro y z
  cases hk : c.keep
  · -- without keep_unsynchronized the first call sets is_synchronized: the second does nothing
    have hy : y.1.isSync = true ∧ y.1.allocated = true :=
      ⟨syncOps_nokeep_isSync c hk x.1, syncOps_allocated c x.1⟩
    have e : syncOps c y.1 = ([.init], y.1) := by
      have := syncOps_sync c y.1 (by rw [initF_of_allocated hy.2]; exact hy.1)
      rw [this, initF_of_allocated hy.2]
    show (syncOps c y.1).2 = y.1 ∧ (exec S (syncOps c y.1).1 y.2).pj = _ ∧
      (exec S (syncOps c y.1).1 y.2).pos = _ ∧ (exec S (syncOps c y.1).1 y.2).vel = _
    rw [e]; exact ⟨rfl, rfl, rfl, rfl⟩
  · have h := rel_sync_obs S c (rel_sync S c hk x)
    -- `h` compares sync x with sync (sync x)
    exact ⟨h.1.symm, h.2.1.symm, h.2.2.1.symm, h.2.2.2.symm⟩

/-- … and without `keep_unsynchronized` the second call emits no primitive at all. -/
theorem c09_whfast_synchronize_twice_no_primitives (c : Config) (hk : c.keep = false) (f : Flags) :
    (syncOps c (syncOps c f).2).1 = [.init] := by
  have hy := And.intro (syncOps_nokeep_isSync c hk f) (syncOps_allocated c f)
  rw [syncOps_sync c _ (by rw [initF_of_allocated hy.2]; exact hy.1)]

/-! ### physics part: group laws of the primitives as hypotheses -/

section physics
variable [AddCommGroup T]

/-- **Unsafe mode + synchronize = safe mode** (WHFast: every coordinate system, kernel, corrector
    order), for every sequence `σ` of steps, intermediate synchronisations and read-only calls,
    hence for any number of steps between synchronisations: positions, velocities and internal
    coordinates after a final `synchronize` are those of the safe-mode run doing the same steps.

    Hypotheses: `Laws` = Kepler and centre-of-mass drifts are flows (`K a ∘ K b = K (a+b)`) that
    commute with each other, `from_inertial ∘ to_inertial = id` (C12), `dt/2 + dt/2 = dt`,
    `5dt/8 + 3dt/8 = dt`; `hC`: the first symplectic corrector with `inv = 1` undoes the one
    with `inv = -1` (proved from the group laws of its factors in
    `c09_whfast_corrector_inverse`).

    `…_partial` because of `hF18`: the same for the second corrector (`corrector2`).  For the
    source as found (`c.c2fixed = false`) this hypothesis is FALSE when `corrector2 = 1` — finding
    F18:whfast-corrector2-not-inverse: `reb_whfast_apply_corrector2(r,-1.)` is not the inverse
    of `apply_corrector2(r,1.)` (`c09_F18_corrector2_not_inverse_in_model`).  It is trivially
    true when `corrector2 = 0` (`c09_whfast_unsafe_sync_equals_safe_no_corrector2`) and proved
    for the repaired source (`c09_whfast_unsafe_sync_equals_safe_repaired`).  Start state: synchronised, coordinates about to be
    recalculated (a new simulation, or after the user set the flag). -/
theorem c09_whfast_unsafe_sync_equals_safe_partial (S : Sem T PJ X V A) (L : Laws S) (c : Config)
    (hC : InverseOn S (corrBlk c)) (hF18 : InverseOn S (c2Blk c))
    (σ : List (Op (X × V))) (hσ : ∀ o ∈ σ, o.benign = true) (x0 : Flags × St PJ X V A)
    (h0 : x0.1.isSync = true) (hr : (initF x0.1).recalc = true) :
    let u := apply S (c.mode false false) .synchronize (run S (c.mode false false) σ x0)
    let v := run S (c.mode true false) (σ.filter Op.isStep) x0
    u.2.pj = v.2.pj ∧ u.2.pos = v.2.pos ∧ u.2.vel = v.2.vel := by
  intro u v
  have hf := initF_fresh h0 hr
  exact inv_final S c (inv_run L c hC hF18 σ hσ x0 x0 (Inv.fresh _ _ rfl hf hf))

/-- the statement for `n` uninterrupted steps: `sync (stepsUnsafe n s) = stepsSafe n s` -/
theorem c09_whfast_n_steps_partial (S : Sem T PJ X V A) (L : Laws S) (c : Config)
    (hC : InverseOn S (corrBlk c)) (hF18 : InverseOn S (c2Blk c)) (n : Nat)
    (x0 : Flags × St PJ X V A) (h0 : x0.1.isSync = true) (hr : (initF x0.1).recalc = true) :
    let u := apply S (c.mode false false) .synchronize
      (run S (c.mode false false) (List.replicate n .step) x0)
    let v := run S (c.mode true false) (List.replicate n .step) x0
    u.2.pj = v.2.pj ∧ u.2.pos = v.2.pos ∧ u.2.vel = v.2.vel := by
  have h := c09_whfast_unsafe_sync_equals_safe_partial S L c hC hF18 (List.replicate n .step)
    (fun o ho => by rw [List.eq_of_mem_replicate ho]; rfl) x0 h0 hr
  have e : (List.replicate n (Op.step : Op (X × V))).filter Op.isStep = List.replicate n .step := by
    rw [List.filter_eq_self]; intro o ho; rw [List.eq_of_mem_replicate ho]; rfl
  rw [e] at h
  exact h

/-- full strength where it holds: no second corrector, no hypothesis beyond the group laws of
    drift and transformation when there is no first corrector either -/
theorem c09_whfast_unsafe_sync_equals_safe (S : Sem T PJ X V A) (L : Laws S) (c : Config)
    (hc : c.corrector = 0) (hc2 : c.corrector2 = false)
    (σ : List (Op (X × V))) (hσ : ∀ o ∈ σ, o.benign = true) (x0 : Flags × St PJ X V A)
    (h0 : x0.1.isSync = true) (hr : (initF x0.1).recalc = true) :
    let u := apply S (c.mode false false) .synchronize (run S (c.mode false false) σ x0)
    let v := run S (c.mode true false) (σ.filter Op.isStep) x0
    u.2.pj = v.2.pj ∧ u.2.pos = v.2.pos ∧ u.2.vel = v.2.vel := by
  apply c09_whfast_unsafe_sync_equals_safe_partial S L c ?_ ?_ σ hσ x0 h0 hr
  · intro s; simp [corrBlk, hc, exec]
  · intro s; simp [c2Blk, hc2, exec]

/-- **A7.**  The first symplectic corrector (orders 3, 5, 7, 11, 17; Jacobi and barycentric
    coordinates) applied with `inv = 1` undoes the one applied with `inv = -1`, from the group laws
    of its factors (`CorrLaws`: Kepler drift is a flow, the kick is additive in its coefficient
    and does not move positions) and the palindromic structure of the table of
    `reb_whfast_apply_corrector`, which is checked by `decide`. -/
theorem c09_whfast_corrector_inverse (S : Sem T PJ X V A) (L : CorrLaws S) (c : Config) :
    InverseOn S (corrBlk c) := corrector_inverse L c

/-- full strength without the second corrector: every coordinate system, kernel and order of
    the first corrector; hypotheses are only the group laws of the primitives -/
theorem c09_whfast_unsafe_sync_equals_safe_no_corrector2 (S : Sem T PJ X V A) (L : Laws S)
    (LC : CorrLaws S) (c : Config) (hc2 : c.corrector2 = false)
    (σ : List (Op (X × V))) (hσ : ∀ o ∈ σ, o.benign = true) (x0 : Flags × St PJ X V A)
    (h0 : x0.1.isSync = true) (hr : (initF x0.1).recalc = true) :
    let u := apply S (c.mode false false) .synchronize (run S (c.mode false false) σ x0)
    let v := run S (c.mode true false) (σ.filter Op.isStep) x0
    u.2.pj = v.2.pj ∧ u.2.pos = v.2.pos ∧ u.2.vel = v.2.vel := by
  apply c09_whfast_unsafe_sync_equals_safe_partial S L c (corrector_inverse LC c) ?_ σ hσ x0 h0 hr
  intro s; simp [c2Blk, hc2, exec]

/-- **Full strength for the repaired source** (fixes/F18.diff, `c.c2fixed = true`; rv/c09.py
    detects the variant and the replay confirms it bit for bit): every coordinate system, kernel,
    first-corrector order, with or without the second corrector; only the group laws of the
    primitives are assumed. -/
theorem c09_whfast_unsafe_sync_equals_safe_repaired (S : Sem T PJ X V A) (L : Laws S)
    (LC : CorrLaws S) (L2 : C2Laws S) (c : Config) (hf : c.c2fixed = true)
    (σ : List (Op (X × V))) (hσ : ∀ o ∈ σ, o.benign = true) (x0 : Flags × St PJ X V A)
    (h0 : x0.1.isSync = true) (hr : (initF x0.1).recalc = true) :
    let u := apply S (c.mode false false) .synchronize (run S (c.mode false false) σ x0)
    let v := run S (c.mode true false) (σ.filter Op.isStep) x0
    u.2.pj = v.2.pj ∧ u.2.pos = v.2.pos ∧ u.2.vel = v.2.vel :=
  c09_whfast_unsafe_sync_equals_safe_partial S L c (corrector_inverse LC c)
    (corrector2_inverse_fixed LC L2 c hf) σ hσ x0 h0 hr

end physics

/-- **SABA, interleaving theorem** (all 18 types incl. both corrector families;
    `ri_saba.keep_unsynchronized = 1`, `safe_mode = 0`): as for WHFast.  Extra hypothesis on the
    start flags: coordinates are not about to be recalculated from an unsynchronised state —
    unlike WHFast, SABA's part1 as found (`p1sync = false`) does not synchronise before
    `from_inertial` (integrator_saba.c:240-243); true for a new simulation and after every step. -/
theorem c09_saba_keep_unsynchronized_bitwise (S : Sem T PJ X V A) (c : SabaConfig)
    (hk : c.keep = true) (hs : c.safe = false) (σ : List (Op (X × V)))
    (hσ : ∀ o ∈ σ, o.benign = true) (x : Flags × St PJ X V A)
    (hx : (initF x.1).isSync = false → (initF x.1).recalc = false) :
    let a := sabaRun S c σ x
    let b := sabaRun S c (σ.filter Op.isStep) x
    a.2.pj = b.2.pj ∧ initF a.1 = initF b.1 ∧
    (sabaApply S c .synchronize a).2.pj = (sabaApply S c .synchronize b).2.pj ∧
    (sabaApply S c .synchronize a).2.pos = (sabaApply S c .synchronize b).2.pos ∧
    (sabaApply S c .synchronize a).2.vel = (sabaApply S c .synchronize b).2.vel := by
  intro a b
  have h := srel_run S c hk hs σ hσ x x ⟨Rel.refl x, hx⟩
  have hi : a.1.isSync = b.1.isSync := by
    have := congrArg Flags.isSync h.1.1
    rwa [initF_isSync, initF_isSync] at this
  exact ⟨h.1.2.1, h.1.1, srel_sync_obs S c hk h hi⟩

/-- SABA, alphabet extended with particle edits (`poke`): covered are all sequences without
    `setRecalc`.  Setting `recalculate_coordinates_this_timestep` by hand while SABA is
    unsynchronised is **not** covered and cannot be: SABA's part1 as found (`p1sync = false`) calls
    `from_inertial` without synchronising first (integrator_saba.c:240-243), so what it reads *does*
    depend on whether an output call synchronised the particles in between. -/
theorem c09_saba_keep_unsynchronized_bitwise_with_edits (S : Sem T PJ X V A) (c : SabaConfig)
    (hk : c.keep = true) (hs : c.safe = false) (σ : List (Op (X × V)))
    (hσ : ∀ o ∈ σ, Op.notSetRecalc o = true) (x : Flags × St PJ X V A)
    (hx : (initF x.1).isSync = false → (initF x.1).recalc = false) :
    let a := sabaRun S c σ x
    let b := sabaRun S c (σ.filter Op.isKept) x
    a.2.pj = b.2.pj ∧ initF a.1 = initF b.1 := by
  intro a b
  have h := srel_run_all S c hk hs σ hσ x x ⟨Rel.refl x, hx⟩
  exact ⟨h.1.2.1, h.1.1⟩

/-- SABA: with `keep_unsynchronized`, `synchronize` leaves `p_jh` and every flag unchanged -/
theorem c09_saba_keep_sync_preserves_internal (S : Sem T PJ X V A) (c : SabaConfig)
    (hk : c.keep = true) (x : Flags × St PJ X V A) :
    (sabaApply S c .synchronize x).2.pj = x.2.pj ∧ (sabaApply S c .synchronize x).1 = x.1 := by
  refine ⟨saba_exec_sync_keep_pj S c hk _ _, ?_⟩
  show (sabaSyncOps c x.1).2 = x.1
  rw [sabaSyncOps_keep c hk]

/-- SABA: without `keep_unsynchronized` a second `synchronize` emits no primitive -/
theorem c09_saba_synchronize_twice_no_primitives (c : SabaConfig) (hk : c.keep = false) (f : Flags) :
    (sabaSyncOps c (sabaSyncOps c f).2).1 = [] := by
  unfold sabaSyncOps
  cases h : f.isSync <;> simp [hk, h]

/-- **SABA: unsafe mode + synchronize = safe mode**, all 18 types (`SABA1…4`, `SABA(10,4)`,
    `(8,6,4)`, `(10,6,4)`, `SABAH…`, and the corrector families `SABACM1…4`, `SABACL1…4`), every
    sequence of steps, intermediate synchronisations and read-only calls from a new simulation:
    positions, velocities and internal coordinates after a final `synchronize` are those of the
    safe-mode run doing the same steps.  Hypotheses (`SabaLaws`): Kepler / centre-of-mass drifts
    are commuting flows, `from_inertial ∘ to_inertial = id`, `c₀dt + c₀dt = 2c₀dt`, and — for the
    corrector types only — the **merge law of the corrector step**
    `corr(cc) ; corr(cc) = corr(2cc)` on the internal coordinates, stated explicitly as
    `SabaLaws.corr_merge`; `c09_saba_modified_kick_merge` derives it for the modified-kick family
    from laws of its factors, for the lazy family it remains a hypothesis. -/
theorem c09_saba_unsafe_sync_equals_safe [AddCommGroup T] (S : Sem T PJ X V A) (c : SabaConfig)
    (L : SabaLaws S c) (σ : List (Op (X × V))) (hσ : ∀ o ∈ σ, o.benign = true)
    (x0 : Flags × St PJ X V A) (h0 : x0.1.isSync = true) (hr : (initF x0.1).recalc = true) :
    let u := sabaApply S (c.mode false false) .synchronize (sabaRun S (c.mode false false) σ x0)
    let v := sabaRun S (c.mode true false) (σ.filter Op.isStep) x0
    u.2.pj = v.2.pj ∧ u.2.pos = v.2.pos ∧ u.2.vel = v.2.vel := by
  intro u v
  have hf := initF_fresh h0 hr
  exact sinv_final S c (sinv_run L σ hσ x0 x0 (SInv.fresh _ _ rfl hf hf))

/-- the merge law of the corrector step for the modified-kick family (`SABACM1…4`), from laws of
    its factors: the kick is additive at fixed accelerations, kick and jerk do not move positions,
    the jerk buffer is overwritten independently of the kick, the folded acceleration reads the
    jerk buffer only, `cc·dt + cc·dt = 2cc·dt` -/
theorem c09_saba_modified_kick_merge [AddCommGroup T] (S : Sem T PJ X V A) (t : Nat)
    (ht : t / 0x100 = 1) (L : ModKickLaws S (t % 0x100)) (s : St PJ X V A) :
    (exec S (sabaCorrOps t 1 ++ sabaCorrOps t 1) s).pj = (exec S (sabaCorrOps t 2) s).pj := by
  simp only [sabaCorrOps, ht, exec, denote, List.cons_append, List.nil_append,
    L.posJ_inter, L.posJ_jerk, L.jerk_inter, L.jerk_idem, L.fold_inter, L.inter_add, L.ev_cc_double]

/-! ### WHFast with variational particles (`N_var > 0`) -/

section variational
open RV.Sync.Var
variable {VX VV VA : Type}

/-- **keep_unsynchronized bitwise clause with first-order variational particles** (the flag machine
    `vStepOps` / `vSyncOps` of the fourth replay family: Jacobi coordinates, default kernel, no
    correctors, no MEGNO).  Footprint components are finer here (`VSem`): positions, velocities and
    accelerations of the variational particles are separate from those of the real particles,
    because `to_inertial` overwrites only the latter.  For every sequence of steps,
    synchronisations and read-only calls, `p_jh` (all N entries, variational ones included) and the
    flags are those of the run doing only the steps, and a final synchronize shows the same real
    *and variational* positions and velocities.  No hypothesis on the primitives. -/
theorem c09_whfast_variational_keep_unsynchronized_bitwise (S : VSem T PJ X V A VX VV VA) (c : Config)
    (hk : c.keep = true) (hs : c.safe = false) (σ : List (Op Unit)) (hσ : ∀ o ∈ σ, o.benign = true)
    (x : Flags × VSt PJ X V A VX VV VA) :
    let a := vRun S c σ x
    let b := vRun S c (σ.filter Op.isStep) x
    a.2.pj = b.2.pj ∧ initF a.1 = initF b.1 ∧
    (vApply S c .synchronize a).2.pj = (vApply S c .synchronize b).2.pj ∧
    (vApply S c .synchronize a).2.pos = (vApply S c .synchronize b).2.pos ∧
    (vApply S c .synchronize a).2.vel = (vApply S c .synchronize b).2.vel ∧
    (vApply S c .synchronize a).2.vpos = (vApply S c .synchronize b).2.vpos ∧
    (vApply S c .synchronize a).2.vvel = (vApply S c .synchronize b).2.vvel := by
  intro a b
  have h := vrel_run S c hk hs σ hσ x x (VRel.refl x)
  exact ⟨h.2.1, h.1, vrel_sync_obs S c h⟩

/-- with variational particles and keep_unsynchronized, `synchronize` returns all N entries of
    `p_jh` unchanged (the cache covers the variational entries too) and synchronising twice shows
    what synchronising once shows -/
theorem c09_whfast_variational_keep_sync_preserves_internal (S : VSem T PJ X V A VX VV VA) (c : Config)
    (hk : c.keep = true) (x : Flags × VSt PJ X V A VX VV VA) :
    (vApply S c .synchronize x).2.pj = x.2.pj ∧ (vApply S c .synchronize x).1 = initF x.1 ∧
    (let y := vApply S c .synchronize x
     let z := vApply S c .synchronize y
     z.2.pj = y.2.pj ∧ z.2.pos = y.2.pos ∧ z.2.vel = y.2.vel ∧ z.2.vpos = y.2.vpos ∧ z.2.vvel = y.2.vvel) := by
  obtain ⟨e1, e2, _⟩ := vsync_keep S c hk x.1 x.2
  refine ⟨e2, e1, ?_⟩
  have h := vrel_sync_obs S c (vrel_sync S c hk x)
  exact ⟨h.1.symm, h.2.1.symm, h.2.2.1.symm, h.2.2.2.1.symm, h.2.2.2.2.symm⟩

/-- **Variational centre of mass: every step advances it by exactly one `dt`, in every mode**
    (repaired source, `c.vfix = true`).  Under the clock laws `VClock` (facts about the C
    primitives: the Kepler / COM / jump / interaction steps do not move `p_jh[vc.index].pos`, the
    explicit drift adds its coefficient, the transformations carry it between `p_jh` and the
    variational particles): for *every* combination of safe_mode and keep_unsynchronized, every
    internal flag state and every sequence of steps, synchronisations, read-only calls and
    `recalculate_coordinates_this_timestep` settings, the variational particles the user sees have
    received `2 · #steps` half drifts, before and after a final synchronize, and the copy in `p_jh`
    has not fallen behind.  So in this respect keep_unsynchronized / safe_mode = 0 runs show what
    the safe run shows (second statement: two configurations, same count). -/
theorem c09_whfast_variational_com_drift_every_mode {S : VSem T PJ X V A VX VV VA} (K : VClock S)
    (c c' : Config) (hv : c.vfix = true) (hv' : c'.vfix = true) (σ : List (Op Unit)) (n : Int)
    (x : Flags × VSt PJ X V A VX VV VA) (h : VInv K n x) :
    let a := vRun S c σ x
    let a' := vRun S c' σ x
    K.κx a.2.vpos = n + 2 * stepCount σ ∧
    K.κx (vApply S c .synchronize a).2.vpos = n + 2 * stepCount σ ∧
    VInv K (n + 2 * stepCount σ) a ∧
    K.κx (vApply S c .synchronize a).2.vpos = K.κx (vApply S c' .synchronize a').2.vpos := by
  intro a a'
  have ha := vinv_run K c hv σ n x h
  have ha' := vinv_run K c' hv' σ n x h
  have hs := vinv_apply K c hv .synchronize _ _ ha
  have hs' := vinv_apply K c' hv' .synchronize _ _ ha'
  simp only [Op.isStep, Bool.false_eq_true, if_false, Int.add_zero] at hs hs'
  exact ⟨ha.1, hs.1, ha, hs.1.trans hs'.1.symm⟩

/-- **The source as found loses half of that drift with keep_unsynchronized** (finding
    C09:whfast-var-keep-com-drift-lost; `vfix = false`): on the concrete clock, two steps and a
    synchronize from a new simulation show 4 half drifts in safe mode and in unsafe mode without
    keep_unsynchronized, but with keep_unsynchronized 3 before the synchronize and 2 after it — the
    `N_var_config` block of part2 restores the cached `p_jh` and with it undoes its own
    centre-of-mass drift, so `p_jh` advances by half a step per step.  The repaired variant
    shows 4. -/
theorem c09_whfast_variational_keep_loses_com_drift_as_found :
    let run := fun (safe keep vfix : Bool) (σ : List (Op Unit)) =>
      (vRun clockSem ⟨.jacobi, 0, 0, false, safe, keep, false, vfix, false⟩ σ
        (⟨true, false, false⟩, ⟨0, (), (), (), 0, 0, (), 0⟩)).2.vpos
    run true false false [.step, .step, .synchronize] = 4 ∧
    run false false false [.step, .step, .synchronize] = 4 ∧
    run false true false [.step, .step] = 3 ∧
    run false true false [.step, .step, .synchronize] = 2 ∧
    run false true true [.step, .step, .synchronize] = 4 := by
  decide

/-- the clock laws are satisfiable (non-vacuity of `VClock`) -/
example : VClock clockSem := clockK

/-- **A successful rescaling of variational particles (`reb_simulation_rescale_var` at the end of a
    step) happens only in a synchronised state, and — repaired source, `rfix = true` — is always
    followed by a rebuild of `p_jh`**: the recalculate flag is set whatever safe_mode says, so the
    next step under *any* configuration `c'` (safe_mode / keep_unsynchronized may have been changed
    in between) contains `from_inertial` and leaves no coordinate above 1e100 in `p_jh` or in the
    particles.  If the rescaling does not happen although a coordinate is too large, the integrator
    was unsynchronised (keep_unsynchronized) and neither flags nor magnitudes changed. -/
theorem c09_whfast_variational_rescale_forces_recalculation (c c' : Config) (f : Flags) (m : VMag) :
    let r := vOpOpsR true c f m (.step : Op Unit)
    (r.2.2.2 = true →
      r.2.1.isSync = true ∧ r.2.1.recalc = true ∧ Prim.fromInertial ∈ (vStepCore c' r.2.1).1 ∧
      vMagStep c' r.2.1 r.2.2.1 = ⟨false, false⟩) ∧
    (r.2.2.2 = false → (vMagStep c f m).bigP = true → r.2.1.isSync = false ∧ r.2.1 = (vStepOps c f).2) := by
  intro r
  have hr : r = ((vStepOps c f).1, vRescaleF true c (vStepOps c f).2 (vMagStep c f m)) := rfl
  generalize (vStepOps c f).2 = g at hr
  generalize vMagStep c f m = m' at hr
  have key : ∀ fl : Flags, fl.recalc = true → Prim.fromInertial ∈ (vStepCore c' fl).1 := by
    intro fl h
    have hi : (initF fl).recalc = true := by unfold initF; split <;> simp [h]
    unfold vStepCore vPart1Ops
    simp [hi]
  have mag : ∀ (fl : Flags) (mm : VMag), fl.recalc = true → mm.bigP = false →
      vMagStep c' fl mm = ⟨false, false⟩ := by
    intro fl mm h hb
    have hi : (initF fl).recalc = true := by unfold initF; split <;> simp [h]
    simp [vMagStep, hi, hb]
  rw [hr]
  unfold vRescaleF
  by_cases hc : (m'.bigP && g.isSync) = true
  · simp only [hc, if_true]
    have hg : g.isSync = true := by simp at hc; exact hc.2
    refine ⟨fun _ => ⟨hg, by simp, key _ (by simp), mag _ _ (by simp) rfl⟩, fun h => by simp at h⟩
  · simp only [hc]
    refine ⟨fun h => by simp at h, fun _ hb => ⟨?_, rfl⟩⟩
    simp [hb] at hc
    simpa using hc

/-- **The source as found rescales the same magnitude twice when safe_mode is switched off right
    after a rescaling** (finding C09:rescale-var-stale-pjh-after-safe-mode-off; `rfix = false`): a
    step in safe mode with variational coordinates above 1e100 rescales the particles but sets no
    recalculate flag ("safe mode recalculates anyway"); the user then sets `safe_mode = 0`; the next
    step drifts the stale, un-rescaled `p_jh`, the particles come out above 1e100 again and a second
    rescaling adds the same logarithm to `lrescale` once more.  With the flag set unconditionally
    (`rfix = true`) there is exactly one. -/
theorem c09_whfast_variational_rescale_twice_after_safe_mode_off_as_found :
    let cfg := fun (safe : Bool) => (⟨.jacobi, 0, 0, false, safe, false, false, true, true⟩ : Config)
    let count := fun (rfix : Bool) =>
      let r1 := vOpOpsR rfix (cfg true) ⟨true, false, false⟩ ⟨true, true⟩ (.step : Op Unit)
      let r2 := vOpOpsR rfix (cfg false) r1.2.1 r1.2.2.1 (.step : Op Unit)
      (if r1.2.2.2 then 1 else 0) + (if r2.2.2.2 then 1 else 0)
    count false = 2 ∧ count true = 1 := by
  decide

end variational

/-! ### MERCURIUS (kick first) and EOS (outer scheme) -/

/-- **MERCURIUS: unsafe mode + synchronize = safe mode**, any sequence of steps, synchronisations
    and read-only calls from a new simulation.  Hypotheses (`MLaws`): the interaction kick is
    additive in its coefficient at fixed positions (`I(dt/2)∘I(dt/2) = I(dt)`), does not move
    positions, and `inertial_to_dh ∘ dh_to_inertial = id`.  The Kepler/encounter step is
    arbitrary. -/
theorem c09_mercurius_unsafe_sync_equals_safe {P C Dc : Type} [AddCommGroup T]
    (S : MSem T P C A Dc) (L : MLaws S) (σ : List (Op P)) (hσ : ∀ o ∈ σ, o.benign = true)
    (x0 : MFlags × MSt P C A Dc) (h0 : x0.1.isSync = true) (h1 : x0.1.allocD = false) :
    (mApply S false .synchronize (mRun S false σ x0)).2.p = (mRun S true (σ.filter Op.isStep) x0).2.p :=
  mInv_final S (mInv_run L σ hσ x0 x0 (MInv.fresh _ _ rfl h0 h1))

/-- MERCURIUS: `synchronize` twice = once (the second call emits no primitive) -/
theorem c09_mercurius_synchronize_twice_no_primitives (f : MFlags) :
    (mSyncOps (mSyncOps f).2).1 = [] := by
  unfold mSyncOps
  cases h : f.isSync <;> simp [h]

/-- **EOS, `…_partial`**: the outer scheme of EOS in unsafe mode, synchronised at the end, equals
    safe mode *if* the outer drift were an exact flow (`drift a₀ ∘ drift a₀ = drift 2a₀`) and the
    pre-processor undid the post-processor.  In the code the drift is the inner splitting scheme
    `phi1` with `n` sub-steps, so the first hypothesis holds only up to `phi1`'s truncation error:
    the two modes are the *same method up to merging adjacent drifts*, and differ by a
    truncation-level amount — which is what the property allows for EOS and what the search
    measures (difference ≤ 10 × the scheme's own error, observed ratio ≤ 4.5). -/
theorem c09_eos_unsafe_sync_equals_safe_partial {E : Type} (S : ESem E) (L : ELaws S)
    (σ : List (Op E)) (hσ : ∀ o ∈ σ, o.benign = true) (s0 : E) :
    (eApply S false .synchronize (eRun S false σ (true, s0))).2 =
      (eRun S true (σ.filter Op.isStep) (true, s0)).2 := by
  have h := eos_run L σ hσ (true, s0) (true, s0) (Or.inl ⟨rfl, rfl, rfl⟩)
  rcases h with ⟨h1, h2, h3⟩ | ⟨h1, h2, h3⟩
  · simp [eApply, eSyncOps, h1, eExec, h3]
  · simp [eApply, eSyncOps, h1, eExec, eDenote, h3]

/-- **EOS at full resolution**: the operator list of RV.Model.SyncEos — every shell-1 drift,
    shell-1 interaction and shell-0 interaction with its coefficient, for all 9 × 9 `phi0`/`phi1`
    pairs and every `n`; this is what rv/c09.py replays bit for bit against
    `reb_integrator_eos_part2` / `_synchronize` — run under *any* interpretation of the three
    elementary operators, is the abstract outer schedule run with the operators `semOf` builds from
    those lists.  Hence `c09_eos_unsafe_sync_equals_safe_partial` is a statement about the replayed
    schedule: unsafe + synchronize = safe whenever the concrete `driftShell0` lists satisfy
    `drift a₀ ∘ drift a₀ = drift 2a₀` and the concrete pre/post-processor lists cancel. -/
theorem c09_eos_concrete_schedule_refines_abstract {K E : Type} [Scalar K] (den : Eos.EOp K → E → E)
    (Tb : Eos.Tab K) (phi0 phi1 n : Nat) (dt : K) (safe isSync : Bool) (s : E) :
    Eos.execE den (Eos.part2 Tb phi0 phi1 n safe isSync dt).1 s =
      eExec (Eos.semOf den Tb phi0 phi1 n dt) (eStepOps safe isSync).1 s ∧
    Eos.execE den (Eos.sync Tb phi0 phi1 n isSync dt).1 s =
      eExec (Eos.semOf den Tb phi0 phi1 n dt) (eSyncOps isSync).1 s :=
  ⟨Eos.exec_concr den Tb phi0 phi1 n dt _ s, Eos.exec_concr den Tb phi0 phi1 n dt _ s⟩

/-- EOS: `synchronize` twice = once -/
theorem c09_eos_synchronize_twice_no_primitives (b : Bool) : (eSyncOps (eSyncOps b).2).1 = [] := by
  cases b <;> rfl

/-! ### `reb_simulation_integrate`: `dt` is only assigned in a synchronised state -/

/-- **WHFast.**  In the plan `reb_simulation_integrate` / `reb_check_exit` produce around the
    steps (any number `n` of full steps, `k` of shortened last steps, either finish mode, any
    options with `keep_unsynchronized = 0`, any start flags) every assignment to `r->dt` — the
    shortened last step `dt = tmax - t`, the restore `dt = last_full_dt`, the sign change at
    entry — is executed with `is_synchronized = 1`, i.e. is preceded by a synchronize with no step
    in between, so that no pending half step is ever completed with a different `dt`.
    Hypothesis `h`: the direction is not reversed on an unsynchronised simulation, *or* the entry
    synchronises first (`syncFirst`, the repaired source).  For the source as found the hypothesis
    is needed: `c09_integrate_reverse_unsynchronized_flips_dt`. -/
theorem c09_whfast_integrate_dt_only_when_synchronized (c : Config) (hk : c.keep = false)
    (n k : Nat) (exact reverse syncFirst force rc : Bool) (f : Flags)
    (h : reverse = true → syncFirst = true ∨ f.isSync = true) :
    dtOk (fun f => (stepOps c f).2) (fun f => (syncOps c f).2) (fun f => (syncOps c f).2) Flags.isSync
      (integratePlan n k exact reverse syncFirst force rc) f = true :=
  dtOk_plan _ _ _ _ force (fun _ => syncOps_nokeep_isSync c hk)
    (fun g => by cases force <;> exact syncOps_nokeep_isSync c hk g) n k exact reverse syncFirst rc f h

/-- **Any `keep_unsynchronized`, repaired source** (`force = true`: every synchronize that precedes
    an assignment to `dt` — before the shortened last step, before a restore that changes `dt`,
    before the sign change — ignores keep_unsynchronized,
    fixes/C09-exact-finish-keep-unsynchronized.diff): every assignment to `dt` happens with
    `is_synchronized = 1`, also with `keep_unsynchronized = 1`. -/
theorem c09_whfast_integrate_dt_only_when_synchronized_repaired (c : Config)
    (n k : Nat) (exact reverse syncFirst rc : Bool) (f : Flags)
    (h : reverse = true → syncFirst = true ∨ f.isSync = true) :
    dtOk (fun f => (stepOps c f).2) (fun f => (syncOps c f).2)
      (fun f => (syncOps { c with keep := false } f).2) Flags.isSync
      (integratePlan n k exact reverse syncFirst true rc) f = true :=
  dtOk_plan _ _ _ _ true (fun hf => by cases hf)
    (fun g => syncOps_nokeep_isSync { c with keep := false } rfl g) n k exact reverse syncFirst rc f h

/-- **keep_unsynchronized = 1, source as found**: with at least one step before a shortened
    last step, `dt = tmax - t` is assigned while the internal state is unsynchronised (the
    synchronize restored `p_jh`): the pending half drift is then completed with the shortened `dt`.
    The C API allows this silently (only the Python `getSimulation(mode='exact')` guards it) —
    finding C09:exact-finish-with-keep-unsynchronized, exhibited on the real code by the search. -/
theorem c09_whfast_integrate_keep_unsynchronized_assigns_dt_unsynchronized (c : Config)
    (hk : c.keep = true) (hs : c.safe = false) (n k : Nat) (exact syncFirst rc : Bool) (f : Flags) :
    dtOk (fun f => (stepOps c f).2) (fun f => (syncOps c f).2) (fun f => (syncOps c f).2) Flags.isSync
      (integratePlan (n + 1) (k + 1) exact false syncFirst false rc) f = false := by
  have hstep : ∀ m (g : Flags) (rest : List DtOp),
      dtOk (fun f => (stepOps c f).2) (fun f => (syncOps c f).2) (fun f => (syncOps c f).2) Flags.isSync
        (List.replicate (m + 1) (DtOp.api .step) ++ rest) g =
      dtOk (fun f => (stepOps c f).2) (fun f => (syncOps c f).2) (fun f => (syncOps c f).2) Flags.isSync
        rest ⟨false, false, true⟩ := by
    intro m
    induction m with
    | zero => intro g rest; simp [List.replicate, dtOk, stepOps_unsafe_flags c hs]
    | succ m ih =>
      intro g rest
      rw [List.replicate_succ, List.cons_append]
      simp only [dtOk]
      exact ih _ rest
  unfold integratePlan
  simp only [Bool.false_eq_true, if_false, List.nil_append, List.cons_append, List.append_assoc, dtOk]
  rw [hstep]
  simp [lastStepBlock, syncBeforeDt, dtOk, syncOps_keep_flags c hk, initF]

theorem c09_saba_integrate_dt_only_when_synchronized (c : SabaConfig) (hk : c.keep = false)
    (n k : Nat) (exact reverse syncFirst force rc : Bool) (f : Flags)
    (h : reverse = true → syncFirst = true ∨ f.isSync = true) :
    dtOk (fun f => (sabaStepOps c f).2) (fun f => (sabaSyncOps c f).2) (fun f => (sabaSyncOps c f).2)
      Flags.isSync (integratePlan n k exact reverse syncFirst force rc) f = true := by
  have hsync := sabaSyncOps_nokeep_isSync c hk
  exact dtOk_plan _ _ _ _ force (fun _ => hsync) (fun g => by cases force <;> exact hsync g) n k exact
    reverse syncFirst rc f h

theorem c09_mercurius_integrate_dt_only_when_synchronized (safe : Bool)
    (n k : Nat) (exact reverse syncFirst force rc : Bool) (f : MFlags)
    (h : reverse = true → syncFirst = true ∨ f.isSync = true) :
    dtOk (fun f => (mStepOps safe f).2) (fun f => (mSyncOps f).2) (fun f => (mSyncOps f).2) MFlags.isSync
      (integratePlan n k exact reverse syncFirst force rc) f = true := by
  have hsync := mSyncOps_isSync
  exact dtOk_plan _ _ _ _ force (fun _ => hsync) (fun g => by cases force <;> exact hsync g) n k exact
    reverse syncFirst rc f h

theorem c09_eos_integrate_dt_only_when_synchronized (safe : Bool)
    (n k : Nat) (exact reverse syncFirst force rc : Bool) (b : Bool)
    (h : reverse = true → syncFirst = true ∨ b = true) :
    dtOk (fun b => (eStepOps safe b).2) (fun b => (eSyncOps b).2) (fun b => (eSyncOps b).2) id
      (integratePlan n k exact reverse syncFirst force rc) b = true := by
  have hsync := eSyncOps_isSync
  exact dtOk_plan _ _ _ _ force (fun _ => hsync) (fun g => by cases force <;> exact hsync g) n k exact
    reverse syncFirst rc b h

/-- the source as found (`syncFirst = false`): reversing the direction of integration on an
    unsynchronised simulation assigns `dt` while a half step is pending — finding
    C09:integrate-reverse-unsynchronized, exhibited on the real code by the search -/
theorem c09_integrate_reverse_unsynchronized_flips_dt (c : Config) (n k : Nat) (exact rc : Bool)
    (f : Flags) (hf : f.isSync = false) :
    dtOk (fun f => (stepOps c f).2) (fun f => (syncOps c f).2) (fun f => (syncOps c f).2) Flags.isSync
      (integratePlan n k exact true false false rc) f = false := by
  simp [integratePlan, dtOk, hf]

/-! ### particle edits inside the step: `pre_timestep_modifications` / `post_timestep_modifications` -/

/-- **A callback always sees synchronised particles and its edits are always picked up** — flag
    level, WHFast (keep_unsynchronized = 0, any other option, any start flags).  For every sequence
    of steps with or without pre/post callbacks (`reb_simulation_step`: synchronize → callback →
    set the recalculate flags, in that order — `cbStepPlan`), synchronisations and read-only calls:
    every edit (`poke`) is executed with `is_synchronized = 1`, and the step that follows an edit is
    entered synchronised with `recalculate_coordinates_this_timestep = 1`, so part1 transforms the
    edited particles and no synchronize overwrites them first. -/
theorem c09_whfast_callback_edits_seen_and_picked_up {U : Type} (c : Config) (hk : c.keep = false)
    (l : List (MOp U)) (f : Flags) :
    editOk (fun f => (stepOps c f).2) (fun f => (syncOps c f).2) (fun f => { f with recalc := true })
      Flags.isSync Flags.recalc (expandAll l) false f = true := by
  have H : EditFlags (fun f => (stepOps c f).2) (fun f => (syncOps c f).2)
      (fun f : Flags => { f with recalc := true }) Flags.isSync Flags.recalc :=
    { sync_isS := syncOps_nokeep_isSync c hk
      sync_isR := fun f h1 h2 => by
        have : (initF f).isSync = true := by rw [initF_isSync]; exact h1
        show (syncOps c f).2.recalc = true
        rw [syncOps_sync c f this]
        unfold initF; split <;> simp_all
      set_isS := fun f h => h
      set_isR := fun f => rfl }
  have := editOk_expand _ _ _ _ _ H l [] false f (fun h => by cases h) (fun p g _ => rfl)
  simpa using this

theorem c09_saba_callback_edits_seen_and_picked_up {U : Type} (c : SabaConfig) (hk : c.keep = false)
    (l : List (MOp U)) (f : Flags) :
    editOk (fun f => (sabaStepOps c f).2) (fun f => (sabaSyncOps c f).2) (fun f => { f with recalc := true })
      Flags.isSync Flags.recalc (expandAll l) false f = true := by
  have H : EditFlags (fun f => (sabaStepOps c f).2) (fun f => (sabaSyncOps c f).2)
      (fun f : Flags => { f with recalc := true }) Flags.isSync Flags.recalc :=
    { sync_isS := sabaSyncOps_nokeep_isSync c hk
      sync_isR := fun g h1 h2 => by unfold sabaSyncOps; simp [h1, h2]
      set_isS := fun f h => h
      set_isR := fun f => rfl }
  have := editOk_expand _ _ _ _ _ H l [] false f (fun h => by cases h) (fun p g _ => rfl)
  simpa using this

theorem c09_mercurius_callback_edits_seen_and_picked_up {U : Type} (safe : Bool)
    (l : List (MOp U)) (f : MFlags) :
    editOk (fun f => (mStepOps safe f).2) (fun f => (mSyncOps f).2) (fun f => { f with recalc := true })
      MFlags.isSync MFlags.recalc (expandAll l) false f = true := by
  have H : EditFlags (fun f => (mStepOps safe f).2) (fun f => (mSyncOps f).2)
      (fun f : MFlags => { f with recalc := true }) MFlags.isSync MFlags.recalc :=
    { sync_isS := mSyncOps_isSync
      sync_isR := fun g h1 h2 => by unfold mSyncOps; simp [h1, h2]
      set_isS := fun f h => h
      set_isR := fun f => rfl }
  have := editOk_expand _ _ _ _ _ H l [] false f (fun h => by cases h) (fun p g _ => rfl)
  simpa using this

/-- EOS has no internal coordinates: an edit only has to be made in a synchronised state -/
theorem c09_eos_callback_edits_seen_synchronised {U : Type} (safe : Bool) (l : List (MOp U)) (b : Bool) :
    editOk (fun b => (eStepOps safe b).2) (fun b => (eSyncOps b).2) id id (fun _ => true)
      (expandAll l) false b = true := by
  have H : EditFlags (fun b => (eStepOps safe b).2) (fun b => (eSyncOps b).2) (id : Bool → Bool) id (fun _ => true) :=
    { sync_isS := eSyncOps_isSync
      sync_isR := fun _ _ _ => rfl
      set_isS := fun f h => h
      set_isR := fun f => rfl }
  have := editOk_expand _ _ _ _ _ H l [] false b (fun h => by cases h) (fun p g _ => rfl)
  simpa using this

section physics2
variable [AddCommGroup T]
/-- **Unsafe mode = safe mode with callbacks that edit particles** (WHFast, semantic): for every
    sequence of steps with arbitrary pre/post callback edits, synchronisations and read-only calls,
    the unsafe run followed by a final synchronize shows the positions, velocities and internal
    coordinates of the safe run that performs the same steps and edits.  Same hypotheses as
    `c09_whfast_unsafe_sync_equals_safe_partial`. -/
theorem c09_whfast_unsafe_sync_equals_safe_with_callbacks_partial (S : Sem T PJ X V A) (L : Laws S)
    (c : Config) (hC : InverseOn S (corrBlk c)) (hF18 : InverseOn S (c2Blk c))
    (l : List (MOp (X × V))) (x0 : Flags × St PJ X V A)
    (h0 : x0.1.isSync = true) (hr : (initF x0.1).recalc = true) :
    let u := apply S (c.mode false false) .synchronize (run S (c.mode false false) (expandAll l) x0)
    let v := run S (c.mode true false) ((expandAll l).filter Op.isKept) x0
    u.2.pj = v.2.pj ∧ u.2.pos = v.2.pos ∧ u.2.vel = v.2.vel := by
  intro u v
  have hf := initF_fresh h0 hr
  exact inv_final S c (inv_macro_run L c hC hF18 l x0 x0 (Inv.fresh _ _ rfl hf hf))
/-- **keep_unsynchronized = 1 with pre/post timestep callbacks = safe mode** (WHFast, semantic,
    repaired part1 `c.p1fix = true`, fix 35adc5c).  `reb_simulation_step` wraps every callback in
    "synchronize → callback → set recalculate_coordinates_this_timestep"; with keep_unsynchronized
    the synchronize leaves `is_synchronized = 0`, so the next part1 recalculates *while
    unsynchronised*: nested synchronize (cache, sync, restore), warning, `from_inertial`, and — this
    is the repair — `is_synchronized = 1`, hence the first-half drift instead of the merged one.
    For every sequence of steps, synchronisations, read-only calls and recalculate-flag settings
    (i.e. callbacks that do not edit particles; an edit is discarded by the nested synchronize,
    which is the documented meaning of keep_unsynchronized) a final synchronize shows the positions
    and velocities of the safe run doing the same steps.  Hypotheses: the group laws `Laws`, the two
    corrector-inverse facts as in `c09_whfast_unsafe_sync_equals_safe_partial`, and `hfrom`:
    `from_inertial` of synchronised particles yields their coordinates whatever `p_jh` held before
    (it overwrites every position / velocity / mass member). -/
theorem c09_whfast_keep_unsynchronized_with_callbacks_equals_safe_repaired (S : Sem T PJ X V A)
    (L : Laws S) (c : Config) (hp : c.p1fix = true)
    (hfrom : ∀ p q, S.fromI (S.toIpos p) (S.toIvel p) q = p)
    (hC : InverseOn S (corrBlk c)) (hF18 : InverseOn S (c2Blk c))
    (σ : List (Op (X × V))) (hσ : ∀ o ∈ σ, o.noEdit = true) (x0 : Flags × St PJ X V A)
    (h0 : x0.1.isSync = true) (hr : (initF x0.1).recalc = true) :
    let u := apply S (c.mode false true) .synchronize (run S (c.mode false true) σ x0)
    let v := run S (c.mode true false) (σ.filter Op.isStep) x0
    u.2.pos = v.2.pos ∧ u.2.vel = v.2.vel := by
  intro u v
  have hf := initF_fresh h0 hr
  exact kinv_final S c (kinv_run L c hp hfrom hC hF18 σ hσ x0 x0 (KInv.fresh _ _ rfl hf hf))

/-- **The source as found applies the merged full drift to freshly recalculated coordinates**
    (`p1fix = false`): the step that follows a callback under keep_unsynchronized consists of the
    nested synchronize, `from_inertial` — after which `p_jh` holds *synchronised* coordinates — and
    then `driftOps c false`, the drift of an *unsynchronised* state (`K(dt) C(dt)`, no correctors):
    half a drift too many per callback step.  The repaired source has `driftOps c true` there. -/
theorem c09_whfast_keep_callback_step_drift_by_source_variant (c : Config) :
    (stepOps (c.mode false true) ⟨false, true, true⟩).1 =
      [.init] ++ ([.init] ++ (([.savePJ] ++ syncMid c) ++ [.restorePJ])) ++ [.warn, .fromInertial] ++
        driftOps c c.p1fix ++ stepTail c ++ [.advT (.frac 1 2)] := by
  cases hp : c.p1fix
  · rw [stepOps_keep_recalc_as_found c hp]
  · rw [stepOps_keep_recalc c hp]
end physics2

/-! ### the hypotheses are satisfiable: a 1-D oscillator, integer time -/

/-- `p_jh` = (position, velocity, centre of mass); time in units of dt/8 -/
def demoSem : Sem Int (Int × Int × Int) Int Int Int where
  ev := fun c => match c with
    | .frac n d => n * (8 / (d : Int)) | .corrA i m => m * (7 * i) | .corrB n s => s * n
    | .c2b s => s | .sabaC r i m => m * (r + i + 3) | .sabaCC r m => m * (r + 1) | _ => 0
  fromI := fun x v p => (x, v, p.2.2)
  toIpos := fun p => p.1
  toIvel := fun p => p.2.1
  posJ := fun p => p.1
  posB := fun p => p.1
  kepler := fun a p => (p.1 + a * p.2.1, p.2.1, p.2.2)
  com := fun a p => (p.1, p.2.1, p.2.2 + a)
  jump := fun _ p => p
  inter := fun b acc p => (p.1, p.2.1 + b * acc, p.2.2)
  upd := fun x => -x
  jerk := fun _ _ p => p
  mkFold := fun _ a => a
  jacAcc := fun _ p => p
  lazyShift := fun p => p
  lazyReset := fun _ p => p
  sabaFold := fun _ => 0
  sabaLazyKick := fun _ _ p => p

example : Laws demoSem where
  kepler_add a b p := Prod.ext (by simp only [demoSem]; ring) rfl
  com_add a b p := Prod.ext rfl (Prod.ext rfl (by simp only [demoSem]; ring))
  kepler_com a b p := rfl
  from_to p := rfl
  ev_half := by decide
  ev_comp := by decide

example : SabaLaws demoSem ⟨0x101, false, false, false, false, false⟩ where
  kepler_add a b p := Prod.ext (by simp only [demoSem]; ring) rfl
  com_add a b p := Prod.ext rfl (Prod.ext rfl (by simp only [demoSem]; ring))
  kepler_com a b p := rfl
  from_to p := rfl
  ev_double := by decide
  corr_merge := fun _ s => c09_saba_modified_kick_merge demoSem 0x101 rfl
    { inter_add := fun a b acc p => Prod.ext rfl (Prod.ext (by simp only [demoSem]; ring) rfl)
      posJ_inter := fun b acc p => rfl
      posJ_jerk := fun x a p => rfl
      jerk_inter := fun x a t b p => rfl
      jerk_idem := fun x a p => rfl
      fold_inter := fun t b p => rfl
      ev_cc_double := by decide } s

example : C2Laws demoSem where
  ev_half_neg := by decide
  ev_c2b_neg := by decide

example : CorrLaws demoSem where
  kepler_add a b p := Prod.ext (by simp only [demoSem]; ring) rfl
  kepler_zero p := Prod.ext (by simp only [demoSem]; ring) rfl
  inter_add a b acc p := Prod.ext rfl (Prod.ext (by simp only [demoSem]; ring) rfl)
  inter_zero acc p := Prod.ext rfl (Prod.ext (by simp only [demoSem]; ring) rfl)
  posJ_inter b acc p := rfl
  posB_inter b acc p := rfl
  ev_corrA_neg i m := by simp only [demoSem]; ring
  ev_corrA_double i m := by simp only [demoSem]; ring
  ev_corrB_neg n s := by simp only [demoSem]; ring

/-- a second instance without a centre-of-mass component, in which `from_inertial` does not look
    at the old `p_jh` at all: `Laws` and the hypothesis `hfrom` of
    `c09_whfast_keep_unsynchronized_with_callbacks_equals_safe_repaired` hold together -/
def demoSemK : Sem Int (Int × Int) Int Int Int where
  ev := fun c => match c with | .frac n d => n * (8 / (d : Int)) | _ => 0
  fromI := fun x v _ => (x, v)
  toIpos := fun p => p.1
  toIvel := fun p => p.2
  posJ := fun p => p.1
  posB := fun p => p.1
  kepler := fun a p => (p.1 + a * p.2, p.2)
  com := fun _ p => p
  jump := fun _ p => p
  inter := fun b acc p => (p.1, p.2 + b * acc)
  upd := fun x => -x
  jerk := fun _ _ p => p
  mkFold := fun _ a => a
  jacAcc := fun _ p => p
  lazyShift := fun p => p
  lazyReset := fun _ p => p
  sabaFold := fun _ => 0
  sabaLazyKick := fun _ _ p => p

example : Laws demoSemK where
  kepler_add a b p := Prod.ext (by simp only [demoSemK]; ring) rfl
  com_add a b p := rfl
  kepler_com a b p := rfl
  from_to p := rfl
  ev_half := by decide
  ev_comp := by decide

example : ∀ p q : Int × Int, demoSemK.fromI (demoSemK.toIpos p) (demoSemK.toIvel p) q = p := by
  intro p q; rfl

/-- MERCURIUS demo: particles = (x, v), kick with a cubic force -/
def demoMSem : MSem Int (Int × Int) Unit Int Unit where
  ev := fun c => match c with | .frac n d => n * (8 / (d : Int)) | _ => 0
  toDhP := fun p => p
  toDhC := fun _ => ()
  toI := fun p _ => p
  upd := fun p => -(p.1 * p.1 * p.1)
  inter := fun b acc p => (p.1, p.2 + b * acc)
  jump := fun _ p => p
  com := fun _ c => c
  kepEnc := fun a _ p => (p.1 + a * p.2, p.2)
  dcrit := fun _ => ()

example : MLaws demoMSem where
  inter_add a b acc p := Prod.ext rfl (by simp only [demoMSem]; ring)
  upd_inter b acc p := rfl
  dh_to p c := ⟨rfl, rfl⟩
  ev_half := by decide

/-- **F18 at model level.**  In this instance, which satisfies every group law above, the
    second corrector of the source as found (`c2fixed = false`) with `inv = 1` does *not* undo
    the one with `inv = -1`: the call list of `reb_whfast_apply_corrector2` (negating both `a`
    and `b`) is not an inverse, so the
    hypothesis `hF18` of `c09_whfast_unsafe_sync_equals_safe_partial` cannot be derived from
    the laws of the primitives.  The search of rv/c09.py exhibits the same on the real code. -/
theorem c09_F18_corrector2_not_inverse_in_model :
    ¬ InverseOn demoSem (c2Blk ⟨.jacobi, 0, 0, true, false, false, false, false, false⟩) := by
  intro h
  have := h ⟨(1, 0, 0), 0, 0, 0, (0, 0, 0), (0, 0, 0)⟩
  revert this
  decide

end RV.Sync
