import RV.Proofs.ParticlesOps
import RV.Proofs.ParticlesSlice
import RV.Proofs.ParticlesSide
import RV.Proofs.ParticlesLookup
/-
  C14 — particle bookkeeping stays consistent under any add / remove / hash history.

  All statements are about the definitions of RV/Model/Particles.lean — the same ones the
  native driver drv_c14 runs against particle.c (through ctypes) and against the Python
  container, operation by operation.  `Variant.original` is the source before fixes/F4.diff,
  `Variant.current` the source with F4.diff applied, `Variant.repaired` the source
  with fixes/F4g.diff and fixes/F4h.diff applied as well; rv/c14.py determines on the real code
  which one it is running (by replaying the counter-examples below) and tells the driver.

  Quantification: every finite history `ops : List (Sorter × Op)` — each operation comes with
  the behaviour of C's `qsort` at that moment, an arbitrary function returning a sorted
  permutation (`Sorter.Valid`) — from every state satisfying the storage invariant
  (`Inv`: the allocation has `N_allocated` slots and `N ≤ N_allocated`), with an arbitrary
  (possibly stale, possibly garbage) lookup table.
-/
namespace RV.Particles

/-! ### storage: N ≤ N_allocated, every access inside the allocation -/

/-- FULL STATEMENT (source with the bounded `dcrit` loop, fixes/F4g.diff): along every history the
    allocation always has `N_allocated` slots, `N ≤ N_allocated`, and no operation reads or writes outside
    the particle array, the lookup table or MERCURIUS' `dcrit` array (`Out.fault` is what the model answers
    to an out-of-bounds access). -/
theorem c14_storage_invariant (v : Variant) (hb : v.dcritBounded = true)
    (hw : v.dcritWithParticles = true ∨ v.rangeFirst = true)
    (ops : List (Sorter × Op)) (c : State) (hinv : Inv c) (hsort : ∀ x ∈ ops, x.1.Valid) :
    Inv (run v c ops).1 ∧ ∀ o ∈ (run v c ops).2, o ≠ Out.fault :=
  ⟨(run_spec v ops c hinv hsort).1, (run_spec v ops c hinv hsort).2.1 (noFaultRun_bounded v hb hw ops c)⟩

/-- every variant — in particular the current source: the particle array and the lookup table are never
    left; `dcrit` is not left on histories without the call shape of finding F4g (`NoFaultRun`: MERCURIUS,
    `0 < N_allocated_dcrit < N` because particles were added since the last step, removal of an index
    below `N_allocated_dcrit`). -/
theorem c14_storage_invariant_partial (v : Variant) (ops : List (Sorter × Op)) (c : State) (hinv : Inv c)
    (hsort : ∀ x ∈ ops, x.1.Valid) :
    Inv (run v c ops).1 ∧ (NoFaultRun v c ops → ∀ o ∈ (run v c ops).2, o ≠ Out.fault) :=
  ⟨(run_spec v ops c hinv hsort).1, (run_spec v ops c hinv hsort).2.1⟩

/-- MERCURIUS after a step with three particles (`dcrit` has 3 slots), four particles added since:
    seven live particles -/
def wMerc : State :=
  { mem := [⟨1, 11, false⟩, ⟨2, 12, false⟩, ⟨3, 13, false⟩, ⟨4, 14, false⟩, ⟨5, 15, false⟩, ⟨6, 16, false⟩,
            ⟨7, 17, false⟩, P.zero], nAlloc := 8, N := 7, nActive := -1, nVar := 0, lookup := [],
    treeCfg := false, boxCfg := false, treeRoot := false, forceSorted := true, staleLeaf := false,
    mercurius := true, dcrit := [100, 101, 102], recalcR := true, recalcC := true }

/-- the full statement is FALSE of the current source (finding F4g): `remove(0)` on `wMerc` runs the
    `dcrit` shift loop up to `N-1 = 6` in an array of 3 -/
theorem c14_storage_invariant_fails_current :
    Inv wMerc ∧ (remove Variant.current wMerc 0 true).2 = Out.fault ∧
    (remove Variant.repaired wMerc 0 true).2 = Out.removed ∧
    (remove Variant.repaired wMerc 0 true).1.dcrit = [101, 102, 102] := by decide

example : Inv (State.init true true false) := by decide

/-! ### refinement: the simulation holds exactly the particles of the plain-list machine -/

/-- FULL STATEMENT (true of the repaired source): every history is a history of the
    plain-list machine `Spec` with the same answers, and the abstraction
    `abs c = (particles[0..N), N_active, …)` commutes with every step. -/
theorem c14_run_refines (ops : List (Sorter × Op)) (c : State) (hinv : Inv c)
    (hfresh : c.staleLeaf = false) (hsort : ∀ x ∈ ops, x.1.Valid) :
    SpecRun (abs c) (ops.map (·.2)) (run Variant.repaired c ops).2 (abs (run Variant.repaired c ops).1) :=
  (run_spec _ ops c hinv hsort).2.2 (noShapeRun_repaired ops c hinv hfresh hsort)

/-- the same for any source variant — in particular the current one — on histories in which no
    operation has one of the call shapes of findings F4a-d / F18 (`NoShape` in
    RV/Proofs/ParticlesOps.lean, whose removal clauses are `NoShapeCore` in RV/Proofs/ParticlesCore.lean:
    N==1 with an out-of-range index; sorted removal with a tree;
    removing the last particle while N_active ≥ 1 or a tree exists; unsorted removal with
    N_active ≥ N; remove_all with a tree; add after the tree kept a stale leaf). -/
theorem c14_run_refines_partial (v : Variant) (ops : List (Sorter × Op)) (c : State) (hinv : Inv c)
    (hsort : ∀ x ∈ ops, x.1.Valid) (hshape : NoShapeRun v c ops) :
    SpecRun (abs c) (ops.map (·.2)) (run v c ops).2 (abs (run v c ops).1) :=
  (run_spec v ops c hinv hsort).2.2 hshape

/-- one step, repaired source -/
theorem c14_step_refines (srt : Sorter) (hs : srt.Valid) (c : State) (hinv : Inv c)
    (hfresh : c.staleLeaf = false) (op : Op) :
    SpecStep (abs c) op (step Variant.repaired srt c op).2 (abs (step Variant.repaired srt c op).1) :=
  (step_spec _ srt hs c hinv op).2.2 (noShape_repaired c hfresh op)

/-- one step, any variant, outside the excluded call shapes -/
theorem c14_step_refines_partial (v : Variant) (srt : Sorter) (hs : srt.Valid) (c : State) (hinv : Inv c)
    (op : Op) (hshape : NoShape v c op) :
    SpecStep (abs c) op (step v srt c op).2 (abs (step v srt c op).1) :=
  (step_spec v srt hs c hinv op).2.2 hshape

/-! concrete states for the counter-examples (each satisfies `Inv`; rv/c14.py builds the same
    simulations on the real code: `probe_variant`) -/

def wOne (nActive : Int) (tree : Bool) : State :=
  { mem := [⟨1, 11, false⟩, P.zero], nAlloc := 2, N := 1, nActive := nActive, nVar := 0, lookup := [],
    treeCfg := tree, boxCfg := tree, treeRoot := tree, forceSorted := false, staleLeaf := false,
    mercurius := false, dcrit := [], recalcR := false, recalcC := false }

def wThree (nActive : Int) (tree : Bool) : State :=
  { mem := [⟨1, 11, false⟩, ⟨2, 12, false⟩, ⟨3, 13, false⟩, P.zero], nAlloc := 4, N := 3, nActive := nActive,
    nVar := 0, lookup := [], treeCfg := tree, boxCfg := tree, treeRoot := tree, forceSorted := false,
    staleLeaf := false, mercurius := false, dcrit := [], recalcR := false, recalcC := false }

/-- the full refinement statement is FALSE of the original source: five reachable states and
    requests on which the implementation's answer or resulting particle list is not what the
    plain-list machine allows (F4a, F4b, F4c, F4d, F18b). -/
theorem c14_refinement_fails_original :
    (Inv (wOne (-1) false) ∧
      (abs (remove Variant.original (wOne (-1) false) 5 true).1, (remove Variant.original (wOne (-1) false) 5 true).2)
        ≠ (abs (wOne (-1) false)).remove 5 true) ∧
    (Inv (wThree (-1) true) ∧
      (abs (remove Variant.original (wThree (-1) true) 0 true).1, (remove Variant.original (wThree (-1) true) 0 true).2)
        ≠ (abs (wThree (-1) true)).remove 0 true) ∧
    (Inv (wOne 1 false) ∧
      (abs (remove Variant.original (wOne 1 false) 0 true).1, (remove Variant.original (wOne 1 false) 0 true).2)
        ≠ (abs (wOne 1 false)).remove 0 true) ∧
    (Inv (wThree 3 false) ∧
      (abs (remove Variant.original (wThree 3 false) 0 false).1, (remove Variant.original (wThree 3 false) 0 false).2)
        ≠ (abs (wThree 3 false)).remove 0 false) ∧
    (Inv (wOne (-1) true) ∧
      (add (remove Variant.original (wOne (-1) true) 0 false).1 ⟨2, 12, false⟩ .inBox).2 = Out.errSameCoords) := by
  decide +kernel

/-- the shortest reachable history on which the original source leaves the plain-list machine:
    from an empty simulation, add one particle, then `remove(index = 5)` (finding F4a) -/
def histF4a : List (Sorter × Op) := [(⟨id⟩, .add ⟨1, 11, false⟩ .inBox), (⟨id⟩, .remove 5 true)]

theorem c14_histF4a_answers :
    (run Variant.original (State.init false false false) histF4a).2 = [Out.ok, Out.lastRemoved] ∧
    (run Variant.original (State.init false false false) histF4a).1.N = 0 := by decide +kernel

/-- negation of `c14_run_refines` for the original source, on a history that starts from the
    empty simulation: no run of the plain-list machine produces these answers -/
theorem c14_run_refines_fails_original :
    ¬ SpecRun (abs (State.init false false false)) (histF4a.map (·.2))
        (run Variant.original (State.init false false false) histF4a).2
        (abs (run Variant.original (State.init false false false) histF4a).1) := by
  intro h
  rw [c14_histF4a_answers.1] at h
  simp only [histF4a, List.map] at h
  cases h with
  | cons h1 h2 =>
    cases h2 with
    | cons h3 h4 =>
      simp only [SpecStep] at h1 h3
      have e1 := congrArg Prod.fst h1
      simp only at e1
      subst e1
      have e3 := congrArg Prod.snd h3
      simp only at e3
      revert e3
      decide +kernel

/-! ### invalid requests fail and leave the simulation unchanged -/

/-- in the placement of fixes/F4g.diff a removal that is not carried out is the core's answer, state included -/
theorem remove_eq_core (v : Variant) (hW : v.dcritWithParticles = true) (c : State) (i : Int) (ks : Bool)
    (h : (removeCore v c i ks).2 ≠ Out.removed) : remove v c i ks = removeCore v c i ks := by
  unfold remove; rw [if_pos hW]; simp only []; rw [if_neg h]

/-- FULL STATEMENT (repaired source): an out-of-range index is answered `errRange` and the
    state — not only its abstraction, and MERCURIUS' `dcrit` included — is untouched; so is a removal while
    variational particles exist (`errMegno`) and a sorted removal in a simulation with a tree (`errTreeSorted`). -/
theorem c14_invalid_unchanged (c : State) (index : Int) (ks : Bool) :
    ((index < 0 ∨ index ≥ (c.N : Int)) → remove Variant.repaired c index ks = (c, Out.errRange)) ∧
    (0 ≤ index → index < (c.N : Int) → c.N ≠ 1 → c.nVar ≠ 0 →
      remove Variant.repaired c index ks = (c, Out.errMegno)) ∧
    (0 ≤ index → index < (c.N : Int) → c.N ≠ 1 → c.nVar = 0 → (ks || c.forceSorted) = true →
      c.treeRoot = true → remove Variant.repaired c index ks = (c, Out.errTreeSorted)) :=
  have h := remove_invalid Variant.repaired c index ks (Or.inl rfl)
  ⟨fun hr => h.1 hr (Or.inl rfl), h.2.1, fun h0 h1 hN hv hk ht => h.2.2 h0 h1 hN hv hk ht rfl⟩

/-- the same for every variant when the call shapes of the findings are excluded: `N ≠ 1` and no MERCURIUS
    prologue before the range check (F4a, F4e); `v.treeFirst` and no `dcrit` shift before the refusal
    (F4b, F4g) -/
theorem c14_invalid_unchanged_partial (v : Variant) (c : State) (index : Int) (ks : Bool)
    (hd : v.dcritWithParticles = true ∨ c.mercurius = false) :
    ((index < 0 ∨ index ≥ (c.N : Int)) → (v.rangeFirst = true ∨ c.N ≠ 1) →
      remove v c index ks = (c, Out.errRange)) ∧
    (0 ≤ index → index < (c.N : Int) → c.N ≠ 1 → c.nVar = 0 → (ks || c.forceSorted) = true →
      c.treeRoot = true → v.treeFirst = true → remove v c index ks = (c, Out.errTreeSorted)) :=
  ⟨(remove_invalid v c index ks hd).1, (remove_invalid v c index ks hd).2.2⟩

/-- … and it is FALSE of the original source in exactly those two shapes:
    (a) one particle, `remove(index = 5)`: answered "Last particle removed", N becomes 0;
    (b) three particles in a tree simulation, sorted `remove(index = 0)`: answered
        `errTreeSorted` ("Did not remove particle") after N became 2 and the array was shifted. -/
theorem c14_invalid_unchanged_fails_original :
    (remove Variant.original (wOne (-1) false) 5 true).2 = Out.lastRemoved ∧
    (remove Variant.original (wOne (-1) false) 5 true).1.N = 0 ∧
    (remove Variant.original (wThree (-1) true) 0 true).2 = Out.errTreeSorted ∧
    (remove Variant.original (wThree (-1) true) 0 true).1.N = 2 ∧
    (abs (remove Variant.original (wThree (-1) true) 0 true).1).ps = [⟨2, 12, false⟩, ⟨3, 13, false⟩] := by
  decide

/-- MERCURIUS, `dcrit` covering the three particles, variational particles present -/
def wMercVar : State :=
  { mem := [⟨1, 11, false⟩, ⟨2, 12, false⟩, ⟨3, 13, false⟩, P.zero], nAlloc := 4, N := 3, nActive := -1,
    nVar := 1, lookup := [], treeCfg := false, boxCfg := false, treeRoot := false, forceSorted := true,
    staleLeaf := false, mercurius := true, dcrit := [100, 101, 102], recalcR := false, recalcC := false }

/-- … and still FALSE of the current source when MERCURIUS is in use: a refused removal (`errMegno`, likewise
    `errTreeSorted`) has already shifted `dcrit` (finding F4g, second half) -/
theorem c14_invalid_unchanged_fails_current :
    Inv wMercVar ∧ (remove Variant.current wMercVar 0 true).2 = Out.errMegno ∧
    (remove Variant.current wMercVar 0 true).1.dcrit = [101, 102, 102] ∧
    remove Variant.repaired wMercVar 0 true = (wMercVar, Out.errMegno) := by decide

/-- an unknown hash: `errNotFound`, and nothing but the lookup table has changed — every
    variant, every stale table -/
theorem c14_unknown_hash_unchanged (v : Variant) (srt : Sorter) (hs : srt.Valid) (c : State) (hinv : Inv c)
    (h : Nat) (ks : Bool) (hnone : ∀ (i : Nat) (p : P), i < c.N → c.mem[i]? = some p → p.hash ≠ h) :
    (removeByHash v srt c h ks).2 = Out.errNotFound ∧
    ((removeByHash v srt c h ks).1 = c ∨ ∃ t, (removeByHash v srt c h ks).1 = { c with lookup := t }) := by
  obtain ⟨h1, h2⟩ := particleByHash_spec srt hs c hinv.le h
  unfold removeByHash
  generalize particleByHash srt c h = res at h1 h2
  obtain ⟨c', o⟩ := res
  rcases h2.cases with ⟨i, rfl, hi, p, hp, hh⟩ | ⟨rfl, -⟩
  · exact absurd hh (hnone _ p hi hp)
  · exact ⟨rfl, h1⟩

/-! ### lookup by hash, whatever the staleness of the table -/

/-- soundness: the particle returned carries the requested hash and is live — for ANY content
    of the lookup table (stale indices, stale hashes, unsorted, garbage) -/
theorem c14_lookup_sound (srt : Sorter) (hs : srt.Valid) (c : State) (hN : c.N ≤ c.mem.length)
    (h i : Nat) (hf : (particleByHash srt c h).2 = Out.found i) :
    i < c.N ∧ ∃ p, c.mem[i]? = some p ∧ p.hash = h := by
  have := (particleByHash_spec srt hs c hN h).2
  rw [hf] at this; exact this

/-- completeness: if some live particle carries the hash, one is returned (after at most one
    rebuild) — again for any table -/
theorem c14_lookup_complete (srt : Sorter) (hs : srt.Valid) (c : State) (hN : c.N ≤ c.mem.length)
    (h i : Nat) (p : P) (hi : i < c.N) (hp : c.mem[i]? = some p) (hh : p.hash = h) :
    ∃ j, (particleByHash srt c h).2 = Out.found j := by
  have := (particleByHash_spec srt hs c hN h).2
  generalize (particleByHash srt c h).2 = o at this
  rcases this.cases with ⟨j, rfl, -⟩ | ⟨rfl, hnone⟩
  · exact ⟨_, rfl⟩
  · exact absurd hh (hnone i p hi hp)

/-- a lookup changes nothing but the lookup table -/
theorem c14_lookup_pure (srt : Sorter) (hs : srt.Valid) (c : State) (hN : c.N ≤ c.mem.length) (h : Nat) :
    (particleByHash srt c h).1 = c ∨ ∃ t, (particleByHash srt c h).1 = { c with lookup := t } :=
  (particleByHash_spec srt hs c hN h).1

/-- the zero-hash special case of the rebuild: a freshly rebuilt table answers hash 0 with the
    LAST particle whose hash is 0 (the default hash of particles that were never named) -/
theorem c14_zero_hash_is_last (srt : Sorter) (hs : srt.Valid) (c : State) (i : Nat)
    (hf : (lookupAgain srt c 0).2 = Out.found i) (j : Nat) (p : P) (hj : j < c.N)
    (hp : c.mem[j]? = some p) (hp0 : p.hash = 0) : j ≤ i := by
  obtain ⟨t, e1, fr⟩ := rebuild_spec srt hs c
  simp only [lookupAgain, e1] at hf
  cases hs : search t 0 c.N with
  | fault => rw [hs] at hf; simp at hf
  | miss => rw [hs] at hf; simp at hf
  | hit i' =>
    rw [hs] at hf; simp at hf; subst hf
    obtain ⟨e, hm, hh, hi, _⟩ := bsearch_hit _ _ _ _ _ _ hs
    have := fr.zero_last e hm hh j p (by rw [List.getElem?_take, if_pos hj]; exact hp) hp0
    omega

example : (particleByHash ⟨id⟩ (wThree (-1) false) 12).2 = Out.found 1 := by decide +kernel
example : (particleByHash ⟨id⟩ { wThree (-1) false with lookup := [⟨12, 2⟩, ⟨5, 7⟩] } 12).2 = Out.found 1 := by
  decide +kernel

/-! ### the storage of the lookup table (RV/Model/ParticlesLookup.lean) -/

/-- FULL STATEMENT: `reb_update_particle_lookup_table` on any particle array (any mixture of zero, duplicate and distinct
    hashes) starting from any previous allocation (any capacity, any stale content): the growth test inside the loop
    (`N_hash >= N_allocated_lookup` → double, or 128) makes every write — the append at slot `N_hash`, the first zero-hash entry
    at slot `zerohash = i`, its later in-place updates — land inside the allocation; afterwards
    `N_lookup ≤ N_allocated_lookup`, `N_lookup ≤ N`, the allocation has not shrunk, and the first `N_lookup` cells are exactly the
    entries of the abstract loop that the lookup theorems (`c14_lookup_sound/complete/zero_hash_is_last`) are about. -/
theorem c14_lookup_table_allocation (ps : List P) (cells0 : List (Option Entry)) :
    ∃ cells n t, rebuildAllocLoop ps 0 cells0 0 none = some (cells, n) ∧ rebuildLoop ps 0 [] none = some t ∧
      n = t.length ∧ n ≤ cells.length ∧ n ≤ ps.length ∧ cells0.length ≤ cells.length ∧
      ∀ k, k < n → cells[k]? = some t[k]? :=
  rebuildAlloc_spec ps cells0

/-- the capacity after a rebuild covers the table and never shrinks -/
theorem c14_lookup_table_capacity (cap : Nat) (ps : List P) :
    cap ≤ capAfterRebuild cap ps ∧
    ∃ t, rebuildLoop ps 0 [] none = some t ∧ t.length ≤ capAfterRebuild cap ps := by
  obtain ⟨cells, n, t, e1, e2, e3, e4, _, e6, _⟩ := rebuildAlloc_spec ps (List.replicate cap none)
  unfold capAfterRebuild
  rw [e1]
  simp only [List.length_replicate] at e6
  exact ⟨e6, t, e2, by simp only []; omega⟩

example : capAfterRebuild 0 [⟨1, 5, false⟩, ⟨2, 0, false⟩, ⟨3, 0, false⟩] = 128 ∧
    capAfterRebuild 128 ((List.range 129).map fun i => ⟨i, i + 1, false⟩) = 256 ∧
    capAfterRebuild 128 ((List.range 129).map fun i => ⟨i, 0, false⟩) = 128 := by
  simp only [capAfterRebuild_eq]; decide +kernel

/-- a lookup that finds a live particle carrying the hash in the table as it stands does not rebuild: the state, and with
    it `N_allocated_lookup`, is untouched -/
theorem c14_lookup_no_rebuild_when_table_answers (srt : Sorter) (c : State) (h : Nat) (hr : rebuilds c h = false)
    (hnf : search c.lookup h c.N ≠ .fault) : (particleByHash srt c h).1 = c := by
  unfold rebuilds at hr
  unfold particleByHash
  cases hs : search c.lookup h c.N with
  | fault => exact absurd hs hnf
  | miss => rw [hs] at hr; simp at hr
  | hit i =>
    rw [hs] at hr
    simp only [] at hr ⊢
    cases hm : c.mem[i]? with
    | none => rfl
    | some p =>
      rw [hm] at hr
      simp only [decide_eq_false_iff_not, ne_eq, Decidable.not_not] at hr
      simp only [hr, if_true]

/-- FULL STATEMENT: when exactly one live particle carries the hash, the lookup returns exactly that particle — for any
    (stale, garbage) table and any admissible `qsort` -/
theorem c14_lookup_unique_exact (srt : Sorter) (hs : srt.Valid) (c : State) (hN : c.N ≤ c.mem.length)
    (h i : Nat) (p : P) (hi : i < c.N) (hp : c.mem[i]? = some p) (hh : p.hash = h)
    (huniq : ∀ j q, j < c.N → c.mem[j]? = some q → q.hash = h → j = i) :
    (particleByHash srt c h).2 = Out.found i := by
  obtain ⟨j, hj⟩ := c14_lookup_complete srt hs c hN h i p hi hp hh
  obtain ⟨hjn, q, hq, hqh⟩ := c14_lookup_sound srt hs c hN h j hj
  rw [hj, huniq j q hjn hq hqh]

example : (particleByHash ⟨id⟩ { wThree (-1) false with lookup := [⟨99, 0⟩, ⟨13, 1⟩] } 13).2 = Out.found 2 := by decide +kernel

/-! ### what a successful removal does to the order -/

/-- `keep_sorted` (or MERCURIUS/TRACE): the result is the input with one element erased, and
    `N_active` is decremented iff an active particle went — every variant -/
theorem c14_remove_sorted_erases (v : Variant) (c : State) (hinv : Inv c) (index : Int) (ks : Bool)
    (hnf : NoFaultRemove v c index)
    (h0 : 0 ≤ index) (h1 : index < (c.N : Int)) (hN : c.N ≠ 1) (hv : c.nVar = 0)
    (hk : (ks || c.forceSorted) = true) (ht : c.treeRoot = false) :
    (remove v c index ks).2 = Out.removed ∧
    (abs (remove v c index ks).1).ps = (abs c).ps.eraseIdx index.toNat ∧
    (remove v c index ks).1.nActive = (if index < c.nActive then c.nActive - 1 else c.nActive) := by
  have hr : removeCore v c index ks = removeSorted v c index := by
    rw [removeCore_of_valid v c index ks h0 h1 hN]; simp [removeRest, hv, hk]
  obtain ⟨d, e⟩ := remove_core_shape v c index ks hnf
  have := (removeSorted_spec v c hinv index h0 h1).2.2
  simp only [ht, Bool.and_false, Bool.false_eq_true, if_false, Prod.mk.injEq] at this
  rw [e, hr]
  exact ⟨this.2, congrArg Spec.ps this.1, congrArg Spec.active this.1⟩

/-- `keep_sorted = 0`, no tree: the last element is moved into the hole — every variant -/
theorem c14_remove_unsorted_moves_last (v : Variant) (c : State) (hinv : Inv c) (index : Int) (ks : Bool)
    (hnf : NoFaultRemove v c index)
    (h0 : 0 ≤ index) (h1 : index < (c.N : Int)) (hN : c.N ≠ 1) (hv : c.nVar = 0)
    (hk : (ks || c.forceSorted) = false) (ht : c.treeRoot = false) :
    (remove v c index ks).2 = Out.removed ∧
    ∃ last, (abs c).ps.getLast? = some last ∧
      (abs (remove v c index ks).1).ps = ((abs c).ps.set index.toNat last).dropLast := by
  have hr : removeCore v c index ks = removeUnsorted v c index := by
    rw [removeCore_of_valid v c index ks h0 h1 hN]; simp [removeRest, hv, hk]
  obtain ⟨d, e⟩ := remove_core_shape v c index ks hnf
  obtain ⟨_, _, last, hl, e2⟩ := removeUnsorted_spec v c hinv index h0 h1
  simp only [ht, Bool.false_eq_true, if_false, Prod.mk.injEq] at e2
  rw [e, hr]
  exact ⟨e2.2, last, hl, congrArg Spec.ps e2.1⟩

/-- … hence, as multisets of identities, an unsorted removal removes exactly the requested particle -/
theorem c14_remove_unsorted_perm (v : Variant) (c : State) (hinv : Inv c) (index : Int) (ks : Bool)
    (hnf : NoFaultRemove v c index)
    (h0 : 0 ≤ index) (h1 : index < (c.N : Int)) (hN : c.N ≠ 1) (hv : c.nVar = 0)
    (hk : (ks || c.forceSorted) = false) (ht : c.treeRoot = false) :
    (abs (remove v c index ks).1).ps.Perm ((abs c).ps.eraseIdx index.toNat) := by
  obtain ⟨_, last, hl, e⟩ := c14_remove_unsorted_moves_last v c hinv index ks hnf h0 h1 hN hv hk ht
  rw [e]
  exact set_dropLast_perm _ _ _ (by rw [abs_len hinv]; omega) hl

example : (abs (remove Variant.original (wThree (-1) false) 0 false).1).ps = [⟨3, 13, false⟩, ⟨2, 12, false⟩] := by
  decide

/-! ### removal sequences: the multiset of identities -/

/-- the two ways a successful removal rearranges a plain list -/
def eraseAt (l : List P) (i : Nat) (sorted : Bool) : List P :=
  if sorted then l.eraseIdx i
  else match l.getLast? with
    | some last => (l.set i last).dropLast
    | none => l

/-- a sequence of removals `(index, keep_sorted)`; requests with an index out of range are refused -/
def eraseSeq : List P → List (Nat × Bool) → List P × List P
  | l, [] => (l, [])
  | l, (i, srt) :: rest =>
    match l[i]? with
    | none => eraseSeq l rest
    | some x => let r := eraseSeq (eraseAt l i srt) rest; (r.1, x :: r.2)

/-- whatever the mixture of sorted and unsorted removals, survivors ⊎ removed = the original particles -/
theorem c14_remove_sequence_multiset : ∀ (rs : List (Nat × Bool)) (l : List P),
    ((eraseSeq l rs).1 ++ (eraseSeq l rs).2).Perm l := by
  intro rs
  induction rs with
  | nil => intro l; simp [eraseSeq]
  | cons r rest ih =>
    intro l
    obtain ⟨i, srt⟩ := r
    unfold eraseSeq
    cases hx : l[i]? with
    | none => exact ih l
    | some x =>
      simp only []
      obtain ⟨hi, rfl⟩ := List.getElem?_eq_some_iff.mp hx
      have hstep : (eraseAt l i srt).Perm (l.eraseIdx i) := by
        unfold eraseAt
        cases srt
        · simp only [Bool.false_eq_true, if_false]
          cases hl : l.getLast? with
          | none => have := List.getLast?_eq_none_iff.mp hl; rw [this] at hi; simp at hi
          | some last => exact set_dropLast_perm l i last hi hl
        · simp
      exact (List.perm_middle.trans (((ih _).trans hstep).cons _)).trans (cons_eraseIdx_perm l i hi)

/-! ### tree mode: removal in two phases -/

def Spec.live (s : Spec) : List P := s.ps.filter (fun p => !p.flagged)

/-- phase 1 (`reb_simulation_remove_particle`, `keep_sorted = 0`, tree in use): the particle is only
    flagged (`y = NaN`).  Until the next tree update — in particular at the end of the step in which a
    collision or a boundary removed it, and in every heartbeat/output in between — it is still one of the
    `N` particles of the array; what has changed is the list of live (unflagged) particles, from which exactly
    this particle has gone.  Every variant. -/
theorem c14_tree_remove_flags (v : Variant) (c : State) (hinv : Inv c) (index : Int) (ks : Bool)
    (hnf : NoFaultRemove v c index)
    (h0 : 0 ≤ index) (h1 : index < (c.N : Int)) (hN : c.N ≠ 1) (hv : c.nVar = 0)
    (hk : (ks || c.forceSorted) = false) (ht : c.treeRoot = true) :
    (remove v c index ks).2 = Out.removed ∧
    (remove v c index ks).1.N = c.N ∧
    (abs (remove v c index ks).1).ps = (abs c).ps.modify index.toNat (fun p => { p with flagged := true }) ∧
    (abs (remove v c index ks).1).live = ((abs c).ps.eraseIdx index.toNat).filter (fun p => !p.flagged) := by
  have hr : removeCore v c index ks = removeUnsorted v c index := by
    rw [removeCore_of_valid v c index ks h0 h1 hN]; simp [removeRest, hv, hk]
  obtain ⟨d, e⟩ := remove_core_shape v c index ks hnf
  obtain ⟨a1, _, last, _, e2⟩ := removeUnsorted_spec v c hinv index h0 h1
  simp only [ht, if_true, Prod.mk.injEq] at e2
  have hps : (abs (removeUnsorted v c index).1).ps = _ := congrArg Spec.ps e2.1
  rw [e, hr]
  refine ⟨e2.2, ?_, hps, ?_⟩
  · show (removeUnsorted v c index).1.N = c.N
    rw [← abs_len a1, hps, List.length_modify, abs_len hinv]
  · show (abs (removeUnsorted v c index).1).ps.filter _ = _
    rw [hps]
    exact filter_modify_flag _ _ (fun _ => rfl) _ _ (by rw [abs_len hinv]; omega)

/-- phase 2 (`reb_simulation_update_tree`, particles not moved): whatever order the tree walk visits the
    flagged leaves in, when it has evicted them all the array holds exactly the live particles (as a multiset:
    the walk decides the order), and nothing else of the bookkeeping has changed.  Every variant. -/
theorem c14_tree_update_erases_flagged (v : Variant) (c : State) (hinv : Inv c) (visit : List Nat)
    (hdone : (treeUpdate v c visit).2 = Out.done) :
    (abs (treeUpdate v c visit).1).ps.Perm (abs c).live ∧
    (abs (treeUpdate v c visit).1).live = (abs (treeUpdate v c visit).1).ps ∧
    Inv (treeUpdate v c visit).1 := by
  obtain ⟨a, _, d⟩ := treeUpdate_spec v c hinv visit
  rcases d with ⟨h, _⟩ | ⟨_, hp, _⟩
  · rw [hdone] at h; cases h
  · -- what is a permutation of the unflagged particles holds no flagged one
    exact ⟨hp, List.filter_eq_self.mpr fun p hm => (List.mem_filter.mp (hp.mem_iff.mp hm)).2, a⟩

/-! ### MERCURIUS: the critical radius moves with its particle -/

/-- FULL STATEMENT (every variant, outside the overrun shape): after a successful removal under MERCURIUS
    with `dcrit` covering all particles, every remaining particle has the critical radius it had before -/
theorem c14_dcrit_moves_with_particle (v : Variant) (c : State) (hinv : Inv c) (index : Int) (ks : Bool)
    (hm : c.mercurius = true) (hcov : c.N ≤ c.dcrit.length)
    (h0 : 0 ≤ index) (h1 : index < (c.N : Int)) (hN : c.N ≠ 1) (hv : c.nVar = 0) (ht : c.treeRoot = false)
    (hk : (ks || c.forceSorted) = true) :
    (remove v c index ks).2 = Out.removed ∧
    (remove v c index ks).1.dcrit.take (c.N - 1) = (c.dcrit.take c.N).eraseIdx index.toNat := by
  have hnover : ¬ Overrun c index := fun h => by have := h.2.2.2; omega
  have hnf : NoFaultRemove v c index := ⟨Or.inr hnover, Or.inr (Or.inr (Or.inr (by
    cases hb : rangeBad c index
    · rfl
    · have := (rangeBad_iff c index).mp hb; omega)))⟩
  obtain ⟨hrem, _, _⟩ := c14_remove_sorted_erases v c hinv index ks hnf h0 h1 hN hv hk ht
  refine ⟨hrem, ?_⟩
  have e := remove_eq_of_noFault v c index ks hnf
  rw [e] at hrem ⊢
  simp only [dcritRuns_of_removed v c index ks hrem, hm, if_true]
  unfold dcritErased
  have hmin : min c.N c.dcrit.length = c.N := by omega
  have hlen : ((c.dcrit.take c.N).eraseIdx index.toNat).length = c.N - 1 := by
    rw [List.length_eraseIdx, List.length_take, hmin, if_pos (by omega)]
  rw [if_pos (by omega), hmin, List.take_left' hlen]

example : (remove Variant.current { wMerc with N := 3 } 1 false).1.dcrit = [100, 102, 102] := by decide

/-- FULL STATEMENT (repaired source): `-1 ≤ N_active ≤ N` is preserved by every history -/
theorem c14_active_le_N (ops : List (Sorter × Op)) (c : State) (hinv : Inv c) (hfresh : c.staleLeaf = false)
    (hsort : ∀ x ∈ ops, x.1.Valid) (ha : -1 ≤ c.nActive ∧ c.nActive ≤ (c.N : Int)) :
    -1 ≤ (run Variant.repaired c ops).1.nActive ∧
    (run Variant.repaired c ops).1.nActive ≤ ((run Variant.repaired c ops).1.N : Int) :=
  run_active_le _ ops c hinv hsort (noShapeRun_repaired ops c hinv hfresh hsort) ha

/-- any variant, histories without the excluded call shapes -/
theorem c14_active_le_N_partial (v : Variant) (ops : List (Sorter × Op)) (c : State) (hinv : Inv c)
    (hsort : ∀ x ∈ ops, x.1.Valid) (hshape : NoShapeRun v c ops)
    (ha : -1 ≤ c.nActive ∧ c.nActive ≤ (c.N : Int)) :
    -1 ≤ (run v c ops).1.nActive ∧ (run v c ops).1.nActive ≤ ((run v c ops).1.N : Int) :=
  run_active_le v ops c hinv hsort hshape ha

/-- FALSE of the original source: removing the last particle (F4c) and unsorted removal with
    `N_active = N` (F4d) leave `N_active > N` -/
theorem c14_active_le_N_fails_original :
    (remove Variant.original (wOne 1 false) 0 true).1.N = 0 ∧
    (remove Variant.original (wOne 1 false) 0 true).1.nActive = 1 ∧
    (remove Variant.original (wThree 3 false) 0 false).1.N = 2 ∧
    (remove Variant.original (wThree 3 false) 0 false).1.nActive = 3 := by
  decide

/-- a tree simulation, all three particles active, the first one flagged by a removal -/
def wTreeFlagged : State :=
  { mem := [⟨1, 11, true⟩, ⟨2, 12, false⟩, ⟨3, 13, false⟩, P.zero], nAlloc := 4, N := 3, nActive := 3,
    nVar := 0, lookup := [], treeCfg := true, boxCfg := true, treeRoot := true, forceSorted := false,
    staleLeaf := false, mercurius := false, dcrit := [], recalcR := false, recalcC := false }

/-- FALSE of the current source as well: the tree update evicts the flagged particle without looking at
    `N_active` (finding F4h): `N = 2`, `N_active = 3` -/
theorem c14_active_le_N_fails_current :
    Inv wTreeFlagged ∧ (treeUpdate Variant.current wTreeFlagged [0]).2 = Out.done ∧
    (treeUpdate Variant.current wTreeFlagged [0]).1.N = 2 ∧
    (treeUpdate Variant.current wTreeFlagged [0]).1.nActive = 3 ∧
    (treeUpdate Variant.repaired wTreeFlagged [0]).1.nActive = 2 ∧
    (abs (treeUpdate Variant.current wTreeFlagged [0]).1).ps = [⟨3, 13, false⟩, ⟨2, 12, false⟩] := by decide

/-- the refinement statement is FALSE of the current source in the two remaining call shapes: the answer
    `fault` (F4g) is not an answer of the plain-list machine, and after the tree update (F4h) the active count
    exceeds what the plain-list machine holds -/
theorem c14_refinement_fails_current :
    (abs (remove Variant.current wMerc 0 true).1, (remove Variant.current wMerc 0 true).2) ≠ (abs wMerc).remove 0 true ∧
    ¬ SpecStep (abs wTreeFlagged) (.treeUpdate [0]) (treeUpdate Variant.current wTreeFlagged [0]).2
        (abs (treeUpdate Variant.current wTreeFlagged [0]).1) := by
  refine ⟨by decide, ?_⟩
  intro h
  simp only [SpecStep] at h
  rcases h with ⟨h1, _⟩ | ⟨_, _, h2⟩
  · revert h1; decide
  · have := congrArg Spec.active h2
    revert this
    decide

/-! ### per-particle side arrays of the integrators (RV/Model/ParticlesSide.lean) -/

section SideArrays
open Side

/-- TRACE, FULL STATEMENT (repaired source, repo commit 844bb77): when particle `index` is removed during a step, the in-place
    re-indexing loop of `reb_simulation_remove_particle` turns the N×N close-encounter matrix `current_Ks` into the
    (N-1)×(N-1) matrix with row and column `index` deleted — for every N ≥ 1, every index (the last one included),
    every content, without reading a cell it has already overwritten and without leaving the allocation. -/
theorem c14_trace_Ks_reindex_is_deleteRowCol {α : Type} (n index : Nat) (ks : List α) (hn : 1 ≤ n)
    (hlen : ks.length = n * n) :
    ∃ out, reshuffle true n index ks = some out ∧ out.length = n * n ∧
      ∀ i j, i < n - 1 → j < n - 1 → out[i * (n - 1) + j]? = deleteRowCol n index ks i j := by
  simpa only [reshuffle, if_true] using reshuffleNew_spec n index ks hn hlen

/-- the loop as found is FALSE of that statement at `index = N-1` (finding F22; the usual case of a merger: the
    particle with the higher index goes): N = 4, index = 3, entry (1,0) of the result is old cell 3 = entry (0,3),
    not old cell 4 = entry (1,0) -/
theorem c14_trace_Ks_reindex_fails_original :
    reshuffle false 4 3 (idMatrix 4) = some [0, 1, 2, 3, 4, 5, 6, 7, 8, 9, 10, 11, 12, 13, 14, 15] ∧
    agreesWithSpec 4 3 (idMatrix 4) [0, 1, 2, 3, 4, 5, 6, 7, 8, 9, 10, 11, 12, 13, 14, 15] = false ∧
    (reshuffle true 4 3 (idMatrix 4)).map (·.take 9) = some [0, 1, 2, 4, 5, 6, 8, 9, 10] := by decide

/-- … and only there: for every 3 ≤ N ≤ 7 and every index the old loop agrees with the specification exactly when
    `index < N-1` (checked on the matrix whose entries are all different, which decides it for every matrix; for N = 2
    the 1×1 result is cell 0 in both loops) -/
theorem c14_trace_Ks_old_loop_wrong_exactly_at_last_index :
    ∀ n ∈ List.range 8, ∀ index ∈ List.range n, 3 ≤ n →
      ((reshuffle false n index (idMatrix n)).map (agreesWithSpec n index (idMatrix n)) = some true ↔ index < n - 1) := by
  decide +kernel

/-- TRACE, a particle ADDED during a step (e.g. a fragment created by the collision resolver), every N, every encounter set:
    the backward in-place loop keeps the old N×N block at its positions in the (N+1)×(N+1) matrix (both variants), the new
    particle's pair with every member of the encounter is flagged; FULL STATEMENT for the repaired source (`clear`): every other
    cell of the new column is 0, so the interaction step treats non-members normally. -/
theorem c14_trace_Ks_add_inserts_row_and_column {α : Type} (clear : Bool) (n : Nat) (enc : List Nat) (zero one : α) (ks : List α)
    (hlen : ks.length = (n + 1) * (n + 1)) (henc : ∀ i ∈ enc, i < n) :
    ∃ out, ksAdd clear n enc zero one ks = some out ∧
      (∀ i j, i < n → j < n → out[i * (n + 1) + j]? = ks[i * n + j]?) ∧
      (∀ i, i ∈ enc → out[i * (n + 1) + n]? = some one) ∧
      (clear = true → ∀ i, i < n → i ∉ enc → out[i * (n + 1) + n]? = some zero) :=
  ksAdd_spec clear n enc zero one ks hlen henc

/-- FALSE of the current source for the non-members (finding F24): N = 3, only particle 2 in the encounter: the cell of the pair
    (1, new) keeps the 9 that the old matrix had at that flat position (old entry (2,1)); with a fresh `realloc` it is
    uninitialised memory -/
theorem c14_trace_Ks_add_fails_current :
    ksAdd false 3 [2] (0 : Int) 1 ([2, 3, 4, 5, 6, 7, 8, 9, 10] ++ List.replicate 7 (-7)) =
      some [2, 3, 4, 5, 5, 6, 7, 9, 8, 9, 10, 1, -7, -7, -7, -7] ∧
    ksAdd true 3 [2] (0 : Int) 1 ([2, 3, 4, 5, 6, 7, 8, 9, 10] ++ List.replicate 7 (-7)) =
      some [2, 3, 4, 0, 5, 6, 7, 0, 8, 9, 10, 1, 0, 0, 0, 0] := by decide

/-- MERCURIUS, FULL STATEMENT (repaired source, repo commit 4316980): with the zero fill, `reb_integrator_mercurius_part1` never reads
    a `dcrit` cell that has not been written — whatever `safe_mode`, the synchronisation state, the recalculation requests
    and the number of particles added since the last step — and leaves every cell written and at least N of them. -/
theorem c14_mercurius_dcrit_read_after_write (m : Merc) (n : Nat) (vals : Nat → Nat) (h : allInit m.dcrit = true) :
    (part1 true m n vals).2 = false ∧ allInit (part1 true m n vals).1.dcrit = true ∧
    (part1 true m n vals).1.dcrit.length = max m.dcrit.length n :=
  part1_zeroFill m n vals h

/-- FALSE without the zero fill (finding F21): `safe_mode = 0`, state not synchronised, one particle added since the last
    step: the synchronisation evaluates the switching function with the new particle's unwritten `dcrit` -/
theorem c14_mercurius_dcrit_read_after_write_fails_original :
    (part1 false ⟨[some 5, some 7], false, false, false, false⟩ 3 (fun i => 10 + i)).2 = true ∧
    (part1 true ⟨[some 5, some 7], false, false, false, false⟩ 3 (fun i => 10 + i)) =
      (⟨[some 10, some 11, some 12], false, false, false, true⟩, false) := by decide

/-- WHFast/SABA `p_jh`, JANUS `p_int`, BS `nbody_ode` (exact policy), MERCURIUS, TRACE, IAS15 (grow-only policy),
    FULL STATEMENT (repaired source, repo commit f0ce3d6): whatever adds, removals and remove_all do to N between steps, and whatever
    the allocation was, every slot a step touches lies inside the allocation the step has just (re)established; arrays
    whose slot 0 is written unconditionally are not touched when the simulation is empty. -/
theorem c14_side_arrays_cover_every_touched_slot (k : Kind) (hk : k.slot0 = true → k.skipEmpty = true)
    (ops : List SideOp) (s : SideState) : (sideRun k s ops).2 = true :=
  sideRun_ok k hk ops s

/-- after a step the allocation covers all N particles (equals N for the exact policy) -/
theorem c14_side_arrays_alloc_ge_N (k : Kind) (hk : k.slot0 = true → k.skipEmpty = true) (s : SideState) :
    (k.skipEmpty = true ∧ s.n = 0) ∨ s.n ≤ (sideStep k s .step).1.alloc :=
  (sideStep_ok k hk s .step).2 rfl

/-- FALSE of WHFast/SABA before repo commit f0ce3d6 (finding F23): all particles removed, step: slot 0 of an empty allocation -/
theorem c14_side_arrays_fails_original :
    (sideRun ⟨.exact, true, false⟩ ⟨0, 0⟩ [.setN 2, .step, .setN 0, .step]).2 = false ∧
    (sideRun ⟨.exact, true, true⟩ ⟨0, 0⟩ [.setN 2, .step, .setN 0, .step]).2 = true := by decide

end SideArrays

/-! ### the Python container's integer keys and slices -/

/-- an integer key accepted by `sim.particles[k]` denotes a live slot -/
theorem c14_py_index_in_bounds (n : Nat) (k : Int) (i : Nat) (h : pyIndex n k = some i) : i < n := by
  unfold pyIndex at h
  simp only at h
  split at h
  · split at h <;> simp at h <;> omega
  · split at h <;> simp at h <;> omega

/-- negative keys count from the end -/
theorem c14_py_index_negative (n : Nat) (k : Nat) (h1 : 1 ≤ k) (h2 : k ≤ n) :
    pyIndex n (-(k : Int)) = some (n - k) := by
  unfold pyIndex
  have hk : (-(k : Int)) < 0 := by omega
  simp only [hk, if_true]
  rw [if_neg (by omega)]
  congr 1; omega

/-- `sim.particles[start:stop:step]` has CPython's documented slice semantics: with `(i, j)` the bounds
    normalised by `slice.indices(len)` (`pySliceBounds`: omitted bound = the end in the direction of travel,
    negative bound = counted from the end, then clamped), it is the items with index `x = i + m·step`,
    `m = 0, 1, 2, …`, for as long as `x` has not reached `j` -/
theorem c14_py_slice_semantics (n : Nat) (start stop : Option Int) (step : Int) (hk : step ≠ 0) (x : Int) :
    x ∈ pySlice n start stop step ↔
      ∃ m : Nat, x = (pySliceBounds n start stop step).1 + m * step ∧
        (0 < step → x < (pySliceBounds n start stop step).2) ∧
        (step < 0 → (pySliceBounds n start stop step).2 < x) :=
  pySlice_mem n start stop step hk x

/-- every index a slice produces denotes a live particle: `[self[i] for i in range(…)]` cannot raise -/
theorem c14_py_slice_in_bounds (n : Nat) (start stop : Option Int) (step : Int) (hk : step ≠ 0) (x : Int)
    (hx : x ∈ pySlice n start stop step) : 0 ≤ x ∧ x < n :=
  pySlice_in_bounds n start stop step hk x hx

/-- the normalised bounds lie in `[0, len]` for a positive and in `[-1, len-1]` for a negative step -/
theorem c14_py_slice_bounds (n : Nat) (start stop : Option Int) (step : Int) :
    (0 < step → 0 ≤ (pySliceBounds n start stop step).1 ∧ (pySliceBounds n start stop step).1 ≤ n ∧
                0 ≤ (pySliceBounds n start stop step).2 ∧ (pySliceBounds n start stop step).2 ≤ n) ∧
    (step < 0 → -1 ≤ (pySliceBounds n start stop step).1 ∧ (pySliceBounds n start stop step).1 ≤ (n : Int) - 1 ∧
                -1 ≤ (pySliceBounds n start stop step).2 ∧ (pySliceBounds n start stop step).2 ≤ (n : Int) - 1) :=
  pySliceBounds_range n start stop step

/-- `sim.particles[:]` is every particle -/
theorem c14_py_slice_all (n : Nat) (x : Int) : x ∈ pySlice n none none 1 ↔ 0 ≤ x ∧ x < n :=
  pySlice_all n x

example : pySlice 10 none none (-3) = [9, 6, 3, 0] := by decide
example : pySlice 7 (some (-100)) (some 5) 2 = [0, 2, 4] := by decide

end RV.Particles
