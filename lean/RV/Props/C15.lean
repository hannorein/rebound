import RV.Proofs.Boundary
import RV.Proofs.Tree
import RV.Proofs.TreeUpdate
import RV.Proofs.TreeTerm
import RV.Proofs.TreeArrRoot
import RV.Proofs.Shear
import RV.Proofs.Schedule
import RV.Proofs.TreeGravity
import Mathlib.Algebra.Order.Field.Rat
import Mathlib.Tactic.NormNum
import Mathlib.Tactic.IntervalCases
import Mathlib.Data.Rat.Floor
import Mathlib.Tactic.Positivity
/-
  C15 — boundary conditions and the spatial tree keep every particle accounted for.

  Theorems about the models RV/Model/Boundary.lean and RV/Model/Tree.lean — the same definitions that
  drv_c15 runs on IEEE doubles against boundary.c / tree.c — instantiated at an arbitrary linearly
  ordered field `K` (comparisons = the field's order, `RV.C15.ordScalarO`).

  Vocabulary (RV/Proofs/Tree.lean):
  * `In p c`        : `|p.x-c.x| ≤ c.w/2 ∧ …` — the closed cell, as in `reb_tree_particle_is_inside_cell`;
  * `WF ps tie c t` : hereditary invariant of a subtree occupying cell `c`: a leaf's cell is `c` and contains its
                      particle; an inner node's cell is `c`, child `o` occupies `childCell c o`,
                      `pt = -(number of particles below)`, at least 2 particles below, and (if `tie`) all particles
                      below child `o` have octant `o` under the code's `<` rule;
  * `GravOK ps t`   : every cell's `m` is the sum of the masses below it and `m*mx, m*my, m*mz` are the
                      mass-weighted coordinate sums, hereditarily.
-/
set_option linter.unusedSectionVars false
set_option linter.unusedSimpArgs false
namespace RV.C15
open RV RV.Boundary RV.Tree RV.TreeArr

variable {K : Type} [Field K] [LinearOrder K] [IsStrictOrderedRing K]

/-! ## periodic wrap -/

/-- The two `while` loops of one coordinate: whenever they return, the result lies in the closed
    interval `[-L/2, L/2]` and differs from the input by an integer multiple of `L`. -/
theorem c15_wrap_result (L : K) (fuel : Nat) (x y : K) (h : wrap1 L fuel x = some y) :
    -L / 2 ≤ y ∧ y ≤ L / 2 ∧ ∃ n : Int, y = x - n * L := by
  unfold wrap1 at h
  cases h1 : wrapHi L fuel x with
  | none => simp [h1] at h
  | some y1 =>
    simp [h1] at h
    obtain ⟨n1, _, hy1, hle1, hlo1⟩ := wrapHi_spec L fuel x y1 h1
    obtain ⟨n2, _, hy2, hge2, hlo2⟩ := wrapLo_spec L fuel y1 y h
    refine ⟨hge2, ?_, ⟨(n1 : Int) - n2, by rw [hy2, hy1]; push_cast; ring⟩⟩
    rcases hlo2 with h0 | h2
    · subst h0; simp at hy2; rw [hy2]; exact hle1
    · exact le_of_lt h2

/-- Termination: for `L > 0` and `|x| ≤ L/2 + k·L` the loops return within `k` iterations each. -/
theorem c15_wrap_terminates (L : K) (hL : 0 < L) (k : Nat) (x : K) (hx : |x| ≤ L / 2 + k * L) :
    ∃ y, wrap1 L k x = some y :=
  wrap1_terminates L hL k x hx

/-- A coordinate inside the closed interval (faces included: both comparisons are strict) is not touched. -/
theorem c15_wrap_inside_unchanged (L : K) (fuel : Nat) (x : K) (h1 : -L / 2 ≤ x) (h2 : x ≤ L / 2) :
    wrap1 L fuel x = some x := by
  have a : wrapHi L fuel x = some x := by cases fuel <;> simp [wrapHi, not_lt.mpr h2]
  have b : wrapLo L fuel x = some x := by cases fuel <;> simp [wrapLo, not_lt.mpr h1]
  simp [wrap1, a, b]

/-- REB_BOUNDARY_PERIODIC over the whole particle array: N is unchanged, every particle ends inside the
    box, every coordinate moved by a whole number of box lengths, `vy` untouched. -/
theorem c15_periodic (bx bY bz : K) (fuel : Nat) (ps ps' : List (P K))
    (h : periodic bx bY bz fuel ps = some ps') :
    ps'.length = ps.length ∧
    List.Forall₂ (fun p q =>
      (-bx / 2 ≤ q.x ∧ q.x ≤ bx / 2 ∧ ∃ n : Int, q.x = p.x - n * bx) ∧
      (-bY / 2 ≤ q.y ∧ q.y ≤ bY / 2 ∧ ∃ n : Int, q.y = p.y - n * bY) ∧
      (-bz / 2 ≤ q.z ∧ q.z ≤ bz / 2 ∧ ∃ n : Int, q.z = p.z - n * bz) ∧ q.vy = p.vy) ps ps' := by
  have hf := mapOpt_forall₂ _ _ _ h
  refine ⟨hf.length_eq.symm, hf.imp ?_⟩
  intro p q hpq
  unfold periodic1 at hpq
  cases hx : wrap1 bx fuel p.x with
  | none => simp [hx] at hpq
  | some x =>
    cases hy : wrap1 bY fuel p.y with
    | none => simp [hx, hy] at hpq
    | some y =>
      cases hz : wrap1 bz fuel p.z with
      | none => simp [hx, hy, hz] at hpq
      | some z =>
        simp [hx, hy, hz] at hpq
        subst hpq
        exact ⟨c15_wrap_result _ _ _ _ hx, c15_wrap_result _ _ _ _ hy, c15_wrap_result _ _ _ _ hz, rfl⟩

/-- ... and it does return when every coordinate is within `k` box lengths of the box. -/
theorem c15_periodic_terminates (bx bY bz : K) (hx : 0 < bx) (hy : 0 < bY) (hz : 0 < bz) (k : Nat)
    (ps : List (P K))
    (hps : ∀ p ∈ ps, |p.x| ≤ bx / 2 + k * bx ∧ |p.y| ≤ bY / 2 + k * bY ∧ |p.z| ≤ bz / 2 + k * bz) :
    ∃ ps', periodic bx bY bz k ps = some ps' := by
  apply mapOpt_terminates
  intro p hp
  obtain ⟨h1, h2, h3⟩ := hps p hp
  obtain ⟨x, ex⟩ := wrap1_terminates bx hx k p.x h1
  obtain ⟨y, ey⟩ := wrap1_terminates bY hy k p.y h2
  obtain ⟨z, ez⟩ := wrap1_terminates bz hz k p.z h3
  exact ⟨{ p with x := x, y := y, z := z }, by simp [periodic1, ex, ey, ez]⟩

/-! ## shear-periodic wrap -/

/-- The offsets computed at the top of the shear branch, for any `fmod` with the defining property
    `fmod a b = a - q*b` (`q` an integer): `offsetp1 ≡ +(3/2)Ω Lx t`, `offsetm1 ≡ -(3/2)Ω Lx t` modulo `Ly`,
    and the velocity jump is `(3/2)Ω Lx`. -/
theorem c15_shear_offsets (fmod : K → K → K) (hf : ∀ a b, ∃ q : Int, fmod a b = a - q * b)
    (omega t bx bY : K) :
    let r := shearOffsets fmod omega t bx bY
    (∃ a : Int, r.1 = 3 / 2 * omega * bx * t + a * bY) ∧
    (∃ b : Int, r.2.1 = -(3 / 2 * omega * bx * t) + b * bY) ∧
    r.2.2 = 3 / 2 * omega * bx :=
  offsets_cong_of fmod omega t bx bY (hf _ _) (hf _ _)

/-- REB_BOUNDARY_SHEAR, one particle: with offsets congruent to `±S` modulo `Ly`, the particle ends inside the
    box; `x` moved by `n` box lengths, `vy` by `n` velocity jumps with the same `n`, `y` by `n·S` plus a whole
    number of `Ly`, `z` by a whole number of `Lz`. -/
theorem c15_shear_particle (bx bY bz op1 om1 dv S : K) (fuel : Nat) (p q : P K)
    (h : shear1 bx bY bz op1 om1 dv fuel p = some q)
    (h1 : ∃ a : Int, op1 = S + a * bY) (h2 : ∃ b : Int, om1 = -S + b * bY) :
    (-bx / 2 ≤ q.x ∧ q.x ≤ bx / 2) ∧ (-bY / 2 ≤ q.y ∧ q.y ≤ bY / 2) ∧ (-bz / 2 ≤ q.z ∧ q.z ≤ bz / 2) ∧
    ∃ n k m : Int, q.x = p.x - n * bx ∧ q.vy = p.vy + n * dv ∧ q.y = p.y + n * S + k * bY ∧ q.z = p.z - m * bz := by
  unfold shear1 at h
  cases e1 : shearHi bx op1 dv fuel p with
  | none => simp [e1] at h
  | some p1 =>
    cases e2 : shearLo bx om1 dv fuel p1 with
    | none => simp [e1, e2] at h
    | some p2 =>
      cases e3 : wrap1 bY fuel p2.y with
      | none => simp [e1, e2, e3] at h
      | some y =>
        cases e4 : wrap1 bz fuel p2.z with
        | none => simp [e1, e2, e3, e4] at h
        | some z =>
          simp [e1, e2, e3, e4] at h
          subst h
          obtain ⟨n1, a1, a2, a3, a4, a5, a6⟩ := shearHi_spec _ _ _ _ _ _ e1
          obtain ⟨n2, b1, b2, b3, b4, b5, b6⟩ := shearLo_spec _ _ _ _ _ _ e2
          obtain ⟨y1, y2, my, hy⟩ := c15_wrap_result _ _ _ _ e3
          obtain ⟨z1, z2, mz, hz⟩ := c15_wrap_result _ _ _ _ e4
          obtain ⟨a, ha⟩ := h1
          obtain ⟨b, hb⟩ := h2
          refine ⟨⟨b5, ?_⟩, ⟨y1, y2⟩, ⟨z1, z2⟩, (n1 : Int) - n2, (n1 : Int) * a + n2 * b - my, mz, ?_, ?_, ?_, ?_⟩
          · rcases b6 with h0 | h0
            · subst h0; simp at b1; rw [b1]; exact a5
            · exact le_of_lt h0
          · simp only []; rw [b1, a1]; push_cast; ring
          · simp only []; rw [b3, a3]; push_cast; ring
          · simp only []; rw [hy, b2, a2, ha, hb]; push_cast; ring
          · simp only []; rw [hz, b4, a4]

/-- REB_BOUNDARY_SHEAR over the whole particle array with `fmod` specified as in C99 (`FmodSpec`: `a - q·b`, integer `q`,
    `|result| < |b|`, sign of `a` — no free quotient parameter): N is unchanged; every particle ends inside the box;
    `x` moved by `n` box lengths, `vy` by the same `n` times `(3/2)Ω Lx`, `y` by `n·(3/2)Ω Lx·t` plus whole `Ly`,
    `z` by whole `Lz`. -/
theorem c15_shear (fmod : K → K → K) (hf : FmodSpec fmod) (omega t bx bY bz : K) (hY : bY ≠ 0) (fuel : Nat)
    (ps ps' : List (P K)) (h : shear fmod omega t bx bY bz fuel ps = some ps') :
    ps'.length = ps.length ∧
    List.Forall₂ (fun p q =>
      (-bx / 2 ≤ q.x ∧ q.x ≤ bx / 2) ∧ (-bY / 2 ≤ q.y ∧ q.y ≤ bY / 2) ∧ (-bz / 2 ≤ q.z ∧ q.z ≤ bz / 2) ∧
      ∃ n k m : Int, q.x = p.x - n * bx ∧ q.vy = p.vy + n * (3 / 2 * omega * bx) ∧
        q.y = p.y + n * (3 / 2 * omega * bx * t) + k * bY ∧ q.z = p.z - m * bz) ps ps' := by
  obtain ⟨o1, o2, o3⟩ := offsets_cong fmod hf omega t bx bY hY
  unfold shear at h
  have hf2 := mapOpt_forall₂ _ _ _ h
  refine ⟨hf2.length_eq.symm, hf2.imp ?_⟩
  intro p q hpq
  have := c15_shear_particle bx bY bz _ _ _ (3 / 2 * omega * bx * t) fuel p q hpq o1 o2
  simpa [shearOffsets] using this

/-- … and it returns: with `FmodSpec` the offsets are smaller than `2·Ly`, so fuel `F ≥ kx, ky + 4·kx, kz` suffices for
    particles within `kx, ky, kz` box lengths of the box. -/
theorem c15_shear_terminates (fmod : K → K → K) (hf : FmodSpec fmod) (omega t bx bY bz : K)
    (hx : 0 < bx) (hY : 0 < bY) (hz : 0 < bz) (kx ky kz F : Nat) (hF1 : kx ≤ F) (hF2 : ky + 4 * kx ≤ F) (hF3 : kz ≤ F)
    (ps : List (P K))
    (hps : ∀ p ∈ ps, |p.x| ≤ bx / 2 + kx * bx ∧ |p.y| ≤ bY / 2 + ky * bY ∧ |p.z| ≤ bz / 2 + kz * bz) :
    ∃ ps', shear fmod omega t bx bY bz F ps = some ps' := by
  obtain ⟨b1, b2⟩ := offsets_bound fmod hf omega t bx bY hY
  unfold shear
  apply mapOpt_terminates
  intro p hp
  obtain ⟨h1, h2, h3⟩ := hps p hp
  exact shear1_terminates bx bY bz _ _ _ hx hY hz b1 b2 kx ky kz F hF1 hF2 hF3 p h1 h2 h3

/-! ## open boundary -/

/-- Without a tree: the removal loop (with the `i--` re-check of the element swapped into the hole)
    leaves exactly the particles that are not outside, each once, in the order produced by the
    swap-with-last removals (a permutation of the original order). -/
theorem c15_open_survivors {α : Type} (out : α → Bool) (l : List α) :
    List.Perm (openLoop out 0 l) (l.filter (fun a => !out a)) :=
  openLoop_zero out l

/-- With `track_energy_offset` the removals keep the order (`keep_sorted = 1`): the survivors are exactly the
    non-outside particles in their original order. -/
theorem c15_open_survivors_sorted {α : Type} (out : α → Bool) (l : List α) :
    openLoopSorted out 0 l = l.filter (fun a => !out a) := by
  simpa using openLoopSorted_eq out 0 l

/-- With a tree the loop only marks (`y = NaN`); the unmarked particles are exactly those not outside, in
    their original order (`N == 1` is removed on the spot by `reb_simulation_remove_particle`). -/
theorem c15_open_tree_mark {α : Type} (out flagged : α → Bool) (mark : α → α)
    (hm : ∀ a, flagged (mark a) = true) (l : List α) (hl : ∀ a ∈ l, flagged a = false) :
    (openMark out mark l).filter (fun a => !flagged a) = l.filter (fun a => !out a) := by
  have gen : ∀ l : List α, (∀ a ∈ l, flagged a = false) →
      (l.map fun a => if out a then mark a else a).filter (fun a => !flagged a) = l.filter (fun a => !out a) := by
    intro l
    induction l with
    | nil => intro _; rfl
    | cons a l ih =>
      intro h
      have ha := h a (by simp)
      have := ih (fun b hb => h b (by simp [hb]))
      by_cases ho : out a = true
      · simp [List.filter_cons, ho, hm, this]
      · simp [List.filter_cons, ho, ha, this]
  match l, hl with
  | [], _ => rfl
  | [a], hl =>
    have ha := hl a (by simp)
    by_cases ho : out a = true
    · simp [openMark, ho]
    · simp [openMark, ho, ha]
  | a :: b :: l, hl => exact gen _ hl

/-! ## the oct-tree: insertion -/

/-- One insertion (`reb_tree_add_particle_to_cell`) into a well-formed tree, when it returns: the invariant is
    kept (geometry, containment of every particle in its leaf cell, `pt` counters, tie rule) and the leaves are
    the old ones plus the new index exactly once. -/
theorem c15_insert_one (ps : Nat → Pt K) (fuel : Nat) (t t' : T K) (c : Cell K) (pt : Nat)
    (hwf : WF ps true c t) (hin : In (ps pt) c) (h : add ps fuel t c pt = .ok t') :
    WF ps true c t' ∧ List.Perm (leaves t') (pt :: leaves t) :=
  add_spec ps true fuel t c pt t' hwf hin h

/-- Fresh construction from particles `0..n-1` lying in the root cell: the result is well formed and
    (i) leaves ↔ particles is a bijection: every index `< n` is in exactly one leaf and nothing else is. -/
theorem c15_build_bijection (ps : Nat → Pt K) (fuel : Nat) (c : Cell K) (n : Nat) (t : T K)
    (hin : ∀ i, i < n → In (ps i) c) (h : build ps fuel c n = .ok t) :
    WF ps true c t ∧ (leaves t).Nodup ∧ ∀ i, i ∈ leaves t ↔ i < n := by
  obtain ⟨hwf, hp⟩ := build_spec ps true fuel c n t hin h
  refine ⟨hwf, hp.nodup_iff.mpr List.nodup_range, fun i => ?_⟩
  rw [hp.mem_iff, List.mem_range]

/-- (ii) in a well-formed tree every particle lies in its leaf's cell and in the cell of every ancestor
    (stated for the root of any subtree; `WF` is hereditary). -/
theorem c15_cells_contain_particles (ps : Nat → Pt K) (tie : Bool) (t : T K) (c : Cell K) (hwf : WF ps tie c t) :
    ∀ q ∈ leaves t, In (ps q) c :=
  In_of_mem_leaves ps tie t c hwf

/-- (iii) in a well-formed tree an inner node's `pt` is minus the number of particles below it, which is at
    least 2, and its children are well-formed trees of its eight octant cells. -/
theorem c15_inner_node_count (ps : Nat → Pt K) (tie : Bool) (c c' : Cell K) (g : Grav K) (n : Int)
    (ch : Fin 8 → T K) (hwf : WF ps tie c (.node c' g n ch)) :
    c' = c ∧ n = -((leaves (T.node c' g n ch)).length : Int) ∧ 2 ≤ (leaves (T.node c' g n ch)).length ∧
    ∀ o, WF ps tie (childCell c o) (ch o) :=
  ⟨hwf.1, hwf.2.2.1, hwf.2.2.2.1, hwf.2.1⟩

/-- the refusal branch: insertion reports `coincident` only if the new particle has exactly the coordinates of
    a particle already in the tree -/
theorem c15_insert_error_only_if_coincident (ps : Nat → Pt K) : ∀ (fuel : Nat) (t : T K) (c : Cell K) (pt : Nat),
    add ps fuel t c pt = .error .coincident →
    ∃ q ∈ leaves t, (ps q).x = (ps pt).x ∧ (ps q).y = (ps pt).y ∧ (ps q).z = (ps pt).z := by
  intro fuel
  induction fuel with
  | zero =>
    intro t c pt h
    cases t <;> simp [add] at h
  | succ f ih =>
    intro t c pt h
    cases t with
    | nil => simp [add] at h
    | leaf c0 g q =>
      simp only [add] at h
      split at h
      · rename_i hco
        have hs := hco.2
        simp only [samePos, Bool.and_eq_true, so_le] at hs
        obtain ⟨⟨⟨h1, h2⟩, ⟨h3, h4⟩⟩, ⟨h5, h6⟩⟩ := hs
        exact ⟨q, by simp [leaves], le_antisymm h2 h1, le_antisymm h4 h3, le_antisymm h6 h5⟩
      · simp only [add_nil, bind, Except.bind] at h
        by_cases e : octant (ps pt) c0 = octant (ps q) c0
        · rw [e, setCh_same] at h
          cases h2 : add ps f (T.leaf (childCell c0 (octant (ps q) c0)) zeroGrav q) (childCell c0 (octant (ps q) c0)) pt with
          | ok t2 => simp [h2] at h
          | error er =>
            simp [h2] at h
            subst h
            obtain ⟨r, hr, hh⟩ := ih _ _ _ h2
            simp [leaves] at hr
            subst hr
            exact ⟨r, by simp [leaves], hh⟩
        · rw [setCh_other _ _ _ _ e, add_nil] at h
          simp at h
    | node c0 g n ch =>
      simp only [add, bind, Except.bind] at h
      cases h1 : add ps f (ch (octant (ps pt) c0)) (childCell c0 (octant (ps pt) c0)) pt with
      | ok t1 => simp [h1] at h
      | error er =>
        simp [h1] at h
        subst h
        obtain ⟨r, hr, hh⟩ := ih _ _ _ h1
        refine ⟨r, ?_, hh⟩
        simp only [leaves, List.mem_flatMap]
        exact ⟨_, List.mem_finRange _, hr⟩

/-- Insertion terminates for distinct positions: if the new particle lies in the root cell and differs from
    every particle of the tree by more than `w/2^k` on some axis (`Sep`), fuel `depth t + k + 1` suffices.
    (With coincident positions the refinement would never stop — the code refuses them instead.) -/
theorem c15_insert_terminates (ps : Nat → Pt K) (pt k : Nat) (t : T K) (c : Cell K)
    (hwf : WF ps true c t) (hin : In (ps pt) c) (hsep : ∀ q ∈ leaves t, Sep (ps pt) (ps q) c.w k) :
    ∃ t', add ps (depth t + k + 1) t c pt = .ok t' :=
  add_terminates ps true pt k t c hwf hin hsep

/-! ## aggregation -/

/-- `reb_simulation_update_tree_gravity_data`: with non-negative masses, afterwards every cell has
    `m = Σ mᵢ` and `m·(mx,my,mz) = Σ mᵢ·(xᵢ,yᵢ,zᵢ)` over the particles below it (hereditarily: `GravOK`);
    geometry, counters and leaves are untouched. -/
theorem c15_cell_mass_and_com (ps : Nat → Pt K) (t : T K) (c : Cell K) (hwf : WF ps true c t)
    (hm : ∀ q ∈ leaves t, 0 ≤ (ps q).m) :
    GravOK ps (updGrav ps t) ∧ WF ps true c (updGrav ps t) ∧ leaves (updGrav ps t) = leaves t :=
  ⟨updGrav_ok ps t hm, WF_updGrav ps true t c hwf, leaves_updGrav ps t⟩

/-- what `GravOK` says at the root of a subtree, spelled out -/
theorem c15_cell_mass_and_com_root (ps : Nat → Pt K) (t : T K) (h : GravOK ps t) :
    (grav t).m = massOf ps (leaves t) ∧ (grav t).mx * (grav t).m = momOf ps Pt.x (leaves t) ∧
    (grav t).my * (grav t).m = momOf ps Pt.y (leaves t) ∧ (grav t).mz * (grav t).m = momOf ps Pt.z (leaves t) :=
  GravSum_of_GravOK ps t h

/-! ## tree walk -/

/-- With `opening_angle2 = 0` the gravity walk for particle `pt` opens every cell and interacts with every
    leaf other than its own exactly once, in tree order (no monopole approximations). -/
theorem c15_walk_theta0_visits_every_leaf_once (ps : Nat → Pt K) (t : T K) (c : Cell K) (hw : c.w ≠ 0)
    (hwf : WF ps true c t) (gx gy gz : K) (pt : Nat) :
    (walk (0 : K) gx gy gz pt t).map visitPt = ((leaves t).filter (fun q => q ≠ pt)).map some :=
  walk_zero gx gy gz pt t (WidthNZ_of_WF ps true t c hw hwf)

/-! ## tree update (functional form) -/

/-- The sweep of `reb_simulation_update_tree_cell` (drop leaves whose particle left its cell, recount, derefine)
    on any geometrically sound tree and any new positions: no particle is lost or duplicated
    (kept ∪ evicted = before, as multisets) and the kept tree satisfies containment and the counter invariant. -/
theorem c15_update_sweep (ps : Nat → Pt K) (t : T K) (c : Cell K) (hgeo : Geo c t) :
    WF ps false c (sweep ps t).1 ∧ List.Perm (leaves (sweep ps t).1 ++ (sweep ps t).2) (leaves t) :=
  sweep_spec ps t c hgeo

/-- Single root cell, indices kept (no particle array): sweep, then re-insert — the order of the repaired code — for
    particles that stay in the root cell: the multiset of particles is preserved and containment/counters are
    re-established; the tie rule is not (a particle may have moved onto a face of its cell).  Single-root, array-free
    case; the general statement is `c15_update_array`. -/
theorem c15_update_partial (ps : Nat → Pt K) (fuel : Nat) (c : Cell K) (t t' : T K)
    (hgeo : Geo c t) (hin : ∀ q ∈ leaves t, In (ps q) c) (h : update ps fuel c t = .ok t') :
    WF ps false c t' ∧ List.Perm (leaves t') (leaves t) := by
  unfold update at h
  obtain ⟨hwf1, hp1⟩ := sweep_spec ps t c hgeo
  have hev : ∀ q ∈ (sweep ps t).2, In (ps q) c := by
    intro q hq
    apply hin
    exact hp1.mem_iff.mp (by simp [hq])
  obtain ⟨hwf2, hp2⟩ := reinsert_spec ps false fuel c _ _ t' hwf1 hev h
  exact ⟨hwf2, hp2.trans (List.perm_append_comm.trans hp1)⟩

/-! ## tree update on (particle array, forest) — the repaired walk, array renumbering included -/

/-- `reb_simulation_update_tree` (per root box the recursive walk with swap-with-last removal
    `N--; particles[oldpos]=particles[N]; particles[oldpos].c->pt = oldpos`, eviction buffer, recount and derefinement;
    then `reb_simulation_add` of the buffer in collection order), model `RV.TreeArr.updateA`.
    Before: every root tree is geometrically sound in its root cell (positions arbitrary: the particles have moved),
    the leaves of the forest hold every array index exactly once, and every particle not flagged for removal is in the
    box, has an existing root box and lies in that root cell.  If the update returns (no coincident pair, enough fuel):
    * the new array is, in this order, the survivors of the swap-removals followed by the evicted non-flagged particles
      in pre-order of their old leaves (`evState … .arr ++ … .ev`);
    * as a multiset it is the old array minus the flagged particles: nothing else is lost or duplicated;
    * `ForestOK`: every root tree is well formed w.r.t. the NEW array (leaf cell contains its particle, `pt` counters,
      ≥ 2 rule) and the leaves of the forest hold every index `0..N'-1` exactly once — i.e. `particles[i].c`, the leaf
      storing `i`, exists and is unique for every `i`. -/
theorem c15_update_array {α : Type} (pos : α → Pt K) (flagged inBox : α → Bool) (ri : Pt K → Nat) (rc : Nat → Cell K)
    (fuel : Nat) (forest0 : List (T K)) (arr0 : List α) (forest1 : List (T K)) (arr1 : List α)
    (hgeo : ∀ r (h : r < forest0.length), Geo (rc r) forest0[r])
    (hbij : List.Perm (forest0.flatMap leaves) (List.range arr0.length))
    (hbox : ∀ p ∈ arr0, flagged p = false →
      inBox p = true ∧ ri (pos p) < forest0.length ∧ In (pos p) (rc (ri (pos p))))
    (h : updateA pos flagged inBox ri rc fuel forest0 arr0 = some (.ok (forest1, arr1))) :
    arr1 = (evState flagged arr0 (forest0.flatMap fun t => (sweepP (keepOf pos flagged arr0) t).2)).arr ++
           (evState flagged arr0 (forest0.flatMap fun t => (sweepP (keepOf pos flagged arr0) t).2)).ev ∧
    List.Perm arr1 (arr0.filter (fun p => !flagged p)) ∧
    forest1.length = forest0.length ∧
    ForestOK (psOf pos arr1) rc forest1 arr1.length :=
  updateA_spec pos flagged inBox ri rc fuel forest0 arr0 forest1 arr1 hgeo hbij hbox h

/-- when the leaves hold every index exactly once, the walk never reads outside the particle array -/
theorem c15_update_array_no_stale_index {α : Type} (pos : α → Pt K) (flagged inBox : α → Bool) (ri : Pt K → Nat)
    (rc : Nat → Cell K) (fuel : Nat) (forest0 : List (T K)) (arr0 : List α)
    (hbij : List.Perm (forest0.flatMap leaves) (List.range arr0.length)) :
    updateA pos flagged inBox ri rc fuel forest0 arr0 ≠ none := by
  have hn : (forest0.flatMap leaves).Nodup := hbij.nodup_iff.mpr List.nodup_range
  have hb : ∀ x ∈ forest0.flatMap leaves, x < arr0.length :=
    fun x hx => List.mem_range.mp (hbij.mem_iff.mp hx)
  unfold updateA
  rw [walkForest_eq pos flagged arr0 forest0 hn hb]
  simp

/-- the renumbering invariant behind it: after evicting the original indices `E` (distinct, in any order) by
    swap-with-last, a particle not evicted is found at its logged index, distinct particles at distinct indices, the
    array shrank by `|E|`, the buffer holds the evicted non-flagged ones in order, and array ∪ evicted = original -/
theorem c15_swap_renumbering {α : Type} (flagged : α → Bool) (arr0 : List α) (E : List Nat)
    (hn : E.Nodup) (hb : ∀ e ∈ E, e < arr0.length) :
    ArrInv flagged arr0 E (evState flagged arr0 E) :=
  ArrInv_evState flagged arr0 E hn hb

/-! ## the forest of root boxes -/

/-- root-box rule as repaired (floor, clamp): with any `floor` satisfying `⌊x⌋ ≤ x < ⌊x⌋+1`, a particle inside the
    closed box — faces included — gets a root box that exists and whose root cell contains it. -/
theorem c15_root_box_contains (floor : K → Int) (hfl : ∀ x : K, (floor x : K) ≤ x ∧ x < (floor x : K) + 1)
    (rs : K) (hrs : 0 < rs) (nx ny nz : Nat) (hx : 0 < nx) (hy : 0 < ny) (hz : 0 < nz) (p : Pt K)
    (hin : inBoxPt rs nx ny nz p = true) :
    rootIdx floor rs nx ny nz p < nx * ny * nz ∧
    In p (rootCellOf rs nx ny nz (rootIdx floor rs nx ny nz p)) :=
  root_contains floor hfl rs hrs nx ny nz hx hy hz p hin

/-- the update of the whole forest with the code's own root-box rule: particles migrate between root boxes through
    the re-insertion of `c15_update_array`; the only hypothesis on positions left is "not flagged ⇒ in the box". -/
theorem c15_update_forest {α : Type} (floor : K → Int) (hfl : ∀ x : K, (floor x : K) ≤ x ∧ x < (floor x : K) + 1)
    (rs : K) (hrs : 0 < rs) (nx ny nz : Nat) (hx : 0 < nx) (hy : 0 < ny) (hz : 0 < nz)
    (pos : α → Pt K) (flagged : α → Bool) (fuel : Nat)
    (forest0 : List (T K)) (arr0 : List α) (forest1 : List (T K)) (arr1 : List α)
    (hlen : forest0.length = nx * ny * nz)
    (hgeo : ∀ r (h : r < forest0.length), Geo (rootCellOf rs nx ny nz r) forest0[r])
    (hbij : List.Perm (forest0.flatMap leaves) (List.range arr0.length))
    (hbox : ∀ p ∈ arr0, flagged p = false → inBoxPt rs nx ny nz (pos p) = true)
    (h : updateA pos flagged (fun a => inBoxPt rs nx ny nz (pos a)) (rootIdx floor rs nx ny nz)
          (rootCellOf rs nx ny nz) fuel forest0 arr0 = some (.ok (forest1, arr1))) :
    List.Perm arr1 (arr0.filter (fun p => !flagged p)) ∧
    forest1.length = nx * ny * nz ∧
    ForestOK (psOf pos arr1) (rootCellOf rs nx ny nz) forest1 arr1.length := by
  obtain ⟨_, h2, h3, h4⟩ := updateA_spec pos flagged _ _ _ fuel forest0 arr0 forest1 arr1 hgeo hbij
    (fun p hp hf => by
      have hb := hbox p hp hf
      obtain ⟨r1, r2⟩ := root_contains floor hfl rs hrs nx ny nz hx hy hz (pos p) hb
      exact ⟨hb, by rw [hlen]; exact r1, r2⟩) h
  exact ⟨h2, by rw [h3, hlen], h4⟩

/-! ## tree gravity: the force sum -/

/-- `reb_calculate_acceleration` for REB_GRAVITY_TREE (model `Tree.accCell / accForest`: the walk of
    `reb_calculate_acceleration_for_particle_from_cell` with its opening criterion, monopole of unopened cells, direct term of
    leaves, own leaf skipped; compared bitwise with the real accelerations on every run).  With `opening_angle2 = 0`, after the
    gravity-data update of a well-formed forest with non-zero root width, the acceleration of particle `pt` is exactly the
    direct sum of the pair term over every other particle of the forest — each once, in tree order — for any `sqrt`, `G`,
    softening: tree gravity sees every particle exactly once. -/
theorem c15_tree_gravity_theta0_is_direct_sum (sqrt : K → K) (G soft2 : K) (ps : Nat → Pt K) (rc : Nat → Cell K)
    (forest : List (T K)) (hwf : ∀ r (h : r < forest.length), WF ps true (rc r) forest[r]) (hw : ∀ r, (rc r).w ≠ 0)
    (p : Pt K) (pt : Nat) :
    accForest sqrt G soft2 0 p pt (forest.map (updGrav ps)) =
      ((forest.flatMap leaves).filter (fun q => q ≠ pt)).foldl (pairForce sqrt G soft2 p.x p.y p.z ps) ⟨0, 0, 0⟩ :=
  accForest_zero sqrt G soft2 ps true rc forest hwf hw p pt

/-! ## where the boundary check and the tree update sit in a step -/

/-- The calls of `reb_simulation_step` and of the end of `reb_collision_search`, with their guards, are extracted from the
    C source on every run (rv/extract_c15.py → RV/Gen/C15Schedule.lean).  Run on the abstract state (a flagged particle is
    in the array / a particle is outside the box / `tree_needs_update`), for EVERY combination of tree or no tree gravity,
    collision search none/direct/line/tree/linetree, boundary open/periodic/shear, particles leaving the box in either
    drift, a resolver that removes a particle, and a particle flagged by the user beforehand: at the end of the step no
    flagged particle is left in the particle array and no particle is outside the box.  (`reb_simulation_remove_particle`
    only flags whenever a tree exists — whatever the collision search is; a tree exists iff gravity or the collision search
    is tree based.) -/
theorem c15_step_schedule_leaves_array_clean (g : Bool) (coll : StepSchedule.Coll) (b : StepSchedule.Boundary)
    (o1 o2 cr uf : Bool) (hb : b ≠ .none) (huf : uf = true → (StepSchedule.Cfg.hasTree ⟨g, coll, b⟩) = true) :
    (runStep ⟨g, coll, b⟩ ⟨o1, o2, cr⟩ uf).flagged = false ∧ (runStep ⟨g, coll, b⟩ ⟨o1, o2, cr⟩ uf).outside = false := by
  -- the schedule is extracted data: every configuration and every course of events is evaluated
  revert o1 o2 cr uf
  cases b
  · exact absurd rfl hb
  all_goals cases g <;> cases coll <;> decide +kernel

/-! ## the hypotheses are satisfiable: concrete instances over ℚ -/

/-- three particles in the root cell `[-1,1]³`; 0 and 2 share octants down to depth 2 -/
def exPs : Nat → Pt ℚ
  | 0 => ⟨1/2, 1/2, 1/2, 1⟩
  | 1 => ⟨-1/2, 1/2, 1/4, 2⟩
  | 2 => ⟨3/8, 5/8, 1/2, 3⟩
  | _ => ⟨0, 0, 0, 0⟩
def exCell : Cell ℚ := ⟨0, 0, 0, 2⟩
/-- the same particles after a step: particle 2 has left its leaf cell (still in the root cell) -/
def exPs' : Nat → Pt ℚ
  | 2 => ⟨-3/8, -5/8, 1/2, 3⟩
  | i => exPs i

example : wrap1 (2 : ℚ) 5 (7/2) = some (-1/2) := by decide +kernel
example : wrap1 (2 : ℚ) 5 (-1) = some (-1) ∧ wrap1 (2 : ℚ) 5 1 = some 1 := by decide +kernel   -- faces stay
example : wrap1 (2 : ℚ) 1 (7/2) = none := by decide +kernel                                     -- fuel exhausted
example : (match periodic (2 : ℚ) 2 4 5 [⟨7/2, -3, 9, 1⟩, ⟨0, 1, -2, 0⟩] with
    | some l => l.map fun p => (p.x, p.y, p.z)
    | none => []) = [(-1/2, -1, 1), (0, 1, -2)] := by decide +kernel
example : (match shear1 (2 : ℚ) 2 4 (1/3 - 2) (-1/3 + 2) 5 5 ⟨7/2, 0, 1, 1⟩ with
    | some p => (p.x, p.y, p.z, p.vy)
    | none => (0, 0, 0, 0)) = (-1/2, 2/3, 1, 11) := by decide +kernel
example : openLoop (fun n : Nat => n % 2 == 0) 0 [0, 1, 2, 3, 4, 6, 7] = [7, 1, 3] := by decide +kernel
example : openLoopSorted (fun n : Nat => n % 2 == 0) 0 [0, 1, 2, 3, 4, 6, 7] = [1, 3, 7] := by decide +kernel
example : (match build exPs 10 exCell 3 with | .ok t => leaves t | .error _ => []) = [0, 2, 1] := by
  decide +kernel
example : ∀ i, i < 3 → In (exPs i) exCell := by
  unfold In; decide +kernel
/-- fresh construction returns, cells get mass 6 and `m·mx = Σ m x = 5/8` -/
example : (match build exPs 10 exCell 3 with
    | .ok t => ((grav (updGrav exPs t)).m, (grav (updGrav exPs t)).m * (grav (updGrav exPs t)).mx)
    | .error _ => (0, 0)) = (6, 5/8) := by decide +kernel
/-- a coincident particle is refused -/
example : (match build (fun i => if i = 2 then exPs 0 else exPs i) 10 exCell 3 with
    | .error e => some e | .ok _ => none) = some .coincident := by decide +kernel
/-- functional update after particle 2 moved to another octant: nothing lost, shape re-established -/
example : (match build exPs 10 exCell 3 with
    | .ok t => (match update exPs' 10 exCell t with | .ok t' => leaves t' | .error _ => [])
    | .error _ => []) = [0, 1, 2] := by decide +kernel
/-- separation hypothesis of `c15_insert_terminates`: particles 0 and 2 differ by 1/8 > 2/2^5 in x -/
example : Sep (exPs 2) (exPs 0) exCell.w 5 := by
  unfold Sep; decide +kernel

/-! forest update: two root boxes, one migration, one flagged particle, one octant change -/
/-- two root boxes along x (`root_size 2`); (id, position) -/
def exOld : List (Nat × Pt ℚ) :=
  [(0, ⟨-3/2, 1/2, 1/2, 1⟩), (1, ⟨-1/2, -1/2, 1/2, 1⟩), (2, ⟨1/2, 1/2, 1/2, 1⟩), (3, ⟨3/2, -1/2, 1/4, 1⟩)]
/-- after a step: 0 migrated to the other root box, 2 is flagged, 3 changed octant, 1 stayed -/
def exNew : List (Nat × Pt ℚ) :=
  [(0, ⟨1/2, -1/2, -1/2, 1⟩), (1, ⟨-1/2, -1/2, 1/2, 1⟩), (2, ⟨1/2, 1/2, 1/2, 1⟩), (3, ⟨3/2, 1/2, 1/4, 1⟩)]
def exRi : Pt ℚ → Nat := rootIdx Rat.floor 2 2 1 1
def exRc : Nat → Cell ℚ := rootCellOf 2 2 1 1
def exIn : Nat × Pt ℚ → Bool := fun a => inBoxPt 2 2 1 1 a.2
def exForest0 : List (T ℚ) :=
  match exOld.foldlM (addOne (fun a => a.2) exIn exRi exRc 10) ([T.nil, T.nil], []) with
  | .ok s => s.1
  | .error _ => []


example : exForest0.map leaves = [[0, 1], [2, 3]] := by decide +kernel
/-- new array order `[1,0,3]` (ids): survivor of the swaps, then the evicted in pre-order; forest leaves renumbered -/
example : (match updateA (fun a => a.2) (fun a => a.1 == 2) exIn exRi exRc 10 exForest0 exNew with
    | some (.ok (f, a)) => (a.map (fun q : Nat × Pt ℚ => q.1), f.map leaves)
    | _ => ([], [])) = ([1, 0, 3], [[0], [2, 1]]) := by decide +kernel
/-- the floor hypothesis of `c15_root_box_contains` holds for the usual floor -/
example : ∀ x : ℚ, ((⌊x⌋ : ℤ) : ℚ) ≤ x ∧ x < ((⌊x⌋ : ℤ) : ℚ) + 1 :=
  fun x => ⟨Int.floor_le x, Int.lt_floor_add_one x⟩

/-- C `fmod` on ℚ: quotient truncated towards zero -/
def fmodQ (a b : ℚ) : ℚ := a - (if 0 ≤ a / b then (⌊a / b⌋ : ℤ) else (⌈a / b⌉ : ℤ)) * b

/-- the hypothesis of `c15_shear` / `c15_shear_terminates` is satisfiable -/
example : FmodSpec fmodQ := by
  intro a b hb
  unfold fmodQ
  set r := a / b with hr
  have har : a = r * b := by rw [hr]; field_simp
  by_cases h0 : 0 ≤ r
  · simp only [h0, if_true]
    have f1 := Int.floor_le r
    have f2 := Int.lt_floor_add_one r
    set d := r - (⌊r⌋ : ℚ) with hd
    have hd0 : 0 ≤ d := by linarith
    have hd1 : d < 1 := by linarith
    have he : a - (⌊r⌋ : ℚ) * b = d * b := by rw [har, hd]; ring
    refine ⟨⟨⌊r⌋, rfl⟩, ?_, ?_, ?_⟩
    · rw [he, abs_mul, abs_of_nonneg hd0]
      have := abs_pos.mpr hb
      nlinarith
    · intro ha
      rw [he]
      rcases lt_or_gt_of_ne hb with hneg | hpos
      · have : r * b ≤ 0 := mul_nonpos_of_nonneg_of_nonpos h0 (le_of_lt hneg)
        have hr0 : r = 0 := by
          have : a = 0 := le_antisymm (by rw [har]; exact this) ha
          rw [hr, this]; simp
        have : d = 0 := by rw [hd, hr0]; simp
        rw [this]; simp
      · positivity
    · intro ha
      rw [he]
      rcases lt_or_gt_of_ne hb with hneg | hpos
      · exact mul_nonpos_of_nonneg_of_nonpos hd0 (le_of_lt hneg)
      · have : 0 ≤ r * b := mul_nonneg h0 (le_of_lt hpos)
        have hr0 : r = 0 := by
          have : a = 0 := le_antisymm ha (by rw [har]; exact this)
          rw [hr, this]; simp
        have : d = 0 := by rw [hd, hr0]; simp
        rw [this]; simp
  · simp only [h0, if_false]
    have hneg : r < 0 := not_le.mp h0
    have c1 := Int.le_ceil r
    have c2 := Int.ceil_lt_add_one r
    set d := (⌈r⌉ : ℚ) - r with hd
    have hd0 : 0 ≤ d := by linarith
    have hd1 : d < 1 := by linarith
    have he : a - (⌈r⌉ : ℚ) * b = -(d * b) := by rw [har, hd]; ring
    refine ⟨⟨⌈r⌉, rfl⟩, ?_, ?_, ?_⟩
    · rw [he, abs_neg, abs_mul, abs_of_nonneg hd0]
      have := abs_pos.mpr hb
      nlinarith
    · intro ha
      rw [he]
      rcases lt_or_gt_of_ne hb with hbn | hbp
      · have : d * b ≤ 0 := mul_nonpos_of_nonneg_of_nonpos hd0 (le_of_lt hbn)
        linarith
      · exfalso
        have : r * b < 0 := mul_neg_of_neg_of_pos hneg hbp
        rw [← har] at this
        linarith
    · intro ha
      rw [he]
      rcases lt_or_gt_of_ne hb with hbn | hbp
      · exfalso
        have : 0 < r * b := mul_pos_of_neg_of_neg hneg hbn
        rw [← har] at this
        linarith
      · have : 0 ≤ d * b := mul_nonneg hd0 (le_of_lt hbp)
        linarith


/-- tree gravity on the three-particle tree of `exPs` (opening angle 0, `sqrt := id`, G = 1, no softening): x-acceleration of
    particle 1 from the walk = from the two direct pair terms -/
example : (match build exPs 10 exCell 3 with
    | .ok t => ((accForest id 1 0 0 (exPs 1) 1 [updGrav exPs t]).ax ==
                ([0, 2].foldl (pairForce id 1 0 (exPs 1).x (exPs 1).y (exPs 1).z exPs) ⟨0, 0, 0⟩).ax)
    | .error _ => false) = true := by decide +kernel
end RV.C15
