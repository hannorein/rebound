import RV.Proofs.Layout
import RV.Gen.C18LayoutC
import RV.Gen.C18LayoutPy
import RV.Gen.C18Options
import RV.Gen.C18Ref
import RV.Gen.C18Protos
import RV.Gen.C18Descr
/-
  C18 — the Python classes mirror the C structures and options exactly.

  `T`/`O` are the tables regenerated on every run from the working tree of the code under
  test (RV/Gen/C18LayoutC: the C structures as laid out by the compiler; C18LayoutPy: the
  ctypes classes of the package; C18Options: C enumerations, Python dictionaries, property
  → field usage, function-pointer options; C18Ref: committed class map, accepted renames,
  option families, floors, and the exception lists generated from findings/C18.jsonl).

  The table theorems are decided by the kernel over the WHOLE tables.  The general theorems
  (∀ tables) say what a positive answer of the matcher means.

  Known findings: the full-strength statements `LayoutFull`, `NamesFull`, `NoShadowFull`,
  `OptionTiesFull` are kept below as `def … : Prop`; each `…_full_iff_findings_closed`
  theorem proves that the full statement holds exactly when none of the exceptions listed
  in findings/C18.jsonl is used any more.  The theorems named `…_partial` tolerate exactly
  those listed (structure, field, member, category) entries and nothing else.
-/
set_option linter.unusedVariables false
namespace RV.C18
open RV.Layout RV.Gen.C18

def T : Tables := ⟨cTab, pyTab, classMap⟩
def O : OptTables := ⟨cEnumRows, pyOptRows, cTab⟩
def rowsOf (t : StructTab) : Nat := (t.map (·.2.2.length)).foldl (· + ·) 0

/-! ### full-strength statements (hold iff the corresponding findings are closed) -/

/-- every ctypes field of every mapped class has the offset, size and kind of the C member at its position -/
def LayoutFull : Prop := allLayoutBad T = []
/-- every ctypes field is named like the C member it overlays (modulo `_` and the accepted renames) -/
def NamesFull : Prop := allBadNames T renames = []
/-- no ctypes field replaces a property of the same name -/
def NoShadowFull : Prop := pyShadowed = []
/-- every named-option property reads and writes the ctypes field laid over the C member holding the option -/
def OptionTiesFull : Prop :=
  optMap.all (fun f => optFieldTie T pyPropRows f n!"get" && optFieldTie T pyPropRows f n!"set") = true

/-! ### the extraction found what it must find -/

/-- the generated tables have the sizes the extractor counted, and at least the committed floor -/
theorem c18_counts :
    rowsOf cTab = cRowCount ∧ cTab.length = cStructCount ∧ rowsOf pyTab = pyRowCount ∧
    pyTab.length = pyStructCount ∧ cEnumRows.length = cEnumRowCount ∧ pyOptRows.length = pyOptRowCount ∧
    pyFnOptRows.length = pyFnOptRowCount ∧ cFunctions.length = cFunctionCount ∧
    floorClasses ≤ pyTab.length ∧ floorPyRows ≤ rowsOf pyTab ∧ floorCRows ≤ rowsOf cTab ∧
    floorCStructs ≤ cTab.length ∧ floorOptRows ≤ pyOptRows.length ∧ floorEnumRows ≤ cEnumRows.length ∧
    floorFnOptRows ≤ pyFnOptRows.length := by decide +kernel

/-- every ctypes.Structure class of the package is mapped to a C structure, and every mapped class and
    structure was found with members (so no class escapes the comparison) -/
theorem c18_every_class_mapped : allMapped T = true := by decide +kernel

/-- offsets, sizes and kinds agree for every field of every class, except the entries of
    findings/C18.jsonl (each tolerated only for its category: sign / pointee) -/
theorem c18_layout_all_structs_match_partial :
    subsetBad (allLayoutBad T) knownLayoutExceptions = true := by decide +kernel

theorem c18_layout_full_iff_findings_closed :
    LayoutFull ↔ (knownLayoutExceptions.filter (fun x => memBad x (allLayoutBad T))) = [] :=
  bad_nil_iff _ _ c18_layout_all_structs_match_partial

/-- total sizes agree (a class reached only through a pointer may be shorter, never longer) -/
theorem c18_sizes_match : allSizesOk T = true := by decide +kernel

/-- names agree modulo the leading underscore and the committed renames, except the entries of findings/C18.jsonl -/
theorem c18_names_match_modulo_renames_partial :
    subsetTriples (allBadNames T renames) knownNameExceptions = true := by decide +kernel

theorem c18_names_full_iff_findings_closed :
    NamesFull ↔ (knownNameExceptions.filter (fun x => memTriple x.1 x.2.1 x.2.2 (allBadNames T renames))) = [] := by
  unfold NamesFull; decide +kernel

/-- every accepted rename is actually used (a stale rename would silently widen the convention) -/
theorem c18_renames_all_used :
    renames.all (fun r => memTriple r.1 r.2.1 r.2.2 (allBadNames T [])) = true := by decide +kernel

/-- every name of every Python option dictionary has exactly one C enumerator of the same meaning
    (family prefix stripped, compared modulo case and punctuation — derived from the names on both
    sides) in the enumeration of the C member that holds the option, and the values are equal -/
theorem c18_options_forward : optMap.all (optForward O) = true := by decide +kernel

/-- the reverse map returns the name that was set: values and normalised names are pairwise distinct
    and every C enumerator carrying a dictionary value means the name stored with it -/
theorem c18_options_roundtrip : optMap.all (optRoundtrip O) = true := by decide +kernel

/-- getter and setter of every option property touch a ctypes field that the matcher lays over the C
    member of the family — except properties shadowed by a ctypes field, listed in findings/C18.jsonl -/
theorem c18_options_field_tie_partial :
    optMap.all (fun f => (optFieldTie T pyPropRows f n!"get" && optFieldTie T pyPropRows f n!"set")
                         || memPair f.cls f.prop knownShadowExceptions) = true := by decide +kernel

theorem c18_option_ties_full_iff_findings_closed :
    OptionTiesFull ↔ (optMap.filter (fun f => memPair f.cls f.prop knownShadowExceptions &&
        !(optFieldTie T pyPropRows f n!"get" && optFieldTie T pyPropRows f n!"set"))).length = 0 :=
  all_iff_filter optMap _ _ c18_options_field_tie_partial

/-- no ctypes field replaces a property of the same name, except the entries of findings/C18.jsonl -/
theorem c18_no_shadowed_property_partial : subsetPairs pyShadowed knownShadowExceptions = true := by
  decide +kernel

theorem c18_no_shadow_full_iff_findings_closed :
    NoShadowFull ↔ (knownShadowExceptions.filter (fun x => memPair x.1 x.2 pyShadowed)).length = 0 :=
  pairs_nil_iff _ _ c18_no_shadowed_property_partial

/-- every function-pointer option (collision resolvers, MERCURIUS L, TRACE S / S_peri) stores the
    exported symbol `family prefix ++ option name`, which the header declares, into a C member that is
    a function pointer -/
theorem c18_fn_options : pyFnOptRows.all (fnOptOk cTab cFunctions fnOptMap) = true := by decide +kernel

/-! ### full signatures (callbacks, declared restypes, foreign call sites) -/

/-- every foreign call site is sound: prototype known, declared restype (in force at the site) compatible with the
    C return type, or no restype where the C function returns int/void or the result is discarded; argument count and
    statically visible argument kinds fit the C parameters -/
def CallsFull : Prop := badCalls classMap cProtos pyCalls = []

/-- the extraction of prototypes / callbacks / declarations / call sites found what it must find -/
theorem c18_proto_counts :
    cProtos.length = cProtoCount ∧ cCallbacks.length = cCallbackCount ∧ pyCallbacks.length = pyCallbackCount ∧
    pyRestypeDecls.length = pyRestypeDeclCount ∧ pyCalls.length = pyCallCount ∧
    floorProtos ≤ cProtos.length ∧ floorCallbacks ≤ cCallbacks.length ∧ floorCallbacks ≤ pyCallbacks.length ∧
    floorRestypeDecls ≤ pyRestypeDecls.length ∧ floorCalls ≤ pyCalls.length := by decide +kernel

/-- every CFUNCTYPE field has the return kind, the number of arguments and the argument kinds (width, signedness,
    double, pointee class, by-value structure through the class map) of the C function-pointer member it lies over -/
theorem c18_callback_signatures : pyCallbacks.all (callbackOk T cCallbacks) = true := by decide +kernel

/-- … and every C function-pointer member of a mirrored structure has such a field -/
theorem c18_callbacks_all_mirrored :
    cCallbacks.all (fun c => classMap.any (fun e => nameEq e.2.1 c.owner) →
      pyCallbacks.any (fun p => optNameEq (structOf classMap p.owner) c.owner &&
                                optNameEq (pairedMember T p.owner p.field) c.field)) = true := by decide +kernel

/-- every `clibrebound.f.restype = T` names a function the headers declare and T mirrors its C return type -/
def RestypesFull : Prop := pyRestypeDecls.all (declOk classMap cProtos) = true

/-- every `clibrebound.f.restype = T` names a function the headers declare and T mirrors its C return type
    (double, integer of the same width and signedness, by-value structure through the class map, typed or untyped pointer),
    except at the sites of known findings -/
theorem c18_restype_declarations_match_partial :
    pyRestypeDecls.all (fun d => declOk classMap cProtos d || memPair d.fn d.site knownCallExceptions) = true := by decide +kernel

/-- no attribute other than `restype` is ever assigned on a foreign function (a misspelt `restype` is silently ignored
    by ctypes), except at the sites of known findings -/
theorem c18_no_stray_function_attributes_partial :
    pyOtherFnAttrs.all (fun a => memPair a.1 a.2.1 knownCallExceptions) = true := by decide +kernel

/-- every call site is sound, except those of known findings -/
theorem c18_foreign_calls_sound_partial :
    subsetPairs (badCalls classMap cProtos pyCalls) knownCallExceptions = true := by decide +kernel

theorem c18_calls_full_iff_findings_closed :
    CallsFull ↔ (knownCallExceptions.filter (fun x => memPair x.1 x.2 (badCalls classMap cProtos pyCalls))).length = 0 :=
  pairs_nil_iff _ _ c18_foreign_calls_sound_partial

/-- what a sound call site means (∀ tables): the function is declared, and either a restype compatible with the C
    return type is in force, or none is and the C function returns `int`/`void`/a signed 4-byte enum or the value is unused -/
theorem c18_call_sound_meaning (cm : ClassMap) (protos : List Proto) (c : CallSite) (h : callWhy cm protos c = none) :
    ∃ p, (p ∈ protos ∧ p.name = c.fn) ∧
      ((∃ r, c.restype = some r ∧ kindOk cm p.ret r = true) ∨
       (c.restype = none ∧ (c.used = false ∨ retDefaultOk p.ret = true))) := by
  unfold callWhy at h
  split at h
  · cases h
  · rename_i p hp
    refine ⟨p, protoAt_some _ _ _ _ hp, ?_⟩
    split at h
    · rename_i r hr
      split at h
      · cases h
      · rename_i hk
        exact Or.inl ⟨r, hr, by simpa using hk⟩
    · rename_i hr
      split at h
      · cases h
      · rename_i hk
        refine Or.inr ⟨hr, ?_⟩
        simp only [Bool.and_eq_true, Bool.not_eq_true', not_and, Bool.not_eq_false] at hk
        cases hu : c.used
        · exact Or.inl rfl
        · exact Or.inr (hk hu)

/-! ### enumerations are mirrored exactly (width and value range) -/

/-- every ctypes integer laid over a C enumeration member has the member's width and can represent every enumerator
    (so `REB_STATUS`, which has negative values, needs a signed field; an unsigned enumeration may be mirrored by either
    signedness only because all its values fit) -/
theorem c18_enum_fields_representable : classMap.all (classEnumFieldsOk T cEnumRows) = true := by decide +kernel

/-- the matcher does reject an unsigned field over an enumeration with negative values -/
example : enumFieldOk [(n!"E", n!"A", -1)] (⟨n!"x", 0, 4, .int false 4⟩, [⟨n!"x", 0, 4, .enm n!"E" true 4⟩]) = false := by
  decide +kernel

/-! ### the binary field descriptor list and the binary warnings table -/

/-- what `binary_field_descriptor_list()` returns is, entry by entry (id, dtype, name, offset, offset_N, element size) and
    in length, the C array `reb_binary_field_descriptor_list` of the loaded library read through the C-side layout,
    up to and including the terminating entry -/
theorem c18_descriptor_list_mirrored :
    descrListEq pyDescriptors cDescriptors = true ∧ nameEq (lastName cDescriptors) n!"end" = true ∧
    cDescriptors.length = cDescriptorCount ∧ floorDescriptors ≤ cDescriptors.length := by decide +kernel

/-- descriptor ids and names are unique and every dtype is an enumerator value of the C `dtype` enumeration -/
theorem c18_descriptor_ids_names_dtypes :
    distinctBy (fun a b => a.1 == b.1) cDescriptors = true ∧
    distinctBy (fun a b => nameEq a.2.2.1 b.2.2.1) cDescriptors = true ∧
    cDescriptors.all (fun d => (itemsOf n!"reb_binary_field_descriptor.dtype" cEnumRows).any (fun e => e.2 == d.2.1)) = true := by
  decide +kernel

/-- every row of BINARY_WARNINGS is exactly one enumerator of `enum reb_simulation_binary_error_codes`, is treated as
    a major error iff that enumerator is an `_ERROR_` one, and its message contains the phrase committed for the
    enumerator; ids are distinct; every non-zero C code has a row -/
theorem c18_binary_warnings_table :
    pyWarnings.all (warnOk (itemsOf n!"reb_simulation_binary_error_codes" cEnumRows) warnKeywords) = true ∧
    distinctBy (fun a b => a.2.1 == b.2.1) pyWarnings = true ∧
    (itemsOf n!"reb_simulation_binary_error_codes" cEnumRows).all
      (fun e => e.2 == 0 || pyWarnings.any (fun w => w.2.1 == e.2)) = true ∧
    pyWarnings.length = pyWarningCount ∧ floorWarnings ≤ pyWarnings.length := by decide +kernel

/-! ### composite option names -/

/-- within one property setter, literal names that select the same primary value (e.g. "wh", "whc", "whckl", … all
    select integrator "whfast") assign the same set of fields, so the tuple of C values a name stands for does not depend
    on what was set before -/
theorem c18_composite_setters_uniform :
    compositeUniform pyComposites = true ∧ pyComposites.length = pyCompositeCount := by decide +kernel

/-- the uniformity check does reject a sibling branch that forgets a field -/
example : compositeUniform [(n!"S", n!"integrator", n!"wh", [(n!"integrator", n!"'whfast'"), (n!"ri_whfast.corrector", n!"?")]),
    (n!"S", n!"integrator", n!"whckl", [(n!"integrator", n!"'whfast'"), (n!"ri_whfast.corrector", n!"17"), (n!"ri_whfast.kernel", n!"'lazy'")])] = false := by
  decide +kernel

/-! ### the option properties themselves: setter / getter model -/

/-- for every option property, with the normalisation its setter really applies (extracted from the AST): every name of
    its dictionary is accepted as written, stores the dictionary value and reads back as itself; every family has a setter spec -/
theorem c18_option_setters_roundtrip :
    pySetterSpecs.all (fun sp => dictRoundtrips sp.lowerCase sp.strip (itemsOf sp.dict pyOptRows)) = true ∧
    optMap.all (fun f => pySetterSpecs.any (fun sp => nameEq sp.cls f.cls && nameEq sp.prop f.prop && nameEq sp.dict f.dict)) = true := by
  decide +kernel

/-- last write wins (∀ dictionaries, ∀ histories): after any sequence of assignments, a successful assignment leaves the
    field with the value it stores on a fresh field -/
theorem c18_option_last_write_wins (lc : Bool) (strip : List Nat) (d : List (Name × Int)) (c0 c1 : Int)
    (hist : List OptArg) (a : OptArg) (v : Int) (h : setOpt lc strip d a = some v) :
    assignAll lc strip d c0 (hist ++ [a]) = v ∧ assign lc strip d c1 a = v := by
  constructor
  · induction hist generalizing c0 with
    | nil => simp [assignAll, assign, h]
    | cons x r ih => simp only [List.cons_append, assignAll]; exact ih _
  · simp [assign, h]

/-- set then get (∀ dictionaries with pairwise distinct values): an accepted string stores the value of its normal form
    and the getter returns that normal form -/
theorem c18_option_set_then_get (lc : Bool) (strip : List Nat) (d : List (Name × Int)) (s : Name) (v : Int)
    (h : setOpt lc strip d (.str s) = some v) (hd : d.Pairwise (fun a b => a.2 ≠ b.2)) :
    (normIn lc strip s, v) ∈ d ∧ getOpt d v = some (normIn lc strip s) := by
  have hm := lookupVal_mem _ _ _ (by simpa [setOpt] using h)
  exact ⟨hm, getOpt_of_mem d _ v hm hd⟩

/-- integers are stored as given; an unknown string leaves the field unchanged -/
theorem c18_option_int_and_unknown (lc : Bool) (strip : List Nat) (d : List (Name × Int)) (cur v : Int) (s : Name)
    (hs : lookupVal (normIn lc strip s) d = none) :
    assign lc strip d cur (.int v) = v ∧ assign lc strip d cur (.str s) = cur := by
  simp [assign, setOpt, hs]

/-! ### attribute stores of the Python layer refer to C members -/

/-- every attribute that a method of a ctypes class stores on `self` is a ctypes field of that class (so the bytes of the
    C structure change), a property with a setter, or a committed Python-only attribute -/
def StoresFull : Prop := badStores pyTab pySetterProps pyOnlyAttrs pyAttrStores = []

/-- … except the stores of known findings; ctypes accepts any attribute name silently, so a misspelt field name
    (`simulationarchive_auto_steps`, `sim` for `_sim`) writes the instance `__dict__` instead of the structure -/
theorem c18_attribute_stores_hit_fields_partial :
    subsetPairs (badStores pyTab pySetterProps pyOnlyAttrs pyAttrStores) knownStoreExceptions = true ∧
    pyAttrStores.length = pyAttrStoreCount ∧ floorAttrStores ≤ pyAttrStores.length := by decide +kernel

theorem c18_stores_full_iff_findings_closed :
    StoresFull ↔ (knownStoreExceptions.filter (fun x => memPair x.1 x.2 (badStores pyTab pySetterProps pyOnlyAttrs pyAttrStores))).length = 0 :=
  pairs_nil_iff _ _ c18_attribute_stores_hit_fields_partial.1

/-- the check does reject a misspelt field and an unresolvable setattr -/
example : badStores [(n!"S", 8, [⟨n!"auto_step", 0, 8, .int false 8⟩])] [] [] [(n!"S", n!"save", n!"auto_steps"), (n!"S", n!"save", n!"auto_step"), (n!"S", n!"f", n!"?x")]
    = [(n!"S", n!"auto_steps"), (n!"S", n!"?x")] := by decide +kernel

/-! ### what the matcher's verdict means — for arbitrary tables -/

/-- soundness of the layout matcher (∀ class maps, ∀ field lists) -/
theorem c18_matcher_sound (cm : ClassMap) (pfx : Bool) (s : Name) (py c : List Field)
    (h : layoutBad cm pfx s py c = []) :
    ∃ runs : List (List Field), Forall₂ (Covers cm) py runs ∧
      (runs.flatten = c ∨ (pfx = true ∧ ∃ tail, runs.flatten ++ tail = c)) :=
  layoutBad_nil_sound cm pfx s py c h

/-- in a run accepted for a ctypes array, element `i` is the C member at `offset + i * element size` -/
theorem c18_run_elements (cm : ClassMap) (ek : Kind) (es off : Nat) (run : List Field)
    (h : RunAt cm ek es off run) (i : Nat) (hi : i < run.length) :
    run[i].off = off + i * es ∧ run[i].size = es ∧ kindOk cm run[i].kind ek = true := by
  induction run generalizing off i with
  | nil => simp at hi
  | cons c cs ih =>
    obtain ⟨h1, h2, h3, h4⟩ := h
    cases i with
    | zero => simp [h1, h2, h3]
    | succ j =>
      have := ih (off + es) h4 j (by simpa using hi)
      simp only [List.getElem_cons_succ]
      refine ⟨?_, this.2.1, this.2.2⟩
      rw [this.1, Nat.succ_mul]; omega

/-- kind compatibility is exact on scalars: a C integer only mirrors a ctypes integer of the same
    signedness and width, a double only a double, an embedded structure only the class mapped to it,
    and a function pointer never a data pointer -/
theorem c18_kind_exact (cm : ClassMap) :
    (∀ s n p, kindOk cm (.int s n) p = true → p = .int s n) ∧
    (∀ p, kindOk cm .f64 p = true → p = .f64) ∧
    (∀ s p, kindOk cm (.struct s) p = true → ∃ c, p = .struct c ∧ structOf cm c = some s) ∧
    (∀ r n p, kindOk cm (.fptr r n) (.ptr p) = false) :=
  ⟨kindOk_int cm, kindOk_f64 cm, kindOk_struct cm, kindOk_fptr_not_ptr cm⟩

/-- soundness of the option check (∀ tables) -/
theorem c18_options_forward_sound (o : OptTables) (f : OptFamily) (h : optForward o f = true) :
    ∃ en, enumOfMember o.cRows f.struct f.member = some en ∧
      ∀ it ∈ itemsOf f.dict o.pyOpts, ∃ e, (en, e, it.2) ∈ o.cEnums ∧
        (∃ rest, e = f.pre ++ rest ∧ norm rest = norm it.1) ∧
        ∀ e' ∈ itemsOf en o.cEnums, means f.pre it.1 e'.1 = true → e' = (e, it.2) := by
  unfold optForward at h
  split at h
  · cases h
  · rename_i en hen
    refine ⟨en, hen, ?_⟩
    simp only [Bool.and_eq_true, List.all_eq_true] at h
    intro it hit
    have := h.2 it hit
    split at this
    · rename_i e hm
      have hv : e.2 = it.2 := by simpa using this
      have hmem : e ∈ meaning f.pre it.1 (itemsOf en o.cEnums) := by rw [hm]; simp
      unfold meaning at hmem hm
      obtain ⟨h1, h2⟩ := List.mem_filter.1 hmem
      refine ⟨e.1, ?_, (means_iff _ _ _).1 h2, ?_⟩
      · have := mem_itemsOf h1; rw [hv] at this; exact this
      · intro e' he' hm'
        have : e' ∈ List.filter (fun e => means f.pre it.1 e.1) (itemsOf en o.cEnums) :=
          List.mem_filter.2 ⟨he', hm'⟩
        rw [hm] at this
        simp at this
        rw [this, ← hv]
    · cases this

theorem c18_options_roundtrip_sound (o : OptTables) (f : OptFamily) (h : optRoundtrip o f = true) :
    (itemsOf f.dict o.pyOpts).Pairwise (fun a b => a.2 ≠ b.2) ∧
    (itemsOf f.dict o.pyOpts).Pairwise (fun a b => norm a.1 ≠ norm b.1) := by
  unfold optRoundtrip at h
  simp only [Bool.and_eq_true] at h
  obtain ⟨⟨h1, h2⟩, _⟩ := h
  constructor
  · exact (distinctBy_pairwise _ _ h1).imp (fun hab => by simpa using hab)
  · refine (distinctBy_pairwise _ _ h2).imp (fun {a b} hab => ?_)
    intro e
    rw [(nameEq_iff _ _).2 e] at hab
    cases hab

/-! ### the two halves combined on the generated tables -/

/-- every mapped class whose comparison reports nothing really overlays its C structure: the C members
    split in order into one run per ctypes field with equal offset, size and compatible kind -/
theorem c18_layout_covers (e : Name × Name × Bool) (he : e ∈ classMap) (h : classLayoutBad T e = []) :
    ∃ runs : List (List Field), Forall₂ (Covers classMap) (fieldsOf e.1 pyTab) runs ∧
      (runs.flatten = fieldsOf e.2.1 cTab ∨ (e.2.2 = true ∧ ∃ tail, runs.flatten ++ tail = fieldsOf e.2.1 cTab)) :=
  layoutBad_nil_sound classMap e.2.2 e.2.1 _ _ h

/-- … which is the case for every class except those whose C structure is named in a known finding -/
theorem c18_layout_clean_classes :
    classMap.all (fun e => (classLayoutBad T e).isEmpty ||
                           knownLayoutExceptions.any (fun x => nameEq x.1 e.2.1)) = true := by
  decide +kernel

/-! ### the statements are not vacuous -/

example : fieldsOf n!"reb_particle" cTab ≠ [] := by decide +kernel
example : layoutBad classMap false n!"reb_particle" (fieldsOf n!"Particle" pyTab) (fieldsOf n!"reb_particle" cTab) = [] := by
  decide +kernel
/-- the matcher does reject a swapped pair of differently sized members -/
example : layoutBad [] false n!"s" [⟨n!"a", 0, 4, .int true 4⟩, ⟨n!"b", 8, 8, .f64⟩]
    [⟨n!"b", 0, 8, .f64⟩, ⟨n!"a", 8, 4, .int true 4⟩] ≠ [] := by decide +kernel
/-- … and, through the name check, a swapped pair of equally sized members (the F12 pattern) -/
example : badNames [] n!"s" [(⟨n!"a", 0, 4, .int true 4⟩, [⟨n!"b", 0, 4, .int true 4⟩])] ≠ [] := by decide +kernel
example : means n!"REB_SABA_" n!"10,6,4" n!"REB_SABA_10_6_4" = true := by decide +kernel
example : means n!"REB_SABA_" n!"10,4" n!"REB_SABA_10_6_4" = false := by decide +kernel

end RV.C18
