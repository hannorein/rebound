import RV.Proofs.GravityComp
import RV.Proofs.GravityTree
import RV.Proofs.GravityTreeData
import RV.Proofs.GravityEnc
import RV.Proofs.GravityTrace
import RV.Proofs.GravityJacobi
import RV.Proofs.GravityShear
import RV.Proofs.WHIdentity
import RV.Proofs.Changeover
/-
  C02 — every force routine computes the specified pairwise Newtonian sum.

  Statements are about the loop nests in RV/Model/Gravity.lean (the same definitions the
  driver `drv_c02` runs on IEEE doubles against `reb_calculate_acceleration`),
  instantiated at an arbitrary field `K` (exact arithmetic).  Particle sets are
  `mkPs N m x` — the array of `N` bodies with masses `m i` and positions `x i`; every
  array is of this form (`c02_every_array`).  The scalar kernel (`G/r³` as a function of
  `r² + ε²`, times the routine's weight) is an arbitrary function: nothing about `sqrt`
  is used.  Quantification: every N, N_active ≤ N, testparticle_type, gravity_ignore_terms
  ∈ {0,1,2}, ghost-box counts, masses (zero allowed), positions.
-/
set_option linter.unnecessarySeqFocus false
namespace RV.Gravity
open RV
variable {K : Type} [Field K]

/-- every particle array is `mkPs` of its size and accessor functions: the theorems below
    quantify over all arrays -/
theorem c02_every_array (ps : Array (Body K)) :
    ∃ (m : Nat → K) (x : Nat → V3 K), ps = mkPs ps.size m x :=
  ⟨_, _, mkPs_surj ps⟩

/-- the declarative pair term: `force … gb k j = -(pref(|d|²+ε²) · m_j) · d`, `d = gb + x_k - x_j` -/
theorem c02_force_def (pref : K → Nat → Nat → K) (soft2 : K) (m : Nat → K) (x : Nat → V3 K)
    (gb : V3 K) (k j : Nat) :
    force pref soft2 m x gb k j
      = (-(pref (((gb + x k) - x j).x * ((gb + x k) - x j).x + ((gb + x k) - x j).y * ((gb + x k) - x j).y
            + ((gb + x k) - x j).z * ((gb + x k) - x j).z + soft2) k j) * m j) • ((gb + x k) - x j) := rfl

/-! ### BASIC -/

/-- BASIC (gravity.c:139-247), with the ghost-box triple loop of boundary.c: the acceleration
    of every particle `k` is the sum over ghost boxes and over the *declarative* source set
    `Src` (active `j ≠ k`; test particles `j` as well when `testparticle_type = 1` and `k` is
    active; minus the pairs named by `gravity_ignore_terms`) of the softened pair term.
    An off-by-one in `starti`, `startj`, `MAX(_N_active,starti)` or an inner bound makes
    `src_iff` (and hence this theorem) fail. -/
theorem c02_basic_sources (kern : K → K) (cfg : Cfg K) (shifted : Bool) (bs : V3 K)
    (nx ny nz N : Nat) (m : Nat → K) (x : Nat → V3 K) (hNa : cfg.nActive ≤ N)
    (hig : cfg.ignore ≤ 2) (k : Nat) (hk : k < N) :
    (accBasic (fun s _ _ => kern s) cfg (ghostList shifted bs nx ny nz) (mkPs N m x))[k]?
      = some (((ghostList shifted bs nx ny nz).map fun gb => ∑ j ∈ Finset.range N,
          if Src cfg.nActive cfg.tpType cfg.ignore k j
          then force (fun s _ _ => kern s) (cfg.soft * cfg.soft) m x gb k j else 0).sum) :=
  accBasic_declarative _ (fun _ _ _ => rfl) cfg _ (ghostList_symm shifted bs nx ny nz) m x hNa hig hk

/-- BASIC with the ghost boxes of REB_BOUNDARY_SHEAR (boundary.c:161-184: column `i` is displaced
    in y by `vy·t`, `vy = -1.5·i·OMEGA·Lx`, wrapped by three different `fmod` formulas for `i==0`,
    `i>0`, `i<0`): the same declarative sum over the sheared ghost list.  Needs only that C `fmod`
    is odd in the dividend and `fmod(0,b)=0`; a wrap formula that treats `+i` and `-i` columns
    differently breaks `ghostListShear_symm`. -/
theorem c02_basic_sources_shear (kern : K → K) (cfg : Cfg K) (fmod : K → K → K)
    (hodd : ∀ a b, fmod (-a) b = -fmod a b) (h0 : ∀ b, fmod 0 b = 0) (bs : V3 K) (omega t : K)
    (nx ny nz N : Nat) (m : Nat → K) (x : Nat → V3 K) (hNa : cfg.nActive ≤ N)
    (hig : cfg.ignore ≤ 2) (k : Nat) (hk : k < N) :
    (accBasic (fun s _ _ => kern s) cfg (ghostListShear fmod bs omega t nx ny nz) (mkPs N m x))[k]?
      = some (((ghostListShear fmod bs omega t nx ny nz).map fun gb => ∑ j ∈ Finset.range N,
          if Src cfg.nActive cfg.tpType cfg.ignore k j
          then force (fun s _ _ => kern s) (cfg.soft * cfg.soft) m x gb k j else 0).sum) :=
  accBasic_declarative _ (fun _ _ _ => rfl) cfg _ (ghostListShear_symm fmod hodd h0 bs omega t nx ny nz) m x hNa hig hk

/-- without ghost boxes the ghost list is the single zero shift -/
theorem c02_no_ghosts (shifted : Bool) (bs : V3 K) : ghostList shifted bs 0 0 0 = [0] := by
  cases shifted <;> simp [ghostList, ghostIdx, ghostbox, ofInt] <;> ext <;> simp

/-- Newton's third law for BASIC: if every particle is active the mass-weighted accelerations
    sum to zero — for every kernel, every ghost list, every `gravity_ignore_terms`. -/
theorem c02_basic_newton3 (pref : K → Nat → Nat → K) (cfg : Cfg K) (ghosts : List (V3 K)) (N : Nat)
    (m : Nat → K) (x : Nat → V3 K) (hall : cfg.nActive = N) (a : Nat → V3 K)
    (ha : ∀ k, k < N → (accBasic pref cfg ghosts (mkPs N m x))[k]? = some (a k)) :
    ∑ k ∈ Finset.range N, m k • a k = 0 :=
  accBasic_annihilated (fun k v => m k • v) (by simp) (by simp [smul_add]) pref cfg ghosts m x hall a ha
    fun gb _ i j hi hj => pairC_balanced pref _ m x gb hi hj

/-- total torque for BASIC: every particle active and no ghost shift ⇒ `Σ m_k x_k × a_k = 0` -/
theorem c02_basic_torque (pref : K → Nat → Nat → K) (cfg : Cfg K) (N : Nat)
    (m : Nat → K) (x : Nat → V3 K) (hall : cfg.nActive = N) (a : Nat → V3 K)
    (ha : ∀ k, k < N → (accBasic pref cfg [0] (mkPs N m x))[k]? = some (a k)) :
    ∑ k ∈ Finset.range N, m k • V3.cross (x k) (a k) = 0 :=
  accBasic_annihilated (fun k v => m k • V3.cross (x k) v) (by simp [V3.cross_zero])
    (by simp [V3.cross_add, smul_add]) pref cfg [0] m x hall a ha
    fun gb hgb i j hi hj => by
      obtain rfl : gb = 0 := by simpa using hgb
      exact pairC_torque pref _ m x hi hj

/-! ### COMPENSATED -/

/-- COMPENSATED (gravity.c:248-488): the Kahan-compensated loops (upper-triangle nest with
    `continue` tests, test-particle nest) compute, in exact arithmetic, the sum over the same
    declarative source set as BASIC without ghost boxes. -/
theorem c02_compensated_sources (kern : K → K) (cfg : Cfg K) (N : Nat) (m : Nat → K)
    (x : Nat → V3 K) (hNa : cfg.nActive ≤ N) (hig : cfg.ignore ≤ 2) (k : Nat) (hk : k < N) :
    (accComp kern cfg (mkPs N m x))[k]?
      = some (∑ j ∈ Finset.range N, if Src cfg.nActive cfg.tpType cfg.ignore k j
          then force (fun s _ _ => kern s) (cfg.soft * cfg.soft) m x 0 k j else 0) := by
  rw [accComp_get kern cfg m x hNa hk, compTot_declarative kern cfg m x hNa hig hk]

/-- `accCompensated = accBasic` in exact arithmetic: every compensation term vanishes
    identically and both loop nests reach the same pairs. -/
theorem c02_compensated_eq_basic (kern : K → K) (cfg : Cfg K) (N : Nat) (m : Nat → K)
    (x : Nat → V3 K) (hNa : cfg.nActive ≤ N) (hig : cfg.ignore ≤ 2) (k : Nat) (hk : k < N) :
    (accComp kern cfg (mkPs N m x))[k]?
      = (accBasic (fun s _ _ => kern s) cfg [0] (mkPs N m x))[k]? := by
  rw [c02_compensated_sources kern cfg N m x hNa hig k hk,
    accBasic_declarative _ (fun _ _ _ => rfl) cfg [0] (by intro G; simp) m x hNa hig hk]
  simp

/-! ### JACOBI -/

/-- REB_GRAVITY_JACOBI (gravity.c:81-138), ∀ N, ∀ N_active: whatever the accelerations held
    before, slot `k` ends up with (a) the direct Newtonian sum over the source set
    `Src N_active true 1`: every `j ≠ k` such that `j` or `k` is active (test particles do not
    attract each other, but — in this routine — attract and are attracted by active particles
    whatever testparticle_type says), minus the pair {0,1}; no softening, no ghost boxes — plus
    (b) the Jacobi terms `G·dQ/|Q_j|³·Q_j` of the outer iterations `j > 1`, `j ≥ k`, where
    `Q_j = x_j − R_j/M_j`, `R_j = Σ_{i<j} m_i x_i`, `M_j = Σ_{i<j} m_i` over *all* particles
    (`dQ = −m_j` for `k < j`, `M_j` for `k = j`). -/
theorem c02_jacobi_sources (kern : K → K) (G : K) (sqrt : K → K) (Na N : Nat) (m : Nat → K)
    (x : Nat → V3 K) (init : Acc K) (hinit : init.size = N) (k : Nat) (hk : k < N) :
    (accJacobi kern G sqrt Na (mkPs N m x) init)[k]?
      = some ((∑ j ∈ Finset.range N, if Src Na true 1 k j
                then force (fun s _ _ => kern s) 0 m x 0 k j else 0)
          + (∑ j ∈ Finset.range N, if 1 < j ∧ k ≤ j
                then jacTerm G sqrt m x (Rn m x j) (Mn m j) j k else 0)) := by
  rw [accJacobi_def, mkPs_size]
  obtain ⟨-, -, -, hA⟩ := jacobi_invariant kern G sqrt Na m x init hinit N (le_refl N)
  rw [hA k]
  simp only [hk, if_true]
  congr 1
  unfold cj innerC
  simp only [Finset.sum_add_distrib, Finset.range_eq_Ico]
  rw [add_comm]
  congr 1
  · have split : ∀ (c : Prop) [Decidable c] (p q : Prop) [Decidable p] [Decidable q] (A B : V3 K),
        (if c then ((if p then A else 0) + (if q then B else 0)) else 0)
          = (if c ∧ p then A else 0) + (if c ∧ q then B else 0) := by
      intro c _ p _ q _ A B
      by_cases h : c <;> simp [h]
    simp only [split, Finset.sum_add_distrib]
    rw [collapse2 k, collapse1 k]
    rw [ite_sum_zero]
    rw [sum_Ico_ind _ _ N (le_refl N), sum_Ico_ind _ _ N (show k + 1 ≤ N by omega)]
    rw [← Finset.range_eq_Ico, ← Finset.sum_add_distrib]
    apply Finset.sum_congr rfl
    intro j hj
    have hj' := Finset.mem_range.mp hj
    have hr : (kern (d2 x j k) * m j) • dvec x 0 j k = force (fun s _ _ => kern s) 0 m x 0 k j := by
      have := roleJ_eq_roleI (fun s _ _ => kern s) (fun _ _ _ => rfl) 0 m x 0 k j
      simp only [neg_zero] at this
      show _ = roleI (fun s _ _ => kern s) 0 m x 0 k j
      rw [← this]
      simp [roleJ, s2, d2]
    have hr2 : (-(kern (d2 x k j) * m j)) • dvec x 0 k j = force (fun s _ _ => kern s) 0 m x 0 k j := by
      simp only [force, roleI, s2, d2, add_zero, neg_mul]
    simp only [hr, hr2, ← ite_and]
    apply ite_add_ite_of
    unfold Src
    simp only [true_and]
    -- each role is one conjunction: the inner loop visits `k < j` resp. `j < k` only
    have h1 : ((0 ≤ j ∧ j < N) ∧ ((k ≠ j ∧ (k ≠ 0 ∨ j ≠ 1)) ∧ (k < Na ∨ j < Na)) ∧ 0 ≤ k ∧ k < j + 1) ↔
        k < j ∧ (k ≠ 0 ∨ j ≠ 1) ∧ (k < Na ∨ j < Na) := by omega
    have h2 : ((0 ≤ j ∧ j < k + 1) ∧ (0 ≤ k ∧ k < N) ∧ (j ≠ k ∧ (j ≠ 0 ∨ k ≠ 1)) ∧ (j < Na ∨ k < Na)) ↔
        j < k ∧ (j ≠ 0 ∨ k ≠ 1) ∧ (j < Na ∨ k < Na) := by omega
    rw [h1, h2]
    omega
  · apply Finset.sum_congr rfl
    intro j hj
    by_cases h1 : 1 < j
    · simp only [h1, if_true, true_and, Finset.sum_ite_eq', Finset.mem_Ico]
      by_cases hkj : k ≤ j
      · simp [hkj, show k < j + 1 by omega]
      · simp [hkj, show ¬ k < j + 1 by omega]
    · simp [h1]

/-- the Jacobi terms carry no net momentum: `Σ_k m_k · (Jacobi terms of k) = 0`
    (because `M_j` is exactly the mass of the particles below `j`) -/
theorem c02_jacobi_terms_balanced (G : K) (sqrt : K → K) (N : Nat) (m : Nat → K) (x : Nat → V3 K) :
    ∑ k ∈ Finset.range N, m k • (∑ j ∈ Finset.range N, if 1 < j ∧ k ≤ j
        then jacTerm G sqrt m x (Rn m x j) (Mn m j) j k else 0) = 0 := by
  simp only [Finset.smul_sum]
  rw [Finset.sum_comm]
  apply Finset.sum_eq_zero
  intro j hj
  have hj' := Finset.mem_range.mp hj
  by_cases h1 : 1 < j
  · simp only [h1, true_and, smul_ite, smul_zero]
    rw [← Finset.sum_filter]
    have hf : (Finset.range N).filter (fun k => k ≤ j) = Finset.range (j + 1) := by
      ext k; simp; omega
    rw [hf, Finset.sum_range_succ]
    have e : ∀ k ∈ Finset.range j, m k • jacTerm G sqrt m x (Rn m x j) (Mn m j) j k
        = m k • jacTerm G sqrt m x (Rn m x j) (Mn m j) j 0 := by
      intro k hk
      have hk' := Finset.mem_range.mp hk
      simp only [jacTerm, hk', show 0 < j by omega, if_true]
    rw [Finset.sum_congr rfl e, ← Finset.sum_smul]
    simp only [jacTerm, show 0 < j by omega, if_true, lt_irrefl, if_false]
    rw [show (∑ i ∈ Finset.range j, m i) = Mn m j from rfl, smul_smul, smul_smul, ← add_smul]
    convert zero_smul K _ using 2
    ring
  · simp [h1]

/-! ### the Wisdom–Holman identity: the two ways WHFast computes the same kick -/

open RV.WH in
/-- Jacobi coordinates depend only on the bodies up to the slot (for slots `i ≥ 1`) -/
theorem c02_jacV_congr (N : Nat) (m : Nat → K) (f g : Nat → V3 K) (i : Nat) (h1 : 1 ≤ i)
    (h : ∀ k, k ≤ i → f k = g k) : jacV N m f i = jacV N m g i := by
  have hne : i ≠ 0 := by omega
  simp only [jacV, hne, if_false, wsumV]
  rw [h i (le_refl i)]
  congr 2
  apply Finset.sum_congr rfl
  intro k hk
  have := Finset.mem_range.mp hk
  rw [h k (by omega)]

open RV.WH in
/-- **Wisdom–Holman Jacobi-term identity, for every N.**  Push the Jacobi terms that
    REB_GRAVITY_JACOBI adds to the inertial accelerations (second sum of `c02_jacobi_sources`)
    through `inertial_to_jacobi_acc`: Jacobi body `i ≥ 2` receives exactly `η_i · G/|x'_i|³ · x'_i`
    (`η_i = Σ_{k≤i} m_k`, `x'_i` its Jacobi position) — the term `reb_whfast_interaction_step` adds
    itself when `gravity ≠ JACOBI` — and body 1 receives nothing.  (The centre-of-mass slot receives
    nothing either: `c02_jacobi_terms_balanced`.) -/
theorem c02_wh_identity (G : K) (sqrt : K → K) (N : Nat) (m : Nat → K) (x : Nat → V3 K)
    (heta : ∀ i, i < N → eta m i ≠ 0) (i : Nat) (h1 : 1 ≤ i) (hi : i < N) :
    jacV N m (fun k => ∑ j ∈ Finset.range N, if 1 < j ∧ k ≤ j
        then jacTerm G sqrt m x (Rn m x j) (Mn m j) j k else 0) i
      = if 2 ≤ i then eta m i • uJ G sqrt N m x i else 0 := by
  rw [c02_jacV_congr N m _ (Jt N m (uJ G sqrt N m x)) i h1
    (fun k hk => jacobi_terms_eq_Jt G sqrt N m x k (by omega))]
  exact jac_Jt N m (uJ G sqrt N m x) heta i h1 hi

open RV.WH in
/-- hence the two kicks agree: the Jacobi acceleration of body `i` computed from the JACOBI routine
    equals the one computed from BASIC with `gravity_ignore_terms = 1` (every particle active, no
    softening) plus the interaction step's own Jacobi term — for every N. -/
theorem c02_wh_two_kicks (kern : K → K) (G : K) (sqrt : K → K) (N : Nat) (m : Nat → K)
    (x : Nat → V3 K) (heta : ∀ i, i < N → eta m i ≠ 0) (init : Acc K) (hinit : init.size = N)
    (tp : Bool) (aJ aB : Nat → V3 K)
    (hJ : ∀ k, k < N → (accJacobi kern G sqrt N (mkPs N m x) init)[k]? = some (aJ k))
    (hB : ∀ k, k < N → (accBasic (fun s _ _ => kern s) ⟨N, tp, 1, 0⟩ [0] (mkPs N m x))[k]? = some (aB k))
    (i : Nat) (h1 : 1 ≤ i) (hi : i < N) :
    jacV N m aJ i = jacV N m aB i + (if 2 ≤ i then eta m i • uJ G sqrt N m x i else 0) := by
  have hk : ∀ k, k ≤ i → aJ k = aB k + ∑ j ∈ Finset.range N, if 1 < j ∧ k ≤ j
      then jacTerm G sqrt m x (Rn m x j) (Mn m j) j k else 0 := by
    intro k hk
    have hkN : k < N := by omega
    have e1 := hJ k hkN
    rw [c02_jacobi_sources kern G sqrt N N m x init hinit k hkN] at e1
    have e2 := hB k hkN
    rw [accBasic_declarative _ (fun _ _ _ => rfl) ⟨N, tp, 1, 0⟩ [0] (by intro G; simp) m x (le_refl N) (by simp) hkN] at e2
    rw [← Option.some.inj e1, ← Option.some.inj e2]
    simp only [List.map_cons, List.map_nil, List.sum_cons, List.sum_nil, add_zero, mul_zero]
    congr 1
    apply Finset.sum_congr rfl
    intro j hj
    have hj' := Finset.mem_range.mp hj
    have : Src N true 1 k j ↔ Src N tp 1 k j := by unfold Src; simp [hj', hkN]
    simp only [this]
  rw [c02_jacV_congr N m aJ _ i h1 hk, ← c02_wh_identity G sqrt N m x heta i h1 hi]
  have hne : i ≠ 0 := by omega
  simp only [jacV, hne, if_false, wsumV, smul_add, Finset.sum_add_distrib]
  abel

/-- the interaction step's own coefficient `rj3iM = rji·rj2i·G·η` (`rj2i = 1/|x'|²`, `rji = sqrt(rj2i)`,
    integrator_whfast.c:378-380, softening 0) is `η·G/|x'|³`, given the two laws of `sqrt` it needs -/
theorem c02_wh_interaction_coefficient (G etai s : K) (sqrt : K → K) (hs : sqrt s * sqrt s = s)
    (hinv : sqrt (1 / s) = 1 / sqrt s) (hne : sqrt s ≠ 0) :
    sqrt (1 / s) * (1 / s) * G * etai = etai * (G / (sqrt s * sqrt s * sqrt s)) := by
  have e : (1 : K) / s = 1 / (sqrt s * sqrt s) := by rw [hs]
  rw [hinv, e]
  field_simp

/-! ### MERCURIUS / TRACE -/

/-- MERCURIUS mode 0 is the BASIC loop nest with `gravity_ignore_terms = 2` and no ghost box -/
theorem c02_mercurius_mode0_is_basic (pref : K → Nat → Nat → K) (cfg : Cfg K) (ps : Array (Body K)) :
    accMerc0 pref cfg ps = accBasic pref { cfg with ignore := 2 } [V3.zero] ps := rfl

/-- MERCURIUS mode 0 (gravity.c:523-616): planet-planet and planet-test-particle pairs only
    (no pair contains particle 0), each weighted by the changeover value carried by `pref`
    (any weight symmetric in the pair, e.g. `G·L(r, max(dcrit_i,dcrit_j))/r³`). -/
theorem c02_mercurius_mode0_sources (pref : K → Nat → Nat → K)
    (hsym : ∀ s i j, pref s i j = pref s j i) (cfg : Cfg K) (N : Nat) (m : Nat → K)
    (x : Nat → V3 K) (hNa : cfg.nActive ≤ N) (k : Nat) (hk : k < N) :
    (accMerc0 pref cfg (mkPs N m x))[k]?
      = some (∑ j ∈ Finset.range N, if Src cfg.nActive cfg.tpType 2 k j
          then force pref (cfg.soft * cfg.soft) m x 0 k j else 0) := by
  rw [c02_mercurius_mode0_is_basic]
  have := accBasic_declarative pref hsym { cfg with ignore := 2 } [0] (by intro G; simp) m x
    (by simpa using hNa) (by simp) hk
  simpa using this

/-- the two MERCURIUS prefactors of one pair add up to the full Newtonian prefactor, for
    every changeover function: only `L + (1 - L) = 1` is used. -/
theorem c02_mercurius_pair_split (sqrt : K → K) (gt : K → K → Bool) (L : K → K → K) (G : K)
    (dcrit : Array K) (s : K) (i j : Nat) (hi : i < dcrit.size) (hj : j < dcrit.size) :
    prefMerc0 sqrt gt L G dcrit s i j + prefMerc1 sqrt gt L G dcrit s i j = kernCube sqrt G s := by
  simp only [prefMerc0, prefMerc1, kernCube, Array.getElem?_eq_getElem hi, Array.getElem?_eq_getElem hj,
    sc_hmul, sc_hdiv, sc_hsub, sc_one]
  rw [← add_div]
  congr 1
  ring

/-- the encounter routines — MERCURIUS mode 1 (gravity.c:617-748) and TRACE Kepler mode
    (gravity.c:848-983): for every particle `map[i0]` of the encounter set (`1 ≤ i0 < encounter_N`,
    any injective `encounter_map`), the result is its star term plus the BASIC{ignore=2} sum of the
    *sub-system re-indexed by the map* (`encounter_N` bodies, `encounter_N_active` active), with the
    routine's pair weight (`prefEnc`: `G(1-L)/r³`, or `G/r³` masked by `current_Ks`).  Particles
    outside the encounter set contribute nothing and receive nothing (`c02_encounter_untouched`). -/
theorem c02_encounter_sources (pref : K → Nat → Nat → K) (starPref : K → K) (skip : Nat → Nat → Bool)
    (soft : K) (tp : Bool) (N L : Nat) (m : Nat → K) (x : Nat → V3 K) (mp : Nat → Nat)
    (encN encNa : Nat) (init : Acc K) (hinit : init.size = N) (hL : encN ≤ L) (hNa : encNa ≤ encN)
    (hmp : ∀ i, i < encN → mp i < N)
    (hinj : ∀ i j, i < encN → j < encN → mp i = mp j → i = j)
    (hsym : ∀ s i j, prefEnc pref skip mp s i j = prefEnc pref skip mp s j i)
    (i0 : Nat) (h1 : 1 ≤ i0) (h2 : i0 < encN) :
    (accEnc pref starPref skip soft tp (mkPs N m x) (mkMap L mp) encN encNa init)[mp i0]?
      = some (starV starPref (soft * soft) x (mp i0)
          + ∑ j ∈ Finset.range encN, if Src encNa tp 2 i0 j
              then force (prefEnc pref skip mp) (soft * soft) (fun t => m (mp t)) (fun t => x (mp t)) 0 i0 j
              else 0) := by
  rw [accEnc_get_boxC pref starPref skip soft tp m x mp encN encNa init hinit hL hNa hmp hinj h1 h2,
    boxC_declarative (prefEnc pref skip mp) hsym ⟨encNa, tp, 2, soft⟩ _ _ hNa (by simp) h2]

/-- slots of particles that are not in the encounter set keep their previous content
    (slot 0, the star, is set to zero) -/
theorem c02_encounter_untouched (pref : K → Nat → Nat → K) (starPref : K → K) (skip : Nat → Nat → Bool)
    (soft : K) (tp : Bool) (N L : Nat) (m : Nat → K) (x : Nat → V3 K) (mp : Nat → Nat)
    (encN encNa : Nat) (init : Acc K) (hinit : init.size = N) (hL : encN ≤ L) (hNa : encNa ≤ encN)
    (hmp : ∀ i, i < encN → mp i < N) (k : Nat) (hk : ∀ i, 1 ≤ i → i < encN → mp i ≠ k) :
    (accEnc pref starPref skip soft tp (mkPs N m x) (mkMap L mp) encN encNa init)[k]?
      = (init.setIfInBounds 0 V3.zero)[k]? := by
  rw [accEnc_eq, additive_encLoops pref skip (soft * soft) tp m x mp encN encNa hL hNa hmp,
    starLoop_get starPref (soft * soft) m x mp _ (by simpa using hinit) encN hL hmp k]
  have hex : ¬ ∃ i, 1 ≤ i ∧ i < encN ∧ mp i = k := by
    rintro ⟨i, a, b, c⟩; exact hk i a b c
  simp only [hex, if_false]
  have hz : encC pref skip (soft * soft) tp m x mp encN encNa k = 0 := by
    unfold encC
    have z : ∀ (a b : Nat) (d : Nat → Nat) (both : Bool), (∀ i, a ≤ i → 2 ≤ i) →
        (∑ i ∈ Finset.Ico a b, ∑ j ∈ Finset.Ico 1 (d i),
          if skip (mp i) (mp j) = true then 0 else pairC pref (soft * soft) m x 0 both (mp i) (mp j) k)
        = ∑ i ∈ Finset.Ico a b, ∑ j ∈ Finset.Ico 1 (d i),
          if (i < encN ∧ j < encN) then 0 else
            (if skip (mp i) (mp j) = true then 0 else pairC pref (soft * soft) m x 0 both (mp i) (mp j) k) := by
      intro a b d both ha
      apply Finset.sum_congr rfl; intro i hi
      apply Finset.sum_congr rfl; intro j hj
      have hi' := Finset.mem_Ico.mp hi
      have hj' := Finset.mem_Ico.mp hj
      by_cases hb : i < encN ∧ j < encN
      · have := pairC_unmapped pref (soft * soft) m x mp both (hk i (by have := ha i hi'.1; omega) hb.1) (hk j hj'.1 hb.2)
        simp [hb, this]
      · simp [hb]
    rw [z 2 encNa (fun i => i) true (fun i h => h), z (max encNa 2) encN (fun _ => encNa) tp (fun i h => by omega)]
    have e1 : ∀ i ∈ Finset.Ico 2 encNa, ∀ j ∈ Finset.Ico 1 i, (i < encN ∧ j < encN) := by
      intro i hi j hj
      have := Finset.mem_Ico.mp hi; have := Finset.mem_Ico.mp hj; omega
    have e2 : ∀ i ∈ Finset.Ico (max encNa 2) encN, ∀ j ∈ Finset.Ico 1 encNa, (i < encN ∧ j < encN) := by
      intro i hi j hj
      have := Finset.mem_Ico.mp hi; have := Finset.mem_Ico.mp hj; omega
    rw [Finset.sum_eq_zero (fun i hi => Finset.sum_eq_zero (fun j hj => by simp [e1 i hi j hj])),
      Finset.sum_eq_zero (fun i hi => Finset.sum_eq_zero (fun j hj => by simp [e2 i hi j hj])), add_zero]
  rw [hz]
  cases (init.setIfInBounds 0 V3.zero)[k]? <;> simp

/-- MERCURIUS splitting: when every particle is in the encounter set (identity map,
    `encounter_N = N`, `encounter_N_active = N_active`) the WHFast part (mode 0) and the IAS15
    part (mode 1) add up, for every planet `k ≥ 1`, to the star's Kepler term plus the full
    planet-planet force — the BASIC{ignore=2} sum with the plain kernel `G/r³` — for every
    changeover function `L`, every `dcrit`, every `N`, `N_active`, testparticle_type.
    (`hgt`: `MAX(dcrit[i],dcrit[j])` does not depend on the order of the pair.) -/
theorem c02_mercurius_split_full (sqrt : K → K) (gt : K → K → Bool) (Lf : K → K → K) (G : K)
    (dcrit : Array K) (starPref : K → K) (cfg : Cfg K) (N : Nat) (m : Nat → K) (x : Nat → V3 K)
    (init : Acc K) (hinit : init.size = N) (hd : dcrit.size = N) (hNa : cfg.nActive ≤ N)
    (hgt : ∀ a b, cmax gt a b = cmax gt b a)
    (k : Nat) (hk1 : 1 ≤ k) (hk : k < N) (a0 a1 ab : V3 K)
    (h0 : (accMerc0 (prefMerc0 sqrt gt Lf G dcrit) cfg (mkPs N m x))[k]? = some a0)
    (h1 : (accEnc (prefMerc1 sqrt gt Lf G dcrit) starPref (fun _ _ => false) cfg.soft cfg.tpType
            (mkPs N m x) (mkMap N id) N cfg.nActive init)[k]? = some a1)
    (hb : (accBasic (fun s _ _ => kernCube sqrt G s) { cfg with ignore := 2 } [0] (mkPs N m x))[k]? = some ab) :
    a0 + a1 = starV starPref (cfg.soft * cfg.soft) x k + ab := by
  have sym0 : ∀ s i j, prefMerc0 sqrt gt Lf G dcrit s i j = prefMerc0 sqrt gt Lf G dcrit s j i := by
    intro s i j
    unfold prefMerc0
    cases dcrit[i]? <;> cases dcrit[j]? <;> simp [hgt]
  have sym1 : ∀ s i j, prefMerc1 sqrt gt Lf G dcrit s i j = prefMerc1 sqrt gt Lf G dcrit s j i := by
    intro s i j
    unfold prefMerc1
    cases dcrit[i]? <;> cases dcrit[j]? <;> simp [hgt]
  have e1 : prefEnc (prefMerc1 sqrt gt Lf G dcrit) (fun _ _ => false) id = prefMerc1 sqrt gt Lf G dcrit := by
    funext s i j; simp [prefEnc]
  rw [c02_mercurius_mode0_sources _ sym0 cfg N m x hNa k hk] at h0
  have h1' := c02_encounter_sources (prefMerc1 sqrt gt Lf G dcrit) starPref (fun _ _ => false) cfg.soft cfg.tpType
    N N m x id N cfg.nActive init hinit (le_refl N) hNa (fun i hi => hi) (fun i j _ _ h => h)
    (by rw [e1]; exact sym1) k hk1 hk
  simp only [id, e1] at h1'
  rw [h1'] at h1
  have hb' := accBasic_declarative (fun s _ _ => kernCube sqrt G s) (fun _ _ _ => rfl) { cfg with ignore := 2 } [0]
    (by intro G; simp) m x (by simpa using hNa) (by simp) hk
  rw [hb'] at hb
  have := Option.some.inj h0; subst this
  have := Option.some.inj h1; subst this
  have := Option.some.inj hb; subst this
  simp only [List.map_cons, List.map_nil, List.sum_cons, List.sum_nil, add_zero]
  refine sum_split _ _ _ _ _ _ fun j hj hs => ?_
  have hj' := Finset.mem_range.mp hj
  simp only [force, roleI]
  have hsplit := c02_mercurius_pair_split sqrt gt Lf G dcrit (s2 x (cfg.soft * cfg.soft) 0 k j) k j
    (by omega) (by omega)
  rw [← add_smul, ← hsplit]
  congr 1
  ring

/-- TRACE interaction mode (gravity.c:758-847): the BASIC{ignore=2} source set, minus the pairs
    flagged in `current_Ks` (read at `[min*N+max]`, as the loops do): flagged pairs have weight 0 -/
theorem c02_trace_interaction_sources (pref : K → Nat → Nat → K)
    (hsym : ∀ s i j, pref s i j = pref s j i) (ks : Nat → Nat → Bool) (cfg : Cfg K) (N : Nat)
    (m : Nat → K) (x : Nat → V3 K) (hNa : cfg.nActive ≤ N) (k : Nat) (hk : k < N) :
    (accTrace0 pref ks cfg (mkPs N m x))[k]?
      = some (∑ j ∈ Finset.range N, if Src cfg.nActive cfg.tpType 2 k j
          then force (prefMaskS pref ks) (cfg.soft * cfg.soft) m x 0 k j else 0) := by
  rw [accTrace0_get pref ks cfg m x hNa hk,
    boxC_congr _ _ (prefMask_agree pref ks),
    boxC_declarative _ (prefMaskS_symm pref hsym ks) ⟨cfg.nActive, cfg.tpType, 2, cfg.soft⟩ m x hNa (by simp) hk]

/-- TRACE splitting: with every particle in the encounter set (identity map) the interaction
    mode and the Kepler mode add up, for every planet `k ≥ 1`, to the star's Kepler term plus the
    full planet-planet force (BASIC{ignore=2} with the plain kernel) — for every `current_Ks`. -/
theorem c02_trace_split_full (kern : K → K) (ks : Nat → Nat → Bool) (starPref : K → K)
    (cfg : Cfg K) (N : Nat) (m : Nat → K) (x : Nat → V3 K) (init : Acc K) (hinit : init.size = N)
    (hNa : cfg.nActive ≤ N) (k : Nat) (hk1 : 1 ≤ k) (hk : k < N) (a0 a1 ab : V3 K)
    (h0 : (accTrace0 (fun s _ _ => kern s) ks cfg (mkPs N m x))[k]? = some a0)
    (h1 : (accEnc (fun s _ _ => kern s) starPref (fun mi mj => !(ks mj mi)) cfg.soft cfg.tpType
            (mkPs N m x) (mkMap N id) N cfg.nActive init)[k]? = some a1)
    (hb : (accBasic (fun s _ _ => kern s) { cfg with ignore := 2 } [0] (mkPs N m x))[k]? = some ab) :
    a0 + a1 = starV starPref (cfg.soft * cfg.soft) x k + ab := by
  rw [c02_trace_interaction_sources _ (fun _ _ _ => rfl) ks cfg N m x hNa k hk] at h0
  have h1' := accEnc_get_boxC (fun s _ _ => kern s) starPref (fun mi mj => !(ks mj mi)) cfg.soft cfg.tpType
    m x id N cfg.nActive init hinit (le_refl N) hNa (fun i hi => hi) (fun i j _ _ h => h) hk1 hk
  simp only [id] at h1'
  rw [boxC_congr _ _ (prefEnc_keep_agree (fun s _ _ => kern s) ks),
    boxC_declarative _ (prefKeepS_symm _ (fun _ _ _ => rfl) ks) ⟨cfg.nActive, cfg.tpType, 2, cfg.soft⟩ m x hNa (by simp) hk] at h1'
  rw [h1'] at h1
  have hb' := accBasic_declarative (fun s _ _ => kern s) (fun _ _ _ => rfl) { cfg with ignore := 2 } [0]
    (by intro G; simp) m x (by simpa using hNa) (by simp) hk
  rw [hb'] at hb
  have := Option.some.inj h0; subst this
  have := Option.some.inj h1; subst this
  have := Option.some.inj hb; subst this
  simp only [List.map_cons, List.map_nil, List.sum_cons, List.sum_nil, add_zero]
  refine sum_split _ _ _ _ _ _ fun j hj hs => ?_
  simp only [force, roleI, prefKeepS, prefMaskS]
  by_cases hks : ks (min k j) (max k j) = true <;> simp [hks]

/-- the three polynomial changeover functions of integrator_mercurius.c join the clamps
    continuously: value 0 at `y = 0` and 1 at `y = 1` -/
theorem c02_changeover_endpoints :
    polyMercury (0 : K) = 0 ∧ polyMercury (1 : K) = 1 ∧ polyC4 (0 : K) = 0 ∧ polyC4 (1 : K) = 1 ∧
    polyC5 (0 : K) = 0 ∧ polyC5 (1 : K) = 1 := by
  refine ⟨?_, ?_, ?_, ?_, ?_, ?_⟩ <;>
    simp only [polyMercury, polyC4, polyC5, sc_hmul, sc_hadd, sc_hsub, sc_hneg, sc_ofNat] <;> norm_num

/-- derivative factorisation of the three polynomial changeover functions (over ℝ):
    `L' = 30y²(1−y)²`, `630y⁴(1−y)⁴`, `2772y⁵(1−y)⁵` — so the derivative vanishes at both clamps
    (`y = 0`, `y = 1`: the switch is C¹ there) and is non-negative in between. -/
theorem c02_changeover_derivative (y : ℝ) :
    HasDerivAt (fun y : ℝ => polyMercury y) (30 * y ^ 2 * (1 - y) ^ 2) y ∧
    HasDerivAt (fun y : ℝ => polyC4 y) (630 * y ^ 4 * (1 - y) ^ 4) y ∧
    HasDerivAt (fun y : ℝ => polyC5 y) (2772 * y ^ 5 * (1 - y) ^ 5) y :=
  ⟨hasDeriv_mercury y, hasDeriv_C4 y, hasDeriv_C5 y⟩

/-- the changeover functions are monotone on `[0,1]` (between the clamps `L = 0` and `L = 1`) -/
theorem c02_changeover_monotone :
    MonotoneOn (fun y : ℝ => polyMercury y) (Set.Icc 0 1) ∧
    MonotoneOn (fun y : ℝ => polyC4 y) (Set.Icc 0 1) ∧
    MonotoneOn (fun y : ℝ => polyC5 y) (Set.Icc 0 1) := by
  refine ⟨monotone_of_deriv _ _ hasDeriv_mercury (fun y _ _ => by positivity),
    monotone_of_deriv _ _ hasDeriv_C4 (fun y _ _ => by positivity),
    monotone_of_deriv _ _ hasDeriv_C5 (fun y h0 h1 => ?_)⟩
  have : 0 ≤ 1 - y := by linarith
  exact mul_nonneg (mul_nonneg (by norm_num) (pow_nonneg h0.le 5)) (pow_nonneg this 5)

/-! ### TREE at opening angle 0 -/

/-- the Barnes-Hut walk (gravity.c:1444-1487), when every cell it meets passes the opening test,
    visits every leaf exactly once: it adds the sum of the leaf terms over all leaves below the
    roots, skipping only the particle's own local leaf — for every tree shape. -/
theorem c02_tree_walk_visits_every_leaf (starPref : K → K) (gt : K → K → Bool) (soft2 theta2 : K)
    (pt : Nat) (gb : V3 K) (roots : List (Cell K)) (a : V3 K)
    (h : opensAllL gt theta2 gb roots = true) :
    walkList starPref gt soft2 theta2 pt gb roots a
      = a + ((leavesL roots).map (leafTerm starPref soft2 pt gb)).sum :=
  walkList_open starPref gt soft2 theta2 pt gb roots a h

/-- with `opening_angle2 = 0` over an ordered field every cell of non-zero width is opened -/
theorem c02_tree_theta0_opens {F : Type} [Field F] [LinearOrder F] [IsStrictOrderedRing F]
    (gb : V3 F) (roots : List (Cell F)) (h : widthsNZL roots) :
    opensAllL (fun a b => decide (a > b)) 0 gb roots = true :=
  opensAllL_theta0 gb roots h

/-- TREE case of `reb_calculate_acceleration` in the limit of zero opening angle: if the leaves of
    the tree are exactly the particles (each once; established by C15's tree invariants and checked
    on the real tree by the search), the acceleration of every particle is the direct sum over all
    other particles and all ghost boxes — the BASIC declarative sum with every particle active. -/
theorem c02_tree_theta0_direct (starPref : K → K) (gt : K → K → Bool) (soft theta2 : K)
    (shifted : Bool) (bs : V3 K) (nx ny nz : Nat) (roots : List (Cell K)) (N : Nat)
    (m : Nat → K) (x : Nat → V3 K)
    (hopen : ∀ gb ∈ ghostList shifted bs nx ny nz, ∀ i, i < N → opensAllL gt theta2 (gb + x i) roots = true)
    (hleaves : (leavesL roots).Perm ((List.range N).map fun j => (⟨j, false, m j, x j⟩ : Leaf K)))
    (k : Nat) (hk : k < N) :
    (accTree starPref gt soft theta2 (ghostList shifted bs nx ny nz) roots (mkPs N m x))[k]?
      = (accBasic (fun s _ _ => -starPref s) ⟨N, false, 0, soft⟩ (ghostList shifted bs nx ny nz) (mkPs N m x))[k]? := by
  rw [accTree_direct starPref gt soft theta2 _ roots m x hopen hleaves hk,
    accBasic_declarative _ (fun _ _ _ => rfl) ⟨N, false, 0, soft⟩ _ (ghostList_symm shifted bs nx ny nz) m x
      (le_refl N) (by simp) hk]

/-! ### TREE monopole data follow the particle array -/

/-- one pass of `reb_simulation_update_tree_gravity_data_in_cell` (tree.c:217-283) keeps the leaves
    (particle index, remote flag) and makes the mass of every cell the sum of the masses the
    particle array holds NOW for the particles below it — whatever was cached in the cells before
    (a mass assigned after the particle entered the tree is picked up). -/
theorem c02_tree_cell_mass (gt0 : K → Bool) (ps : Array (Body K)) (c : Cell K) :
    (leaves (refreshCell gt0 ps c)).map (fun l => (l.pt, l.remote)) = (leaves c).map (fun l => (l.pt, l.remote))
    ∧ cellM (refreshCell gt0 ps c) = ((leaves c).map (massNow ps)).sum :=
  ⟨refresh_leaves gt0 ps c, refresh_mass gt0 ps c⟩

/-- … and, where every non-leaf cell passes the `m_tot > 0` test, mass × centre of mass of every cell
    is the sum of current mass × current position of the particles below it. -/
theorem c02_tree_cell_com (gt0 : K → Bool) (hgt : ∀ m, gt0 m = true → m ≠ 0) (ps : Array (Body K))
    (c : Cell K) (h : nodesPos gt0 (refreshCell gt0 ps c)) :
    cellM (refreshCell gt0 ps c) • cellCom (refreshCell gt0 ps c)
      = ((leaves c).map fun l => massNow ps l • posNow ps l).sum :=
  refresh_moment gt0 hgt ps c h

/-! ### non-vacuity: a concrete 4-body configuration over ℚ with one test particle, a
    zero-mass active body, gravity_ignore_terms = 1 and one ghost ring meets every hypothesis;
    the source set is neither empty nor full. -/
example : (⟨3, true, 1, (1 : ℚ) / 10⟩ : Cfg ℚ).nActive ≤ 4 ∧ (⟨3, true, 1, (1 : ℚ) / 10⟩ : Cfg ℚ).ignore ≤ 2
    ∧ Src 3 true 1 2 3 ∧ ¬ Src 3 true 1 0 1 ∧ ¬ Src 3 false 1 2 3 ∧ Src 3 true 1 3 0 := by
  refine ⟨by decide, by decide, ?_, ?_, ?_, ?_⟩ <;> unfold Src <;> decide

end RV.Gravity
