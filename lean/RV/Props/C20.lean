import RV.Proofs.Rotation
import RV.Proofs.RotationAxes
import RV.Proofs.RotationSlerp
import RV.Props.C12Frame
import RV.Proofs.Units
import RV.Proofs.UnitsState
import RV.Gen.C20UnitsFns
import Mathlib.Analysis.Real.Sqrt
import Mathlib.Analysis.SpecialFunctions.Trigonometric.Inverse
/-
  C20 — changes of units and of reference frame are exact symmetries.

  All statements are about the definitions in RV/Model/{Units,Rotation,Frame}.lean — the
  same ones `drv_c20` runs on IEEE doubles against rebound/units.py, src/rotations.c and
  src/tools.c — instantiated in exact arithmetic:
    * units: any field; the unit tables are the ones regenerated from rebound/units.py on
      every run (RV/Gen/C20Units.lean), compared with the committed independent reference;
    * rotations: any field for the algebra; a linearly ordered field with an abstract
      `sqrt`, `sin`, `cos` for the constructors, the hypotheses `SqrtSpec` / `TrigSpec`
      saying exactly what is used of them; section 7 instantiates them at ℝ with
      `Real.sqrt`, `Real.sin`, `Real.cos`;
    * frame shifts: any linearly ordered field, every number of particles.
-/
set_option linter.unusedSectionVars false

namespace RV.C20
open RV RV.Units RV.Rot RV.Frame RV.Gen.C20 RV.Gen.C20Fns RV.UnitsState

/-! ## 1. units: algebra (any field, hence every unit triple) -/
section
variable {K : Type} [Field K]

/-- `convert_G` yields `G_SI · M · T² / L³` -/
theorem c20_convertG_formula (g L T M : K) : convertG g L T M = g * M * T ^ 2 / L ^ 3 := by
  simp only [convertG, p_powi, sc_hmul, sc_hdiv]

/-- the SI system itself has `G = G_SI` -/
theorem c20_convertG_SI (g : K) : convertG g 1 1 1 = g := by
  simp [convertG]

/-- consistency with SI (Newton's law is covariant): the acceleration `G m / r²` computed
    in the old system and converted equals `G' m' / r'²` computed from the converted mass
    and distance with the new system's `G' = convert_G`.  For every pair of unit triples. -/
theorem c20_newton_covariant (g m r L T M L' T' M' : K)
    (hL : L ≠ 0) (hT : T ≠ 0) (hM : M ≠ 0) (hL' : L' ≠ 0) (hT' : T' ≠ 0) (hM' : M' ≠ 0) (hr : r ≠ 0) :
    convertAcc (convertG g L T M * m / (r * r)) L T L' T' =
      convertG g L' T' M' * convertMass m M M' / (convertLength r L L' * convertLength r L L') := by
  simp only [convertAcc, convertG, convertMass, convertLength, p_powi, sc_hmul, sc_hdiv]
  field_simp

/-- conversion of particle data is transitive: a → b → c equals a → c -/
theorem c20_convert_transitive (p : PData K) (aL aT aM bL bT bM cL cT cM : K)
    (hL : bL ≠ 0) (hT : bT ≠ 0) (hM : bM ≠ 0) :
    convertParticle (convertParticle p aL aT aM bL bT bM) bL bT bM cL cT cM =
      convertParticle p aL aT aM cL cT cM :=
  convertParticle_trans p aL aT aM bL bT bM cL cT cM hL hT hM

/-- conversion of particle data is reversible: a → b → a is the identity -/
theorem c20_convert_reversible (p : PData K) (aL aT aM bL bT bM : K)
    (hL : bL ≠ 0) (hT : bT ≠ 0) (hM : bM ≠ 0) (hL' : aL ≠ 0) (hT' : aT ≠ 0) (hM' : aM ≠ 0) :
    convertParticle (convertParticle p aL aT aM bL bT bM) bL bT bM aL aT aM = p := by
  rw [convertParticle_trans p _ _ _ _ _ _ _ _ _ hL hT hM, convertParticle_same p _ _ _ hL' hT' hM']

/-- the orbital period in seconds, `2π √(a³/(G m)) · T`, does not depend on the unit system
    (stated without the square root: `a³/(G m) · T²` is invariant) -/
theorem c20_period_invariant (g a m L T M L' T' M' : K)
    (hg : g ≠ 0) (hm : m ≠ 0) (ha : a ≠ 0)
    (hL : L ≠ 0) (hT : T ≠ 0) (hM : M ≠ 0) (hL' : L' ≠ 0) (hT' : T' ≠ 0) (hM' : M' ≠ 0) :
    (convertLength a L L') ^ 3 / (convertG g L' T' M' * convertMass m M M') * T' ^ 2 =
      a ^ 3 / (convertG g L T M * m) * T ^ 2 := by
  simp only [convertG, convertMass, convertLength, p_powi, sc_hmul, sc_hdiv]
  field_simp

/-- the phase of an orbit given by a time of pericentre passage does not depend on the unit system: the squared
    mean anomaly `n² (t−T)² = G (M+m)/a³ · (t−T)²` computed from converted mass, semi-major axis and time difference
    with the new system's `G` equals the one computed in the old system; computed **without** `G` (Kepler's third
    law "for G = 1") it changes by the ratio of the two gravitational constants — what a formula that forgets
    `simulation.G` does in any unit system with `G ≠ 1` -/
theorem c20_mean_anomaly_from_T_invariant (g a mt dt L T M L' T' M' : K)
    (hg : g ≠ 0) (ha : a ≠ 0)
    (hL : L ≠ 0) (hT : T ≠ 0) (hM : M ≠ 0) (hL' : L' ≠ 0) (hT' : T' ≠ 0) (hM' : M' ≠ 0) :
    convertG g L' T' M' * convertMass mt M M' / (convertLength a L L') ^ 3 * (dt * T / T') ^ 2 =
      convertG g L T M * mt / a ^ 3 * dt ^ 2 ∧
    convertMass mt M M' / (convertLength a L L') ^ 3 * (dt * T / T') ^ 2 =
      (mt / a ^ 3 * dt ^ 2) * (convertG g L T M / convertG g L' T' M') := by
  constructor <;>
    simp only [convertG, convertMass, convertLength, p_powi, sc_hmul, sc_hdiv] <;> field_simp

/-- `yr2pi = √(au³/GM_sun)` and `msun = GM_sun/G_SI` give `G = 1` exactly with lengths in au
    (`s` is any square root of `au³/GM_sun`) -/
theorem c20_G_one_au_yr2pi_msun (g au gm s : K) (hg : g ≠ 0) (hau : au ≠ 0) (hgm : gm ≠ 0)
    (hs : s * s = au ^ 3 / gm) : convertG g au s (gm / g) = 1 := by
  simp only [convertG, p_powi, sc_hmul, sc_hdiv]
  rw [pow_two, hs]; field_simp
end

/-! ## 2. units: the tables of rebound/units.py (regenerated every run) -/

/-- the translator understood every expression, and the extracted tables name exactly the
    units of the reference (a unit that disappears from the extraction, or a new unit
    without a reference value, fails here) -/
theorem c20_units_extraction_complete :
    parseErrors = 0 ∧
    lengthsF64.length = lengthsCount ∧ timesF64.length = timesCount ∧ massesF64.length = massesCount ∧
    (∀ n ∈ refNames refLengths, n ∈ names lengthsF64) ∧ (∀ n ∈ names lengthsF64, n ∈ refNames refLengths) ∧
    (∀ n ∈ refNames refTimes, n ∈ names timesF64) ∧ (∀ n ∈ names timesF64, n ∈ refNames refTimes) ∧
    (∀ n ∈ refNames refMasses ++ refNames refGM, n ∈ names massesF64) ∧
    (∀ n ∈ names massesF64, n ∈ refNames refMasses ++ refNames refGM) ∧
    (∀ n ∈ names lengthsExact ++ names lengthsSqrt, n ∈ names lengthsF64) ∧
    (∀ n ∈ names lengthsF64, n ∈ names lengthsExact ++ names lengthsSqrt) ∧
    (∀ n ∈ names timesExact ++ names timesSqrt, n ∈ names timesF64) ∧
    (∀ n ∈ names timesF64, n ∈ names timesExact ++ names timesSqrt) ∧
    (∀ n ∈ names massesExact ++ names massesSqrt, n ∈ names massesF64) ∧
    (∀ n ∈ names massesF64, n ∈ names massesExact ++ names massesSqrt) := by
  decide +kernel

/-- every unit and `G_SI` is positive (so every divisor of the conversion formulas is non-zero) -/
theorem c20_units_positive :
    (∀ e ∈ lengthsF64 ++ timesF64 ++ massesF64, 0 < val e) ∧ 0 < toQ gF64 ∧
    (∀ e ∈ lengthsExact ++ timesExact ++ massesExact, 0 < val e) ∧ 0 < toQ gExact := by
  decide +kernel

/-- unit names are unique across the three tables (`check_units` and `hash_to_unit` identify a
    unit's kind by its name) -/
theorem c20_units_names_unique :
    (names lengthsF64 ++ names timesF64 ++ names massesF64).Nodup := by
  decide +kernel

/-- aliases have identical values -/
theorem c20_units_aliases_equal :
    ∀ g ∈ aliasGroups, ∀ a ∈ g, ∀ b ∈ g,
      (lookup (lengthsF64 ++ timesF64 ++ massesF64) a).isSome ∧
      lookup (lengthsF64 ++ timesF64 ++ massesF64) a = lookup (lengthsF64 ++ timesF64 ++ massesF64) b := by
  decide +kernel

/-- every entry agrees with the independent reference within the reference's tolerance:
    lengths, times, kg/g directly; the masses defined as GM/G_SI through `mass · G_SI = GM`;
    `G_SI` against CODATA -/
theorem c20_units_within_reference :
    AllWithin lengthsF64 1 refLengths ∧ AllWithin timesF64 1 refTimes ∧
    AllWithin (massesF64.filter (fun e => e.1 ∈ refNames refMasses)) 1 refMasses ∧
    AllWithin (massesF64.filter (fun e => e.1 ∉ refNames refMasses)) (toQ gF64) refGM ∧
    Within (toQ gF64) (toQ refG.1) (toQ refG.2) := by
  decide +kernel

/-- the doubles the module holds are the correctly evaluated expression texts: within 2⁻⁵⁰
    relative of the exact rational value of the text; for entries written `math.sqrt(r)` the
    square of the double is within 2⁻⁵⁰ of `r` -/
theorem c20_units_f64_matches_text :
    (∀ e ∈ lengthsExact, ∃ f ∈ lengthsF64, f.1 = e.1 ∧ Within (val f) (val e) ulp4) ∧
    (∀ e ∈ timesExact, ∃ f ∈ timesF64, f.1 = e.1 ∧ Within (val f) (val e) ulp4) ∧
    (∀ e ∈ massesExact, ∃ f ∈ massesF64, f.1 = e.1 ∧ Within (val f) (val e) ulp4) ∧
    (∀ e ∈ lengthsSqrt ++ timesSqrt ++ massesSqrt,
        ∃ f ∈ lengthsF64 ++ timesF64 ++ massesF64, f.1 = e.1 ∧ Within (val f * val f) (val e) ulp4) ∧
    Within (toQ gF64) (toQ gExact) ulp4 := by
  decide +kernel

/-- what the literals give for the advertised `G = 1` systems.
    (au, yr2pi, msun): exactly 1 from the texts (`G_SI · msun · yr2pi² = au³` as rationals, yr2pi²
    being the radicand), and within 10⁻¹⁴ of 1 from the doubles;
    (au, day, massist): within 10⁻¹² of 1; the Sun is 2.959122e-4 massist -/
theorem c20_units_G_one :
    (∃ au ∈ lookup lengthsExact "au", ∃ ms ∈ lookup massesExact "msun", ∃ r ∈ lookup timesSqrt "yr2pi",
        toQ gExact * ms * r = au ^ 3) ∧
    (∃ au ∈ lookup lengthsF64 "au", ∃ ms ∈ lookup massesF64 "msun", ∃ y ∈ lookup timesF64 "yr2pi",
        Within (toQ gF64 * ms * y ^ 2 / au ^ 3) 1 (1 / 100000000000000)) ∧
    (∃ au ∈ lookup lengthsF64 "au", ∃ ma ∈ lookup massesF64 "massist", ∃ d ∈ lookup timesF64 "day",
        Within (toQ gF64 * ma * d ^ 2 / au ^ 3) 1 (1 / 1000000000000)) ∧
    (∃ ms ∈ lookup massesF64 "msun", ∃ ma ∈ lookup massesF64 "massist",
        Within (ms / ma) (toQ refMsunInMassist.1) (toQ refMsunInMassist.2)) := by
  decide +kernel


/-! ## 2b. the conversion functions of rebound/units.py, translated from their source text on every run
    (RV/Gen/C20UnitsFns.lean), and the unit logic of rebound/simulation.py as a state machine -/

/-- the translator understood all six functions -/
theorem c20_units_functions_extracted :
    fnParseErrors = 0 ∧ fnTranslated = ["convert_mass", "convert_length", "convert_vel", "convert_acc",
      "convert_G", "units_convert_particle"] := by
  decide

section
variable {K : Type} [ScalarP K]
/-- the translated source *is* the model that `drv_c20` runs against the Python functions (for every
    scalar type, in particular IEEE doubles): statement-by-statement translation and hand-written
    model are definitionally equal.  A change of a formula in units.py breaks this theorem. -/
theorem c20_units_functions_are_the_model :
    (∀ x a b : K, genConvertMass x a b = convertMass x a b) ∧
    (∀ x a b : K, genConvertLength x a b = convertLength x a b) ∧
    (∀ x a b c d : K, genConvertVel x a b c d = convertVel x a b c d) ∧
    (∀ x a b c d : K, genConvertAcc x a b c d = convertAcc x a b c d) ∧
    (∀ g l t m : K, genConvertG g l t m = convertG g l t m) ∧
    (∀ (p : PData K) (a b c d e f : K), genConvertParticle p a b c d e f = convertParticle p a b c d e f) :=
  ⟨fun _ _ _ => rfl, fun _ _ _ => rfl, fun _ _ _ _ _ => rfl, fun _ _ _ _ _ => rfl, fun _ _ _ _ => rfl,
   fun _ _ _ _ _ _ _ => rfl⟩
end

section
variable {K : Type} [Field K]

/-- the monomial `L^a T^b M^c` with the dimension exponents `(a, b, c)` as data -/
def mono (e : ℤ × ℤ × ℤ) (rL rT rM : K) : K := rL ^ e.1 * rT ^ e.2.1 * rM ^ e.2.2

/-- dimension exponents (length, time, mass) of the particle fields `units_convert_particle` converts -/
def dimMass : ℤ × ℤ × ℤ := (0, 0, 1)
def dimLength : ℤ × ℤ × ℤ := (1, 0, 0)
def dimVel : ℤ × ℤ × ℤ := (1, -1, 0)
def dimAcc : ℤ × ℤ × ℤ := (1, -2, 0)
/-- G has dimension L³ T⁻² M⁻¹, so its numerical value scales with the *inverse* monomial of the units -/
def dimGinv : ℤ × ℤ × ℤ := (-3, 2, 1)

/-- each translated conversion function multiplies by the monomial of the unit ratios
    `old/new` with the exponents of its physical dimension; `convert_G` is `G_SI · L⁻³ T² M` -/
theorem c20_convert_is_monomial (x g L T M L' T' M' : K)
    (hL : L ≠ 0) (hT : T ≠ 0) (hM : M ≠ 0) (hL' : L' ≠ 0) (hT' : T' ≠ 0) (hM' : M' ≠ 0) :
    genConvertMass x M M' = x * mono dimMass (L / L') (T / T') (M / M') ∧
    genConvertLength x L L' = x * mono dimLength (L / L') (T / T') (M / M') ∧
    genConvertVel x L T L' T' = x * mono dimVel (L / L') (T / T') (M / M') ∧
    genConvertAcc x L T L' T' = x * mono dimAcc (L / L') (T / T') (M / M') ∧
    genConvertG g L T M = g * mono dimGinv L T M := by
  refine ⟨?_, ?_, ?_, ?_, ?_⟩ <;>
    simp only [genConvertMass, genConvertLength, genConvertVel, genConvertAcc, genConvertG, mono, dimMass,
      dimLength, dimVel, dimAcc, dimGinv, p_powi, sc_hmul, sc_hdiv, zpow_neg, zpow_ofNat] <;>
    field_simp

/-- `units_convert_particle` converts every field with the exponents of its dimension:
    m ↦ M;  x, y, z, r ↦ L;  vx, vy, vz ↦ L T⁻¹;  ax, ay, az ↦ L T⁻² -/
theorem c20_convert_particle_dimensions (p : PData K) (L T M L' T' M' : K)
    (hL : L ≠ 0) (hT : T ≠ 0) (hM : M ≠ 0) (hL' : L' ≠ 0) (hT' : T' ≠ 0) (hM' : M' ≠ 0) :
    genConvertParticle p L T M L' T' M' =
      { m := p.m * mono dimMass (L / L') (T / T') (M / M'),
        x := p.x * mono dimLength (L / L') (T / T') (M / M'),
        y := p.y * mono dimLength (L / L') (T / T') (M / M'),
        z := p.z * mono dimLength (L / L') (T / T') (M / M'),
        r := p.r * mono dimLength (L / L') (T / T') (M / M'),
        vx := p.vx * mono dimVel (L / L') (T / T') (M / M'),
        vy := p.vy * mono dimVel (L / L') (T / T') (M / M'),
        vz := p.vz * mono dimVel (L / L') (T / T') (M / M'),
        ax := p.ax * mono dimAcc (L / L') (T / T') (M / M'),
        ay := p.ay * mono dimAcc (L / L') (T / T') (M / M'),
        az := p.az * mono dimAcc (L / L') (T / T') (M / M') } := by
  have H := fun x => c20_convert_is_monomial x 0 L T M L' T' M' hL hT hM hL' hT' hM'
  simp only [genConvertParticle, fun x => (H x).1, fun x => (H x).2.1, fun x => (H x).2.2.1,
    fun x => (H x).2.2.2.1]

/-- unit conversion is linear in the particle data, field by field: a variational particle (the
    derivative of a particle) is converted correctly by the very same `units_convert_particle` —
    `convert (p + t·d) = convert p + t·convert d`.  (`convert_particle_units` loops over all N particles.) -/
theorem c20_convert_linear (p d : PData K) (t L T M L' T' M' : K) :
    let lin : PData K → PData K → PData K := fun a b =>
      ⟨a.m + t * b.m, a.x + t * b.x, a.y + t * b.y, a.z + t * b.z, a.r + t * b.r, a.vx + t * b.vx,
       a.vy + t * b.vy, a.vz + t * b.vz, a.ax + t * b.ax, a.ay + t * b.ay, a.az + t * b.az⟩
    genConvertParticle (lin p d) L T M L' T' M' =
      lin (genConvertParticle p L T M L' T' M') (genConvertParticle d L T M L' T' M') := by
  intro lin
  simp only [lin, genConvertParticle, genConvertMass, genConvertLength, genConvertVel, genConvertAcc, p_powi,
    sc_hmul, sc_hdiv]
  congr 1 <;> ring

/-! ### state machine of `Simulation.units`, `update_units`, `convert_particle_units`, `sim.G = …` -/

/-- setting units on an empty simulation always succeeds, stores the names, makes `G = convert_G`;
    doing it twice changes nothing; on a populated simulation it is refused; rejected unit tuples
    (`check_units` raises) change nothing -/
theorem c20_units_setter (gSI : K) (s : USim K) (u : UnitSys K) :
    (s.parts = [] →
      step gSI s (.setUnits (some u)) = .ok (updateUnits gSI s u) ∧
      step gSI (updateUnits gSI s u) (.setUnits (some u)) = .ok (updateUnits gSI s u) ∧
      (updateUnits gSI s u).units = some u ∧ Follows gSI (updateUnits gSI s u)) ∧
    (s.parts ≠ [] → step gSI s (.setUnits (some u)) = .error .populated) ∧
    step gSI s (.setUnits none) = .error .badUnits ∧
    (run gSI s [.setUnits none]).1 = s := by
  refine ⟨fun h => ⟨step_setUnits_ok gSI s u h, ?_, rfl, follows_updateUnits gSI s u⟩, fun h => ?_, rfl, rfl⟩
  · rw [step_setUnits_ok gSI _ u (by simpa [updateUnits] using h)]
    simp [updateUnits]
  · have : s.parts.length > 0 := List.length_pos_iff.mpr h
    simp [step, this]

/-- `G` follows the units: after a successful `convert_particle_units` the stored `G` is `convert_G` of
    the new units whatever it was before (a manually assigned `sim.G` is overwritten), the names are the
    new ones; without units it is refused -/
theorem c20_units_G_follows (gSI g : K) (s s1 : USim K) (u : UnitSys K) :
    (step gSI s (.convert (some u)) = .ok s1 → s1.units = some u ∧ Follows gSI s1) ∧
    (∀ s2, step gSI s (.setG g) = .ok s2 → step gSI s2 (.convert (some u)) = .ok s1 →
        s1.G = convertG gSI u.L u.T u.M) ∧
    (s.units = none → step gSI s (.convert (some u)) = .error .unitsNotSet) := by
  refine ⟨fun h => ?_, fun s2 h2 h => ?_, fun h => by simp [step, h]⟩
  · cases hu : s.units with
    | none => simp [step, hu] at h
    | some cur =>
      rw [step_convert_ok gSI s cur u hu] at h
      cases h
      exact ⟨rfl, follows_updateUnits gSI _ u⟩
  · simp only [step, Except.ok.injEq] at h2
    subst h2
    cases hu : s.units with
    | none => simp [step, hu] at h
    | some cur =>
      rw [step_convert_ok gSI _ cur u (by simpa using hu)] at h
      cases h; rfl

/-- converting A → B → A returns every particle, the units and `G = convert_G(A)`; converting to the
    units already in use changes nothing; A → B → C equals A → C (all unit values non-zero) -/
theorem c20_units_convert_roundtrip (gSI : K) (s : USim K) (a b c : UnitSys K) (hs : s.units = some a)
    (ha : a.L ≠ 0 ∧ a.T ≠ 0 ∧ a.M ≠ 0) (hb : b.L ≠ 0 ∧ b.T ≠ 0 ∧ b.M ≠ 0) :
    (∃ s1 s2, step gSI s (.convert (some b)) = .ok s1 ∧ step gSI s1 (.convert (some a)) = .ok s2 ∧
        s2.parts = s.parts ∧ s2.units = some a ∧ s2.G = convertG gSI a.L a.T a.M) ∧
    (∃ s1, step gSI s (.convert (some a)) = .ok s1 ∧ s1.parts = s.parts) ∧
    (∃ s1 s2 s3, step gSI s (.convert (some b)) = .ok s1 ∧ step gSI s1 (.convert (some c)) = .ok s2 ∧
        step gSI s (.convert (some c)) = .ok s3 ∧ s2.parts = s3.parts ∧ s2.units = s3.units ∧ s2.G = s3.G) := by
  refine ⟨⟨_, _, step_convert_ok gSI s a b hs, step_convert_ok gSI _ b a rfl, ?_, rfl, rfl⟩,
    ⟨_, step_convert_ok gSI s a a hs, ?_⟩,
    ⟨_, _, _, step_convert_ok gSI s a b hs, step_convert_ok gSI _ b c rfl, step_convert_ok gSI s a c hs, ?_, rfl, rfl⟩⟩
  · simp only [updateUnits, List.map_map, Function.comp_def]
    exact List.map_id'' (fun p => c20_convert_reversible p _ _ _ _ _ _ hb.1 hb.2.1 hb.2.2 ha.1 ha.2.1 ha.2.2) _
  · simp only [updateUnits]
    exact List.map_id'' (fun p => convertParticle_same p _ _ _ ha.1 ha.2.1 ha.2.2) _
  · simp only [updateUnits, List.map_map, Function.comp_def]
    apply List.map_congr_left; intro p _
    exact convertParticle_trans p _ _ _ _ _ _ _ _ _ hb.1 hb.2.1 hb.2.2

end

/-! ## 3. quaternion algebra (any field) -/
section
variable {K : Type} [Field K]

/-- exact dot product of two rotated vectors for **any** quaternion `q`, `u = imag q`:
    `R v · R w = v · w + 4 (|q|² − 1) (u × v) · (u × w)` -/
theorem c20_rotate_dot_general (v w : V3 K) (q : Quat K) :
    dot (rotate v q) (rotate w q) =
      dot v w + 4 * (qlen2 q - 1) * dot (cross (imag q) v) (cross (imag q) w) :=
  rotate_dot_general v w q

/-- a unit quaternion preserves dot products — hence lengths, angles, relative geometry -/
theorem c20_rotate_preserves_dot (v w : V3 K) (q : Quat K) (h : qlen2 q = 1) :
    dot (rotate v q) (rotate w q) = dot v w :=
  dot_rotate v w q h

/-- lengths and pairwise distances (hence kinetic and potential energy) are preserved -/
theorem c20_rotate_preserves_length_distance (v w : V3 K) (q : Quat K) (h : qlen2 q = 1) :
    len2 (rotate v q) = len2 v ∧
    len2 (V3.sub (rotate v q) (rotate w q)) = len2 (V3.sub v w) := by
  refine ⟨c20_rotate_preserves_dot v v q h, ?_⟩
  rw [← rotate_sub]; exact c20_rotate_preserves_dot _ _ q h

/-- rotations are linear -/
theorem c20_rotate_linear (v w : V3 K) (s : K) (q : Quat K) :
    rotate (vadd v w) q = vadd (rotate v q) (rotate w q) ∧ rotate (vmul v s) q = vmul (rotate v q) s :=
  ⟨rotate_add q v w, rotate_smul q v s⟩

/-- a unit quaternion commutes with the cross product (orientation preserved): angular
    momentum `m x × v` rotates as a vector, so its magnitude is preserved -/
theorem c20_rotate_cross (v w : V3 K) (q : Quat K) (h : qlen2 q = 1) :
    rotate (cross v w) q = cross (rotate v q) (rotate w q) ∧
    len2 (cross (rotate v q) (rotate w q)) = len2 (cross v w) := by
  refine ⟨rotate_cross q v w h, ?_⟩
  rw [← rotate_cross q v w h]; exact c20_rotate_preserves_dot _ _ q h

/-- composition: `rotate (p*q) v = rotate p (rotate q v)` -/
theorem c20_rotate_compose (p q : Quat K) (v : V3 K) (hp : qlen2 p = 1) (hq : qlen2 q = 1) :
    rotate v (qmul p q) = rotate (rotate v q) p := rotate_mul p q v hp hq

/-- the norm is multiplicative (products of unit quaternions are unit) -/
theorem c20_norm_multiplicative (p q : Quat K) : qlen2 (qmul p q) = qlen2 p * qlen2 q :=
  qlen2_mul p q

/-- `q * inverse q = inverse q * q = 1` for every non-zero quaternion; on unit quaternions the
    inverse is the conjugate -/
theorem c20_mul_inverse (q : Quat K) (h : qlen2 q ≠ 0) :
    qmul q (inverse q) = qid ∧ qmul (inverse q) q = qid ∧ (qlen2 q = 1 → inverse q = conj q) :=
  ⟨qmul_inverse q h, inverse_qmul q h, inverse_unit q⟩

/-- the identity rotates nothing; the inverse undoes the rotation -/
theorem c20_rotate_inverse (q : Quat K) (v : V3 K) (h : qlen2 q = 1) :
    rotate v (qid : Quat K) = v ∧ rotate (rotate v q) (inverse q) = v :=
  ⟨rotate_id v, rotate_inverse q v h⟩

/-- variational particles under `reb_simulation_irotate`: the rotation is linear, so the derivative of
    the rotated coordinates along a variation `d` is the rotated variation — `rotate (x + t d) = rotate x +
    t · rotate d` for every `t` (ε-part: `rotate d`), at first and (same linear map) second order.  The
    model rotates the whole particle array: real and variational particles alike, and nothing else. -/
theorem c20_rotate_variations (q : Quat K) (x d : V3 K) (t : K) (real var : List (V3 K × V3 K)) :
    rotate (vadd x (vmul d t)) q = vadd (rotate x q) (vmul (rotate d q) t) ∧
    rotateSim (real ++ var) q = rotateSim real q ++ rotateSim var q ∧
    (rotateSim (real ++ var) q).length = real.length + var.length ∧
    (∀ p ∈ var, (rotate p.1 q, rotate p.2 q) ∈ rotateSim (real ++ var) q) := by
  refine ⟨by rw [rotate_add, rotate_smul], by simp [rotateSim], by simp [rotateSim], ?_⟩
  intro p hp
  simp only [rotateSim, List.map_append, List.mem_append, List.mem_map, rotatePV]
  exact Or.inr ⟨p, hp, rfl⟩

/-- specific angular momentum `h = x × v` of a relative orbit -/
def hvec (x v : V3 K) : V3 K := cross x v
/-- Laplace–Runge–Lenz / eccentricity vector times μ: `v × h − μ x / r`, with `rinv = 1/|x|` -/
def lrl (mu rinv : K) (x v : V3 K) : V3 K := vadd (cross v (cross x v)) (vmul x (-(mu * rinv)))

/-- orbital elements are those of the rotated orbit: under a unit quaternion the angular momentum
    vector and the Laplace (eccentricity) vector of a two-body orbit rotate as vectors, so `|h|`,
    `e = |lrl|/μ`, the energy terms `|v|²` and `|x|²` (hence `a`), and the inclination measured
    from the rotated z axis (`h · z`) are unchanged -/
theorem c20_rotate_orbit_vectors (q : Quat K) (h : qlen2 q = 1) (x v z : V3 K) (mu rinv : K) :
    hvec (rotate x q) (rotate v q) = rotate (hvec x v) q ∧
    lrl mu rinv (rotate x q) (rotate v q) = rotate (lrl mu rinv x v) q ∧
    len2 (rotate x q) = len2 x ∧ len2 (rotate v q) = len2 v ∧
    len2 (hvec (rotate x q) (rotate v q)) = len2 (hvec x v) ∧
    len2 (lrl mu rinv (rotate x q) (rotate v q)) = len2 (lrl mu rinv x v) ∧
    dot (hvec (rotate x q) (rotate v q)) (rotate z q) = dot (hvec x v) z := by
  have hh : hvec (rotate x q) (rotate v q) = rotate (hvec x v) q := (rotate_cross q x v h).symm
  have hl : lrl mu rinv (rotate x q) (rotate v q) = rotate (lrl mu rinv x v) q := by
    simp only [lrl, rotate_add, rotate_smul, rotate_cross q _ _ h]
  refine ⟨hh, hl, c20_rotate_preserves_dot _ _ q h, c20_rotate_preserves_dot _ _ q h, ?_, ?_, ?_⟩
  · rw [hh]; exact c20_rotate_preserves_dot _ _ q h
  · rw [hl]; exact c20_rotate_preserves_dot _ _ q h
  · rw [hh]; exact c20_rotate_preserves_dot _ _ q h

/-- total angular momentum `Σ m (x × v)` of a particle list -/
def angMom : List K → List (V3 K × V3 K) → V3 K
  | m :: ms, p :: ps => vadd (vmul (cross p.1 p.2) m) (angMom ms ps)
  | _, _ => ⟨0, 0, 0⟩

/-- twice the kinetic energy `Σ m |v|²` -/
def kin2 : List K → List (V3 K × V3 K) → K
  | m :: ms, p :: ps => m * len2 p.2 + kin2 ms ps
  | _, _ => 0

/-- `reb_simulation_irotate` with a unit quaternion, every N: the kinetic energy is unchanged,
    the total angular momentum vector is rotated (so `|L|` is unchanged); pairwise
    distances — and with them the potential energy — by `c20_rotate_preserves_length_distance` -/
theorem c20_rotate_simulation (ms : List K) (ps : List (V3 K × V3 K)) (q : Quat K) (h : qlen2 q = 1) :
    kin2 ms (rotateSim ps q) = kin2 ms ps ∧
    angMom ms (rotateSim ps q) = rotate (angMom ms ps) q ∧
    len2 (angMom ms (rotateSim ps q)) = len2 (angMom ms ps) := by
  have hcons : ∀ (p : V3 K × V3 K) (ps : List (V3 K × V3 K)),
      rotateSim (p :: ps) q = (rotate p.1 q, rotate p.2 q) :: rotateSim ps q := fun _ _ => rfl
  have hnil : rotateSim ([] : List (V3 K × V3 K)) q = [] := rfl
  have hz : rotate (⟨0, 0, 0⟩ : V3 K) q = ⟨0, 0, 0⟩ := by
    ext <;> simp [rotate, cross, vadd, vmul, imag]
  have hK : ∀ (ms : List K) (ps : List (V3 K × V3 K)), kin2 ms (rotateSim ps q) = kin2 ms ps := by
    intro ms ps
    induction ms generalizing ps with
    | nil => cases ps <;> simp [kin2]
    | cons m ms ih =>
      cases ps with
      | nil => simp [kin2, hnil]
      | cons p ps =>
        rw [hcons]
        simp only [kin2, ih ps]
        rw [show len2 (rotate p.2 q) = len2 p.2 from c20_rotate_preserves_dot _ _ q h]
  have hL : ∀ (ms : List K) (ps : List (V3 K × V3 K)),
      angMom ms (rotateSim ps q) = rotate (angMom ms ps) q := by
    intro ms ps
    induction ms generalizing ps with
    | nil => cases ps <;> simp only [angMom, hz]
    | cons m ms ih =>
      cases ps with
      | nil => simp only [angMom, hnil, hz]
      | cons p ps =>
        rw [hcons]
        simp only [angMom, ih ps, rotate_add, rotate_smul, rotate_cross q _ _ h]
  exact ⟨hK ms ps, hL ms ps, by rw [hL]; exact c20_rotate_preserves_dot _ _ q h⟩

end

/-! ## 4. rotation constructors (linearly ordered field with abstract sqrt / sin / cos) -/
section
variable {K : Type} [Field K] [LinearOrder K] [IsStrictOrderedRing K] [RealFns K]

/-- `reb_vec3d_normalize` and `reb_rotation_normalize` return unit length for non-zero input
    (and leave unit vectors alone) -/
theorem c20_normalize (hs : SqrtSpec K) (v : V3 K) (q : Quat K) :
    (len2 v ≠ 0 → len2 (normalize v) = 1) ∧ (len2 v = 1 → normalize v = v) ∧
    (qlen2 q ≠ 0 → qlen2 (qnormalize q) = 1) := by
  refine ⟨normalize_unit hs v, normalize_of_unit hs v, fun hq => ?_⟩
  have hnn : 0 ≤ qlen2 q :=
    add_nonneg (add_nonneg (add_nonneg (mul_self_nonneg q.r) (mul_self_nonneg q.ix)) (mul_self_nonneg q.iy))
      (mul_self_nonneg q.iz)
  obtain ⟨h0, h1⟩ := hs (qlen2 q) hnn
  have hne := sqrt_ne_zero hs hnn hq
  simp only [qnormalize, r_sqrt, sc_hmul, sc_hdiv, sc_one]
  generalize RealFns.sqrt (qlen2 q) = s at *
  simp only [qlen2, sc_hadd, sc_hmul] at h1 ⊢
  field_simp
  linear_combination -h1

/-- angle-axis: for every non-zero axis the result is a unit quaternion and acts by Rodrigues'
    formula with `C = c² − s²`, `S = 2 s c` (`c`, `s` = cos, sin of half the angle; over ℝ these
    are cos, sin of the angle), in particular it fixes the axis -/
theorem c20_angle_axis (hs : SqrtSpec K) (ht : TrigSpec K) (angle : K) (axis v : V3 K)
    (h : len2 axis ≠ 0) :
    let a := normalize axis
    let c := RealFns.cos (angle / 2)
    let s := RealFns.sin (angle / 2)
    qlen2 (angleAxis angle axis) = 1 ∧
    rotate v (angleAxis angle axis) =
      vadd (vadd (vmul v (c * c - s * s)) (vmul (cross a v) (2 * s * c)))
        (vmul a ((1 - (c * c - s * s)) * dot a v)) ∧
    rotate a (angleAxis angle axis) = a := by
  intro a c s
  have ha : len2 a = 1 := normalize_unit hs axis h
  have htr : s * s + c * c = 1 := ht (angle / 2)
  rw [angleAxis_def]
  obtain ⟨u, m⟩ := rodrigues a v s c ha htr
  refine ⟨u, m, ?_⟩
  rw [(rodrigues a a s c ha htr).2]
  simp only [len2, dot, sc_hadd, sc_hmul] at ha
  ext <;> simp only [vadd, vmul, cross, dot, sc_hadd, sc_hsub, sc_hmul]
  · linear_combination ((1 - (c * c - s * s)) * a.x) * ha
  · linear_combination ((1 - (c * c - s * s)) * a.y) * ha
  · linear_combination ((1 - (c * c - s * s)) * a.z) * ha

/-- orbital constructor: unit, and it is the matrix `P₃ P₂ P₁` of Murray & Dermott (2.119-2.121)
    with `C· = c² − s²`, `S· = 2 s c` of the three half angles -/
theorem c20_orbit (hs : SqrtSpec K) (ht : TrigSpec K) (Om inc om : K) (v : V3 K) :
    let cO := RealFns.cos (Om / 2) * RealFns.cos (Om / 2) - RealFns.sin (Om / 2) * RealFns.sin (Om / 2)
    let sO := 2 * RealFns.sin (Om / 2) * RealFns.cos (Om / 2)
    let ci := RealFns.cos (inc / 2) * RealFns.cos (inc / 2) - RealFns.sin (inc / 2) * RealFns.sin (inc / 2)
    let si := 2 * RealFns.sin (inc / 2) * RealFns.cos (inc / 2)
    let co := RealFns.cos (om / 2) * RealFns.cos (om / 2) - RealFns.sin (om / 2) * RealFns.sin (om / 2)
    let so := 2 * RealFns.sin (om / 2) * RealFns.cos (om / 2)
    qlen2 (orbit Om inc om) = 1 ∧
    rotate v (orbit Om inc om) =
      ⟨(cO * co - sO * so * ci) * v.x + (-cO * so - sO * co * ci) * v.y + (sO * si) * v.z,
       (sO * co + cO * so * ci) * v.x + (-sO * so + cO * co * ci) * v.y + (-cO * si) * v.z,
       (so * si) * v.x + (co * si) * v.y + ci * v.z⟩ := by
  intro cO sO ci si co so
  rw [orbit_def hs]
  have h1 := ht (om / 2)
  have h2 := ht (inc / 2)
  have h3 := ht (Om / 2)
  obtain ⟨u1, _⟩ := rotZ v _ _ h1
  obtain ⟨u2, _⟩ := rotX v _ _ h2
  obtain ⟨u3, _⟩ := rotZ v _ _ h3
  have u21 : qlen2 (qmul (⟨RealFns.sin (inc / 2), 0, 0, RealFns.cos (inc / 2)⟩ : Quat K)
      ⟨0, 0, RealFns.sin (om / 2), RealFns.cos (om / 2)⟩) = 1 := by rw [qlen2_mul, u1, u2, one_mul]
  refine ⟨by rw [qlen2_mul, u21, u3, one_mul], ?_⟩
  rw [rotate_mul _ _ _ u3 u21, rotate_mul _ _ _ u2 u1, (rotZ v _ _ h1).2, (rotX _ _ _ h2).2,
    (rotZ _ _ _ h3).2]
  ext <;> simp only [cO, sO, ci, si, co, so] <;> ring

/-- the contract of `reb_rotation_init_from_to` ("returns a rotation that maps `from` to `to`"):
    for all non-zero vectors the result is a unit quaternion taking the direction of `from`
    to the direction of `to` — **including** parallel and antiparallel vectors -/
def FromToSpec (ft : V3 K → V3 K → Quat K) : Prop :=
  ∀ frm tov : V3 K, len2 frm ≠ 0 → len2 tov ≠ 0 →
    qlen2 (ft frm tov) = 1 ∧ rotate (normalize frm) (ft frm tov) = normalize tov

/-- full statement, true of the constructor with the repair of fixes/F7.diff (axis of the
    antiparallel branch normalised): all four branches -/
theorem c20_from_to_repaired_full (hs : SqrtSpec K) :
    FromToSpec (fromToFixed : V3 K → V3 K → Quat K) := by
  intro frm tov h1 h2
  exact fromToUnit_fixed_spec hs _ _ (normalize_unit hs frm h1) (normalize_unit hs tov h2)

/-- the constructor **as found**: the statement holds whenever the normalised vectors are not
    exactly antiparallel (first, second and fourth branch); the extra hypothesis is finding F7 -/
theorem c20_from_to_partial (hs : SqrtSpec K) (frm tov : V3 K) (h1 : len2 frm ≠ 0) (h2 : len2 tov ≠ 0)
    (hF7 : len2 (vadd (normalize frm) (normalize tov)) ≠ 0) :
    qlen2 (fromTo frm tov) = 1 ∧ rotate (normalize frm) (fromTo frm tov) = normalize tov :=
  fromToUnit_spec hs _ _ _ (normalize_unit hs frm h1) (normalize_unit hs tov h2) hF7

/-- the antiparallel branch **as found**, exactly: with `f` the direction of `from` and `m` its
    component of smallest absolute value,  `|q|² = 1 − m²`  and  `q` sends `f` to `(1 − 2m²) t`.
    So the result is a unit quaternion mapping from ↦ to iff `m = 0` (e.g. axis-aligned vectors) -/
theorem c20_from_to_antiparallel_as_found (hs : SqrtSpec K) (frm tov : V3 K) (h1 : len2 frm ≠ 0)
    (h0 : len2 (vadd (normalize frm) (normalize tov)) = 0) :
    let f := normalize frm
    let m := dot f (smallestAxis f)
    qlen2 (fromTo frm tov) = 1 - m * m ∧
    rotate f (fromTo frm tov) = vmul (normalize tov) (1 - 2 * (m * m)) :=
  fromToUnit_asfound_anti _ _ (normalize_unit hs frm h1) h0

/-- **F7**: the full statement is false of the source as found — `from = (1,1,1)`,
    `to = (−1,−1,−1)` gives a quaternion of squared norm 2/3 -/
theorem c20_from_to_F7_negation (hs : SqrtSpec K) :
    qlen2 (fromTo (⟨1, 1, 1⟩ : V3 K) ⟨-1, -1, -1⟩) = 2 / 3 ∧
    ¬ FromToSpec (fromTo : V3 K → V3 K → Quat K) := by
  have l1 : len2 (⟨1, 1, 1⟩ : V3 K) = 3 := by simp [len2, dot]; norm_num
  have l2 : len2 (⟨-1, -1, -1⟩ : V3 K) = 3 := by simp [len2, dot]; norm_num
  have n1 : len2 (⟨1, 1, 1⟩ : V3 K) ≠ 0 := by rw [l1]; norm_num
  have n2 : len2 (⟨-1, -1, -1⟩ : V3 K) ≠ 0 := by rw [l2]; norm_num
  have hsum : len2 (vadd (normalize (⟨1, 1, 1⟩ : V3 K)) (normalize ⟨-1, -1, -1⟩)) = 0 := by
    rw [normalize_def, normalize_def, l1, l2]
    simp [len2, dot, vadd]
  obtain ⟨a, _⟩ := c20_from_to_antiparallel_as_found hs _ _ n1 hsum
  obtain ⟨s0, s1⟩ := hs 3 (by norm_num)
  have sne : RealFns.sqrt (3 : K) ≠ 0 := sqrt_ne_zero hs (by norm_num) (by norm_num)
  have hm : dot (normalize (⟨1, 1, 1⟩ : V3 K)) (smallestAxis (normalize ⟨1, 1, 1⟩)) *
      dot (normalize (⟨1, 1, 1⟩ : V3 K)) (smallestAxis (normalize ⟨1, 1, 1⟩)) = 1 / 3 := by
    have comp : ∀ e : V3 K, (e = ex ∨ e = ey ∨ e = ez) →
        dot (normalize (⟨1, 1, 1⟩ : V3 K)) e = 1 / RealFns.sqrt 3 := by
      intro e he
      rw [normalize_def, l1]
      rcases he with h | h | h <;> rw [h] <;> simp [dot, ex, ey, ez]
    rw [comp _ (smallestAxis_spec _).1]
    field_simp
    linear_combination -s1
  have key : qlen2 (fromTo (⟨1, 1, 1⟩ : V3 K) ⟨-1, -1, -1⟩) = 2 / 3 := by
    rw [a, hm]; norm_num
  refine ⟨key, fun hspec => ?_⟩
  have := (hspec _ _ n1 n2).1
  rw [key] at this
  norm_num at this

end

section
variable {K : Type} [Field K] [LinearOrder K] [IsStrictOrderedRing K] [RealFns K]

/-- `reb_rotation_init_from_to` with fixes/C20-from-to-nearly-antiparallel.diff (antiparallel branch also when
    `|from × to|² < tau`, the sine of the angle below rounding level): always a unit quaternion; it maps the
    direction of `from` onto that of `to` exactly outside the band and to within `|error|² < 2 tau` inside it
    (with `tau = 1e-30`: 1.4e-15, the rounding error of the inputs).  As found (`tau = 0`, i.e. only an exactly
    vanishing half vector) the exact-arithmetic statement `c20_from_to_repaired_full` holds but the floating-point
    code returns the identity or NaN when the rounding residue is collinear with the vectors (known finding
    C20:from_to-antiparallel-collinear-residue, e.g. (1,1,1) → (−3,−3,−3)). -/
theorem c20_from_to_rounding_band (hs : SqrtSpec K) (tau : K) (htau : 0 < tau) (frm tov : V3 K)
    (h1 : len2 frm ≠ 0) (h2 : len2 tov ≠ 0) :
    qlen2 (fromToFixedTau tau frm tov) = 1 ∧
    len2 (V3.sub (rotate (normalize frm) (fromToFixedTau tau frm tov)) (normalize tov)) < 2 * tau ∧
    ((¬ (len2 (cross (normalize frm) (normalize tov)) < tau) ∨ 0 ≤ dot (normalize frm) (normalize tov)) →
      rotate (normalize frm) (fromToFixedTau tau frm tov) = normalize tov) := by
  have hf := normalize_unit hs frm h1
  have ht := normalize_unit hs tov h2
  have zero_lt : ∀ v : V3 K, len2 (V3.sub v v) < 2 * tau := by
    intro v
    have : len2 (V3.sub v v) = 0 := by simp [len2, dot, V3.sub]
    rw [this]; linarith
  by_cases hb : ¬ (len2 (cross (normalize frm) (normalize tov)) < tau) ∨ 0 ≤ dot (normalize frm) (normalize tov)
  · have e := fromToUnitTau_eq tau antiparallelFixed _ _ hb
    obtain ⟨u, m⟩ := fromToUnit_fixed_spec hs _ _ hf ht
    unfold fromToFixedTau
    rw [e]
    exact ⟨u, by rw [m]; exact zero_lt _, fun _ => m⟩
  · push Not at hb
    obtain ⟨u, _, b⟩ := fromToUnitTau_band hs tau _ _ hf ht hb.2 hb.1
    unfold fromToFixedTau
    exact ⟨u, b, fun h => absurd h (by push Not; exact hb)⟩

/-- the contract of `reb_rotation_init_to_new_axes` / `Rotation.to_new_axes`: a unit quaternion
    that takes the direction of `newz` to the z axis and the direction of the component of `newx`
    perpendicular to `newz` to the x axis ("this function will only take the component of newx
    that is perpendicular to newz") -/
def NewAxesSpec (f : V3 K → V3 K → Quat K) : Prop :=
  ∀ newz newx : V3 K, len2 newz ≠ 0 →
    len2 (vadd newx (vmul (normalize newz) (-(dot (normalize newz) newx)))) ≠ 0 →
    qlen2 (f newz newx) = 1 ∧ rotate (normalize newz) (f newz newx) = ez ∧
    rotate (normalize (vadd newx (vmul (normalize newz) (-(dot (normalize newz) newx))))) (f newz newx) = ex

/-- full statement, true with the repairs of fixes/F7.diff and fixes/C20-to-new-axes-orthogonalise.diff, including `newz`
    antiparallel to z and `newx` ending up antiparallel to x -/
theorem c20_to_new_axes_repaired_full (hs : SqrtSpec K) :
    NewAxesSpec (toNewAxesFixed : V3 K → V3 K → Quat K) := by
  intro newz newx hz hx
  exact toNewAxes_spec hs antiparallelFixed (antiAxes_fixed hs) newz newx hz hx

/-- as found: the statement holds when `newz` is a unit vector or `newx` is perpendicular to it
    (the extra hypothesis is finding F18).  The antiparallel branch of from_to (F7) is harmless
    here: to_new_axes only meets it with axis-aligned vectors -/
theorem c20_to_new_axes_partial (hs : SqrtSpec K) (newz newx : V3 K) (hz : len2 newz ≠ 0)
    (hx : len2 (vadd newx (vmul (normalize newz) (-(dot (normalize newz) newx)))) ≠ 0)
    (hF18 : len2 newz = 1 ∨ dot newz newx = 0) :
    qlen2 (toNewAxes newz newx) = 1 ∧ rotate (normalize newz) (toNewAxes newz newx) = ez ∧
    rotate (normalize (vadd newx (vmul (normalize newz) (-(dot (normalize newz) newx)))))
      (toNewAxes newz newx) = ex := by
  have e : toNewAxes newz newx = toNewAxesWith (ftOf antiparallelAsFound) true newz newx :=
    toNewAxesWith_dot_eq hs _ newz newx hF18
  rw [e]
  exact toNewAxes_spec hs antiparallelAsFound antiAxes_asFound newz newx hz hx

/-- **F18**: the full statement is false of the source as found — whenever the wrongly
    orthogonalised `newx − (newz·newx) ẑ` keeps a component along `newz`, `newz` is not taken to the
    z axis; witness `newz = (0,0,2)`, `newx = (1,0,1)` -/
theorem c20_to_new_axes_F18_negation (hs : SqrtSpec K) :
    (∀ newz newx : V3 K, len2 newz ≠ 0 →
      dot (vadd newx (vmul (normalize newz) (-(dot newz newx)))) (normalize newz) ≠ 0 →
      rotate (normalize newz) (toNewAxes newz newx) ≠ ez) ∧
    ¬ NewAxesSpec (toNewAxes : V3 K → V3 K → Quat K) := by
  have gen : ∀ newz newx : V3 K, len2 newz ≠ 0 →
      dot (vadd newx (vmul (normalize newz) (-(dot newz newx)))) (normalize newz) ≠ 0 →
      rotate (normalize newz) (toNewAxes newz newx) ≠ ez :=
    fun newz newx hz hw => toNewAxes_asfound_misses hs antiparallelAsFound antiAxes_asFound newz newx hz hw
  refine ⟨gen, fun hspec => ?_⟩
  have l : len2 (⟨0, 0, 2⟩ : V3 K) = 4 := by simp [len2, dot]; norm_num
  have hz : len2 (⟨0, 0, 2⟩ : V3 K) ≠ 0 := by rw [l]; norm_num
  have zn : normalize (⟨0, 0, 2⟩ : V3 K) = ⟨0, 0, 1⟩ := by
    rw [normalize_def, l, sqrt_four hs]; ext <;> simp
  have hw : dot (vadd (⟨1, 0, 1⟩ : V3 K) (vmul (normalize ⟨0, 0, 2⟩) (-(dot (⟨0, 0, 2⟩ : V3 K) ⟨1, 0, 1⟩))))
      (normalize ⟨0, 0, 2⟩) ≠ 0 := by
    rw [zn]; simp [dot, vadd, vmul]; norm_num
  have hx : len2 (vadd (⟨1, 0, 1⟩ : V3 K) (vmul (normalize ⟨0, 0, 2⟩)
      (-(dot (normalize (⟨0, 0, 2⟩ : V3 K)) ⟨1, 0, 1⟩)))) ≠ 0 := by
    rw [zn]; simp [len2, dot, vadd, vmul]
  exact gen _ _ hz hw (hspec _ _ hz hx).2.1

end

section
variable {K : Type} [Field K] [LinearOrder K] [IsStrictOrderedRing K] [RealFns K]

/-- `reb_rotation_slerp`, general branch (`|q1·q2| < 1`, `|sin θ| ≥ eps`; θ = acos (q1·q2)): for unit
    `q1`, `q2` the result is a unit quaternion whose 4-d dot products with `q1` and `q2` are
    `cos (t θ)` and `cos ((1−t) θ)` — it moves along the great circle at constant angular speed.
    `AddSpec`: addition formulas and sin 0 = 0; `AcosSpec`: cos (acos c) = c, sin (acos c) ≥ 0. -/
theorem c20_slerp_general (hs : SqrtSpec K) (ht : TrigSpec K) (hadd : AddSpec K) (hac : AcosSpec K)
    (eps halfc : K) (q1 q2 : Quat K) (t : K) (h1 : qlen2 q1 = 1) (h2 : qlen2 q2 = 1)
    (heps : 0 < eps) (hc : |qdot q1 q2| < 1)
    (hgen : eps ≤ |RealFns.sqrt (1 - qdot q1 q2 * qdot q1 q2)|) :
    qlen2 (slerp eps halfc q1 q2 t) = 1 ∧
    qdot q1 (slerp eps halfc q1 q2 t) = RealFns.cos (t * RealFns.acos (qdot q1 q2)) ∧
    qdot q2 (slerp eps halfc q1 q2 t) = RealFns.cos ((1 - t) * RealFns.acos (qdot q1 q2)) := by
  rw [slerp_unfold, if_neg (not_le.mpr hc), if_neg (not_lt.mpr hgen)]
  set c := qdot q1 q2 with hcdef
  set th := RealFns.acos c with hth
  have hsa := sin_acos hs ht hac c (le_of_lt hc)
  have hca := (hac c (le_of_lt hc)).1
  have hs0 : RealFns.sqrt (1 - c * c) ≠ 0 := by
    intro h0; rw [h0, abs_zero] at hgen; linarith
  have hsplit : th = (1 - t) * th + t * th := by ring
  have hsin : RealFns.sqrt (1 - c * c) =
      RealFns.sin ((1 - t) * th) * RealFns.cos (t * th) + RealFns.cos ((1 - t) * th) * RealFns.sin (t * th) := by
    rw [← hsa, ← hadd.1, ← hsplit]
  have hcos : c = RealFns.cos ((1 - t) * th) * RealFns.cos (t * th) - RealFns.sin ((1 - t) * th) * RealFns.sin (t * th) := by
    rw [← hadd.2.1, ← hsplit, hca]
  exact slerp_core q1 q2 _ _ _ _ _ c h1 h2 rfl hs0 (ht _) (ht _) hsin hcos

/-- end points: `slerp q1 q2 0 = q1`, `slerp q1 q2 1 = q2` (general branch) -/
theorem c20_slerp_endpoints (hs : SqrtSpec K) (ht : TrigSpec K) (hadd : AddSpec K) (hac : AcosSpec K)
    (eps halfc : K) (q1 q2 : Quat K) (hc : |qdot q1 q2| < 1)
    (hgen : eps ≤ |RealFns.sqrt (1 - qdot q1 q2 * qdot q1 q2)|) (heps : 0 < eps) :
    slerp eps halfc q1 q2 0 = q1 ∧ slerp eps halfc q1 q2 1 = q2 := by
  have hsa := sin_acos hs ht hac (qdot q1 q2) (le_of_lt hc)
  have hs0 : RealFns.sqrt (1 - qdot q1 q2 * qdot q1 q2) ≠ 0 := by
    intro h0; rw [h0, abs_zero] at hgen; linarith
  constructor
  · rw [slerp_unfold, if_neg (not_le.mpr hc), if_neg (not_lt.mpr hgen)]
    simp only [sub_zero, one_mul, zero_mul, hadd.2.2, hsa, zero_div, mul_zero, add_zero, div_self hs0, mul_one]
  · rw [slerp_unfold, if_neg (not_le.mpr hc), if_neg (not_lt.mpr hgen)]
    simp only [sub_self, one_mul, zero_mul, hadd.2.2, hsa, zero_div, mul_zero, zero_add, div_self hs0, mul_one]

/-- the two short-cut branches, exactly: `|q1·q2| ≥ 1` returns `q1` for every `t`; `|sin θ| < eps`
    (`QUATERNION_EPS = 1e-4`, "enough for visualizations") returns the mean `(q1+q2)/2` for every `t`,
    of squared norm `(1 + q1·q2)/2` — unit only in the limit `q1·q2 → 1`, and close to the zero
    quaternion for nearly antipodal inputs.  So "unit result for unit inputs" holds of slerp only
    with the hypothesis `hgen` of `c20_slerp_general` (documented limitation, not flagged). -/
theorem c20_slerp_shortcuts (eps : K) (q1 q2 : Quat K) (t : K) (h1 : qlen2 q1 = 1) (h2 : qlen2 q2 = 1) :
    (1 ≤ |qdot q1 q2| → slerp eps (1 / 2) q1 q2 t = q1) ∧
    (|qdot q1 q2| < 1 → |RealFns.sqrt (1 - qdot q1 q2 * qdot q1 q2)| < eps →
      qlen2 (slerp eps (1 / 2) q1 q2 t) = (1 + qdot q1 q2) / 2) := by
  constructor
  · intro h; rw [slerp_unfold, if_pos h]
  · intro hc hsm
    rw [slerp_unfold, if_neg (not_le.mpr hc), if_pos hsm]
    simp only [qlen2, qdot, sc_hadd, sc_hmul] at h1 h2 ⊢
    linear_combination (1 / 4) * h1 + (1 / 4) * h2

end

/-! ## 5. frame shifts, scaling, adding and subtracting simulations (every N) -/
section
variable {K : Type} [Field K] [LinearOrder K] [IsStrictOrderedRing K]

/-- `reb_simulation_com` (the running mean of `reb_particle_com_of_pair`, with its `m > 0`
    guard) returns total mass and mass-weighted mean, for non-negative masses;
    `(0, 0)` when all masses vanish -/
theorem c20_com_closed_form (ps : List (K × K)) (hm : ∀ p ∈ ps, 0 ≤ p.1) :
    com ps = (msum ps, if 0 < msum ps then mxsum ps / msum ps else 0) :=
  com_closed ps hm

/-- `move_to_com` is a uniform shift: masses untouched, all pairwise differences unchanged
    (no hypothesis on the masses) -/
theorem c20_move_to_com_differences (ps : List (K × K)) :
    (moveToCom ps).length = ps.length ∧
    (moveToCom ps).map (·.1) = ps.map (·.1) ∧
    ∀ i j (hi : i < ps.length) (hj : j < ps.length),
      ((moveToCom ps)[i]'(by simpa [moveToCom] using hi)).2 - ((moveToCom ps)[j]'(by simpa [moveToCom] using hj)).2
        = ps[i].2 - ps[j].2 := by
  refine ⟨by simp [moveToCom], by simp [moveToCom, List.map_map, Function.comp_def], ?_⟩
  intro i j hi hj
  simp [moveToCom]

/-- afterwards the centre of mass is at the origin (and, the velocity components obeying the
    same recurrence, at rest): the mass-weighted sum vanishes and `com` returns 0 -/
theorem c20_move_to_com_at_origin (ps : List (K × K)) (hm : ∀ p ∈ ps, 0 ≤ p.1) (hM : 0 < msum ps) :
    mxsum (moveToCom ps) = 0 ∧ com (moveToCom ps) = (msum ps, 0) :=
  (c12_move_to_com_slot ps hm hM).2

/-- `move_to_hel`: particle 0 at the origin, masses untouched, every other particle shifted by
    the same amount (pairwise differences unchanged) -/
theorem c20_move_to_hel (m0 x0 : K) (r : List (K × K)) :
    moveToHel ((m0, x0) :: r) = (m0, 0) :: r.map (fun p => (p.1, p.2 - x0)) ∧
    (∀ p ∈ r, ∀ p' ∈ r, (p.2 - x0) - (p'.2 - x0) = p.2 - p'.2) ∧
    (∀ p ∈ r, (p.2 - x0) - 0 = p.2 - x0) ∧
    moveToHel ([] : List (K × K)) = [] := by
  refine ⟨moveToHel_cons m0 x0 r, fun p _ p' _ => by ring, fun p _ => by ring, rfl⟩

/-- `imul`, `iadd`, `isub` are the documented linear maps on all N particles (variational
    particles included, which is how a derivative transforms under a linear map):
    size mismatch is rejected and changes nothing; `(a + b) − b = a`, `(a − b) + b = a`;
    scaling distributes over addition, composes multiplicatively, `1` is neutral -/
theorem c20_imul_iadd_isub (xs ys : List K) (s t : K) :
    (xs.length ≠ ys.length → iadd xs ys = .error .sizeMismatch ∧ isub xs ys = .error .sizeMismatch) ∧
    (xs.length = ys.length →
      iadd xs ys = .ok (List.zipWith (· + ·) xs ys) ∧ isub xs ys = .ok (List.zipWith (· - ·) xs ys) ∧
      isub (List.zipWith (· + ·) xs ys) ys = .ok xs ∧ iadd (List.zipWith (· - ·) xs ys) ys = .ok xs ∧
      imul (List.zipWith (· + ·) xs ys) s = List.zipWith (· + ·) (imul xs s) (imul ys s)) ∧
    imul (imul xs s) t = imul xs (s * t) ∧ imul xs 1 = xs ∧ (imul xs s).length = xs.length := by
  refine ⟨fun h => ⟨by simp [iadd, h], by simp [isub, h]⟩, fun h => ⟨?_, ?_, ?_, ?_, ?_⟩, ?_, ?_, ?_⟩
  · simp [iadd, h]
  · simp [isub, h]
  · have hl : (List.zipWith (· + ·) xs ys).length = ys.length := by simp [h]
    simp only [isub, hl, ne_eq, not_true_eq_false, if_false]
    have := zipWith_cancel (· + ·) (· - ·) (fun x y => add_sub_cancel_right x y) xs ys h
    simp only [sc_hsub] at this ⊢
    rw [this]
  · have hl : (List.zipWith (· - ·) xs ys).length = ys.length := by simp [h]
    simp only [iadd, hl, ne_eq, not_true_eq_false, if_false]
    have := zipWith_cancel (· - ·) (· + ·) (fun x y => sub_add_cancel x y) xs ys h
    simp only [sc_hadd] at this ⊢
    rw [this]
  · simp only [imul, sc_hmul]
    induction xs generalizing ys with
    | nil => simp
    | cons a r ih =>
      cases ys with
      | nil => simp
      | cons b u =>
        simp only [List.length_cons, add_left_inj] at h
        simp only [List.zipWith_cons_cons, List.map_cons, ih u h]
        congr 1; ring
  · simp only [imul, sc_hmul, List.map_map, Function.comp_def]
    apply List.map_congr_left; intro a _; ring
  · simp [imul]
  · simp [imul]

end

section
variable {K : Type} [Field K] [LinearOrder K]

/-- first-order variational particles under `move_to_com` transform as the derivative: the
    shift subtracted from every variational coordinate is the ε-coefficient of the centre
    of mass `Σ m̃ x̃ / Σ m̃` evaluated over the dual numbers on `(m + ε δm, x + ε δx)`, whose real
    part is the centre of mass itself; `Dual.div` is the true quotient of `K[ε]/(ε²)`.
    (`move_to_hel` leaves variational particles untouched: see `c20_move_to_hel_variations_negation` below.) -/
theorem c20_var1_is_derivative (rows : List (Row1 K)) (hM : rowsMass rows ≠ 0) :
    moveToComVar1 (rowsMass rows) rows = rows.map (fun r => r.dx - (comDual rows).eps) ∧
    (comDual rows).re = (rows.map (fun r => r.m * r.x)).sum / rowsMass rows ∧
    (∀ a b : Dual K, b.re ≠ 0 → Dual.mul (Dual.div a b) b = a) := by
  refine ⟨?_, ?_, Dual.div_mul_cancel⟩
  · simp only [moveToComVar1, shift1_eq_dual rows hM, sc_hsub]
  · simp only [comDual, Dual.div, Dual.sum_re, List.map_map, Function.comp_def, Dual.mul, rowsMass]

/-- second-order variational particles under `move_to_com` transform as the mixed second
    derivative: the shift is the εa·εb coefficient of `Σ m̃ x̃ / Σ m̃` over `K[εa,εb]/(εa²,εb²)` on
    `m + εa mᵃ + εb mᵇ + εa εb m″` (likewise x); `D2.div` is the true quotient of that algebra -/
theorem c20_var2_is_second_derivative (rows : List (Row2 K)) (hM : rows2Mass rows ≠ 0) :
    moveToComVar2 (rows2Mass rows) rows = rows.map (fun r => r.ddx - (comD2 rows).cab) ∧
    (comD2 rows).c0 = (rows.map (fun r => r.m * r.x)).sum / rows2Mass rows ∧
    (∀ a b : D2 K, b.c0 ≠ 0 → D2.mul (D2.div a b) b = a) := by
  refine ⟨?_, ?_, D2.div_mul_cancel⟩
  · simp only [moveToComVar2, shift2_eq_d2 rows hM, sc_hsub]
  · simp only [comD2, D2.div, D2.mul, D2.inv, D2.sum_c0, List.map_map, Function.comp_def, rows2Mass]
    ring

end

section
variable {K : Type} [Field K] [LinearOrder K]

/-- what a consistent transformation of variational particles under `move_to_hel` is: run the
    model of `reb_simulation_move_to_hel` itself on dual numbers `(m + ε δm, x + ε δx)`
    (resp. on `K[εa,εb]/(εa²,εb²)` at second order).  Real parts: the shifted coordinates; ε-parts
    (εa·εb-parts): the variation of particle 0 subtracted from all others and set to zero —
    `moveToHelVar true`, which is what fixes/C20-move-to-hel-variations.diff implements. -/
theorem c20_move_to_hel_variations_repaired_full (rows : List (Row1 K)) (rows2 : List (Row2 K)) :
    (moveToHel (rows.map dualOf)).map (fun p => p.2.re) = (moveToHel (rows.map (fun r => (r.m, r.x)))).map (·.2) ∧
    (moveToHel (rows.map dualOf)).map (fun p => p.2.eps) = moveToHelVar true (rows.map (·.dx)) ∧
    (moveToHel (rows2.map d2Of)).map (fun p => p.2.cab) = moveToHelVar true (rows2.map (·.ddx)) :=
  ⟨(moveToHel_dual rows).1, (moveToHel_dual rows).2.1, (moveToHel_d2 rows2).2.1⟩

/-- **as found** (`// Note: Variational particles will not be affected.`): variational particles are
    left alone, which is the derivative only if particle 0 does not vary (hypothesis = the finding
    `C20:move_to_hel-variations`) … -/
theorem c20_move_to_hel_variations_partial (dx0 : K) (r : List K) (hfinding : dx0 = 0) :
    moveToHelVar false (dx0 :: r) = moveToHelVar true (dx0 :: r) := by
  subst hfinding
  simp [moveToHelVar]

/-- … and **not** the derivative otherwise: the full statement "frame shifts transform variational
    particles consistently" is false of `move_to_hel` as found whenever `δx₀ ≠ 0` -/
theorem c20_move_to_hel_variations_negation (dx0 : K) (r : List K) (h : dx0 ≠ 0) :
    moveToHelVar false (dx0 :: r) = dx0 :: r ∧
    moveToHelVar false (dx0 :: r) ≠ moveToHelVar true (dx0 :: r) := by
  refine ⟨moveToHelVar_asfound _, ?_⟩
  intro heq
  have : moveToHelVar false (dx0 :: r) = dx0 :: r := moveToHelVar_asfound _
  rw [this] at heq
  simp only [moveToHelVar, if_true, sc_zero, List.cons.injEq] at heq
  exact h heq.1

end

/-! ## 6. the hypotheses are satisfiable (non-vacuity) -/
/-- a three-body set with a massless particle in front meets the hypotheses of the COM theorems -/
example : (∀ p ∈ [((0:ℚ), (5:ℚ)), (1, 2), (1/1000, -7)], 0 ≤ p.1) ∧
    0 < msum [((0:ℚ), (5:ℚ)), (1, 2), (1/1000, -7)] := by
  refine ⟨?_, by norm_num [msum]⟩
  intro p hp; simp at hp; rcases hp with rfl | rfl | rfl <;> norm_num

/-! ## 7. the real numbers: `SqrtSpec` and `TrigSpec` hold for `Real.sqrt`, `Real.sin`, `Real.cos`,
    so every theorem of section 4 applies to ℝ; with the double-angle formulas the orbital
    constructor is literally Murray & Dermott's matrix -/

noncomputable instance realFns : RealFns ℝ := ⟨Real.sqrt, Real.sin, Real.cos, Real.arccos⟩

theorem c20_real_sqrt_spec : SqrtSpec ℝ := fun x hx => ⟨Real.sqrt_nonneg x, Real.mul_self_sqrt hx⟩

theorem c20_real_trig_spec : TrigSpec ℝ := fun a => by
  show Real.sin a * Real.sin a + Real.cos a * Real.cos a = 1
  have := Real.sin_sq_add_cos_sq a
  nlinarith [this]

theorem c20_real_add_spec : AddSpec ℝ :=
  ⟨fun a b => Real.sin_add a b, fun a b => Real.cos_add a b, Real.sin_zero⟩

theorem c20_real_acos_spec : AcosSpec ℝ := fun c hc => by
  have h := abs_le.mp hc
  exact ⟨Real.cos_arccos h.1 h.2,
    Real.sin_nonneg_of_nonneg_of_le_pi (Real.arccos_nonneg c) (Real.arccos_le_pi c)⟩

/-- the hypotheses of `c20_from_to_partial` / `c20_angle_axis` are satisfiable (x axis to x axis) -/
example : len2 (ex : V3 ℝ) ≠ 0 ∧ len2 (vadd (normalize (ex : V3 ℝ)) (normalize (ex : V3 ℝ))) ≠ 0 := by
  rw [normalize_ex c20_real_sqrt_spec]
  constructor <;> simp [len2, dot, vadd, ex]

/-- over ℝ the repaired from-to constructor meets its contract for all non-zero vectors -/
theorem c20_from_to_repaired_full_real : FromToSpec (fromToFixed : V3 ℝ → V3 ℝ → Quat ℝ) :=
  c20_from_to_repaired_full c20_real_sqrt_spec

/-- over ℝ the constructor as found violates it (F7) -/
theorem c20_from_to_F7_negation_real : ¬ FromToSpec (fromTo : V3 ℝ → V3 ℝ → Quat ℝ) :=
  (c20_from_to_F7_negation c20_real_sqrt_spec).2

/-- over ℝ: to_new_axes repaired meets its contract; as found it does not (F18) -/
theorem c20_to_new_axes_real :
    NewAxesSpec (toNewAxesFixed : V3 ℝ → V3 ℝ → Quat ℝ) ∧ ¬ NewAxesSpec (toNewAxes : V3 ℝ → V3 ℝ → Quat ℝ) :=
  ⟨c20_to_new_axes_repaired_full c20_real_sqrt_spec, (c20_to_new_axes_F18_negation c20_real_sqrt_spec).2⟩

/-- Murray & Dermott (2.119)-(2.121) over ℝ, with the cosines and sines of Ω, i, ω themselves -/
theorem c20_orbit_real (Om inc om : ℝ) (v : V3 ℝ) :
    qlen2 (orbit Om inc om) = 1 ∧
    rotate v (orbit Om inc om) =
      ⟨(Real.cos Om * Real.cos om - Real.sin Om * Real.sin om * Real.cos inc) * v.x
          + (-Real.cos Om * Real.sin om - Real.sin Om * Real.cos om * Real.cos inc) * v.y
          + (Real.sin Om * Real.sin inc) * v.z,
       (Real.sin Om * Real.cos om + Real.cos Om * Real.sin om * Real.cos inc) * v.x
          + (-Real.sin Om * Real.sin om + Real.cos Om * Real.cos om * Real.cos inc) * v.y
          + (-Real.cos Om * Real.sin inc) * v.z,
       (Real.sin om * Real.sin inc) * v.x + (Real.cos om * Real.sin inc) * v.y + Real.cos inc * v.z⟩ := by
  have hc : ∀ a : ℝ, Real.cos a = Real.cos (a / 2) * Real.cos (a / 2) - Real.sin (a / 2) * Real.sin (a / 2) := by
    intro a
    have h := Real.cos_two_mul (a / 2)
    have h2 := Real.sin_sq_add_cos_sq (a / 2)
    rw [show 2 * (a / 2) = a by ring] at h
    nlinarith [h, h2]
  have hsn : ∀ a : ℝ, Real.sin a = 2 * Real.sin (a / 2) * Real.cos (a / 2) := by
    intro a
    have h := Real.sin_two_mul (a / 2)
    rw [show 2 * (a / 2) = a by ring] at h
    exact h
  have := c20_orbit c20_real_sqrt_spec c20_real_trig_spec Om inc om v
  simp only at this
  refine ⟨this.1, ?_⟩
  rw [this.2, hc Om, hc inc, hc om, hsn Om, hsn inc, hsn om]
  rfl

end RV.C20
