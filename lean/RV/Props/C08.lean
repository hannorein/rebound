import RV.Proofs.Integrate
import RV.Proofs.IntegrateStatus
import RV.Proofs.IntegrateSplit
import RV.Proofs.IntegrateAdaptive
import RV.Proofs.IntegrateRestore
import RV.Proofs.IntegratePause
import RV.Proofs.IntegrateIAS15
import RV.Proofs.IntegrateGuard
import RV.Proofs.IntegrateExitCond
import RV.Gen.C08Status
/-
  C08 — integrate() honours its time, step-size and status contract.

  All statements are about the definitions of RV/Model/Integrate.lean — the very functions the
  driver `drv_c08` runs on IEEE doubles against `reb_simulation_integrate` — instantiated at an
  arbitrary linearly ordered field `K` (exact time arithmetic).  `env k` are the exit-condition
  flags at the k-th step boundary; `Flags.Clear` = no condition, at least one particle.
  `dirOf t tmax` is +1 for forward and −1 for backward integration.
-/
namespace RV.Integrate
open RV
variable {K : Type} [Field K] [LinearOrder K] [IsStrictOrderedRing K]

/-- Fixed-step integrator (NONE, LEAPFROG, WHFast, SABA, JANUS, EOS, MERCURIUS, SEI, TRACE: see
    `c08_step_kinds_fixed`), `exact_finish_time = 1`, any `t₀`, any `dt ≠ 0` of either sign, any
    `tmax ≠ t₀` on either side, `n·|dt| < |tmax − t₀| ≤ (n+1)·|dt|` (i.e. `n+1 = ⌈|tmax−t₀|/|dt|⌉`):
    the call returns after exactly `n+1` steps with `t = tmax` exactly, status SUCCESS,
    `dt` restored to `copysign(|dt₀|, tmax − t₀)`, and every step moved time strictly in the
    direction of integration, by at most `|dt₀|`, never past `tmax`. -/
theorem c08_fixed_exact_finish (step : StepFn K) (hfix : IsFixed step) (env : Nat → Flags)
    (henv : ∀ k, (env k).Clear) (s0 : Sim K) (tmax : K) (n : Nat)
    (hst : s0.status ≠ stPAUSED ∧ s0.status ≠ stSCREENSHOT) (hex : s0.exactFinish = 1)
    (hdt : s0.dt ≠ 0) (hne : tmax ≠ s0.t)
    (hlo : (n : K) * |s0.dt| < |tmax - s0.t|) (hhi : |tmax - s0.t| ≤ ((n : K) + 1) * |s0.dt|) :
    ∀ fuel, n + 2 ≤ fuel → ∃ s', integrate step env fuel s0 tmax false = .done s' ∧
      s'.t = tmax ∧ s'.status = stSUCCESS ∧ s'.stepsDone = s0.stepsDone + (n + 1) ∧
      s'.dt = dirOf s0.t tmax * |s0.dt| ∧
      s'.hist.length = s0.hist.length + (n + 1) ∧
      ∀ b ∈ s'.hist, b ∈ s0.hist ∨
        GoodBeat tmax (dirOf s0.t tmax * |s0.dt|) (dirOf s0.t tmax) b := by
  intro fuel hfuel
  have hsg := dirOf_cases s0.t tmax
  have hpos : 0 < |s0.dt| := abs_pos.mpr hdt
  have hdsg := dirOf_mul_mul s0.t tmax |s0.dt|
  have hs := start_ne s0 tmax (env 0) (henv 0) hst hne
  obtain ⟨s', h1, h2, h3, h4, h5, h6, h7⟩ :=
    loop_exact step hfix env henv tmax (dirOf s0.t tmax * |s0.dt|) (dirOf s0.t tmax) hsg
      (by rw [hdsg]; exact hpos) n
      { s0 with dt := dirOf s0.t tmax * |s0.dt|, dtLastDone := 0, status := -1 } 0 rfl hex rfl
      (Or.inl rfl) (by rw [hdsg, dirOf_abs hne]; exact hlo) (by rw [hdsg, dirOf_abs hne]; exact hhi)
      fuel hfuel
  refine ⟨finish s' (dirOf s0.t tmax * |s0.dt|), integrate_of_loop_done step env fuel s0 _ s' tmax _ _ false hs h1,
    ?_⟩
  rw [finish_eq]
  exact ⟨h2, h3, h4, if_pos h5, h6, h7⟩

/-- the same with the step count written as a ceiling (fields with a floor function, e.g. ℚ, ℝ):
    exactly `⌈|tmax − t₀| / |dt|⌉` steps -/
theorem c08_fixed_exact_finish_ceil [FloorRing K] (step : StepFn K) (hfix : IsFixed step)
    (env : Nat → Flags) (henv : ∀ k, (env k).Clear) (s0 : Sim K) (tmax : K)
    (hst : s0.status ≠ stPAUSED ∧ s0.status ≠ stSCREENSHOT) (hex : s0.exactFinish = 1)
    (hdt : s0.dt ≠ 0) (hne : tmax ≠ s0.t) :
    ∀ fuel, ⌈|tmax - s0.t| / |s0.dt|⌉₊ + 1 ≤ fuel →
      ∃ s', integrate step env fuel s0 tmax false = .done s' ∧
        s'.t = tmax ∧ s'.status = stSUCCESS ∧
        s'.stepsDone = s0.stepsDone + ⌈|tmax - s0.t| / |s0.dt|⌉₊ ∧
        s'.dt = dirOf s0.t tmax * |s0.dt| := by
  intro fuel hfuel
  have hpos : 0 < |s0.dt| := abs_pos.mpr hdt
  have hx : 0 < |tmax - s0.t| / |s0.dt| := div_pos (abs_pos.mpr (sub_ne_zero.mpr hne)) hpos
  have hc : 0 < ⌈|tmax - s0.t| / |s0.dt|⌉₊ := Nat.ceil_pos.mpr hx
  obtain ⟨n, hn⟩ : ∃ n, ⌈|tmax - s0.t| / |s0.dt|⌉₊ = n + 1 :=
    ⟨⌈|tmax - s0.t| / |s0.dt|⌉₊ - 1, (Nat.sub_add_cancel hc).symm⟩
  have h1 : (n : K) < |tmax - s0.t| / |s0.dt| := by
    apply Nat.lt_ceil.mp; rw [hn]; exact Nat.lt_succ_self n
  have h2 : |tmax - s0.t| / |s0.dt| ≤ (n : K) + 1 := by
    have := Nat.le_ceil (|tmax - s0.t| / |s0.dt|)
    rw [hn] at this; push_cast at this; exact this
  obtain ⟨s', e1, e2, e3, e4, e5, _⟩ := c08_fixed_exact_finish step hfix env henv s0 tmax n hst hex hdt hne
    ((lt_div_iff₀ hpos).mp h1) ((div_le_iff₀ hpos).mp h2) fuel (by rw [hn] at hfuel; exact hfuel)
  exact ⟨s', e1, e2, e3, by rw [e4, hn], e5⟩

/-- `dt` is restored on EVERY exit path.  Fixed-step integrator, `exact_finish_time = 1`, ARBITRARY
    exit-condition flags at every boundary (user stop, escape, encounter, halting collision, SIGINT,
    error message, no particles — also at the boundary that ends the step cut to `tmax − t`), any
    fuel: whenever the call returns — with SUCCESS or with any exit code, after any number of steps
    — `dt = copysign(|dt₀|, tmax − t₀)`.  (rebound.c:881-884: the restore is unconditional.) -/
theorem c08_fixed_dt_restored_on_every_exit (step : StepFn K) (hfix : IsFixed step) (env : Nat → Flags)
    (s0 : Sim K) (tmax : K) (hst : s0.status ≠ stPAUSED ∧ s0.status ≠ stSCREENSHOT)
    (hex : s0.exactFinish = 1) (hdt : s0.dt ≠ 0) (hne : tmax ≠ s0.t) (fuel : Nat) (s' : Sim K)
    (hret : integrate step env fuel s0 tmax false = .done s') :
    s'.dt = dirOf s0.t tmax * |s0.dt| := by
  have hsg := dirOf_cases s0.t tmax
  have hpos : 0 < |s0.dt| := abs_pos.mpr hdt
  have hdsg := dirOf_mul_mul s0.t tmax |s0.dt|
  have hst' : s0.status ≠ -3 ∧ s0.status ≠ -4 := hst
  -- the state after `start`: dt sign-corrected, dt_last_done = 0, status RUNNING or an exit code of the first heartbeat
  have hstart : ∃ st : Int, (st = -1 ∨ 1 ≤ st) ∧ start s0 tmax (env 0) =
      ({ s0 with dt := dirOf s0.t tmax * |s0.dt|, dtLastDone := 0, status := st }, dirOf s0.t tmax * |s0.dt|) := by
    refine ⟨_, ?_, by rw [start_form s0 tmax (env 0) hst', if_neg hne]⟩
    repeat' apply ite_of (P := fun x : Int => x = -1 ∨ 1 ≤ x)
    all_goals decide
  obtain ⟨st, hstc, hs⟩ := hstart
  have inv : RInv tmax (dirOf s0.t tmax * |s0.dt|) (dirOf s0.t tmax)
      { s0 with dt := dirOf s0.t tmax * |s0.dt|, dtLastDone := 0, status := st } (dirOf s0.t tmax * |s0.dt|) := by
    refine ⟨rfl, hex, ?_⟩
    rcases hstc with h | h
    · right; left; exact ⟨h, rfl, Or.inl rfl, dirOf_mul_pos hne⟩
    · left; exact h
  unfold integrate at hret
  rw [hs] at hret
  simp only at hret
  cases hl : loop step env tmax false fuel 0
      { s0 with dt := dirOf s0.t tmax * |s0.dt|, dtLastDone := 0, status := st } (dirOf s0.t tmax * |s0.dt|) with
  | mk o lf' =>
    rw [hl] at hret
    cases o with
    | done s1 =>
      simp only [Outcome.done.injEq] at hret
      obtain ⟨h1, h2⟩ := loop_restore step hfix env tmax _ _ hsg (by rw [hdsg]; exact hpos) fuel 0 _ _ inv s1 lf' hl
      rw [← hret]
      simp [finish, h2, h1]
    | blocked s1 => simp at hret
    | outOfFuel s1 => simp at hret

/-- `tmax = t` is a no-op for every integrator and either value of exact_finish_time: zero steps,
    `t` and `dt` untouched (`dt` is not even sign-corrected), status SUCCESS; the only members
    written are `dt_last_done := 0` and the synchronize call at the end. -/
theorem c08_noop_when_target_is_now (step : StepFn K) (env : Nat → Flags) (h0 : (env 0).Clear)
    (s0 : Sim K) (hst : s0.status ≠ stPAUSED ∧ s0.status ≠ stSCREENSHOT) :
    ∀ fuel, 1 ≤ fuel → integrate step env fuel s0 s0.t false =
      .done { s0 with status := stSUCCESS, dtLastDone := 0, syncs := s0.syncs + 1 } := by
  exact integrate_noop step env h0 s0 hst

/-- Fixed-step integrator without exact finishing: the call ends at the first step boundary
    `t₀ + n·d` at or past `tmax` (`d = copysign(|dt₀|, tmax − t₀)`), after exactly `n` steps of size
    `d` (`stepSeq` lists them), overshooting by less than `|dt₀|`; `dt` is left at `d`. -/
theorem c08_fixed_no_exact_finish (step : StepFn K) (hfix : IsFixed step) (env : Nat → Flags)
    (henv : ∀ k, (env k).Clear) (s0 : Sim K) (tmax sg d : K) (n : Nat)
    (hst : s0.status ≠ stPAUSED ∧ s0.status ≠ stSCREENSHOT) (hex : s0.exactFinish ≠ 1)
    (hdt : s0.dt ≠ 0) (hne : tmax ≠ s0.t)
    (hsg : sg = dirOf s0.t tmax) (hd : d = sg * |s0.dt|)
    (hfirst : ∀ j : Nat, j < n → (s0.t + j * d) * sg < tmax * sg)
    (hpast : tmax * sg ≤ (s0.t + n * d) * sg) :
    ∀ fuel, n + 1 ≤ fuel → ∃ s', integrate step env fuel s0 tmax false = .done s' ∧
      s'.t = s0.t + n * d ∧ s'.status = stSUCCESS ∧ s'.stepsDone = s0.stepsDone + n ∧ s'.dt = d ∧
      stepSeq s' = seqOf s0.t d n ++ stepSeq s0 ∧
      0 ≤ (s'.t - tmax) * sg ∧ (s'.t - tmax) * sg < |s0.dt| := by
  intro fuel hfuel
  obtain ⟨s', h1, h2, h3, h4, h5, -, h7⟩ := integrate_nonexact step hfix env henv s0 tmax sg d n
    hst hex hdt hne hsg hd hfirst hpast fuel hfuel
  have hdsg : d * sg = |s0.dt| := by rw [hd, hsg]; exact dirOf_mul_mul s0.t tmax |s0.dt|
  refine ⟨s', h1, h2, h3, h4, h5, h7, by rw [h2]; linarith, ?_⟩
  -- at least one step is taken, and the last one started before `tmax`
  obtain ⟨m, rfl⟩ : ∃ m, n = m + 1 := by
    refine ⟨n - 1, (Nat.succ_pred_eq_of_ne_zero ?_).symm⟩
    rintro rfl
    have := dirOf_mul_pos hne
    rw [← hsg] at this
    simp only [Nat.cast_zero, zero_mul, add_zero] at hpast
    linarith
  have := hfirst m (by omega)
  rw [h2]; push_cast; linarith

/-- Adaptive integrator (IAS15, BS; `IsAdaptive`, for requested steps up to `|tmax − t₀|`: proposals of
    at least `δ > 0` — except right after a complete requested step that was itself shorter than `δ` —,
    a step advances by `dt_last_done ≤` the step it was called with and `≥ δ` unless it is the complete
    — possibly shrunk — step, whole-step rejections only among the first `R` calls; for IAS15 this is
    derived from the code of its step-size controller: `c08_ias15_progress`), `exact_finish_time = 1`,
    `|dt₀| ≥ δ`, `|tmax − t₀| ≤ N·δ`: the LAST_STEP → RUNNING fallback cannot go on forever — the call
    returns within `N + R + 1` passes of the loop with status SUCCESS and `t = tmax` or
    `|t − tmax| < tscale tmax` (= `1e-12·|tmax|`, or `1e-12` when that is below `1e-200`); `dt` is
    restored to a full step (`≥ δ` in the direction of integration: `last_full_dt` is only ever
    assigned from `dt_last_done` of a step that was not cut to fit `tmax`), and no step moved time
    against the direction of integration or past `tmax`. -/
theorem c08_adaptive_exact_finish (step : StepFn K) (env : Nat → Flags) (henv : ∀ k, (env k).Clear)
    (s0 : Sim K) (tmax δ : K) (R N : Nat)
    (hst : s0.status ≠ stPAUSED ∧ s0.status ≠ stSCREENSHOT) (hex : s0.exactFinish = 1)
    (hne : tmax ≠ s0.t) (hδ : 0 < δ) (hdt : δ ≤ |s0.dt|)
    (had : IsAdaptive step (dirOf s0.t tmax) δ R |tmax - s0.t|) (hN : |tmax - s0.t| ≤ N * δ) :
    ∀ fuel, N + R + 1 ≤ fuel → ∃ s', integrate step env fuel s0 tmax false = .done s' ∧
      s'.status = stSUCCESS ∧ (s'.t = tmax ∨ |s'.t - tmax| < tscale tmax) ∧
      δ ≤ s'.dt * dirOf s0.t tmax ∧
      ∀ b ∈ s'.hist, b ∈ s0.hist ∨ MonoBeat tmax (dirOf s0.t tmax) b := by
  intro fuel hfuel
  have hsg := dirOf_cases s0.t tmax
  have hdsg := dirOf_mul_mul s0.t tmax |s0.dt|
  have hs := start_ne s0 tmax (env 0) (henv 0) hst hne
  have inv : AInv tmax (dirOf s0.t tmax) δ
      { s0 with dt := dirOf s0.t tmax * |s0.dt|, dtLastDone := 0, status := -1 }
      (dirOf s0.t tmax * |s0.dt|) :=
    ⟨Or.inl rfl, hex, by simpa [hdsg] using lt_of_lt_of_le hδ hdt, Or.inl (by simpa [hdsg] using hdt),
     by simpa using (dirOf_mul_pos hne).le,
     fun _ => by simpa using dirOf_mul_pos hne, Or.inl rfl, by rw [hdsg]; exact hdt⟩
  obtain ⟨s', lf', hl, h0, hw, hlf, hx, hh⟩ :=
    loop_adaptive step env henv tmax (dirOf s0.t tmax) δ R hsg hδ |tmax - s0.t| had (N + R) N 0 _ _ inv
      (by simpa [dirOf_abs hne] using hN) (by simp [dirOf_abs hne]) (by omega) fuel hfuel
  refine ⟨finish s' lf', integrate_of_loop_done step env fuel s0 _ s' tmax _ lf' false hs hl, ?_, ?_, ?_, ?_⟩
  · simp [finish, hx, h0, Status.code]
  · simpa [finish, hx] using hw
  · simpa [finish, hx] using hlf
  · intro b hb
    have : b ∈ s'.hist := by simpa [finish, hx] using hb
    simpa using hh b this

/-! ### IAS15: the progress hypothesis derived from the code of its step-size controller -/

/-- One `reb_simulation_step` of IAS15 (`stepIAS15`: the retry loop `while(!reb_integrator_ias15_step(r))`
    around the controller `ias15Ctl` = integrator_ias15.c:615-646 — `min_dt` clamp with `copysign`,
    rejection below a quarter of the step tried, growth limited to a factor four), `min_dt > 0`, an
    error estimate that asks for a step in the direction of integration (`raw`, arbitrary otherwise),
    called with a step in direction `sg` of size at most `min_dt·4^fuel`: the step is completed within
    `fuel` attempts; time advances by `dt_last_done`, which points in the direction of integration, is
    no longer than the step asked for and — unless it IS the step asked for — at least `min_dt` long;
    the step proposed for the next call points the same way and is at least `min_dt` or exactly four
    times the step just done (the latter only after a requested step shorter than `min_dt/4`). -/
theorem c08_ias15_progress (minDt sg : K) (raw : Nat → Nat → K → K) (fuel : Nat)
    (hsg : sg = 1 ∨ sg = -1) (hm : 0 < minDt) (hf : 1 ≤ fuel)
    (hraw : ∀ k j d, 0 < d * sg → 0 < raw k j d * sg)
    (k : Nat) (t dt dld : K) (hdt : 0 < dt * sg) (hB : dt * sg ≤ minDt * 4 ^ fuel) :
    let o := stepIAS15 minDt raw fuel k t dt dld
    o.t = t + o.dld ∧ 0 < o.dld * sg ∧ o.dld * sg ≤ dt * sg ∧ (o.dld = dt ∨ minDt ≤ o.dld * sg) ∧
    0 < o.dt * sg ∧ (minDt ≤ o.dt * sg ∨ (o.dt * sg = 4 * (o.dld * sg) ∧ o.dld = dt ∧ dt * sg < minDt)) := by
  exact stepIAS15_spec minDt sg raw fuel hsg hm hf hraw k t dt dld hdt hB

/-- IAS15 with `min_dt > 0` and `exact_finish_time = 1`: the call returns — no assumption about the
    dynamics beyond the error estimate pointing in the direction of integration.  `|dt₀| ≥ min_dt`,
    `|tmax − t₀| ≤ N·min_dt` and `≤ min_dt·4^fuel` (retry budget of one step): SUCCESS within `N + 1` loop
    passes, `t = tmax` or inside the 1e-12 window, `dt` left at a full step (`≥ min_dt`), time monotone. -/
theorem c08_ias15_exact_finish (minDt : K) (raw : Nat → Nat → K → K) (fuel : Nat) (env : Nat → Flags)
    (henv : ∀ k, (env k).Clear) (s0 : Sim K) (tmax : K) (N : Nat)
    (hst : s0.status ≠ stPAUSED ∧ s0.status ≠ stSCREENSHOT) (hex : s0.exactFinish = 1)
    (hne : tmax ≠ s0.t) (hm : 0 < minDt) (hdt : minDt ≤ |s0.dt|) (hf : 1 ≤ fuel)
    (hraw : ∀ k j d, 0 < d * dirOf s0.t tmax → 0 < raw k j d * dirOf s0.t tmax)
    (hN : |tmax - s0.t| ≤ N * minDt) (hB : |tmax - s0.t| ≤ minDt * 4 ^ fuel) :
    ∀ loopFuel, N + 1 ≤ loopFuel →
      ∃ s', integrate (stepIAS15 minDt raw fuel) env loopFuel s0 tmax false = .done s' ∧
        s'.status = stSUCCESS ∧ (s'.t = tmax ∨ |s'.t - tmax| < tscale tmax) ∧
        minDt ≤ s'.dt * dirOf s0.t tmax ∧
        ∀ b ∈ s'.hist, b ∈ s0.hist ∨ MonoBeat tmax (dirOf s0.t tmax) b := by
  intro loopFuel hlf
  have had := isAdaptive_ias15 minDt (dirOf s0.t tmax) raw fuel (dirOf_cases _ _) hm hf hraw
  have had' : IsAdaptive (stepIAS15 minDt raw fuel) (dirOf s0.t tmax) minDt 0 |tmax - s0.t| := by
    intro k t dt dld h1 h2
    exact had k t dt dld h1 (le_trans h2 hB)
  exact c08_adaptive_exact_finish (stepIAS15 minDt raw fuel) env henv s0 tmax minDt 0 N hst hex hne hm hdt
    had' hN loopFuel (by omega)

/-- `integrate(t₁); integrate(t₂)` versus `integrate(t₂)` for a fixed-step integrator without exact
    finishing, `t₁` strictly after `t₀` and not after `t₂` (in the direction of integration), `n₁` /
    `n₂` the first step boundaries at or past `t₁` / `t₂`: all three calls return, and the split
    run has made the same calls of the step function — same times, same `dt`, same number — and
    ends with the same `t`, `dt`, status and step count as the single call.

    PARTIAL: needs `hno` — the first call must not carry the time past `t₂`.  Without it the
    statement is false of model and code alike (finding C08-N1, `c08_split_overshoot_reverses`). -/
theorem c08_split_same_steps_partial (step : StepFn K) (hfix : IsFixed step) (env : Nat → Flags)
    (henv : ∀ k, (env k).Clear) (s0 : Sim K) (t1 t2 sg d : K) (n1 n2 : Nat)
    (hst : s0.status ≠ stPAUSED ∧ s0.status ≠ stSCREENSHOT) (hex : s0.exactFinish ≠ 1)
    (hdt : s0.dt ≠ 0) (hsg : sg = dirOf s0.t t2) (hd : d = sg * |s0.dt|)
    (h01 : 0 < (t1 - s0.t) * sg) (h12 : t1 * sg ≤ t2 * sg)
    (hfirst1 : ∀ j : Nat, j < n1 → (s0.t + j * d) * sg < t1 * sg)
    (hpast1 : t1 * sg ≤ (s0.t + n1 * d) * sg)
    (hfirst2 : ∀ j : Nat, j < n2 → (s0.t + j * d) * sg < t2 * sg)
    (hpast2 : t2 * sg ≤ (s0.t + n2 * d) * sg)
    (hno : (s0.t + n1 * d) * sg ≤ t2 * sg) :
    ∀ fuel, n2 + 1 ≤ fuel → ∃ sA sB sC,
      integrate step env fuel s0 t1 false = .done sA ∧
      integrate step env fuel sA t2 false = .done sB ∧
      integrate step env fuel s0 t2 false = .done sC ∧
      sB.t = sC.t ∧ sB.dt = sC.dt ∧ sB.status = sC.status ∧ sB.stepsDone = sC.stepsDone ∧
      stepSeq sB = stepSeq sC := by
  replace hst : s0.status ≠ -3 ∧ s0.status ≠ -4 := hst
  intro fuel hfuel
  have hsgc : sg = 1 ∨ sg = -1 := by rw [hsg]; exact dirOf_cases _ _
  have hss : sg * sg = 1 := by rcases hsgc with h | h <;> rw [h] <;> norm_num
  have h02 : 0 < (t2 - s0.t) * sg := by linarith
  have hne1 : t1 ≠ s0.t := by intro h; rw [h] at h01; simp at h01
  have hne2 : t2 ≠ s0.t := by intro h; rw [h] at h02; simp at h02
  have hd1 : dirOf s0.t t1 = sg := dirOf_of_pos hsgc h01
  have hpos : 0 < |s0.dt| := abs_pos.mpr hdt
  have hdsg : d * sg = |s0.dt| := by rw [hd]; calc sg * |s0.dt| * sg = (sg * sg) * |s0.dt| := by ring
    _ = |s0.dt| := by rw [hss, one_mul]
  have hn12 : n1 ≤ n2 := by
    by_contra hlt
    have := hfirst1 n2 (by omega)
    linarith
  obtain ⟨sA, hA, a1, a2, a3, a4, a5, a6⟩ :=
    integrate_nonexact step hfix env henv s0 t1 sg d n1 hst hex hdt hne1 hd1.symm hd hfirst1 hpast1 fuel
      (by omega)
  obtain ⟨sC, hC, c1, c2, c3, c4, c5, c6⟩ :=
    integrate_nonexact step hfix env henv s0 t2 sg d n2 hst hex hdt hne2 hsg hd hfirst2 hpast2 fuel
      (by omega)
  have hstA : sA.status ≠ -3 ∧ sA.status ≠ -4 := by rw [a2]; constructor <;> norm_num
  have hexA : sA.exactFinish ≠ 1 := by rw [a5]; exact hex
  by_cases heq : t2 = sA.t
  · -- the first call ended exactly on t2: the second call is a no-op
    have hB := integrate_noop step env (henv 0) sA hstA fuel (by omega)
    rw [← heq] at hB
    have hn : n2 = n1 := by
      by_contra hne
      have hlt : n1 < n2 := by omega
      have := hfirst2 n1 hlt
      rw [heq, a1] at this
      exact lt_irrefl _ this
    refine ⟨sA, _, sC, hA, hB, hC, ?_, ?_, ?_, ?_, ?_⟩
    · show t2 = sC.t
      rw [heq, a1, c1, hn]
    · show sA.dt = sC.dt
      rw [a4, c4]
    · show (0 : Int) = sC.status
      rw [c2]
    · show sA.stepsDone = sC.stepsDone
      rw [a3, c3, hn]
    · show stepSeq sA = stepSeq sC
      rw [a6, c6, hn]
  · -- the second call continues in the same direction
    have hlt : (sA.t) * sg < t2 * sg := by
      rw [a1]
      rcases lt_or_eq_of_le hno with h | h
      · exact h
      · exfalso; apply heq; rw [a1]
        have : (s0.t + n1 * d) * sg * sg = t2 * sg * sg := by rw [h]
        calc t2 = t2 * (sg * sg) := by rw [hss, mul_one]
          _ = t2 * sg * sg := by ring
          _ = (s0.t + n1 * d) * sg * sg := this.symm
          _ = (s0.t + n1 * d) * (sg * sg) := by ring
          _ = s0.t + n1 * d := by rw [hss, mul_one]
    have hdB : dirOf sA.t t2 = sg := dirOf_of_pos hsgc (by linarith)
    have hdtA : sA.dt ≠ 0 := by
      rw [a4]; intro h; rw [h] at hdsg; simp at hdsg; linarith
    have habs : sg * |sA.dt| = d := by
      rw [a4]
      rcases hsgc with h | h
      · rw [h] at hdsg ⊢; simp at hdsg; rw [abs_of_pos (by linarith)]; ring
      · rw [h] at hdsg ⊢
        have : d < 0 := by linarith
        rw [abs_of_neg this]; ring
    obtain ⟨sB, hB, b1, b2, b3, b4, b5, b6⟩ :=
      integrate_nonexact step hfix env henv sA t2 sg d (n2 - n1) hstA hexA hdtA heq hdB.symm habs.symm
        (by
          intro j hj
          have := hfirst2 (n1 + j) (by omega)
          rw [a1]; push_cast at this
          have e : s0.t + (n1 : K) * d + (j : K) * d = s0.t + ((n1 : K) + j) * d := by ring
          rw [e]; exact this)
        (by
          rw [a1]
          have e : s0.t + (n1 : K) * d + ((n2 - n1 : ℕ) : K) * d = s0.t + (n2 : K) * d := by
            rw [Nat.cast_sub hn12]; ring
          rw [e]; exact hpast2)
        fuel (by omega)
    refine ⟨sA, sB, sC, hA, hB, hC, ?_, ?_, ?_, ?_, ?_⟩
    · rw [b1, a1, c1, Nat.cast_sub hn12]; ring
    · rw [b4, c4]
    · rw [b2, c2]
    · rw [b3, a3, c3]; omega
    · rw [b6, a6, c6, a1, ← List.append_assoc, ← seqOf_add]
      congr 2
      omega

/-- Finding C08-N1 — the full-strength split statement (without `hno`) is FALSE of the model, and the
    tie shows the code does the same: with `dt = 10`, `integrate(1)` ends at `t = 10`; the following
    `integrate(2)` sees its target behind it, flips `dt` to −10 and steps back to `t = 0`, whereas
    `integrate(2)` alone ends at `t = 10`.  (Evaluated in the kernel on the ℚ instance of the model.) -/
theorem c08_split_overshoot_reverses :
    let A := (integrate stepOnce (fun _ => {}) 8 demoSim 1 false).sim
    let B := (integrate stepOnce (fun _ => {}) 8 A 2 false).sim
    let C := (integrate stepOnce (fun _ => {}) 8 demoSim 2 false).sim
    A.t = 10 ∧ B.t = 0 ∧ B.dt = -10 ∧ B.stepsDone = 2 ∧ C.t = 10 ∧ C.dt = 10 ∧ C.stepsDone = 1 := by
  decide +kernel

/-! ### the exit conditions computed from the particle positions (rebound.c:741-775) -/

/-- `reb_run_heartbeat` on the positions `ps` of the real particles (index order), with the flags COMPUTED by
    the model (`heartbeatFlags`: `escapeFlag`, `encounterFlag` in the operation order of rebound.c:745-772,
    tied bitwise to the real routine): the status it leaves is ENCOUNTER if some pair is closer than
    `exit_min_distance`, else ESCAPE if some particle is farther than `exit_max_distance` from the origin, else
    USER if the heartbeat called stop, else unchanged; and the two computed flags mean exactly that —
    escape ⇔ `exit_max_distance ≠ 0` and `∃ p, max² < x²+y²+z²`; no encounter ⇔ `exit_min_distance = 0` or all
    pairs are at squared distance `≥ min²` (a zero distance switches the test off). -/
theorem c08_exit_conditions_from_positions (s : Sim K) (user : Bool) (maxd mind : K) (ps : List (V3 K)) :
    (runHeartbeat s (heartbeatFlags user maxd mind ps)).status =
      (if encounterFlag mind ps then stENCOUNTER else if escapeFlag maxd ps then stESCAPE
       else if user then stUSER else s.status) ∧
    (escapeFlag maxd ps = true ↔ maxd ≠ 0 ∧ ∃ p ∈ ps, maxd ^ 2 < p.x ^ 2 + p.y ^ 2 + p.z ^ 2) ∧
    (encounterFlag mind ps = false ↔ mind = 0 ∨
      ps.Pairwise (fun a b => mind ^ 2 ≤ (b.x - a.x) ^ 2 + (b.y - a.y) ^ 2 + (b.z - a.z) ^ 2)) := by
  refine ⟨?_, escapeFlag_iff maxd ps, encounterFlag_false_iff mind ps⟩
  unfold runHeartbeat heartbeatFlags
  cases user <;> cases escapeFlag maxd ps <;> cases encounterFlag mind ps <;> simp

/-! ### the no-progress guard (/repo addb1f3) -/

/-- `integrateG` is `reb_simulation_integrate` with the guard of commit addb1f3: a step that leaves `t` and
    `dt` unchanged is only recorded, and the error is raised at the top of the next pass of the loop, i.e.
    only if `reb_check_exit` still says "continue".  For every step function, every schedule of exit
    conditions, every `tmax`: whenever the guard does not fire (second component `false`), the call is
    exactly the call without the guard — all theorems of this file about `integrate` carry over — and when
    it fires it replaces a run that would have gone on (never a SUCCESS or an exit code). -/
theorem c08_guard_only_adds_errors (step : StepFn K) (env : Nat → Flags) (fuel : Nat) (s : Sim K)
    (tmax : K) (inf nanGuard : Bool) (o : Outcome K)
    (h : integrateG nanGuard step env fuel s tmax inf = (o, false)) :
    integrate step env fuel s tmax inf = o ∧ integrateN nanGuard step env fuel s tmax inf = o := by
  have h1 := integrateG_silent step env fuel s tmax inf nanGuard o h
  exact ⟨h1, by rw [integrateN_eq]; exact h1⟩

/-- Pausing, resuming, single-stepping (arrow-down) and 50-stepping (page-down) any number of times
    does not change what is integrated.  `ctl k` are the keys of server.c:346-375 / display.c delivered
    while the integrator is at step boundary `k`: `(ctl k).1` before `reb_check_exit` is entered (between
    the heartbeat and the SINGLE_STEP countdown), `(ctl k).2` after the countdown, before / during the
    PAUSED wait loop.  For EVERY step function, every `tmax` (also INFINITY), either value of
    exact_finish_time and every exit-condition schedule without SIGINT: if the call with key presses
    returns at all (i.e. every pause is eventually followed by a key that lets it go on), then the call
    without them returns with the same fuel, and the two final states agree in `t`, `dt`,
    `dt_last_done`, step count, number of synchronize calls, status, and in the whole sequence of step
    calls (time before, `dt` used, time after).  Keys that land in the middle of the time logic of
    `reb_check_exit` are a data race of the C code and are outside the model. -/
theorem c08_pause_resume_transparent (step : StepFn K) (env : Nat → Flags) (ctl : Nat → List Ctl × List Ctl)
    (s0 : Sim K) (tmax : K) (inf : Bool) (fuel : Nat)
    (hst : s0.status ≠ stPAUSED ∧ s0.status ≠ stSCREENSHOT) (hsig : ∀ k, (env k).sigint = false)
    (sP : Sim K) (hP : integrateP step env ctl fuel s0 tmax inf = .done sP) :
    ∃ s', integrate step env fuel s0 tmax inf = .done s' ∧
      s'.t = sP.t ∧ s'.dt = sP.dt ∧ s'.dtLastDone = sP.dtLastDone ∧ s'.stepsDone = sP.stepsDone ∧
      s'.syncs = sP.syncs ∧ s'.status = sP.status ∧ stepSeq s' = stepSeq sP := by
  have hst' : s0.status ≠ -3 ∧ s0.status ≠ -4 := hst
  obtain ⟨a1, a2, a3, a4, a5⟩ := start_status s0 tmax (env 0) hst'
  have hτ := start_status_cases s0 tmax (env 0) hst'
  have hrel : Rel (start s0 tmax (env 0)).1 (start s0 tmax (env 0)).1 :=
    ⟨rfl, rfl, rfl, rfl, rfl, rfl, rfl, rfl, rfl, srel_self _ (by omega)⟩
  unfold integrateP at hP
  simp only at hP
  cases hl : loopP step env ctl tmax inf fuel 0 (start s0 tmax (env 0)).1 (start s0 tmax (env 0)).2 with
  | mk o lfP =>
    rw [hl] at hP
    cases o with
    | blocked b => simp at hP
    | outOfFuel b => simp at hP
    | done s1 =>
      simp only [Outcome.done.injEq] at hP
      obtain ⟨s', hloop, hr⟩ := loopP_rel step env ctl tmax inf hsig fuel 0 _ _ _ hrel hτ s1 lfP hl
      obtain ⟨r1, r2, r3, r4, r5, r6, r7, r8, r9, r10⟩ := hr
      have hstat : s1.status = s'.status := by
        -- both loops ended: neither status is negative, so they are equal
        have h1 : ¬ s1.status < 0 := by
          intro hneg
          exact loopP_done_nonneg step env ctl tmax inf fuel 0 _ _ s1 lfP hl hneg
        rcases r10 with ⟨_, hrun⟩ | ⟨h, _⟩
        · exact absurd hrun.1 h1
        · exact h
      refine ⟨finish s' lfP, integrate_of_loop_done step env fuel s0 _ s' tmax _ lfP inf rfl hloop, ?_⟩
      rw [← hP]
      simp only [finish, r4]
      split_ifs <;> simp [r1, r2, r3, r5, r8, hstat, stepSeq] <;> simpa [stepSeq] using r9.symm

/-! ### status: the first step boundary at which an exit condition holds, in the code's order

  `Flags.exitCode` is the priority list NO_PARTICLES > GENERIC_ERROR > SIGINT > ENCOUNTER > ESCAPE >
  USER > COLLISION > error raised inside the step (the later writer in rebound.c:653-738, 741-775, 857-861 wins).  Both theorems
  hold for EVERY step function (fixed or adaptive), every `tmax` (also `INFINITY`) and either value of
  exact_finish_time. -/

/-- an exit condition that holds before the first step (first heartbeat: user stop / escape /
    encounter; first `reb_check_exit`: error message, no particles) is returned without any step -/
theorem c08_status_at_first_heartbeat (step : StepFn K) (env : Nat → Flags) (s0 : Sim K) (tmax : K)
    (inf : Bool) (c : Int) (hst : s0.status ≠ stPAUSED ∧ s0.status ≠ stSCREENSHOT)
    (hc : (env 0).first.exitCode s0.nOdes s0.isBS = some c) :
    ∀ fuel, 1 ≤ fuel → ∃ s', integrate step env fuel s0 tmax inf = .done s' ∧
      s'.status = c ∧ s'.stepsDone = s0.stepsDone ∧ s'.t = s0.t := by
  intro fuel hfuel
  obtain ⟨f, rfl⟩ : ∃ f, fuel = f + 1 := ⟨fuel - 1, by omega⟩
  have hst' : s0.status ≠ -3 ∧ s0.status ≠ -4 := hst
  obtain ⟨a1, a2, a3, a4, a5⟩ := start_status s0 tmax (env 0) hst'
  obtain ⟨hc1, hc2⟩ := exitCode_some _ _ _ _ hc
  have hchk : (env 0).first.checkCode s0.nOdes s0.isBS = (env 0).checkCode s0.nOdes s0.isBS := rfl
  have hs1 := start_status_cases s0 tmax (env 0) hst'
  have hcc : c = ((env 0).checkCode (start s0 tmax (env 0)).1.nOdes (start s0 tmax (env 0)).1.isBS).getD
      (start s0 tmax (env 0)).1.status := by
    rw [a3, a4, a1, ← hchk]; exact hc1
  obtain ⟨s', lf', hce, h1, h2, h3⟩ :=
    checkExit_fires (start s0 tmax (env 0)).1 tmax (start s0 tmax (env 0)).2 inf (env 0) c hs1 hcc hc2
  have hl := loop_of_ret_done step env tmax inf f 0 _ s' _ lf' hce (by omega)
  refine ⟨finish s' lf', integrate_of_loop_done step env (f + 1) s0 _ s' tmax _ lf' inf rfl hl, ?_, ?_, ?_⟩
  · rw [(finish_fields s' lf').1, h1]
  · rw [(finish_fields s' lf').2.1, h2, a2]
  · rw [(finish_fields s' lf').2.2, h3, a5]

/-- boundaries `0 … k` carry no exit condition and boundary `k+1` has exit code `c`: integrate returns
    `c` after exactly `k+1` steps — or the time contract ended the call earlier, with SUCCESS and at
    most `k` steps.  So the returned code is that of the FIRST boundary at which a condition holds,
    in the code's evaluation order; later boundaries are never looked at. -/
theorem c08_status_first_boundary (step : StepFn K) (env : Nat → Flags) (s0 : Sim K) (tmax : K)
    (inf : Bool) (c : Int) (k : Nat) (hst : s0.status ≠ stPAUSED ∧ s0.status ≠ stSCREENSHOT)
    (hclear : ∀ j, j ≤ k → (env j).Clear)
    (hc : (env (k + 1)).exitCode s0.nOdes s0.isBS = some c) :
    ∀ fuel, k + 2 ≤ fuel → ∃ s', integrate step env fuel s0 tmax inf = .done s' ∧
      ((s'.stepsDone = s0.stepsDone + (k + 1) ∧ s'.status = c) ∨
       (s'.stepsDone ≤ s0.stepsDone + k ∧ s'.status = stSUCCESS)) := by
  intro fuel hfuel
  have hst' : s0.status ≠ -3 ∧ s0.status ≠ -4 := hst
  obtain ⟨a1, a2, a3, a4, a5⟩ := start_status s0 tmax (env 0) hst'
  obtain ⟨hc1, hc2⟩ := exitCode_some _ _ _ _ hc
  have h0 := hclear 0 (by omega)
  have hfirst : (env 0).first.stepCode = none := by
    obtain ⟨⟨h1, h2, h3, h4, h5, h6, h7⟩, h8⟩ := h0
    simp [Flags.first, Flags.stepCode, h2, h3, h4]
  rw [hfirst] at a1
  simp only [Option.getD_none] at a1
  obtain ⟨s', lf', hl, hres⟩ := loop_first_firing step env tmax inf c k 0 (start s0 tmax (env 0)).1
    (start s0 tmax (env 0)).2 (Or.inl a1)
    (by intro j hj; rw [Nat.zero_add]; exact ⟨(hclear j hj).errMsg, (hclear j hj).n_ne⟩)
    (by intro j _ hj; rw [Nat.zero_add]; exact stepCode_none_of_clear _ (hclear j hj))
    (by rw [Nat.zero_add, a3, a4]; exact hc1) hc2 fuel hfuel
  refine ⟨finish s' lf', integrate_of_loop_done step env fuel s0 _ s' tmax _ lf' inf rfl hl, ?_⟩
  rw [(finish_fields s' lf').1, (finish_fields s' lf').2.1, ← a2]
  simpa [Status.code] using hres

/-- `r->t += r->dt; r->dt_last_done = r->dt` (NONE, SABA, EOS, MERCURIUS, TRACE),
    `r->t += r->dt/2.` twice (LEAPFROG, WHFast, SEI) and `r->t += r->dt` without
    `dt_last_done` (JANUS) are fixed-step in the sense used above -/
theorem c08_step_kinds_fixed :
    IsFixed (stepOnce : StepFn K) ∧ IsFixed (stepHalves : StepFn K) ∧ IsFixed (stepJanus : StepFn K) :=
  ⟨isFixed_once, isFixed_halves, isFixed_janus⟩

/-- the `Status` enumeration of the model is `enum REB_STATUS` of src/rebound.h, name for name and
    value for value (table regenerated from the header on every run) -/
theorem c08_status_enum_matches_header :
    Status.all.map (fun s => (s.cname, s.code)) = RV.Gen.C08.rebStatus ∧
    RV.Gen.C08.rebStatusCount = 14 := by
  decide +kernel

/-- `Simulation.integrate` (rebound/simulation.py) has a branch for every non-negative status
    other than SUCCESS (total), codes without a branch do not exist, the codes that raise map to
    pairwise different exception classes (injective), and the only handled code that does not
    raise is REB_STATUS_USER.  The extraction found no irregular branch. -/
theorem c08_python_dispatch_total_injective :
    (∀ s ∈ Status.all, 1 ≤ s.code → pyHandled RV.Gen.C08.pyTable s.code = true) ∧
    (∀ e ∈ RV.Gen.C08.pyTable, ∃ s ∈ Status.all, s.code = e.1 ∧ 1 ≤ e.1) ∧
    (RV.Gen.C08.pyTable.map Prod.fst).Nodup ∧
    ((RV.Gen.C08.pyTable.filterMap Prod.snd)).Nodup ∧
    (∀ e ∈ RV.Gen.C08.pyTable, e.2 = none ↔ e.1 = Status.user.code) ∧
    pyDispatch RV.Gen.C08.pyTable Status.success.code = PyAction.ret ∧
    RV.Gen.C08.pyProblems = 0 ∧ RV.Gen.C08.pyTableCount = 7 := by
  decide +kernel

/-- the translator classified the time bookkeeping of all 11 integrators, and every one it
    recognised ("?" = statement pattern not recognised, then only the tie speaks) is the variant
    the tie runs it with (JANUS: `janus` = `dt_last_done` never written, the source before /repo 5e0351b, or
    `once` = `r->dt_last_done = r->dt` as the other integrators, since then; both are `IsFixed`) -/
theorem c08_step_kinds_table :
    RV.Gen.C08.stepKinds.map Prod.fst =
      ["none", "leapfrog", "whfast", "saba", "janus", "eos", "mercurius", "sei", "ias15", "bs", "trace"] ∧
    ∀ e ∈ RV.Gen.C08.stepKinds, e.2 = "?" ∨
      e ∈ [("none", "once"), ("leapfrog", "halves"), ("whfast", "halves"), ("saba", "once"),
           ("janus", "janus"), ("janus", "once"), ("eos", "once"), ("mercurius", "once"), ("sei", "halves"),
           ("ias15", "adaptive"), ("bs", "adaptive"), ("trace", "once")] := by
  decide +kernel

/-! ### the hypotheses are satisfiable: concrete instances evaluated on the ℚ model -/

example : IsFixed (stepHalves : StepFn ℚ) := isFixed_halves
example : ({ } : Flags).Clear := by simp [Flags.Clear]

/-- an adaptive step function satisfying `IsAdaptive` (proposes 1/2, always does the whole step) -/
example : IsAdaptive (fun _ t dt _ => ⟨t + dt, 1 / 2, dt⟩ : StepFn ℚ) 1 (1 / 2) 0 100 := by
  intro k t dt dld h _
  refine ⟨by norm_num, Or.inr ⟨rfl, h, le_refl _, Or.inr rfl, Or.inl (by norm_num)⟩⟩

/-- `t₀ = 0, dt = 1/10, tmax = 1`, exact finish, `t += dt/2` twice: 10 steps, `t = 1`, `dt = 1/10` -/
example :
    let s0 : Sim ℚ := { demoSim with dt := 1 / 10, exactFinish := 1 }
    let r := (integrate stepHalves (fun _ => {}) 20 s0 1 false).sim
    r.t = 1 ∧ r.dt = 1 / 10 ∧ r.stepsDone = 10 ∧ r.status = 0 := by
  decide +kernel

/-- backwards with a positive `dt` and a step larger than the interval: one step, `dt = −10` after -/
example :
    let s0 : Sim ℚ := { demoSim with exactFinish := 1 }
    let r := (integrate stepOnce (fun _ => {}) 20 s0 (-3) false).sim
    r.t = -3 ∧ r.dt = -10 ∧ r.stepsDone = 1 ∧ r.status = 0 := by
  decide +kernel

/-- the IAS15 controller without forces (`dt_new = dt_done/0.25`), `min_dt = 1/2`, backwards from `t = 0` to
    `-10` with `dt = 1/100`: five growing steps 1/100 … 256/100 and a last one cut to fit, ends exactly, `dt` left at the last full step -/
example :
    let s0 : Sim ℚ := { demoSim with dt := 1 / 100, exactFinish := 1 }
    let r := (integrate (stepIAS15 (1 / 2) ias15RawFree 8) (fun _ => {}) 50 s0 (-10) false).sim
    r.t = -10 ∧ r.status = 0 ∧ r.stepsDone = 6 ∧ r.dt = -256 / 100 := by
  decide +kernel

/-- the guard on the ℚ model: a step function that never moves (`t` and `dt` unchanged) is stopped with
    GENERIC_ERROR after one step; the same function towards `tmax = t` is a no-op with SUCCESS -/
example :
    let stuck : StepFn ℚ := fun _ t dt dld => ⟨t, dt, dld⟩
    let s0 : Sim ℚ := { demoSim with dt := 1, exactFinish := 1 }
    let r := integrateG false stuck (fun _ => {}) 50 s0 5 false
    let u := integrateG false stuck (fun _ => {}) 50 s0 0 false
    r.1.sim.status = 1 ∧ r.1.sim.stepsDone = 1 ∧ r.2 = true ∧ u.1.sim.status = 0 ∧ u.2 = false := by
  decide +kernel

/-- three particles, `exit_max_distance = 2`, `exit_min_distance = 1/2`: the pair (0,2) is closer than 1/2 and
    particle 1 is outside the sphere; ENCOUNTER wins; with the minimum distance switched off it is ESCAPE -/
example :
    let ps : List (V3 ℚ) := [⟨0, 0, 0⟩, ⟨3, 0, 0⟩, ⟨1 / 4, 1 / 4, 0⟩]
    (runHeartbeat demoSim (heartbeatFlags false 2 (1 / 2) ps)).status = 3 ∧
    (runHeartbeat demoSim (heartbeatFlags false 2 0 ps)).status = 4 ∧
    (runHeartbeat demoSim (heartbeatFlags true 0 0 ps)).status = 5 := by
  decide +kernel

/-- pause at boundary 2, one single step, 50-step key, space twice: same end state as without keys -/
example :
    let ctl : Nat → List Ctl × List Ctl := fun k => if k = 2 then ([.space], [.step1]) else
      if k = 3 then ([], [.step50]) else if k = 7 then ([.space, .step1], [.space]) else ([], [])
    let s0 : Sim ℚ := { demoSim with dt := 1, exactFinish := 1 }
    let r := (integrateP stepOnce (fun _ => {}) ctl 200 s0 (25 / 2) false).sim
    let u := (integrate stepOnce (fun _ => {}) 200 s0 (25 / 2) false).sim
    r.t = 25 / 2 ∧ r.stepsDone = 13 ∧ r.status = 0 ∧ r.dt = 1 ∧ u.t = r.t ∧ u.stepsDone = r.stepsDone ∧
      stepSeq u = stepSeq r := by
  decide +kernel

/-- escape at the third boundary beats a user stop at the same boundary; later flags are not seen -/
example :
    let env : Nat → Flags := fun k => if k = 3 then { user := true, escape := true } else
      if k = 4 then { n := 0 } else {}
    let s0 : Sim ℚ := { demoSim with dt := 1, exactFinish := 1 }
    let r := (integrate stepOnce env 20 s0 100 false).sim
    r.status = 4 ∧ r.stepsDone = 3 ∧ r.t = 3 := by
  decide +kernel

end RV.Integrate
