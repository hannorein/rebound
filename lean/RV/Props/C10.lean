import RV.Proofs.Janus
import RV.Proofs.Reversal
import RV.Proofs.C10Sched
import Mathlib.Analysis.SpecialFunctions.Trigonometric.Basic
import RV.Gen.C10Janus
import RV.Gen.C01Whfast
import RV.Gen.C01Saba
import RV.Gen.C01Eos
import RV.Gen.C01Leapfrog
/-
  C10 — JANUS is bit-wise time reversible; symmetric schemes reverse to rounding error.

  JANUS.  Statements are about RV/Model/Janus.lean (the definitions `drv_c10` runs on IEEE
  doubles and two's-complement int64 against integrator_janus.c, bit for bit):
  an abstract `double` type `F` with the operations the C code uses, the IEEE-754
  sign-symmetry laws as the hypothesis `L : JLaws F` (not axioms), an arbitrary force
  `cfg.acc` of the grid positions, arbitrary scales, every scheme whose `gg` is a
  palindrome, every integer state and every number of steps.  A conversion outside the
  int64 range is `none`; the theorems say: if the forward leg is defined, so is the
  backward leg, and it returns the initial integer state exactly.

  The step as seen from outside (recalculation flag, `N_allocated`) is modelled too; that nothing but
  part1 sets the flag is a theorem over the extracted list of assignments, and that the force sees
  `to_double(p_int)` for every particle at every stage is validated on the real code by the check.

  Tables.  The palindrome hypothesis is discharged for every table of
  RV/Gen/C10Janus.lean (regenerated from the C source on every run), with the
  index function `gg` tied to the compiled C function (and to its text where parseable).

  Symmetric schemes.  LEAPFROG and SEI (RV/Model/Reversal.lean, operation order of the C
  source) and abstract palindromic splittings satisfy `step(-dt) ∘ step(dt) = id` in exact
  arithmetic (any field), for an arbitrary position-dependent force.

  Schedules.  The operator lists one step really executes (RV/Gen/C01*.lean: WHFast, SABA, EOS,
  LEAPFROG) are raw palindromes, hence reversed under the flow-inverse hypothesis on the
  primitives; the SABA step model (RV/Model/C10Saba.lean) is one for every stage count and tables.
-/
set_option linter.unreachableTactic false
set_option linter.unusedTactic false
set_option linter.unusedVariables false
set_option maxRecDepth 100000
namespace RV.C10
open RV RV.Janus RV.Reversal JFloat RV.C10S RV.C01 RV.C01.Gen

/-- n steps with `dt` followed by n steps with `-dt` return every grid coordinate exactly;
    ∀ scheme with palindromic `gg`, ∀ force, ∀ scales, ∀ state, ∀ n -/
theorem c10_janus_steps_reverse {F : Type} [JFloat F] (L : JLaws F) (cfg : Cfg F) (s : Scheme F)
    (hp : Palin s) (dt : F) (n : Nat) (st st' : List PInt)
    (h : steps cfg s dt n st = some st') : steps cfg s (neg dt) n st' = some st :=
  steps_reverse L cfg s hp dt n st st' h

/-- the same starting with the negative step (needs `-(-a) = a`) -/
theorem c10_janus_steps_reverse_back {F : Type} [JFloat F] (L : JLaws F)
    (hnn : ∀ a : F, neg (neg a) = a) (cfg : Cfg F) (s : Scheme F)
    (hp : Palin s) (dt : F) (n : Nat) (st st' : List PInt)
    (h : steps cfg s (neg dt) n st = some st') : steps cfg s dt n st' = some st := by
  have := steps_reverse L cfg s hp (neg dt) n st st' h
  rwa [hnn] at this

/-- hence the doubles `to_double` derives from the grid (what the user sees in
    `r->particles`) return to the same values -/
theorem c10_janus_doubles_reverse {F : Type} [JFloat F] (L : JLaws F) (cfg : Cfg F) (s : Scheme F)
    (hp : Palin s) (dt : F) (n : Nat) (st st' : List PInt)
    (h : steps cfg s dt n st = some st') :
    (steps cfg s (neg dt) n st').map (toDouble cfg.scalePos cfg.scaleVel) =
      some (toDouble cfg.scalePos cfg.scaleVel st) := by
  rw [steps_reverse L cfg s hp dt n st st' h]; rfl

/-- the step as seen from outside (`reb_simulation_step`: flag, `N_allocated`, particle doubles): from a
    state with the flag clear and `N_allocated = N`, n undisturbed steps with `dt` and n with `-dt`
    return the grid state, and the flag is still clear — no step ever re-derives the grid from the
    doubles -/
theorem c10_janus_full_steps_reverse {F : Type} [JFloat F] (L : JLaws F) (cfg : Cfg F) (s : Scheme F)
    (hp : Palin s) (dt : F) (n : Nat) (js js' : JState) (hr : js.recalc = false)
    (hn : js.nAllocated = js.pInt.length) (h : stepsFull cfg s dt n js = some js') :
    stepsFull cfg s (neg dt) n js' = some js ∧ js'.recalc = false ∧
      js'.nAllocated = js'.pInt.length := by
  rw [stepsFull_eq cfg s dt n js hr hn] at h
  cases h1 : steps cfg s dt n js.pInt with
  | none => rw [h1] at h; exact absurd h (by simp)
  | some st' =>
    rw [h1] at h
    simp only [Option.map_some] at h
    injection h with h
    subst h
    have hl := steps_length cfg s dt n js.pInt st' h1
    refine ⟨?_, hr, ?_⟩
    · have hn' : ({ js with pInt := st' } : JState).nAllocated = ({ js with pInt := st' } : JState).pInt.length := by
        show js.nAllocated = st'.length
        rw [hl]; exact hn
      rw [stepsFull_eq cfg s (neg dt) n { js with pInt := st' } hr hn']
      show (steps cfg s (neg dt) n st').map _ = _
      rw [steps_reverse L cfg s hp dt n js.pInt st' h1]
      rfl
    · show js.nAllocated = st'.length
      rw [hl]; exact hn

/-- additional forces: with a force callback that may read velocities (`accV`), the model coincides with the
    position-only model whenever the callback ignores them — so theorem `c10_janus_steps_reverse` covers every
    velocity-independent additional force -/
theorem c10_janus_velocity_independent_force {F : Type} [JFloat F] (L : JLaws F) (cfg : Cfg F)
    (accV : List (PDbl F) → List (V3 F))
    (hv : ∀ d, accV d = cfg.acc (d.map (fun q => (⟨q.x, q.y, q.z⟩ : V3 F))))
    (s : Scheme F) (hp : Palin s) (dt : F) (n : Nat) (st st' : List PInt)
    (h : stepsV cfg accV s dt n st = some st') : stepsV cfg accV s (neg dt) n st' = some st := by
  rw [stepsV_eq_steps cfg accV hv] at h ⊢
  exact steps_reverse L cfg s hp dt n st st' h

/-- proved negative (the source comment "velocity dependent forces break the symmetry"): with a force that
    reads the velocities JANUS is NOT reversible.  Witness: one particle, order 2, linear drag `a = −v`,
    dt = 0.1, in the fixed-point instance (where all laws `JLaws` hold and the scheme is a palindrome):
    the forward step takes (x,v) = (0, 100000) to (9500, 90000) grid units, the backward step returns
    (50, 99000).  So the universally quantified reversal statement with `accV` in place of `acc` is false. -/
theorem c10_janus_velocity_dependent_force_not_reversible :
    ¬ (∀ (F : Type) (inst : JFloat F) (L : @JLaws F inst) (cfg : Cfg F) (accV : List (PDbl F) → List (V3 F))
        (s : Scheme F) (hp : Palin s) (dt : F) (n : Nat) (st st' : List PInt),
        @stepsV F inst cfg accV s dt n st = some st' →
        @stepsV F inst cfg accV s (@JFloat.neg F inst dt) n st' = some st) := by
  intro h
  have hp : Palin (schemeOf (fun q : Int × Nat => (q.1 * 1000).tdiv q.2) 2 1 RV.Gen.C10.s1odr2.gammaQ) :=
    @palin_of_index Int intJFloat _ (by decide +kernel)
  have key := h Int intJFloat intLaws
    ⟨1000, 1000, fun pos => pos.map (fun _ => ⟨0, 0, 0⟩)⟩
    (fun d => d.map (fun q => ⟨-q.vx, -q.vy, -q.vz⟩))
    (schemeOf (fun q : Int × Nat => (q.1 * 1000).tdiv q.2) 2 1 RV.Gen.C10.s1odr2.gammaQ) hp
    100 1 [⟨0, 0, 0, 100000, 0, 0⟩] [⟨9500, 0, 0, 90000, 0, 0⟩] (by decide +kernel)
  revert key
  decide +kernel

/-- one step: the elementary-map list of `-dt` is the inverted list of `dt` in reverse order -/
theorem c10_janus_ops_reverse {F : Type} [JFloat F] (L : JLaws F) (s : Scheme F) (hp : Palin s)
    (dt : F) (ops : List (Op F)) (h : stepOps s dt = some ops) :
    stepOps s (neg dt) = some ((ops.map Op.inv).reverse) := by
  rw [stepOps_neg L, h, Option.map_some, ← List.map_reverse, stepOps_palindrome L s hp dt ops h]

/-- every elementary map is undone exactly by the same map with the negated coefficient -/
theorem c10_janus_op_inverse {F : Type} [JFloat F] (L : JLaws F) (cfg : Cfg F) (op : Op F)
    (st st' : List PInt) (h : op.apply cfg st = some st') : op.inv.apply cfg st' = some st :=
  op_inv L cfg op st st' h

/-! ### the tables of integrator_janus.c (finite facts, re-decided on every run) -/

/-- the hand-written `gg` of the model, run on the compiled constants, returns on every stage of
    every table exactly what the compiled C function `gg` returns -/
theorem c10_gg_model_is_compiled :
    ∀ t ∈ RV.Gen.C10.tables,
      (List.range t.stages).map (gg (schemeOf id t.order t.stages t.gammaBits)) = t.ggVals.map some := by
  decide +kernel

/-- where the text of `gg` has the shape the translator understands, its index expressions
    (`unsigned int` arithmetic) agree with the model's `ggIndex` on every stage of every table -/
theorem c10_gg_text_is_model (f : UInt32 → UInt32 → UInt32) (hf : RV.Gen.C10.ggIdx = some f) :
    ∀ t ∈ RV.Gen.C10.tables, ∀ i, i < t.stages →
      (f t.stages.toUInt32 i.toUInt32).toNat = ggIndex t.stages i := by
  unfold RV.Gen.C10.ggIdx at hf
  -- `ggIdx` is generated: if it is `some f`, decide the tables; if it is `none`, `hf` is absurd.  With the
  -- generated table only the first branch runs (hence the two tactic linters switched off above).
  first
    | (injection hf with hf; subst hf; decide +kernel)
    | cases hf

/-- what the compiled `gg` returns is a palindrome over the stages of every table; so are the exact
    rationals of the decimal text read through the model's `gg`; nothing reads outside `gamma[]` -/
theorem c10_tables_value_palindrome :
    ∀ t ∈ RV.Gen.C10.tables, 1 ≤ t.stages ∧ t.gammaQ.length = RV.Gen.C10.gammaLen ∧
      t.gammaBits.length = RV.Gen.C10.gammaLen ∧ t.ggVals.length = t.stages ∧
      t.ggVals.reverse = t.ggVals ∧
      ((List.range t.stages).map (gg (schemeOf id t.order t.stages t.gammaQ))).reverse =
        (List.range t.stages).map (gg (schemeOf id t.order t.stages t.gammaQ)) ∧
      (∀ i, i < t.stages → (gg (schemeOf id t.order t.stages t.gammaQ) i).isSome) := by
  decide +kernel

/-- the palindrome hypothesis of the JANUS theorems holds for every table, whatever type `F` the
    constants are read into -/
theorem c10_tables_palin {F : Type} [JFloat F] :
    ∀ t ∈ RV.Gen.C10.tables,
      (∀ f : Int × Nat → F, Palin (schemeOf f t.order t.stages t.gammaQ)) ∧
      (∀ f : UInt64 → F, Palin (schemeOf f t.order t.stages t.gammaBits)) := by
  have key : ∀ t ∈ RV.Gen.C10.tables,
      IndexPalin t.stages t.gammaQ.length ∧ IndexPalin t.stages t.gammaBits.length := by
    decide +kernel
  intro t ht
  refine ⟨fun f => palin_of_index _ ?_, fun f => palin_of_index _ ?_⟩
  · simp only [schemeOf, List.length_map]; exact (key t ht).1
  · simp only [schemeOf, List.length_map]; exact (key t ht).2

/-- JANUS reversal for every order the code supports: the scheme selected by
    `switch (ri_janus->order)`, compiled constants read through any `f` -/
theorem c10_janus_supported_orders_reverse {F : Type} [JFloat F] (L : JLaws F) (cfg : Cfg F)
    (f : UInt64 → F) (t : RV.Gen.C10.Table) (ht : t ∈ RV.Gen.C10.tables) (dt : F) (n : Nat)
    (st st' : List PInt)
    (h : steps cfg (schemeOf f t.order t.stages t.gammaBits) dt n st = some st') :
    steps cfg (schemeOf f t.order t.stages t.gammaBits) (neg dt) n st' = some st :=
  steps_reverse L cfg _ ((c10_tables_palin t ht).2 f) dt n st st' h

/-- extraction completeness: the supported orders 2,4,6,8,10 are all present, both order
    switches (part1, part2) agree and select a table of that order; counts are consistent -/
theorem c10_tables_complete :
    RV.Gen.C10.orderSwitch1 = RV.Gen.C10.orderSwitch2 ∧
    RV.Gen.C10.nSwitches = 2 ∧
    RV.Gen.C10.tables.length = RV.Gen.C10.nTables ∧
    RV.Gen.C10.nGammaEntries = RV.Gen.C10.gammaLen * RV.Gen.C10.nTables ∧
    RV.Gen.C10.nGgVals = (RV.Gen.C10.tables.map (·.stages)).sum ∧
    (∀ o ∈ [2, 4, 6, 8, 10], ∃ t ∈ RV.Gen.C10.tables,
      RV.Gen.C10.orderSwitch1.1.lookup o = some t.name ∧ t.order = o) ∧
    (∀ c ∈ RV.Gen.C10.orderSwitch1.1, ∃ t ∈ RV.Gen.C10.tables, t.name = c.2 ∧ t.order = c.1) := by
  decide +kernel

/-- the recalculation flag is assigned a value other than 0 in exactly one place of the whole source
    tree, inside integrator_janus.c (the `N_allocated != N` branch of part1): no other code path
    (callbacks, synchronize, collision handling, Python layer) makes JANUS re-derive its grid state -/
theorem c10_flag_setters :
    (∀ a ∈ RV.Gen.C10.flagAssignments, a.2 ≠ "0" → a.1 = "integrator_janus.c") ∧
    (RV.Gen.C10.flagAssignments.filter (fun a => a.2 != "0")).length = 1 ∧
    RV.Gen.C10.flagAssignments.length = RV.Gen.C10.nFlagAssignments := by
  decide +kernel

/-! ### the hypotheses are satisfiable: fixed-point numbers as "doubles", rounding toward zero -/

example : @JLaws Int intJFloat := intLaws

/-- a concrete non-trivial run: the order-4 table read as fixed-point numbers, harmonic force,
    two particles, dt = 0.1, scales 1 and 0.5; the forward leg is defined, moves the state, and
    the backward leg returns it -/
example :
    let _ := intJFloat
    let cfg : Cfg Int := ⟨1000, 500, fun pos => pos.map (fun p => ⟨-p.x, -p.y, -p.z⟩)⟩
    let s : Scheme Int := schemeOf (fun q => (q.1 * 1000).tdiv q.2) 4 5 RV.Gen.C10.s5odr4.gammaQ
    let st : List PInt := [⟨100000, 0, 700, 0, 30000, 0⟩, ⟨-50000, 2000, 0, 0, -11000, 3000⟩]
    (∃ st', steps cfg s 100 3 st = some st' ∧ st' ≠ st ∧ steps cfg s (-100) 3 st' = some st) := by
  decide +kernel

variable {K : Type} [Field K]

/-! ### symmetric schemes, exact arithmetic -/

/-- LEAPFROG (integrator_leapfrog.c, drift–kick–drift in the C operation order): n steps with
    `dt` then n steps with `-dt` is the identity; ∀ N, ∀ force depending on positions only -/
theorem c10_leapfrog_steps_reverse (acc : List (V3 K) → List (V3 K)) (dt : K) (n : Nat)
    (s s' : List (LfP K)) (h : lfSteps acc dt n s = some s') : lfSteps acc (-dt) n s' = some s :=
  RV.Janus.optIter_reverse _ _ (lfSteps acc dt) (lfSteps acc (-dt))
    (fun n s => by rw [lfSteps]; cases lfStep acc dt s <;> rfl) (fun _ => rfl)
    (fun n s => by rw [lfSteps]; cases lfStep acc (-dt) s <;> rfl) (fun _ => rfl)
    (lfStep_reverse acc dt) n s s' h

/-- SEI `operator_H012` is undone exactly by itself with `-dt` and the constants
    `reb_integrator_sei_init` computes for `-dt` -/
theorem c10_sei_H012_reverse (dt : K) (c : SeiC K) (h2 : (2 : K) ≠ 0) (ho : c.omega ≠ 0)
    (hz : c.omegaZ ≠ 0) (p : LfP K) : seiH012 (-dt) c.rev (seiH012 dt c p) = p :=
  seiH012_back dt c h2 ho hz p

/-- SEI step (H012 – phi1 – H012) with the constants of `reb_integrator_sei_init`, `sin` and
    `tan` any odd functions: `step(-dt) ∘ step(dt) = id`; ∀ N, ∀ position-dependent force -/
theorem c10_sei_step_reverse (sn tn : K → K) (hs : ∀ a, sn (-a) = -sn a) (ht : ∀ a, tn (-a) = -tn a)
    (acc : List (V3 K) → List (V3 K)) (omega omegaZ dt : K) (h2 : (2 : K) ≠ 0) (ho : omega ≠ 0)
    (hz : omegaZ ≠ 0) (s s' : List (LfP K))
    (h : seiStep acc dt (seiInit sn tn omega omegaZ dt) s = some s') :
    seiStep acc (-dt) (seiInit sn tn omega omegaZ (-dt)) s' = some s := by
  rw [seiInit_neg sn tn hs ht]
  exact seiStep_reverse acc dt _ h2 ho hz s s' h

/-- SEI over the reals with the real `sin` and `tan`, exactly the functions `reb_integrator_sei_init` calls:
    `step(−dt) ∘ step(dt) = id` for every N and every position-dependent force, `OMEGA, OMEGAZ ≠ 0` -/
theorem c10_sei_step_reverse_real (acc : List (V3 ℝ) → List (V3 ℝ)) (omega omegaZ dt : ℝ)
    (ho : omega ≠ 0) (hz : omegaZ ≠ 0) (s s' : List (LfP ℝ))
    (h : seiStep acc dt (seiInit Real.sin Real.tan omega omegaZ dt) s = some s') :
    seiStep acc (-dt) (seiInit Real.sin Real.tan omega omegaZ (-dt)) s' = some s := by
  rw [seiInit_neg Real.sin Real.tan Real.sin_neg Real.tan_neg]
  exact seiStep_reverse acc dt _ two_ne_zero ho hz s s' h

/-- any palindromic composition of two flows that are each undone by the negated coefficient
    (WHFast without correctors, SABA, EOS: Kepler/drift flow and interaction/kick flow) is
    reversed by negating every coefficient, i.e. by `dt → -dt` -/
theorem c10_palindromic_splitting_reverse {S C : Type} (A B : C → S → S) (ng : C → C)
    (hA : ∀ c s, A (ng c) (A c s) = s) (hB : ∀ c s, B (ng c) (B c s) = s)
    (l : List (Bool × C)) (hpal : l.reverse = l) (s : S) :
    splitRun A B (l.map (fun p => (p.1, ng p.2))) (splitRun A B l s) = s := by
  rw [splitRun_eq_opRun, splitRun_eq_opRun]
  exact opRun_palindrome _ (fun p => (p.1, ng p.2)) (fun p s => by cases p.1 <;> simp only [cond_true, cond_false, hA, hB])
    l hpal s

/-- the WHFast-shaped step `kepler(τ/2) ; interaction(τ) ; kepler(τ/2)`: IF the Kepler primitive is
    undone by the negated step, `kepler(−τ) ∘ kepler(τ) = id`, and so is the interaction, then n steps
    with τ followed by n steps with −τ are the identity.  (The hypothesis on `kepler` is validated on the
    real `reb_whfast_kepler_solver` by the check: elliptic/hyperbolic × sign × step size × solver branch.) -/
theorem c10_kepler_interaction_steps_reverse {S C : Type} (kepler inter : C → S → S) (ng half : C → C)
    (hhalf : ∀ c, half (ng c) = ng (half c))
    (hK : ∀ c s, kepler (ng c) (kepler c s) = s) (hI : ∀ c s, inter (ng c) (inter c s) = s)
    (τ : C) (n : Nat) (s : S) :
    iter (whStep kepler inter half (ng τ)) n (iter (whStep kepler inter half τ) n s) = s := by
  apply iter_inverse
  intro s
  simp only [whStep, hhalf, hK, hI]

/-- unsynchronised stepping (`safe_mode = 0`; model `uStep`/`uSync` of WHFast part1/part2/synchronize: the first drift of a
    step is merged with the pending half drift of the previous one, a synchronisation request does the pending half drift with
    the current step size): n steps, a synchronisation, the negated step, n steps, a synchronisation return the state and leave
    nothing pending — given the flow-inverse hypotheses and `kepler(τ/2)∘kepler(τ/2) = kepler(τ)`.  (That every public
    synchronisation request — `synchronize()`, `integrate(t)` with nothing left to integrate — really does that half drift is
    checked on the code by the entry-path oracle and by the round trips of the `syncvia` factor.) -/
theorem c10_unsynchronized_steps_reverse {S C : Type} (kepler inter : C → S → S) (ng half : C → C)
    (hhalf : ∀ c, half (ng c) = ng (half c))
    (hK : ∀ c s, kepler (ng c) (kepler c s) = s) (hI : ∀ c s, inter (ng c) (inter c s) = s)
    (hadd : ∀ c s, kepler (half c) (kepler (half c) s) = kepler c s) (τ : C) (n : Nat) (x : S) :
    uSync kepler half (ng τ) (iter (uStep kepler inter half (ng τ)) n
      (uSync kepler half τ (iter (uStep kepler inter half τ) n ⟨x, false⟩))) = ⟨x, false⟩ := by
  rw [unsafe_eq_safe kepler inter half τ (hadd τ) n x, unsafe_eq_safe kepler inter half (ng τ) (hadd (ng τ)) n,
    c10_kepler_interaction_steps_reverse kepler inter ng half hhalf hK hI τ n x]

/-- that hypothesis is necessary: if every palindromic splitting is reversed by negating its
    coefficients, then in particular `A(−c) ∘ A(c) = id` for the first flow (the Kepler drift) -/
theorem c10_flow_inverse_necessary {S C : Type} (A B : C → S → S) (ng : C → C)
    (h : ∀ l : List (Bool × C), l.reverse = l → ∀ s,
      splitRun A B (l.map (fun p => (p.1, ng p.2))) (splitRun A B l s) = s) :
    ∀ c s, A (ng c) (A c s) = s := by
  intro c s
  exact h [(false, c)] rfl s

/-! ### the schedules the code really runs (lean/RV/Gen/C01*.lean, extracted by executing the C control flow)

  `φ` maps every primitive operator (`RV.C01.Op`: Kepler drift with/without the centre-of-mass step,
  interaction kick with its jerk term, jump step, finite-difference kick, inner drift/kick of EOS) to a
  map of an arbitrary state space.  The only hypothesis, `hφ`, is the flow-inverse property of each
  primitive: the operator with `−dt` undoes the operator with `dt` (for the Kepler drift this is what
  `probe_kepler` validates on the real `reb_whfast_kepler_solver`).  No additivity of the flows is used:
  the extracted operator lists are palindromes as they stand, without merging neighbours. -/

/-- WHFast, default kernel, all 4 coordinate systems: the extracted step (safe mode) and the extracted
    "two steps with safe_mode = 0, then synchronize" are raw palindromes whose kicks use fresh forces; so are
    the modified-kick and lazy kernels in Jacobi coordinates -/
theorem c10_whfast_schedules_palindromic :
    (∀ coord ∈ [0, 1, 2, 3], (whCore.lookup (coord, 0)).isSome ∧
      ∀ s ∈ whCore.lookup (coord, 0), RawPalin s ∧ Fresh s) ∧
    (∀ coord ∈ [0, 1, 2, 3], (whCoreTwo.lookup (coord, 0)).isSome ∧
      ∀ s ∈ whCoreTwo.lookup (coord, 0), RawPalin s ∧ Fresh s) ∧
    (∀ k ∈ [1, 3], (whCore.lookup (0, k)).isSome ∧ ∀ s ∈ whCore.lookup (0, k), RawPalin s) := by
  decide +kernel

/-- hence `step(−dt)ⁿ ∘ step(dt)ⁿ = id` for the real WHFast schedules (Jacobi, democratic heliocentric, WHDS,
    barycentric; default kernel, no correctors), synchronized stepping and unsynchronised pairs of steps -/
theorem c10_whfast_real_schedule_reverse {S : Type} (φ : Op → S → S)
    (hφ : ∀ o s, φ (negOp o) (φ o s) = s) :
    ∀ coord ∈ [0, 1, 2, 3], ∀ s, (s ∈ whCore.lookup (coord, 0) ∨ s ∈ whCoreTwo.lookup (coord, 0)) →
      ∀ (h : Rat) (n : Nat) (x : S),
        iter (schedStep φ (moves s) (-h)) n (iter (schedStep φ (moves s) h) n x) = x := by
  intro coord hc s hs h n x
  have hp : RawPalin s := by
    rcases hs with hs | hs
    · exact ((c10_whfast_schedules_palindromic.1 coord hc).2 s hs).1
    · exact ((c10_whfast_schedules_palindromic.2.1 coord hc).2 s hs).1
  exact schedSteps_reverse φ hφ (moves s) hp h n x

/-- proved negative: the composition kernel (`kernel = "composition"`) is NOT a palindrome — neither the raw
    operator list nor the list with neighbours merged; WHFast with that kernel is outside the reversal claim -/
theorem c10_whfast_composition_kernel_not_palindrome :
    (whCore.lookup (0, 2)).isSome ∧ ∀ s ∈ whCore.lookup (0, 2), ¬ RawPalin s ∧ ¬ Palindrome s := by
  decide +kernel

/-- SABA: the ten uncorrected types (named below) are raw palindromes with fresh forces, synchronized and as
    unsynchronised pairs -/
theorem c10_saba_schedules_palindromic :
    (sabaTypes.filter (fun t => t.2.1 < 10)).map (·.1) =
      ["REB_SABA_1", "REB_SABA_2", "REB_SABA_3", "REB_SABA_4", "REB_SABA_10_4", "REB_SABA_8_6_4",
       "REB_SABA_10_6_4", "REB_SABA_H_8_4_4", "REB_SABA_H_8_6_4", "REB_SABA_H_10_6_4"] ∧
    (∀ k ∈ List.range 10, (sabaStep.lookup k).isSome ∧ ∀ s ∈ sabaStep.lookup k, RawPalin s ∧ Fresh s) ∧
    (∀ k ∈ List.range 10, (sabaTwoUnsync.lookup k).isSome ∧ ∀ s ∈ sabaTwoUnsync.lookup k, RawPalin s) := by
  decide +kernel

theorem c10_saba_real_schedule_reverse {S : Type} (φ : Op → S → S)
    (hφ : ∀ o s, φ (negOp o) (φ o s) = s) :
    ∀ k ∈ List.range 10, ∀ s, (s ∈ sabaStep.lookup k ∨ s ∈ sabaTwoUnsync.lookup k) →
      ∀ (h : Rat) (n : Nat) (x : S),
        iter (schedStep φ (moves s) (-h)) n (iter (schedStep φ (moves s) h) n x) = x := by
  intro k hk s hs h n x
  have hp : RawPalin s := by
    rcases hs with hs | hs
    · exact ((c10_saba_schedules_palindromic.2.1 k hk).2 s hs).1
    · exact (c10_saba_schedules_palindromic.2.2 k hk).2 s hs
  exact schedSteps_reverse φ hφ (moves s) hp h n x

/-- the hand-written model of `reb_integrator_saba_part1/part2/synchronize` (RV/Model/C10Saba.lean: first half drift, kick,
    the stage loop with its two mirror-index computations, closing drift), run on the extracted coefficient tables, produces
    exactly the operator list the C01 translator obtains by executing the C text — for all ten uncorrected types -/
theorem c10_saba_model_is_extracted :
    ∀ t ∈ sabaTypes, t.2.1 < 10 →
      (sabaC[t.2.1]?).isSome ∧ (sabaD[t.2.1]?).isSome ∧ (sabaStep.lookup t.2.1).isSome ∧
      ∀ c ∈ sabaC[t.2.1]?, ∀ d ∈ sabaD[t.2.1]?, RV.C10Saba.step t.2.2 c d = sabaStep.lookup t.2.1 := by
  decide +kernel

/-- and that model is a raw palindrome for EVERY number of stages and EVERY pair of coefficient tables (the mirror indices
    `j > stages/2 ? stages-j : j` and `j > (stages-1)/2 ? stages-j-1 : j` make it one), hence reversed by `dt → −dt` under the
    flow-inverse hypothesis on the primitives, for n steps -/
theorem c10_saba_model_reverse {S : Type} (φ : Op → S → S) (hφ : ∀ o s, φ (negOp o) (φ o s) = s)
    (stages : Nat) (hst : 1 ≤ stages) (c d : List Rat) (l : List Op) (hl : RV.C10Saba.step stages c d = some l) :
    RawPalin l ∧ ∀ (h : Rat) (n : Nat) (x : S),
      iter (schedStep φ (moves l) (-h)) n (iter (schedStep φ (moves l) h) n x) = x :=
  ⟨saba_step_palindrome stages hst c d l hl,
   fun h n x => schedSteps_reverse φ hφ (moves l) (saba_step_palindrome stages hst c d l hl) h n x⟩

/-- EOS: the six unprocessed splittings are raw palindromes as outer scheme Φ0 and as inner scheme Φ1 with
    n = 1..4 sub-steps, with fresh forces -/
theorem c10_eos_schedules_palindromic :
    (eosTypes.filter (fun t => t.2 < 6)).map (·.1) =
      ["REB_EOS_LF", "REB_EOS_LF4", "REB_EOS_LF6", "REB_EOS_LF8", "REB_EOS_LF4_2", "REB_EOS_LF8_6_4"] ∧
    (∀ ty ∈ List.range 6, (eosOuter.lookup ty).isSome ∧ ∀ s ∈ eosOuter.lookup ty, RawPalin s ∧ Fresh s) ∧
    (∀ ty ∈ List.range 6, ∀ n ∈ [1, 2, 3, 4], (eosInner.lookup (ty, n)).isSome ∧
      ∀ s ∈ eosInner.lookup (ty, n), RawPalin s ∧ Fresh s) := by
  decide +kernel

/-- hence for all 6 × 6 unprocessed pairs Φ0 × Φ1 and n = 1..4: the operator list one EOS step really applies
    (outer schedule with every shell-0 drift unrolled into the inner scheme, three primitive flows) is
    reversed by `dt → −dt`, for n steps -/
theorem c10_eos_real_schedule_reverse {S : Type} (φ : Op → S → S)
    (hφ : ∀ o s, φ (negOp o) (φ o s) = s) :
    ∀ ty0 ∈ List.range 6, ∀ ty1 ∈ List.range 6, ∀ m ∈ [1, 2, 3, 4],
      ∀ o ∈ eosOuter.lookup ty0, ∀ i ∈ eosInner.lookup (ty1, m), ∀ (h : Rat) (n : Nat) (x : S),
        iter (schedStep φ (eosFull o i) (-h)) n (iter (schedStep φ (eosFull o i) h) n x) = x := by
  intro ty0 h0 ty1 h1 m hm o ho i hi h n x
  have hpo := ((c10_eos_schedules_palindromic.2.1 ty0 h0).2 o ho).1
  have hpi := ((c10_eos_schedules_palindromic.2.2 ty1 h1 m hm).2 i hi).1
  exact schedSteps_reverse φ hφ (eosFull o i) (eosFull_palin o i hpo hpi) h n x

/-- LEAPFROG as extracted (drift ½, force, kick 1, drift ½) -/
theorem c10_leapfrog_real_schedule_reverse {S : Type} (φ : Op → S → S)
    (hφ : ∀ o s, φ (negOp o) (φ o s) = s) (h : Rat) (n : Nat) (x : S) :
    (RawPalin leapfrogStep ∧ Fresh leapfrogStep) ∧
    iter (schedStep φ (moves leapfrogStep) (-h)) n (iter (schedStep φ (moves leapfrogStep) h) n x) = x := by
  have hp : RawPalin leapfrogStep ∧ Fresh leapfrogStep := by decide +kernel
  exact ⟨hp, schedSteps_reverse φ hφ (moves leapfrogStep) hp.1 h n x⟩

/-- the flow-inverse hypothesis is satisfiable: every operator acting as the translation by its time -/
example : ∀ (o : Op) (s : Rat), (fun (o : Op) (x : Rat) => x + o.a) (negOp o) ((fun (o : Op) (x : Rat) => x + o.a) o s) = s := by
  intro o s
  show s + o.a + (negOp o).a = s
  have : (negOp o).a = -o.a := by unfold negOp; split <;> rfl
  rw [this]; ring

/-- the hypotheses are satisfiable: translations of a field are flows undone by the negated
    coefficient (leapfrog's drift and kick are of this kind) -/
example (c s : K) : (fun (a : K) (x : K) => x + a) (-c) ((fun (a : K) (x : K) => x + a) c s) = s := by
  ring

/-- odd functions exist (the identity), so the SEI theorem is not vacuous; over ℚ with OMEGA = 1 -/
example (acc : List (V3 ℚ) → List (V3 ℚ)) (dt : ℚ) (s s' : List (LfP ℚ))
    (h : seiStep acc dt (seiInit id id 1 1 dt) s = some s') :
    seiStep acc (-dt) (seiInit id id 1 1 (-dt)) s' = some s :=
  c10_sei_step_reverse id id (fun _ => rfl) (fun _ => rfl) acc 1 1 dt (by norm_num) (by norm_num)
    (by norm_num) s s' h

end RV.C10
