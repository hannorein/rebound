import RV.Proofs.BinRepair
import RV.Proofs.Cadence
/-
  C07 — a crash during an archive write never loses completed snapshots.

  Model (RV/Model/Bin.lean): an append is `overwrite file (len-12) data` with
  `data = patched trailer ++ delta ++ END ++ new trailer` (`pendingData`; the write pattern is confirmed
  by strace and by byte diffs on every check run), a crash after `k` bytes is
  `crash file pos data k = file.take pos ++ data.take k ++ file.drop (pos+k)` (no truncation).
  `index v file` is what `reb_read_simulationarchive_from_stream_with_messages` exposes (offset and
  time of every accepted blob), mirrored loop by loop including short `fread`s and the offset check.

  `archI hdr fs0 ds` is the archive with first snapshot `fs0` and deltas `ds` (`ArchOK`: well-formed
  fields, 8-byte time fields, version ≥ 2, every blob < 2³¹ bytes).  All theorems hold for every source
  variant `v` (the six flags F1, F11, F2, F19, F18, F5 of `Variant` do not touch them, except F2, which concerns
  the error path, below).
-/
set_option linter.unusedVariables false
namespace RV.Bin

/-- **every cut point**: for every `k` short of the last byte of the write, the crash image exposes
    exactly the snapshots that were complete before the append started (same offsets, same times) -/
theorem c07_crash_index (v : Variant) (hdr : Bytes) (fs0 : List Field) (ds : List (List Field)) (dn : List Field)
    (h : ArchOK hdr fs0 ds) (hdn : BlobOK dn) (hL : blobLen dn < 2147483648)
    (k : Nat) (hk : k < (pendingData ds dn).length) :
    index v (crash (archI hdr fs0 ds) ((archI hdr fs0 ds).length - 12) (pendingData ds dn) k)
      = index v (archI hdr fs0 ds) := by
  rw [index_intact v hdr fs0 ds h, pendingData, crash_shape hdr fs0 ds (fun idx prev => trailerBytes idx prev (blobLen dn) ++
    (encFs dn ++ (endBytes ++ trailerBytes (ds.length + 1) (blobLen dn) 0))) k (Nat.le_of_lt hk)]
  rw [pendingData_length] at hk
  exact index_archG v _ hdr fs0 ds h fun idx p hp => crashFin_stops v idx p _ dn hdn hL hp k hk

/-- `k = |data|`: one more snapshot, at the end of the old file -/
theorem c07_crash_complete_index (v : Variant) (hdr : Bytes) (fs0 : List Field) (ds : List (List Field))
    (dn : List Field) (h : ArchOK hdr fs0 ds) (hdn : BlobOK dn) (hL : blobLen dn < 2147483648) :
    index v (crash (archI hdr fs0 ds) ((archI hdr fs0 ds).length - 12) (pendingData ds dn) (pendingData ds dn).length)
      = fixTimes v (archEntries fs0 (ds ++ [dn])) ∧
    (archEntries fs0 (ds ++ [dn])).length = (archEntries fs0 ds).length + 1 := by
  refine ⟨?_, by simp [archEntries, chainEntries_length]⟩
  rw [crash, List.take_length, append_shape]
  exact index_intact v hdr fs0 _ (h.snoc hdn hL)

/-- the completed write is the well-formed archive with one more delta (trailer-chain invariant:
    `offset_next` of the old last trailer = `offset_prev` of the new one = size of the delta + 16) -/
theorem c07_append_shape (hdr : Bytes) (fs0 : List Field) (ds : List (List Field)) (dn : List Field) :
    overwrite (archI hdr fs0 ds) ((archI hdr fs0 ds).length - 12) (pendingData ds dn)
      = archI hdr fs0 (ds ++ [dn]) :=
  append_shape hdr fs0 ds dn

/-- the write whose prefixes the crash theorem quantifies over is the one the writer performs: on a
    well-formed archive `reb_simulation_save_to_file` finds nothing to repair, starts writing at the last
    trailer and writes patched trailer ++ delta ++ END ++ new trailer -/
theorem c07_append_plan (v : Variant) (cmp : Nat → Bytes → Bytes → Bool) (hdr : Bytes) (fs0 : List Field)
    (ds : List (List Field)) (h : ArchOK hdr fs0 ds) (h2 t2 : Bytes) (b : List Field) (hh2 : h2.length = 64)
    (hb : WFs b) (hL : blobLen (diffF v cmp fs0 b) < 2147483648) (hn : ds.length + 1 < 4294967296) :
    appendPlan v cmp (archI hdr fs0 ds) (h2 ++ (encFs b ++ (endBytes ++ t2)))
      = .plan ⟨(archI hdr fs0 ds).length - 12, pendingData ds (diffF v cmp fs0 b), false⟩ :=
  appendPlan_archI v cmp hdr fs0 ds h h2 t2 b hh2 hb hL hn

/-- **restart theorem**.  `Damaged hdr fs0 ds X` = everything of the archive up to its last intact trailer,
    followed by arbitrary bytes `X` of which only the first 8 (index, offset_prev of that trailer) are known to
    have survived — every crash image, with or without stale tails of earlier cycles, has this form.  Under
    **NoFakeTrailer** (`Recovers`: the writer's recovery logic — last 28 bytes, one earlier trailer, repair walk —
    ends at the last intact trailer with a clean END template; decidable, evaluated by the driver on every
    generated image) the restarted append writes, at that trailer, exactly what the append to the intact archive
    writes: `∃ tail, append damaged s' = append intact s' ++ tail`. -/
theorem c07_restart_append (v : Variant) (cmp : Nat → Bytes → Bytes → Bool) (hdr : Bytes) (fs0 : List Field)
    (ds : List (List Field)) (h : ArchOK hdr fs0 ds) (X : Bytes)
    (hX : X.take 8 = le32 ds.length ++ le32 (lastPrev 0 ds)) (hXl : 12 ≤ X.length)
    (hrec : Recovers (Damaged hdr fs0 ds X) ((archPre hdr fs0 ds).length + 12))
    (h2 t2 : Bytes) (b : List Field) (hh2 : h2.length = 64) (hb : WFs b)
    (hL : blobLen (diffF v cmp fs0 b) < 2147483648) (hn : ds.length + 1 < 4294967296) :
    append v cmp (Damaged hdr fs0 ds X) (h2 ++ (encFs b ++ (endBytes ++ t2)))
      = some (archI hdr fs0 (ds ++ [diffF v cmp fs0 b]) ++ X.drop (pendingData ds (diffF v cmp fs0 b)).length) :=
  append_damaged v cmp hdr fs0 ds h X hX hrec h2 t2 b hh2 hb hL hn

/-- one crash/restart cycle on `archive ++ stale tail`, any cut point `k` of any pending delta `dn` -/
theorem c07_crash_restart (v : Variant) (cmp : Nat → Bytes → Bytes → Bool) (hdr : Bytes) (fs0 : List Field)
    (ds : List (List Field)) (h : ArchOK hdr fs0 ds) (tail0 : Bytes) (dn : List Field) (k : Nat)
    (hrec : Recovers (crash (archI hdr fs0 ds ++ tail0) (archPre hdr fs0 ds).length (pendingData ds dn) k)
              ((archPre hdr fs0 ds).length + 12))
    (h2 t2 : Bytes) (b : List Field) (hh2 : h2.length = 64) (hb : WFs b)
    (hL : blobLen (diffF v cmp fs0 b) < 2147483648) (hn : ds.length + 1 < 4294967296) :
    ∃ tail, append v cmp (crash (archI hdr fs0 ds ++ tail0) (archPre hdr fs0 ds).length (pendingData ds dn) k)
              (h2 ++ (encFs b ++ (endBytes ++ t2)))
      = some (archI hdr fs0 (ds ++ [diffF v cmp fs0 b]) ++ tail) :=
  crash_restart v cmp hdr fs0 ds h tail0 dn k hrec h2 t2 b hh2 hb hL hn

/-- **repeated crash/restart cycles** (induction over the run): the file is always the archive of the
    uninterrupted run followed by a stale tail -/
theorem c07_cycles (v : Variant) (cmp : Nat → Bytes → Bytes → Bool) (hdr : Bytes) (fs0 : List Field)
    (cs : List Cycle) (ds : List (List Field)) (h : ArchOK hdr fs0 ds) (tail0 : Bytes)
    (hok : CyclesOK v cmp hdr fs0 ds (archI hdr fs0 ds ++ tail0) cs) :
    ∃ tail, runCycles v cmp hdr fs0 ds (archI hdr fs0 ds ++ tail0) cs
      = some (archI hdr fs0 (ds ++ cs.map (fun c => diffF v cmp fs0 c.s.2.1)) ++ tail) := by
  induction cs generalizing ds tail0 with
  | nil => exact ⟨tail0, by simp [runCycles]⟩
  | cons c r ih =>
    obtain ⟨hrec, h64, hwf, hbo, hbl, hn, hnext⟩ := hok
    obtain ⟨tail, ha⟩ := crash_restart v cmp hdr fs0 ds h tail0 c.crashed c.k hrec c.s.1 c.s.2.2 c.s.2.1 h64 hwf hbl hn
    have ha' : append v cmp (crash (archI hdr fs0 ds ++ tail0) (archPre hdr fs0 ds).length (pendingData ds c.crashed) c.k)
        (streamOf c.s) = some (archI hdr fs0 (ds ++ [diffF v cmp fs0 c.s.2.1]) ++ tail) := ha
    obtain ⟨tail', hr⟩ := ih (ds ++ [diffF v cmp fs0 c.s.2.1]) (h.snoc hbo hbl) tail (hnext _ ha')
    refine ⟨tail', ?_⟩
    simp only [runCycles, ha', hr, List.map_cons, List.append_assoc, List.singleton_append]

/-- the stale tail is invisible: index and every snapshot of `archive ++ tail` are those of the archive — so the
    restarted archive exposes exactly the snapshots of the uninterrupted run -/
theorem c07_stale_tail_invisible (v : Variant) (init : State) (hdr : Bytes) (fs0 : List Field)
    (ds : List (List Field)) (h : ArchOK hdr fs0 ds) (tail : Bytes) :
    index v (archI hdr fs0 ds ++ tail) = index v (archI hdr fs0 ds) ∧
    ∀ k, k < ds.length + 1 →
      snapshot init (archI hdr fs0 ds ++ tail) ((archEntries fs0 ds).map (·.off)) k
        = snapshot init (archI hdr fs0 ds) ((archEntries fs0 ds).map (·.off)) k :=
  ⟨index_tail v hdr fs0 ds h tail, fun k hk => snapshot_tail init hdr fs0 ds h tail k hk⟩

/-- **the recovery walk of the writer** (simulationarchive.c:555-580) on a complete trailer chain followed by ANY
    residual bytes ends at the end of the last valid snapshot (and leaves a clean END template): the walk only
    follows `offset_next` from the first trailer and stops at the trailer whose `offset_next` is 0 -/
theorem c07_repair_walk_any_tail (hdr : Bytes) (fs0 : List Field) (ds : List (List Field)) (h : ArchOK hdr fs0 ds)
    (tail : Bytes) (fuel : Nat) (hf : ds.length < fuel) (last : Nat) (fld : Bytes) :
    (repairWalk (archI hdr fs0 ds ++ tail) fuel (64 + blobLen fs0) last fld).1 = (archI hdr fs0 ds).length ∧
    (((repairWalk (archI hdr fs0 ds ++ tail) fuel (64 + blobLen fs0) last fld).2).drop 4).take 4 = [0, 0, 0, 0] :=
  repairWalk_archI_tail hdr fs0 ds h tail fuel hf last fld

/-- **append position = end of the last valid snapshot, for every tail**: whenever the corruption test fires on
    `archive ++ tail`, NoFakeTrailer holds (so `c07_restart_append` applies) — the only way to defeat the writer is
    to fool the 28-byte corruption test itself (the fake-trailer image) -/
theorem c07_append_position_any_tail (hdr : Bytes) (fs0 : List Field) (ds : List (List Field)) (h : ArchOK hdr fs0 ds)
    (tail : Bytes) (so last : Nat) (fld : Bytes)
    (hro : recoverOf (archI hdr fs0 ds ++ tail) = some (so, last, fld, true)) :
    Recovers (archI hdr fs0 ds ++ tail) (archI hdr fs0 ds).length :=
  recovers_tail_of_corrupt hdr fs0 ds h tail so last fld hro

/-- zero-filled tail of any length ≥ 12 behind an archive with at least one delta: the test fires, the next append
    lands at the end of the last valid snapshot — `append (archive ++ zeros) s' = append archive s' ++ tail` -/
theorem c07_append_zero_tail (v : Variant) (cmp : Nat → Bytes → Bytes → Bool) (hdr : Bytes) (fs0 : List Field)
    (d : List Field) (r : List (List Field)) (h : ArchOK hdr fs0 (d :: r)) (n : Nat) (hn : 12 ≤ n)
    (h2 t2 : Bytes) (b : List Field) (hh2 : h2.length = 64) (hb : WFs b)
    (hL : blobLen (diffF v cmp fs0 b) < 2147483648) (hcnt : (d :: r).length + 1 < 4294967296) :
    ∃ tail, append v cmp (archI hdr fs0 (d :: r) ++ List.replicate n 0) (h2 ++ (encFs b ++ (endBytes ++ t2)))
      = some (archI hdr fs0 ((d :: r) ++ [diffF v cmp fs0 b]) ++ tail) := by
  obtain ⟨last, fld, hro⟩ := recoverOf_zero_tail hdr fs0 d r h n hn
  have hrec := recovers_tail_of_corrupt hdr fs0 (d :: r) h (List.replicate n 0) _ last fld hro
  have hF : archI hdr fs0 (d :: r) ++ List.replicate n 0
      = Damaged hdr fs0 (d :: r) (finIntact (d :: r).length (lastPrev 0 (d :: r)) ++ List.replicate n 0) := by
    rw [archI, archG_split]; simp [Damaged, List.append_assoc]
  rw [archI_length] at hrec
  rw [hF] at hrec ⊢
  exact ⟨_, append_damaged v cmp hdr fs0 (d :: r) h _ rfl hrec h2 t2 b hh2 hb hL hcnt⟩

/-- exposed = completed for ANY number of completed snapshots: `c07_crash_index` has no bound on the number of
    deltas, and the reader's index arrays (1024 + k·1024 slots) always have slot `i` when blob `i` is recorded -/
theorem c07_index_capacity (i : Nat) : i < RV.Cadence.capAt i := RV.Cadence.cap_ok i

/-- **cadence bookkeeping survives a restart** (simulationarchive.c:417-449 heartbeat, 641-668 re-arming; the cadence
    state is part of every snapshot).  Uninterrupted run over the step boundaries `ts1 ++ t :: ts2`, snapshot k written by
    the heartbeat at `t` (less than one interval past its prescribed time — what `c06_cadence_interval_exact` gives for
    steps no longer than the interval).  Restart from snapshot k, `save_to_file(interval=d)` again, integrate on: no
    snapshot at `t` (no duplicate), afterwards exactly the uninterrupted run's snapshots (none skipped), same final state. -/
theorem c07_cadence_restart_interval (s d next0 t : Int) (ts1 ts2 : List Int) (hs : s = 1 ∨ s = -1)
    (hfire : s * (RV.Cadence.run RV.Cadence.intOps s d next0 ts1).2 ≤ s * t)
    (hnl : s * t < s * (RV.Cadence.run RV.Cadence.intOps s d next0 ts1).2 + d) :
    let n1 := (RV.Cadence.run RV.Cadence.intOps s d next0 ts1).2
    let rest := RV.Cadence.run RV.Cadence.intOps s d (n1 + s * d) ts2
    RV.Cadence.run RV.Cadence.intOps s d next0 (ts1 ++ t :: ts2)
        = ((RV.Cadence.run RV.Cadence.intOps s d next0 ts1).1 ++ true :: rest.1, rest.2) ∧
    RV.Cadence.restart RV.Cadence.intOps RV.Cadence.intNe s d (n1 + s * d) d t ts2 = (false :: rest.1, rest.2) :=
  RV.Cadence.restart_exact s d next0 t ts1 ts2 hs hfire hnl

/-- the same in step mode -/
theorem c07_cadence_restart_step (step next0 sk : Nat) (ts1 ts2 : List Nat)
    (hfire : (RV.Cadence.runStep step next0 ts1).2 ≤ sk) (hnl : sk < (RV.Cadence.runStep step next0 ts1).2 + step) :
    let n1 := (RV.Cadence.runStep step next0 ts1).2
    let rest := RV.Cadence.runStep step (n1 + step) ts2
    RV.Cadence.runStep step next0 (ts1 ++ sk :: ts2) = ((RV.Cadence.runStep step next0 ts1).1 ++ true :: rest.1, rest.2) ∧
    RV.Cadence.restartStep step (n1 + step) step sk ts2 = (false :: rest.1, rest.2) :=
  RV.Cadence.restartStep_exact step next0 sk ts1 ts2 hfire hnl

/-- re-arming with a DIFFERENT interval after the restart starts a new cadence at the restart time -/
theorem c07_cadence_restart_rearmed (s d d' pn t : Int) (ts2 : List Int) (h : d ≠ d') :
    RV.Cadence.restart RV.Cadence.intOps RV.Cadence.intNe s d pn d' t ts2
      = (true :: (RV.Cadence.run RV.Cadence.intOps s d' (t + s * d') ts2).1, (RV.Cadence.run RV.Cadence.intOps s d' (t + s * d') ts2).2) :=
  RV.Cadence.restart_rearmed s d d' pn t ts2 h

/-- the hypothesis `hnl` of `c07_cadence_restart_interval` is needed: with the prescribed time a whole interval or more
    behind `t` (interval shorter than a step) the restarted run writes snapshot k a second time.  The model follows
    the source here; the real code does the same (finding `cadence:lagging-next-duplicate`). -/
theorem c07_cadence_restart_lagging_duplicates (s d n1 t : Int) (ts2 : List Int) (hlag : s * (n1 + s * d) ≤ s * t) :
    (RV.Cadence.restart RV.Cadence.intOps RV.Cadence.intNe s d (n1 + s * d) d t ts2).1.head? = some true :=
  RV.Cadence.restart_lagging_duplicates s d n1 t ts2 hlag

/-- on the repaired source (`fixes/C06-cadence-skip-passed-output-times.diff`) the restart statement holds for EVERY ratio
    of step and interval: no `hnl` hypothesis -/
theorem c07_cadence_restart_interval_repaired (s d next0 t : Int) (ts1 ts2 : List Int) (hs : s = 1 ∨ s = -1) (hd : 0 < d)
    (hfire : s * (RV.Cadence.runR RV.Cadence.intOpsR s d next0 ts1).2 ≤ s * t) :
    let n1 := (RV.Cadence.hbR RV.Cadence.intOpsR s d (RV.Cadence.runR RV.Cadence.intOpsR s d next0 ts1).2 t).2
    let rest := RV.Cadence.runR RV.Cadence.intOpsR s d n1 ts2
    RV.Cadence.runR RV.Cadence.intOpsR s d next0 (ts1 ++ t :: ts2)
        = ((RV.Cadence.runR RV.Cadence.intOpsR s d next0 ts1).1 ++ true :: rest.1, rest.2) ∧
    RV.Cadence.restartR RV.Cadence.intOpsR RV.Cadence.intNe s d n1 d t ts2 = (false :: rest.1, rest.2) :=
  RV.Cadence.restartR_exact s d next0 t ts1 ts2 hs hd hfire

/-- wall-time mode is re-armed unconditionally, the restarted run writes a snapshot at once (documented at
    simulationarchive.c:654) -/
theorem c07_cadence_restart_walltime_fires (d w : Int) :
    (RV.Cadence.hbWall RV.Cadence.intOps d (RV.Cadence.armWall d w).2 w).1 = true :=
  RV.Cadence.wall_restart_fires d w

/-- prefix lemma: walking a strict prefix of an encoded blob ends in `read_error` — never in an accepted
    blob, never in an out-of-bounds read -/
theorem c07_prefix_read_error (v : Variant) (fs : List Field) (h : BlobOK fs) (m : Nat)
    (hm : m < blobLen fs) (fuel pos : Nat) (t : Option Bytes) :
    walkBlob v fuel pos ((encFs fs ++ endBytes).take m) t = .readError :=
  walkBlob_prefix v fs h m hm fuel pos t

/-- a complete blob whose trailer is cut is rejected by the offset check -/
theorem c07_short_trailer_rejected (v : Variant) (d : List Field) (hd : BlobOK d) (hdl : blobLen d < 2147483648)
    (x m : Nat) (hm : m < blobLen d + 12) (fuel i pos : Nat) (hi : i > 0) :
    (indexLoop v fuel i pos ((encFs d ++ (endBytes ++ trailerBytes x (blobLen d) 0)).take m)).entries = [] ∧
    (indexLoop v fuel i pos ((encFs d ++ (endBytes ++ trailerBytes x (blobLen d) 0)).take m)).undefinedB = false :=
  indexLoop_rejects_prefix v d hd hdl x m hm fuel i pos hi

/-- **first snapshot**: a fresh file cut anywhere before its END marker is complete is reported as an
    error (one of the reader's two error exits), exposes no snapshot, and the reader never reads out of
    bounds.  `errorSeek true` means the callee called `free` on the handle it was given. -/
theorem c07_first_snapshot_cut (v : Variant) (hdr : Bytes) (hh : HdrOK hdr) (fs0 : List Field) (h0 : BlobOK fs0)
    (s0 : ScanOK fs0) (T : Bytes) (k : Nat) (hk : k < 64 + blobLen fs0) :
    openArchive v ((firstFile hdr fs0 T).take k) = .errorOld ∨
    openArchive v ((firstFile hdr fs0 T).take k) = .errorSeek (!v.f2) := by
  by_cases h16 : k < 16
  · -- not even the header: the version scan stops at its first read with version 0
    have hr : readHdr ((firstFile hdr fs0 T).take k) = none := readHdr_short _ (by simp; omega)
    simp [openArchive, scanVersion, hr]
  · obtain ⟨sz, hr, hd⟩ := take_hdr64 hdr (encFs fs0 ++ (endBytes ++ T)) hh k (by omega)
    have h64 : k - 64 < blobLen fs0 := by have := blobLen_ge fs0; omega
    -- the version scan never leaves its objects
    obtain ⟨w, hw⟩ : ∃ w, scanVersion v (((firstFile hdr fs0 T).take k).length + 1) ((firstFile hdr fs0 T).take k) 0
        = some w := by
      unfold firstFile
      rw [scanVersion, hr]
      simp only [if_true, hd]
      rw [take_body fs0 T _ h64]; exact scanVersion_prefix v fs0 s0 _ _ _
    -- blob 0 is a strict prefix: read error, nothing accepted
    have hidx : indexLoop v (((firstFile hdr fs0 T).take k).length + 1) 0 0 ((firstFile hdr fs0 T).take k)
        = ⟨[], true, false, false⟩ := by
      unfold firstFile
      rw [indexLoop, walkBlob, hr]
      simp only [if_true, hd]
      rw [take_body fs0 T _ h64, walkBlob_prefix v fs0 h0 _ h64]
    unfold openArchive
    rw [hw, hidx]
    by_cases hver : w < 2 <;> simp [hver]

/-- full statement, for the source with fixes/F2.diff: the error path never frees caller-owned memory -/
theorem c07_first_snapshot_error_owns_nothing (hdr : Bytes) (hh : HdrOK hdr) (fs0 : List Field) (h0 : BlobOK fs0)
    (s0 : ScanOK fs0) (T : Bytes) (k : Nat) (hk : k < 64 + blobLen fs0) :
    openArchive Variant.fixed ((firstFile hdr fs0 T).take k) = .errorOld ∨
    openArchive Variant.fixed ((firstFile hdr fs0 T).take k) = .errorSeek false :=
  c07_first_snapshot_cut Variant.fixed hdr hh fs0 h0 s0 T k hk

/-- the same statement is **false of `Variant.current`** (F2, simulationarchive.c:317-332): a first
    snapshot cut after its version field makes the callee free the caller's handle -/
theorem c07_first_snapshot_current_frees_caller :
    ∃ (hdr : Bytes) (fs0 : List Field) (T : Bytes) (k : Nat), HdrOK hdr ∧ BlobOK fs0 ∧ ScanOK fs0 ∧
      k < 64 + blobLen fs0 ∧
      openArchive Variant.current ((firstFile hdr fs0 T).take k) = .errorSeek true := by
  refine ⟨[82, 69, 66, 79] ++ List.replicate 60 0, [⟨125, 4, [3, 0, 0, 0]⟩, ⟨0, 8, [0, 0, 0, 0, 0, 0, 0, 0]⟩], [], 90,
    ⟨rfl, by decide⟩, ⟨?_, ?_, ?_⟩, ⟨?_, ?_, ?_, ?_⟩, by decide, by decide +kernel⟩
  all_goals
    (intro f hf; simp only [List.mem_cons, List.not_mem_nil, or_false] at hf
     rcases hf with rfl | rfl <;> first | exact ⟨rfl, by decide, by decide, by decide⟩ | decide)

/-- non-vacuity: a two-blob archive satisfying `ArchOK`, and one crash image of a third append -/
example :
    let hdr : Bytes := [82, 69, 66, 79] ++ List.replicate 60 0
    let fs0 : List Field := [⟨0, 8, [0,0,0,0,0,0,0,0]⟩, ⟨125, 4, [3,0,0,0]⟩]
    let d1 : List Field := [⟨0, 8, [1,0,0,0,0,0,0,0]⟩]
    ArchOK hdr fs0 [d1] ∧ (archEntries fs0 [d1]).length = 2 ∧ (pendingData [d1] d1).length = 64 := by
  refine ⟨⟨⟨rfl, by decide⟩, ⟨?_, ?_, ?_⟩, ⟨?_, ?_, ?_, ?_⟩, by decide, ?_⟩, by decide, by decide⟩
  all_goals first
    | (intro f hf; simp only [List.mem_cons, List.not_mem_nil, or_false] at hf
       rcases hf with rfl | rfl <;> first | exact ⟨rfl, by decide, by decide, by decide⟩ | decide)
    | (intro d hd; simp only [List.mem_singleton] at hd; subst hd
       refine ⟨⟨?_, ?_, ?_⟩, by decide⟩ <;>
         (intro f hf; simp only [List.mem_singleton] at hf; subst hf
          first | exact ⟨rfl, by decide, by decide, by decide⟩ | decide))

end RV.Bin
