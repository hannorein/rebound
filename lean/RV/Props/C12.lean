import RV.Proofs.Transform
/-
  C12 — coordinate transformations are mutual inverses and slot 0 carries the
  total mass and centre of mass of the active particles.

  Statements are about the definitions in RV/Model/Transform.lean (the same ones the
  driver `drv_c12` runs on IEEE doubles against transformations.c), instantiated at an
  arbitrary field `K`: exact arithmetic, every number of active particles `act.length`
  and of test particles `tst.length`, every mass split.  The only hypotheses are the
  non-vanishing of exactly those quantities the C code divides by.
-/
namespace RV.Transform
open RV
variable {K : Type} [Field K]

/-- slot 0 of the Jacobi set is (total active mass, centre of mass) -/
theorem c12_jacobi_slot0 (m0 x0 : K) (act : List (K × K)) (tst : List K)
    (h : SumsNZ m0 act) :
    (jacFwd m0 x0 act tst).m0 = m0 + msum act ∧
    (jacFwd m0 x0 act tst).x0 = (m0 * x0 + mxsum act) / (m0 + msum act) := by
  obtain ⟨e1, e2, _⟩ := jacFwdAct_final m0 (m0 * x0) act h
  constructor
  · simp only [jacFwd, sc_hmul]; exact e1
  · simp only [jacFwd, sc_hmul, sc_hdiv, sc_one]; rw [e1, e2]; ring

/-- `jacobi_to_inertial ∘ inertial_to_jacobi = id` on every component, ∀ N, ∀ N_active -/
theorem c12_jacobi_roundtrip (m0 x0 : K) (act : List (K × K)) (tst : List K)
    (h : SumsNZ m0 act) :
    let o := jacFwd m0 x0 act tst
    let b := jacInv o.m0 o.x0 ((act.map Prod.fst).zip o.act) o.tst
    b.m0 = m0 ∧ b.x0 = x0 ∧ b.act = act.map Prod.snd ∧ b.tst = tst := by
  have hr := jac_act_roundtrip m0 (m0 * x0) act h
  obtain ⟨e1, e2, e3⟩ := jacFwdAct_final m0 (m0 * x0) act h
  have hM : (jacFwdAct m0 (m0 * x0) act).2.1 ≠ 0 := e3
  have h0 : m0 ≠ 0 := sumsNZ_head h
  simp only [jacFwd, jacInv, sc_hmul, sc_hdiv, sc_one, sc_hsub, sc_hadd]
  have hs : (jacFwdAct m0 (m0 * x0) act).2.2 * (1 / (jacFwdAct m0 (m0 * x0) act).2.1) *
      (jacFwdAct m0 (m0 * x0) act).2.1 = (jacFwdAct m0 (m0 * x0) act).2.2 := by
    field_simp
  rw [hs, hr]
  refine ⟨rfl, ?_, ?_, ?_⟩
  · field_simp
  · simp
  · simp only [List.map_map]
    exact List.map_id'' (fun a => by simp) tst

/-- slot 0 of the DH / WHDS set is (total active mass, centre of mass) -/
theorem c12_dh_slot0 (m0 x0 : K) (act : List (K × K)) (tst : List K) :
    (dhFwdPos m0 x0 act tst).m0 = m0 + msum act ∧
    (dhFwdPos m0 x0 act tst).x0 = (m0 * x0 + mxsum act) / (m0 + msum act) ∧
    (dhFwdVel m0 x0 act tst).x0 = (m0 * x0 + mxsum act) / (m0 + msum act) ∧
    (whdsFwdVel m0 x0 act tst).x0 = (m0 * x0 + mxsum act) / (m0 + msum act) := by
  simp only [dhFwdPos, dhFwdVel, whdsFwdVel, comAcc_eq, sc_zero, sc_hdiv]
  simp [mxsum, msum]

/-- DH positions: `to_inertial_pos ∘ to_dh = id`, ∀ N, ∀ N_active (needs total mass ≠ 0) -/
theorem c12_dh_pos_roundtrip (m0 x0 : K) (act : List (K × K)) (tst : List K)
    (hM : m0 + msum act ≠ 0) :
    let o := dhFwdPos m0 x0 act tst
    let b := dhInvPos o.m0 o.x0 ((act.map Prod.fst).zip o.act) o.tst
    b.x0 = x0 ∧ b.act = act.map Prod.snd ∧ b.tst = tst := by
  have hz := zip_map_fst act (fun p => p.2 - x0)
  have key : (m0 * x0 + mxsum act) / (m0 + msum act)
      - (mxsum act - x0 * msum act) / (m0 + msum act) = x0 := by
    field_simp; ring
  simp only [dhFwdPos, dhInvPos, comAcc_eq, sc_zero, sc_hdiv, sc_hsub, sc_hadd, dhSum_eq, hz,
    mxsum_shift]
  rw [mxsum_cons, msum_cons, zero_add, zero_add, zero_add, key]
  refine ⟨rfl, ?_, ?_⟩
  · simp [List.map_map, Function.comp_def]
  · simp [List.map_map, Function.comp_def]

/-- DH velocities: `v0` recovered from the COM velocity, others by adding it back.
    `m0 ≠ 0` is what `democraticheliocentric_to_inertial_posvel` divides by. -/
theorem c12_dh_vel_roundtrip (m0 v0 : K) (act : List (K × K)) (tst : List K)
    (hM : m0 + msum act ≠ 0) (h0 : m0 ≠ 0) :
    let o := dhFwdVel m0 v0 act tst
    let b := dhInvVel m0 o.x0 ((act.map Prod.fst).zip o.act) o.tst
    b.x0 = v0 ∧ b.act = act.map Prod.snd ∧ b.tst = tst := by
  have hz := fun c : K => zip_map_fst act (fun p => p.2 - c)
  simp only [dhFwdVel, dhInvVel, comAcc_eq, sc_zero, sc_hdiv, sc_hsub, sc_hadd, dhSum_eq, hz,
    mxsum_shift]
  rw [mxsum_cons, msum_cons, zero_add, zero_add, zero_add]
  refine ⟨?_, ?_, ?_⟩
  · field_simp; ring
  · simp [List.map_map, Function.comp_def]
  · simp [List.map_map, Function.comp_def]

/-- WHDS velocities: `whds_to_inertial ∘ inertial_to_whds = id` -/
theorem c12_whds_vel_roundtrip (m0 v0 : K) (act : List (K × K)) (tst : List K)
    (hM : m0 + msum act ≠ 0) (h0 : m0 ≠ 0) (hw : WhdsNZ m0 act) :
    let o := whdsFwdVel m0 v0 act tst
    let b := whdsInvVel m0 o.x0 ((act.map Prod.fst).zip o.act) o.tst
    b.x0 = v0 ∧ b.act = act.map Prod.snd ∧ b.tst = tst := by
  have hz := fun c : K => zip_map_fst act (fun p => (m0 + p.1) / m0 * (p.2 - c))
  simp only [whdsFwdVel, whdsInvVel, comAcc_eq, sc_zero, sc_hdiv, sc_hsub, sc_hadd, sc_hmul,
    whdsSum_eq, hz]
  rw [mxsum_cons, msum_cons, zero_add, zero_add, zero_add, whds_sum_key m0 _ act h0 hw]
  refine ⟨?_, ?_, ?_⟩
  · field_simp; ring
  · rw [List.map_map]
    apply List.map_congr_left
    intro p hp
    have : m0 + p.1 ≠ 0 := hw p hp
    simp; field_simp; ring
  · simp [List.map_map, Function.comp_def]

/-- slot 0 of the barycentric set is (total active mass, centre of mass) -/
theorem c12_bary_slot0 (m0 x0 : K) (act : List (K × K)) (tst : List K) :
    (baryFwd m0 x0 act tst).m0 = m0 + msum act ∧
    (baryFwd m0 x0 act tst).x0 = (m0 * x0 + mxsum act) / (m0 + msum act) := by
  simp only [baryFwd, baryAcc_eq, sc_zero, sc_hdiv, sc_hadd, sc_hmul, sc_one]
  simp; ring

/-- barycentric: `to_inertial ∘ to_barycentric = id`, and the mass of particle 0 is
    recovered.  Hypotheses: total mass ≠ 0 and m0 ≠ 0 (the two divisors in the C code). -/
theorem c12_bary_roundtrip (m0 x0 : K) (act : List (K × K)) (tst : List K)
    (hM : m0 + msum act ≠ 0) (h0 : m0 ≠ 0) :
    let o := baryFwd m0 x0 act tst
    let b := baryInv o.m0 o.x0 ((act.map Prod.fst).zip o.act) o.tst
    b.m0 = m0 ∧ b.x0 = x0 ∧ b.act = act.map Prod.snd ∧ b.tst = tst := by
  have hz := fun c : K => zip_sub_add act c
  simp only [baryFwd, baryInv, baryAcc_eq, sc_zero, sc_hdiv, sc_hsub, sc_hadd, sc_hmul, sc_one, hz,
    zero_add]
  have hm : m0 + msum act - msum act = m0 := by ring
  refine ⟨hm, ?_, ?_, ?_⟩
  · rw [hm]; field_simp; ring
  · trivial
  · simp [List.map_map, Function.comp_def]

/-! ### in-place DH maps of MERCURIUS and TRACE -/

/-- the stored `com_pos`/`com_vel` is the centre of mass (velocity) of the active particles -/
theorem c12_hybrid_com (m0 x0 : K) (act : List (K × K)) (tst : List K) :
    (hybFwdPos m0 x0 act tst).com = (m0 * x0 + mxsum act) / (m0 + msum act) ∧
    (hybFwdVel m0 x0 act tst).com = (m0 * x0 + mxsum act) / (m0 + msum act) := by
  simp only [hybFwdPos, hybFwdVel, hybAcc_eq, sc_zero, sc_hdiv]
  simp [mxsum, msum]

/-- `dh_to_inertial ∘ inertial_to_dh = id` on positions (particle 0 is rebuilt from the
    stored centre of mass; its own slot is ignored by the inverse) -/
theorem c12_hybrid_pos_roundtrip (m0 x0 : K) (act : List (K × K)) (tst : List K)
    (hM : m0 + msum act ≠ 0) :
    let o := hybFwdPos m0 x0 act tst
    let b := hybInvPos m0 o.com ((act.map Prod.fst).zip o.act) o.tst
    b.x0 = x0 ∧ b.act = act.map Prod.snd ∧ b.tst = tst := by
  have hz := zip_map_fst act (fun p => p.2 - x0)
  have hM' : msum act + m0 ≠ 0 := by rwa [add_comm]
  have key : (m0 * x0 + mxsum act) / (m0 + msum act)
      - (mxsum act - x0 * msum act) / (msum act + m0) = x0 := by
    field_simp; ring
  simp only [hybFwdPos, hybInvPos, hybAcc_eq, sc_zero, sc_hdiv, sc_hsub, sc_hadd, hz, mxsum_shift,
    msum_map_snd]
  rw [mxsum_cons, msum_cons, zero_add, zero_add, zero_add, zero_add, key]
  refine ⟨rfl, ?_, ?_⟩
  · simp [List.map_map, Function.comp_def]
  · simp [List.map_map, Function.comp_def]

theorem c12_hybrid_vel_roundtrip (m0 v0 : K) (act : List (K × K)) (tst : List K)
    (hM : m0 + msum act ≠ 0) (h0 : m0 ≠ 0) :
    let o := hybFwdVel m0 v0 act tst
    let b := hybInvVel m0 o.com ((act.map Prod.fst).zip o.act) o.tst
    b.x0 = v0 ∧ b.act = act.map Prod.snd ∧ b.tst = tst := by
  have hz := fun c : K => zip_map_fst act (fun p => p.2 - c)
  simp only [hybFwdVel, hybInvVel, hybAcc_eq, sc_zero, sc_hdiv, sc_hsub, sc_hadd, hz, mxsum_shift]
  rw [mxsum_cons, msum_cons, zero_add, zero_add, zero_add]
  refine ⟨?_, ?_, ?_⟩
  · field_simp; ring
  · simp [List.map_map, Function.comp_def]
  · simp [List.map_map, Function.comp_def]

/-! ### non-vacuity: a concrete three-body set with a zero-mass active body and a test
    particle meets every hypothesis (over ℚ) -/
example : SumsNZ (1 : ℚ) [(0, 2), (1/1000, 5)] ∧ WhdsNZ (1 : ℚ) [(0, 2), (1/1000, 5)] ∧
    (1 : ℚ) + msum [(0, 2), ((1:ℚ)/1000, 5)] ≠ 0 := by
  refine ⟨by norm_num [SumsNZ], ?_, by norm_num [msum]⟩
  intro p hp; simp at hp; rcases hp with rfl | rfl <;> norm_num

end RV.Transform
