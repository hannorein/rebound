import RV.Proofs.CompareReport
import RV.Proofs.CompareCopy
import RV.Proofs.PersistTable
import RV.Gen.C05Descriptors
/-
  C17 — copies are equal; compare reports exactly the real differences.

  `copy = load ∘ encode` (rebound.c:423-437) and `compare` (equality decision of reb_binary_diff,
  binarydiff.c:216-239 with reb_particle_diff 35-51) are the definitions of RV/Model/Persist.lean that the
  driver `drv_c05` runs against the compiled library (ops CMP / LOADI).

  Full-strength statement of the property at model level:
      compare a b = equal  ↔  every persisted non-walltime field of a and b is bitwise equal
                              once pointer-valued members are disregarded
  It is FALSE of the code as it exists, for three reasons that the theorems below isolate:
    (C17-N1) particle doubles are compared with C `!=`: a NaN makes a simulation unequal to itself, +0.0 and -0.0
          compare equal although the bits differ          → `c17_nan_unequal_to_itself`, `c17_double_compare`
    (F5)  payloads other than `particles` are compared with memcmp although some embed pointers
          (reb_variational_configuration.sim)            → `c17_table_memcmp_pointer_payloads`
    (C05-N3) ri_whfast.p_jh is memcmp'd including never-initialised members (real-code search only)
-/
namespace RV.Persist
open RV.Gen.C05

/-- exact characterisation of the return value: the streams compare equal iff every field of the first has a
    partner in the second whose payload does not differ (or the field is a walltime field), and the second has
    no additional field -/
theorem c17_compare_iff (sp : Special) (specs : List CmpSpec) (tbl : List Desc) (fs1 fs2 : List Field) :
    compare sp specs tbl fs1 fs2 = false ↔
      (∀ f ∈ body sp fs1, ∃ p, findField (body sp fs2) f.1 = some p ∧
          (payloadDiffer specs (descForType tbl f.1) f.2 p = false ∨ wallOf tbl f.1 = true)) ∧
      (∀ f ∈ body sp fs2, (findField (body sp fs1) f.1).isSome = true) :=
  compare_false_iff sp specs tbl fs1 fs2

/-- for a field compared with memcmp, "differ" is exactly inequality of the payload bytes: every difference is
    reported, and only differences are -/
theorem c17_memcmp_exact (specs : List CmpSpec) (d : Desc) (a b : Bytes) (h : d.cmp = 0) :
    payloadDiffer specs (some d) a b = true ↔ a ≠ b := by
  by_cases hl : a.length = b.length <;> simp [payloadDiffer, hl, h]
  exact fun e => hl (e ▸ rfl)

/-- for a member-wise compared field (particles): equal iff same length and every listed member of every
    element compares equal with C `!=` -/
theorem c17_memberwise_exact (specs : List CmpSpec) (d : Desc) (k : Nat) (c : CmpSpec) (a b : Bytes)
    (h : d.cmp = k + 1) (hs : specs[k]? = some c) :
    payloadDiffer specs (some d) a b = false ↔
      a.length = b.length ∧ ∀ i, i < a.length / c.size → ∀ m ∈ c.members,
        memberNe m (slice a (i * c.size) c.size) (slice b (i * c.size) c.size) = false :=
  payloadDiffer_memberwise specs d k c a b h hs

/-- what C `!=` on doubles decides (C17-N1): false iff neither operand is NaN and the bit patterns are equal or both
    are zeros of either sign -/
theorem c17_double_compare (a b : Bytes) :
    f64Ne a b = false ↔ isNaN64 (leNat a) = false ∧ isNaN64 (leNat b) = false ∧
      (leNat a = leNat b ∨ (isZero64 (leNat a) = true ∧ isZero64 (leNat b) = true)) := by
  cases h1 : isNaN64 (leNat a) <;> cases h2 : isNaN64 (leNat b) <;> cases h3 : isZero64 (leNat a) <;>
    cases h4 : isZero64 (leNat b) <;> simp [f64Ne, h1, h2, h3, h4]

/-- **never on account of memory addresses** (member-wise fields): overwriting the pointer members (and the
    padding) of every element, in either operand, with arbitrary bytes never changes the decision -/
theorem c17_memberwise_ignores_pointers (specs : List CmpSpec) (d : Desc) (k : Nat) (c : CmpSpec)
    (slots : List (Nat × Nat)) (fa fb : Nat → UInt8) (a b : Bytes)
    (h : d.cmp = k + 1) (hs : specs[k]? = some c) (hclear : specClear c slots = true) (hpos : 0 < c.size) :
    payloadDiffer specs (some d) (fillSlots c.size slots fa a) (fillSlots c.size slots fb b) =
      payloadDiffer specs (some d) a b :=
  payloadDiffer_fillSlots specs d k c slots fa fb a b h hs hclear hpos

/-- **a stream equals itself** — under the hypothesis (C17-N1) that no member-wise compared double is a NaN.
    The statement without that hypothesis is false: see `c17_nan_unequal_to_itself`. -/
theorem c17_compare_self_partial (sp : Special) (specs : List CmpSpec) (tbl : List Desc) (fs : List Field)
    (hn : ((body sp fs).map (·.1)).Nodup)
    (hclean : ∀ f ∈ body sp fs, ∀ dd k c, descForType tbl f.1 = some dd → dd.cmp = k + 1 →
      specs[k]? = some c → FpClean c f.2) :
    compare sp specs tbl fs fs = false := by
  rw [compare_false_iff]
  refine ⟨?_, ?_⟩
  · intro f hf
    refine ⟨f.2, findField_self _ hn f hf, Or.inl ?_⟩
    exact payloadDiffer_self specs _ f.2 (fun dd k c h1 h2 h3 => hclean f hf dd k c h1 h2 h3)
  · intro f hf
    rw [findField_self _ hn f hf]; rfl

/-- **a simulation equals its own copy** (copy = save + load into a fresh simulation at another address, including
    the loader's fix-ups), for every table meeting the decidable side conditions `TableOK` / `FixOK`, every
    well-formed source and every fresh `init` — under the explicit hypotheses that name the findings:
    `hvar` (F5) the source has no variational configuration, `hclean` (C17-N1) no emitted payload differs from itself
    (false only for a NaN in a particle double compared with `!=`).  The full statement (without `hvar`, `hclean`)
    is false of the unchanged tree; after the repairs F5 (member-wise var_config) and C17-N1 (bitwise doubles)
    `hclean` holds for every source. -/
theorem c17_copy_equal_partial (psz : Nat) (sp : Special) (specs : List CmpSpec) (tbl : List Desc) (pl vl : ElemLayout)
    (pSim vSim self : Nat) (init s : Sim) (fp : Bool)
    (ok : TableOK psz sp tbl) (fok : FixOK psz sp specs tbl pl pSim) (hwf : WF psz tbl s)
    (hie : InitEmpty tbl init)
    (hvar : ∀ d ∈ live tbl, (d.dtype = .pointer ∨ d.dtype = .pointerAligned) → d.mem = sp.varCfgMem → fieldSize s d = 0)
    (hclean : ∀ d ∈ live tbl, ∀ p, encodeField psz s d = [(d.id, p)] →
      payloadDiffer specs (descForType tbl d.id) p p = false ∨ wallOf tbl d.id = true)
    (hfp : ∀ p, payloadDiffer specs (descForType tbl sp.fpIdWritten) p p = false ∨ wallOf tbl sp.fpIdWritten = true) :
    compare sp specs tbl (encode psz sp tbl s fp)
      (encode psz sp tbl (copy psz sp tbl pl vl pSim vSim self init s fp).1 fp) = false := by
  unfold copy load
  simp only
  rw [decode_encode ok s init fp hwf]
  simp only
  unfold encode
  have hx : ∀ d ∈ live tbl, encodeField psz (restore psz tbl init s) d = encodeField psz s d :=
    fun d hd => encodeField_restore init s hie d hd
  apply compare_of_rows sp specs tbl (live tbl) _ _ _ ok.nodup ok.endFresh
  · -- the function-pointer field is not END
    show sp.fpIdWritten ≠ sp.endId
    rw [ok.fpEq]; exact ok.fpNotEnd
  · -- a row with the id of the function-pointer flag emits nothing
    intro d hd hid
    have hid' : d.id = sp.fpId := by rw [← ok.fpEq]; exact hid
    have hdt := ok.fpRow d hd hid'
    exact ⟨encodeField_none _ d (by simp [hdt]), encodeField_none _ d (by simp [hdt])⟩
  · exact hfp _
  · intro d hd
    have hr := finish_rows psz sp specs tbl pl vl pSim vSim self (restore psz tbl init s) fok
      (by
        intro d' hd' hdt hV
        have hz := hvar d' hd' hdt hV
        have he := hx d' hd'
        rw [encodeField_pointer _ d' hdt, encodeField_pointer _ d' hdt] at he
        by_cases h0 : fieldSize (restore psz tbl init s) d' = 0
        · exact h0
        · simp [h0, hz] at he)
      (by
        intro d' hd' p hp
        rw [hx d' hd'] at hp
        exact hclean d' hd' p hp)
      d hd
    unfold RowRel at hr ⊢
    rw [hx d hd] at hr
    exact hr

/-! ### the current table -/

/-- the side conditions of `c17_copy_equal_partial` hold for the current table: the members the loader touches
    after reading (N_allocated, ri_whfast512.recalculate_constants) are not persisted, the particle array is
    persisted by exactly one row, that row is compared member-wise, its compared members lie clear of every
    pointer member of reb_particle, and no REB_DP7 / fixed-size row aliases the fixed-up arrays -/
theorem c17_table_fix_ok : FixOK particleSize special cmpSpecs table elem_reb_particle particleSimOff :=
  fixOK_of_b _ _ _ _ _ _ (by decide +kernel)

/-- the function-pointer flag row is compared with memcmp, so its payload never differs from itself -/
theorem c17_table_fp_row (p : Bytes) :
    payloadDiffer cmpSpecs (descForType table special.fpIdWritten) p p = false ∨ wallOf table special.fpIdWritten = true := by
  left
  have h : (match descForType table special.fpIdWritten with
    | some dd => dd.cmp == 0
    | none => true) = true := by decide +kernel
  apply payloadDiffer_self
  intro dd k c h1 h2 _
  rw [h1] at h
  simp [h2] at h

/-- (C17-N1) a double compared with C `!=` differs from itself when it is a NaN: the model-level counter-example to
    "a simulation always equals its own copy" wherever reb_particle_diff uses `!=` (replayed on the real code by
    the search: a particle flagged y = NaN, REBOUND's own marker for removed particles) -/
theorem c17_nan_unequal_to_itself (b : Bytes) (h : isNaN64 (leNat b) = true) : f64Ne b b = true := by
  unfold f64Ne
  simp [h]

private def nanParticle : Bytes :=
  [0, 0, 0, 0, 0, 0, 0xf8, 0x7f] ++ List.replicate 120 0
private def neSpec : List CmpSpec := [⟨128, [⟨.f64, 0, 8⟩, ⟨.f64, 8, 8⟩, ⟨.u32, 104, 4⟩]⟩]
private def neTable : List Desc := [⟨85, .pointer, 19, 6, 128, false, 1⟩, ⟨9999, .fieldEnd, 0, 0, 0, false, 0⟩]

/-- ... so a whole stream holding one particle with x = NaN is reported different from itself under a compare spec
    that uses `!=` for doubles (the spec of the unchanged tree) -/
example : compare special neSpec neTable [(85, nanParticle), (9999, [])] [(85, nanParticle), (9999, [])] = true := by
  decide +kernel

/-- the member-wise compare spec of every row that has one covers exactly the non-pointer members of the row's
    element struct, and all compared members lie clear of the pointer members -/
theorem c17_table_spec_covers :
    (table.all (fun d =>
      match d.cmp with
      | 0 => true
      | k + 1 =>
        match cmpSpecs[k]?, rowElems.find? (fun p => p.1 = d.id) with
        | some c, some p => specCovers c p.2 && specClear c (ptrSlots p.2) && decide (0 < c.size)
        | _, _ => false)) = true := by decide +kernel

/-- persisted payloads whose element struct embeds a pointer and which reb_binary_diff nevertheless compares with
    memcmp: at most var_config (86, finding F5), ri_whfast.p_jh (104) and ri_whfast512.pjh0 (399).  A new one
    fails this theorem; the list shrinks when F5 is repaired by a member-wise comparison. -/
theorem c17_table_memcmp_pointer_payloads : memcmpPtrIds table rowElems ⊆ [86, 104, 399] := by
  decide +kernel

/-- only the two wall-clock fields are exempt from the comparison -/
theorem c17_table_walltime_rows : (table.filter (·.wall)).map (·.id) ⊆ [126, 127] := by decide +kernel

/-! ### the report of reb_binary_diff (what differs, not only whether) -/

/-- **the report lists exactly the differing persisted fields** (binarydiff.c:154-394, output_option 0 — the difference
    stream of archive snapshots): an entry `(id, p)` is written iff the field is in stream 1 and has vanished from
    stream 2 (then `p` is empty), or is in both with differing payloads (then `p` is the payload of stream 2; for
    `particles` / `var_config` "differ" is the element loop of `c17_memberwise_exact`), or is in stream 2 only.
    Any table, any two field lists. -/
theorem c17_report_exact (sp : Special) (specs : List CmpSpec) (tbl : List Desc) (fs1 fs2 : List Field) (id : Nat) (p : Bytes) :
    (id, p) ∈ diffReport sp specs tbl fs1 fs2 ↔
      (∃ p1, (id, p1) ∈ body sp fs1 ∧ findField (body sp fs2) id = none ∧ p = []) ∨
      (∃ p1, (id, p1) ∈ body sp fs1 ∧ findField (body sp fs2) id = some p ∧
          payloadDiffer specs (descForType tbl id) p1 p = true) ∨
      ((id, p) ∈ body sp fs2 ∧ findField (body sp fs1) id = none) :=
  diffReport_mem_iff sp specs tbl fs1 fs2 id p

/-- the return value is "different" exactly when the report holds an entry other than a walltime field present in
    both streams -/
theorem c17_compare_iff_report (sp : Special) (specs : List CmpSpec) (tbl : List Desc) (fs1 fs2 : List Field) :
    compare sp specs tbl fs1 fs2 = true ↔
      ∃ f ∈ diffReport sp specs tbl fs1 fs2, counts sp tbl fs1 fs2 f = true := by
  constructor
  · intro h
    unfold compare at h
    simp only [Bool.or_eq_true, List.any_eq_true] at h
    rcases h with ⟨f, hf, hd⟩ | ⟨f, hf, hn⟩
    · unfold fieldDiffers at hd
      cases hfind : findField (body sp fs2) f.1 with
      | none =>
        refine ⟨(f.1, []), (diffReport_mem_iff sp specs tbl fs1 fs2 f.1 []).mpr (Or.inl ⟨f.2, hf, hfind, rfl⟩), ?_⟩
        simp [counts, hfind]
      | some p2 =>
        simp only [hfind, Bool.and_eq_true, Bool.not_eq_true'] at hd
        refine ⟨(f.1, p2), (diffReport_mem_iff sp specs tbl fs1 fs2 f.1 p2).mpr (Or.inr (Or.inl ⟨f.2, hf, hfind, hd.1⟩)), ?_⟩
        have hw : wallOf tbl f.1 = false := by
          unfold wallOf
          exact hd.2
        simp [counts, hw]
    · have hnone : findField (body sp fs1) f.1 = none := by
        cases h : findField (body sp fs1) f.1 <;> simp [h] at hn ⊢
      refine ⟨f, (diffReport_mem_iff sp specs tbl fs1 fs2 f.1 f.2).mpr (Or.inr (Or.inr ⟨hf, hnone⟩)), ?_⟩
      simp [counts, hnone]
  · rintro ⟨⟨id, p⟩, hm, hc⟩
    unfold compare
    simp only [Bool.or_eq_true, List.any_eq_true]
    rcases (diffReport_mem_iff sp specs tbl fs1 fs2 id p).mp hm with ⟨p1, hm1, hnone, _⟩ | ⟨p1, hm1, hsome, hd⟩ | ⟨hm2, hnone⟩
    · refine Or.inl ⟨(id, p1), hm1, ?_⟩
      simp [fieldDiffers, hnone]
    · refine Or.inl ⟨(id, p1), hm1, ?_⟩
      have h1 := mem_isSome _ id p1 hm1
      have hw : wallOf tbl id = false := by
        cases hw : wallOf tbl id
        · rfl
        · simp [counts, hw, h1, hsome] at hc
      unfold wallOf at hw
      simp only [fieldDiffers, hsome, hd, Bool.true_and, Bool.not_eq_true']
      exact hw
    · exact Or.inr ⟨(id, p), hm2, by simp [hnone]⟩

/-- nothing is reported iff every field of stream 1 has a partner whose payload does not differ and stream 2 has no
    further field (walltime fields included: they are reported, though they do not count) -/
theorem c17_report_empty_iff (sp : Special) (specs : List CmpSpec) (tbl : List Desc) (fs1 fs2 : List Field) :
    diffReport sp specs tbl fs1 fs2 = [] ↔
      (∀ f ∈ body sp fs1, ∃ p, findField (body sp fs2) f.1 = some p ∧
          payloadDiffer specs (descForType tbl f.1) f.2 p = false) ∧
      (∀ f ∈ body sp fs2, (findField (body sp fs1) f.1).isSome = true) := by
  rw [List.eq_nil_iff_forall_not_mem]
  constructor
  · intro h
    refine ⟨?_, ?_⟩
    · intro f hf
      cases hfind : findField (body sp fs2) f.1 with
      | none =>
        exact absurd ((diffReport_mem_iff sp specs tbl fs1 fs2 f.1 []).mpr (Or.inl ⟨f.2, hf, hfind, rfl⟩)) (h _)
      | some p =>
        refine ⟨p, rfl, ?_⟩
        cases hd : payloadDiffer specs (descForType tbl f.1) f.2 p
        · rfl
        · exact absurd ((diffReport_mem_iff sp specs tbl fs1 fs2 f.1 p).mpr (Or.inr (Or.inl ⟨f.2, hf, hfind, hd⟩))) (h _)
    · intro f hf
      cases hfind : findField (body sp fs1) f.1 with
      | some _ => rfl
      | none =>
        exact absurd ((diffReport_mem_iff sp specs tbl fs1 fs2 f.1 f.2).mpr (Or.inr (Or.inr ⟨hf, hfind⟩))) (h _)
  · rintro ⟨h1, h2⟩ ⟨id, p⟩ hm
    rcases (diffReport_mem_iff sp specs tbl fs1 fs2 id p).mp hm with ⟨p1, hm1, hnone, _⟩ | ⟨p1, hm1, hsome, hd⟩ | ⟨hm2, hnone⟩
    · obtain ⟨q, hq, _⟩ := h1 (id, p1) hm1
      simp [hnone] at hq
    · obtain ⟨q, hq, hf⟩ := h1 (id, p1) hm1
      simp only [hsome, Option.some.injEq] at hq
      subst hq
      simp [hd] at hf
    · have := h2 (id, p) hm2
      simp [hnone] at this

/-- **no real difference is left out**: reading stream 1 and then the report (later fields replace earlier ones, as the
    archive reader does) leaves, for every field stream 2 holds, stream 2's payload in force — or stream 1's where the
    comparison saw no difference; a field stream 2 lacks ends up absent or empty.  Hypothesis: ids of stream 1 are
    unique (true of every stream the writer produces: `c05_table_ok`). -/
theorem c17_report_reproduces_second (sp : Special) (specs : List CmpSpec) (tbl : List Desc) (fs1 fs2 : List Field)
    (hn : ((body sp fs1).map (·.1)).Nodup) (id : Nat) :
    (∀ p2, findField (body sp fs2) id = some p2 →
      ∃ q, inForce (body sp fs1) (diffReport sp specs tbl fs1 fs2) id = some q ∧
        (q = p2 ∨ (findField (body sp fs1) id = some q ∧ payloadDiffer specs (descForType tbl id) q p2 = false))) ∧
    (findField (body sp fs2) id = none →
      inForce (body sp fs1) (diffReport sp specs tbl fs1 fs2) id =
        if (findField (body sp fs1) id).isSome then some [] else none) := by
  unfold inForce diffReport
  simp only
  rw [findField_append, findField_flatMap_report specs tbl _ _ hn, findField_reportSecond]
  cases h1 : findField (body sp fs1) id with
  | none =>
    simp only [Option.isNone_none, if_true, Option.isSome_none]
    constructor
    · intro p2 h2
      simp [h2]
    · intro h2
      simp [h2]
  | some p1 =>
    simp only [Option.isNone_some, Option.isSome_some, if_true]
    unfold reportFirst
    constructor
    · intro p2 h2
      simp only [h2]
      cases hd : payloadDiffer specs (descForType tbl id) p1 p2
      · simp [findField_nil, hd]
      · simp [findField_cons]
    · intro h2
      simp [h2, findField_cons]

/-- the element loop of every member-wise compared row of the current table runs over the row's OWN element size
    (binarydiff.c:222, 228: `field1.size/sizeof(struct …)`): the size of the compare spec equals the element size of
    the descriptor row and of the row's element struct -/
theorem c17_table_loop_bound :
    (table.all (fun d =>
      match d.cmp with
      | 0 => true
      | k + 1 =>
        match cmpSpecs[k]?, rowElems.find? (fun p => p.1 = d.id) with
        | some c, some p => c.size == d.elemSize && c.size == p.2.size
        | _, _ => false)) = true := by decide +kernel

/-- hypotheses satisfiable and statement non-trivial: a changed double, a changed walltime field, a vanished field
    and a new field are reported in the order of the source; only the walltime entry does not count -/
example : diffReport special cmpSpecs table
    [(0, [1,2,3,4,5,6,7,8]), (126, [1,2,3,4,5,6,7,8]), (3, [9,9,9,9,9,9,9,9]), (85, []), (9999, [])]
    [(126, [1,2,3,4,5,6,7,9]), (0, [1,2,3,4,5,6,7,9]), (3, [9,9,9,9,9,9,9,9]), (86, [7]), (9999, [])] =
    [(0, [1,2,3,4,5,6,7,9]), (126, [1,2,3,4,5,6,7,9]), (85, []), (86, [7])] := by decide +kernel
example : (((body special [(0, [1]), (126, [2]), (9999, ([] : Bytes))]).map (·.1)).Nodup) := by decide +kernel
example : inForce [(0, [1]), (85, [5])] [(0, [2]), (85, [])] 85 = some [] := by decide +kernel
/-! ### non-vacuity -/
example : compare special cmpSpecs table [(0, [1,2,3,4,5,6,7,8]), (9999, [])] [(0, [1,2,3,4,5,6,7,8]), (9999, [])] = false := by
  decide +kernel
example : compare special cmpSpecs table [(0, [1,2,3,4,5,6,7,8]), (9999, [])] [(0, [1,2,3,4,5,6,7,9]), (9999, [])] = true := by
  decide +kernel
example : compare special cmpSpecs table [(126, [1,2,3,4,5,6,7,8]), (9999, [])] [(126, [1,2,3,4,5,6,7,9]), (9999, [])] = false := by
  decide +kernel

end RV.Persist
