import RV.Proofs.CompareCopy
import RV.Proofs.PersistTable
import RV.Gen.C05Descriptors
import RV.Gen.C05Reads
/-
  C05 — a saved simulation restores bit-for-bit; saving a restored simulation reproduces the content.

  Two kinds of theorems:
  * about the codec `encode` / `decodeFields` of RV/Model/Persist.lean (the same definitions the driver
    `drv_c05` runs against streams written by the compiled library), for EVERY descriptor table with
    unique ids and EVERY well-formed simulation — so they hold for the current table and any future one;
  * about the CURRENT table and struct layout (RV/Gen/C05Descriptors.lean, regenerated from the working
    tree on every run), decided by the kernel: ids unique, every member of struct reb_simulation and of the
    embedded integrator structs is persisted or classified, dtype size = member size, counters are
    `unsigned int`s, no member persisted twice.
-/
namespace RV.Persist
open RV.Gen.C05
open RV.Gen

/-! ### codec theorems (all tables) -/

/-- reading back a saved stream into a simulation `init` yields the source's value at every location that
    some row of the table persists and `init`'s value elsewhere; no "unknown field" / "inconsistent size"
    warning is raised (only the reminder to re-attach callbacks when some were set) -/
theorem c05_decode_encode {psz : Nat} {sp : Special} {tbl : List Desc} (ok : TableOK psz sp tbl)
    (s init : Sim) (fp : Bool) (hwf : WF psz tbl s) :
    decodeFields psz sp tbl (init, []) (encode psz sp tbl s fp) =
      (restore psz tbl init s, if fp then [.pointers] else []) :=
  decode_encode ok s init fp hwf

/-- **restore is the identity on the persisted projection**: a simulation that differs from a fresh one only
    in persisted locations is restored exactly, with no warning -/
theorem c05_roundtrip {psz : Nat} {sp : Special} {tbl : List Desc} (ok : TableOK psz sp tbl)
    (s init : Sim) (hwf : WF psz tbl s) (hp : Persisted psz tbl init s) :
    decodeFields psz sp tbl (init, []) (encode psz sp tbl s false) = (s, []) := by
  rw [decode_encode ok s init false hwf, restore_eq_self init s hp]; rfl

/-- **saving a restored simulation reproduces the same persisted content** (any source simulation, also one
    with transient state) -/
theorem c05_resave {psz : Nat} {sp : Special} {tbl : List Desc} (ok : TableOK psz sp tbl)
    (s init : Sim) (fp : Bool) (hwf : WF psz tbl s) (hie : InitEmpty tbl init) :
    encode psz sp tbl (decodeFields psz sp tbl (init, []) (encode psz sp tbl s fp)).1 fp = encode psz sp tbl s fp := by
  rw [decode_encode ok s init fp hwf]
  exact encode_restore init s fp hie

/-- the restored simulation agrees with the source on every member some row persists -/
theorem c05_restored_member {psz : Nat} {sp : Special} {tbl : List Desc} (ok : TableOK psz sp tbl)
    (s init : Sim) (fp : Bool) (hwf : WF psz tbl s) (d : Desc) (hd : d ∈ live tbl) (sz : Nat)
    (hs : simpleSize psz d.dtype = some sz) :
    (decodeFields psz sp tbl (init, []) (encode psz sp tbl s fp)).1.mem d.mem = s.mem d.mem := by
  rw [decode_encode ok s init fp hwf]
  exact restore_mem_written init s d hd d.mem (by simp [memWritten, hs])

/-- **the restored simulation STRUCT** (not the stream): `load` = the reader loop followed by the loader's fix-ups
    (input.c:205-229: back pointers re-linked, `N_allocated := N`, `c`/`ap` cleared, WHFast512 constants flagged).
    For every table with `TableOK`/`FixOK`, every well-formed source `s`, every fresh `init` and load address `self`:
    no warning but the callback reminder; every simple persisted member equals the source's; for every array row
    with content the element counter is re-derived from the payload size and equals the source's and the contents
    are equal — the particle array and the variational configurations up to their pointer members, which are
    cleared / point to the restored simulation (`fixParticles`, `fixVarCfg` only overwrite pointer slots);
    REB_DP7 rows: all seven arrays; fixed-size pointer rows; `N_allocated = N`; recalculation flag set.
    (The tree is a cache outside the persisted projection; its re-building is checked on the real code.) -/
theorem c05_load_restores_struct (psz : Nat) (sp : Special) (specs : List CmpSpec) (tbl : List Desc) (pl vl : ElemLayout)
    (pSim vSim self : Nat) (init s : Sim) (fp : Bool)
    (ok : TableOK psz sp tbl) (fok : FixOK psz sp specs tbl pl pSim) (hwf : WF psz tbl s)
    (hAC : sp.nAllocMem ≠ sp.recalcMem) (hNA : sp.nMem ≠ sp.nAllocMem) (hNC : sp.nMem ≠ sp.recalcMem) :
    let y := (load psz sp tbl pl vl pSim vSim self init (encode psz sp tbl s fp)).1
    (load psz sp tbl pl vl pSim vSim self init (encode psz sp tbl s fp)).2 = (if fp then [.pointers] else []) ∧
    (∀ d ∈ live tbl, ∀ sz, simpleSize psz d.dtype = some sz → y.mem d.mem = s.mem d.mem) ∧
    (∀ d ∈ live tbl, (d.dtype = .pointer ∨ d.dtype = .pointerAligned) → fieldSize s d ≠ 0 →
        y.mem d.nMem = s.mem d.nMem ∧
        (d.mem ≠ sp.particlesMem → d.mem ≠ sp.varCfgMem → y.heap d.mem = s.heap d.mem) ∧
        (d.mem = sp.particlesMem → y.heap d.mem = (s.heap d.mem).map (fixParticles pl pSim self)) ∧
        (d.mem = sp.varCfgMem → y.heap d.mem = (s.heap d.mem).map (fixVarCfg vl vSim self))) ∧
    (∀ d ∈ live tbl, d.dtype = .dp7 → fieldSize s d ≠ 0 →
        y.mem d.nMem = s.mem d.nMem ∧ ∀ k, k < 7 → y.heap (d.mem + k) = s.heap (d.mem + k)) ∧
    (∀ d ∈ live tbl, d.dtype = .pointerFixed → (s.heap d.mem).isSome = true → y.heap d.mem = s.heap d.mem) ∧
    y.mem sp.nAllocMem = y.mem sp.nMem ∧ y.mem sp.recalcMem = encLE 4 1 := by
  intro y
  have hy : y = finish sp pl vl pSim vSim self (restore psz tbl init s) := by
    show (load psz sp tbl pl vl pSim vSim self init (encode psz sp tbl s fp)).1 = _
    unfold load
    simp only
    rw [decode_encode ok s init fp hwf]
  have hw : (load psz sp tbl pl vl pSim vSim self init (encode psz sp tbl s fp)).2 = (if fp then [.pointers] else []) := by
    unfold load
    simp only
    rw [decode_encode ok s init fp hwf]
  refine ⟨hw, ?_, ?_, ?_, ?_, ?_, ?_⟩
  · intro d hd sz hs
    obtain ⟨hA, hC⟩ := fok.simple d hd sz hs
    rw [hy, finish_mem sp pl vl pSim vSim self _ d.mem hA hC]
    exact restore_mem_written init s d hd d.mem (by simp [memWritten, hs])
  · intro d hd hdt hz
    obtain ⟨hA, hC, _⟩ := fok.ptr d hd hdt
    have hmw : memWritten psz s d d.nMem = true := by
      rcases hdt with h | h <;> simp [memWritten, h, simpleSize, hz]
    have hhw : heapWritten psz s d d.mem = true := by
      rcases hdt with h | h <;> simp [heapWritten, h, simpleSize, hz]
    have hrh : (restore psz tbl init s).heap d.mem = s.heap d.mem := restore_heap_written init s d hd d.mem hhw
    refine ⟨?_, ?_, ?_, ?_⟩
    · rw [hy, finish_mem sp pl vl pSim vSim self _ d.nMem hA hC]
      exact restore_mem_written init s d hd d.nMem hmw
    · intro hP hV
      rw [hy, finish_heap sp pl vl pSim vSim self _ d.mem hP hV, hrh]
    · intro hP
      rw [hy, hP, finish_heap_particles sp pl vl pSim vSim self _ fok.pv, ← hP, hrh]
    · intro hV
      rw [hy, hV, finish_heap_varcfg sp pl vl pSim vSim self _ fok.pv, ← hV, hrh]
  · intro d hd hdt hz
    obtain ⟨hA, hC, hP, hV⟩ := fok.dp7 d hd hdt
    refine ⟨?_, ?_⟩
    · rw [hy, finish_mem sp pl vl pSim vSim self _ d.nMem hA hC]
      exact restore_mem_written init s d hd d.nMem (by simp [memWritten, hdt, simpleSize, hz])
    · intro k hk
      rw [hy, finish_heap sp pl vl pSim vSim self _ (d.mem + k) (by omega) (by omega)]
      apply restore_heap_written init s d hd
      simp [heapWritten, hdt, simpleSize, hz]
      omega
  · intro d hd hdt hsome
    obtain ⟨hP, hV⟩ := fok.fixed d hd hdt
    rw [hy, finish_heap sp pl vl pSim vSim self _ d.mem hP hV]
    exact restore_heap_written init s d hd d.mem (by simp [heapWritten, hdt, simpleSize, hsome])
  · rw [hy, finish_mem_eq, if_neg hAC, if_pos rfl, finish_mem sp pl vl pSim vSim self _ sp.nMem hNA hNC]
  · rw [hy, finish_mem_eq, if_pos rfl]

/-- the fix-ups only overwrite pointer members: outside the pointer slots of reb_particle the fixed-up particle
    array is byte-for-byte the restored one, and it has the same length -/
theorem c05_fixups_touch_pointers_only (pl : ElemLayout) (pSim self : Nat) (b : Bytes) (i : Nat)
    (h : slotHit (ptrSlots pl) (i % pl.size) = false) (h2 : slotHit [(pSim, 8)] (i % pl.size) = false) :
    (fixParticles pl pSim self b)[i]? = b[i]? ∧ (fixParticles pl pSim self b).length = b.length := by
  unfold fixParticles
  refine ⟨?_, by simp [fillSlots_length]⟩
  rw [fillSlots_getElem?, fillSlots_getElem?, h, h2]
  cases b[i]? <;> simp

/-! ### the current table (regenerated every run; decided by the kernel) -/

/-- side conditions of `c05_load_restores_struct` for the current table: the members the fix-ups write
    (`N_allocated`, `ri_whfast512.recalculate_constants`) are not persisted and differ from `N`; the particle array
    and var_config are persisted by one pointer row each; no REB_DP7 / fixed-size row aliases them -/
theorem c05_table_fix_ok :
    FixOK particleSize special cmpSpecs table elem_reb_particle particleSimOff ∧
    special.nAllocMem ≠ special.recalcMem ∧ special.nMem ≠ special.nAllocMem ∧ special.nMem ≠ special.recalcMem :=
  ⟨fixOK_of_b _ _ _ _ _ _ (by decide +kernel), by decide +kernel, by decide +kernel, by decide +kernel⟩


/-- the extraction found as many items as it says (an extraction that silently finds less fails here) -/
theorem c05_table_counts :
    table.length = tableCount ∧ members.length = membersCount ∧ tableNames.length = tableCount ∧
    memberNames.length = membersCount ∧ transient.length = transientCount ∧ 100 ≤ tableCount ∧
    200 ≤ membersCount := by decide +kernel

/-- field ids are unique, END is not a data id, the function-pointer id belongs to a REB_OTHER row:
    the hypotheses of the codec theorems hold for the current table -/
theorem c05_table_ok : TableOK particleSize special table where
  nodup := nodup_of_nodupNat _ (nodupNat_of_bits _ 0 (by decide +kernel)).1
  endFresh := by decide +kernel
  fpEq := by decide +kernel
  fpNotEnd := by decide +kernel
  fpNotLegacy := by decide +kernel
  fpRow := by decide +kernel

/-- the member list is indexed by position and the members lie in order, without overlap, inside the struct
    (so that "one member = one storage location" is sound) -/
theorem c05_table_layout : layoutOK members simStructSize = true := by decide +kernel

/-- **coverage**: every member of struct reb_simulation and of the embedded integrator structs is persisted
    by some row, or classified as deliberately transient in ref/C05_transient.json, or a recorded finding.
    A new member that is neither fails this theorem. -/
theorem c05_table_coverage : coverageOK particleSize table members transient knownGaps = true := by
  simp only [coverageOK, persisted_eq_contains, ← testBit_bits]
  decide +kernel

/-- what is uncovered with an empty gap list lies within `knownGaps`; the gap-free `coverageOK … [] = true` is
    false on the unchanged tree (findings F9a, C05-N1) and becomes provable once the gaps are repaired. -/
theorem c05_table_coverage_partial :
    uncovered particleSize table members transient [] ⊆ knownGaps :=
  (uncovered_subset_iff ..).mpr c05_table_coverage

/-- no member classified transient is persisted at the same time (the classification is not stale) -/
theorem c05_table_transient_fresh : transientFresh particleSize table transient = true := by
  simp only [transientFresh, persisted_eq_contains, ← testBit_bits]
  decide +kernel

/-- **dtype = member type**: for every row the number of bytes the writer copies is the size of the member
    it addresses and the kinds agree; array rows address a pointer member and an `unsigned int` counter,
    have a non-zero element size, REB_DP7 rows address seven consecutive pointers and 7 ∣ element size -/
theorem c05_table_rows : rowsOK particleSize members table = true := by decide +kernel

/-- no member is persisted by two rows -/
theorem c05_table_members_unique : nodupNat (dataMems particleSize table) = true :=
  (nodupNat_of_bits _ 0 (by decide +kernel)).1

/-- element sizes of array rows equal the compiled size of their element struct, element members do not
    overlap -/
theorem c05_table_elems :
    elemSizesOK table rowElems = true ∧ (rowElems.all (fun p => elemOK p.2)) = true := by decide +kernel

/-- **a field header without payload clears the array** (incremental archive snapshots encode an array that
    existed in the first snapshot and has VANISHED since — reset_integrator(), a removal that resets IAS15 — as a
    header of size 0): reading it onto the already populated simulation replaces the stale array by an empty one,
    sets its element counter to 0 and raises no warning; afterwards the writer emits nothing for that row -/
theorem c05_vanished_field_clears {psz : Nat} {sp : Special} {tbl : List Desc} (cur : Sim) (w : List Warning)
    (d : Desc) (hl : lookup tbl d.id = some d) (hd : d.dtype = .pointer ∨ d.dtype = .pointerAligned) :
    let r := applyField psz sp tbl (cur, w) (d.id, [])
    r.1.heap d.mem = some [] ∧ counter r.1 d = 0 ∧ r.2 = w ∧ encodeField psz r.1 d = [] := by
  intro r
  have hr : r = ((cur.setHeap d.mem (some [])).setMem d.nMem (encLE 4 (countOf 0 d.elemSize)), w) := by
    show applyField psz sp tbl (cur, w) (d.id, []) = _
    rw [applyField_pointer cur w (d.id, []) d hl hd]
    simp
  have hc : counter r.1 d = 0 := by
    rw [hr]
    simp [counter, Sim.setMem, Sim.setHeap, countOf, encLE, leNat]
  refine ⟨?_, hc, ?_, ?_⟩
  · rw [hr]; simp [Sim.setMem, Sim.setHeap]
  · rw [hr]
  · rw [encodeField_pointer r.1 d hd]
    simp [fieldSize, hc]

/-! ### callbacks: the reminder to re-attach them -/

/-- **the warning is raised exactly when a flagged callback was set at save time** (any table, any simulation):
    with the flag the writer stores (`fpFlagOf`: some member of the flag list is non-NULL), loading the saved stream
    raises `pointers` iff some flagged callback is set, and nothing else -/
theorem c05_callback_warning {psz : Nat} {sp : Special} {tbl : List Desc} (ok : TableOK psz sp tbl)
    (s init : Sim) (hwf : WF psz tbl s) (flagged : List Nat) (isSet : Nat → Bool) :
    (decodeFields psz sp tbl (init, []) (encode psz sp tbl s (fpFlagOf flagged isSet))).2 =
      (if flagged.any isSet then [.pointers] else []) := by
  rw [decode_encode ok s init _ hwf]
  rfl

/-- every function-pointer member of struct reb_simulation / reb_integrator_* (a callback the user must re-attach)
    is in the flag condition of the writer, or exempt with a reason (key_callback, extras_cleanup), or a recorded gap.
    A new callback member that is forgotten in output.c fails this theorem (this is how C05-N12 would have been
    found statically). -/
theorem c05_table_callbacks_flagged : callbacksFlagged members fpFlagged fpExempt fpGaps = true := by decide +kernel

/-- full strength (no gaps) is false on the unchanged tree: the unflagged, non-exempt callbacks are exactly the
    recorded gap `ri_mercurius.L` (C05-N16); provable with `fpGaps = []` once it is repaired -/
theorem c05_table_callbacks_flagged_partial : unflaggedCallbacks members fpFlagged fpExempt ⊆ fpGaps := by decide +kernel

/-- the extraction of the flag condition found the members it says (and at least the eight of the original code) -/
theorem c05_table_callbacks_counts : fpFlagged.length = fpFlaggedCount ∧ 8 ≤ fpFlaggedCount ∧
    fpFlagged.all (fun i => members.any (fun m => m.idx == i && m.kind == .fptr)) = true := by decide +kernel

/-! ### which code reads not-persisted state (generated read sets, src/*.c) -/

/-- an access (translation unit, member) is fine if the member is persisted, or cannot influence the trajectory,
    or the unit owns the member, or the access was reviewed (`allowed`), or it is a recorded defect (`findingRows`) -/
def accessClassified (a : Nat × Nat) : Bool :=
  C05Reads.persistedMembers.contains a.2 || C05Reads.unrestrictedMembers.contains a.2 || C05Reads.owners.contains a ||
  C05Reads.allowed.contains a || C05Reads.findingRows.contains a

/-- **read sets**: every access of every translation unit of src/ to a member of reb_simulation / reb_integrator_*
    (over-approximated by walking the `->`/`.` chains of variables declared as simulation / integrator pointers) that
    is neither persisted nor of a harmless class is owned, reviewed or a recorded defect.  A new access to carried-over, not-persisted state from a unit that does not own it fails this
    theorem.  Statement at full strength (no `findingRows`) is false on the current tree: C05-N4, N9, N11, N6/N7. -/
theorem c05_reads_classified : C05Reads.accesses.all accessClassified = true := by
  unfold accessClassified
  simp only [← testBit_bits]
  decide +kernel

/-- the same fact as a list: the accesses that are neither owned, reviewed nor harmless lie within the recorded defects -/
theorem c05_reads_classified_partial :
    (C05Reads.accesses.filter (fun a => !(C05Reads.persistedMembers.contains a.2 || C05Reads.unrestrictedMembers.contains a.2 ||
      C05Reads.owners.contains a || C05Reads.allowed.contains a))) ⊆ C05Reads.findingRows := by
  rw [← List.map_id (List.filter _ _)]
  exact (filter_not_subset _ _ id _).mpr c05_reads_classified

/-- the review lists are not stale (every entry is an access that exists), disjoint, and the extraction found as
    much as it says -/
theorem c05_reads_lists_fresh :
    C05Reads.allowed.all (C05Reads.accesses.contains ·) = true ∧ C05Reads.findingRows.all (C05Reads.accesses.contains ·) = true ∧
    C05Reads.allowed.all (fun a => !C05Reads.findingRows.contains a) = true ∧
    C05Reads.accesses.length = C05Reads.accessCount ∧ C05Reads.tuNames.length = C05Reads.tuCount ∧
    100 ≤ C05Reads.accessCount ∧ 500 ≤ C05Reads.accessCountAll ∧ 25 ≤ C05Reads.tuCount ∧ C05Reads.allowed.length = C05Reads.allowedCount ∧
    C05Reads.findingRows.length = C05Reads.findingCount := by decide +kernel

/-- the members treated as "restored exactly" in the read sets are element counters of live array rows of the
    descriptor table (the loader re-derives them from the payload size: `c05_load_restores_struct`) and are not
    written by any unit outside the review (they are absent from `findingRows`) -/
theorem c05_reads_restored_counters :
    C05Reads.restoredCounters.all (fun m => (live table).any (fun d =>
      (d.dtype == .pointer || d.dtype == .pointerAligned || d.dtype == .dp7) && d.nMem == m)) = true ∧
    C05Reads.findingRows.all (fun a => !C05Reads.restoredCounters.contains a.2) = true := by decide +kernel

/-- the read-set table and the descriptor table agree on which members are persisted -/
theorem c05_reads_persisted_consistent :
    members.all (fun m => C05Reads.persistedMembers.contains m.idx == persisted particleSize table m.idx) = true := by
  simp only [persisted_eq_contains, ← testBit_bits]
  decide +kernel

/-! ### non-vacuity: a small table and a simulation satisfying every hypothesis -/

private def exTbl : List Desc :=
  [⟨0, .double, 0, 0, 0, false, 0⟩, ⟨4, .uint, 1, 0, 0, false, 0⟩, ⟨85, .pointer, 2, 1, 2, false, 0⟩,
   ⟨87, .other, 0, 0, 0, false, 0⟩, ⟨9999, .fieldEnd, 0, 0, 0, false, 0⟩]
private def exSp : Special :=
  { endId := 9999, fpId := 87, fpIdWritten := 87, headerId := 1, legacyId := 35, legacyMem0 := 7, legacyMem1 := 8,
    nMem := 1, nAllocMem := 3, particlesMem := 2, varCfgMem := 4, nVarCfgMem := 5, recalcMem := 6 }
private def exSim : Sim :=
  { mem := fun m => if m = 0 then [1,2,3,4,5,6,7,8] else if m = 1 then [2,0,0,0] else []
    heap := fun m => if m = 2 then some [9,9,9,9] else none }
private def exInit : Sim := { mem := fun _ => [], heap := fun _ => none }

example : decodeFields 128 exSp exTbl (exInit, []) (encode 128 exSp exTbl exSim false) =
    (restore 128 exTbl exInit exSim, []) :=
  c05_decode_encode
    { nodup := by decide
      endFresh := by decide
      fpEq := rfl
      fpNotEnd := by decide
      fpNotLegacy := by decide
      fpRow := by decide } exSim exInit false
    (by
      intro d hd
      have : d = ⟨0, .double, 0, 0, 0, false, 0⟩ ∨ d = ⟨4, .uint, 1, 0, 0, false, 0⟩ ∨
          d = ⟨85, .pointer, 2, 1, 2, false, 0⟩ ∨ d = ⟨87, .other, 0, 0, 0, false, 0⟩ := by
        simpa [exTbl, live] using hd
      rcases this with h | h | h | h <;> subst h
      · simp [WFd, simpleSize, exSim]
      · simp [WFd, simpleSize, exSim]
      · refine ⟨by decide, by simp [exSim], by decide, ?_⟩
        intro _
        exact ⟨[9,9,9,9], by simp [exSim], by decide⟩
      · simp [WFd, simpleSize])

end RV.Persist
