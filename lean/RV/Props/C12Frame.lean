import RV.Proofs.Frame
/-
  C12, third anchored mechanism — the public frame changes of src/tools.c
  (`reb_simulation_move_to_hel`, `reb_simulation_move_to_com`, real particles).

  Statements are about `RV.Frame.moveToHel` / `moveToCom` / `com` of RV/Model/Frame.lean, the
  definitions `drv_c12` runs on IEEE doubles against the compiled tools.c (ops `moveToHel`,
  `moveToCom`), instantiated at an arbitrary (ordered) field: every particle number, every
  mass assignment.  (The variational shifts of `move_to_com` belong to C20.)
-/
namespace RV.Frame
open RV

section
variable {K : Type} [Field K] [LinearOrder K]

/-- heliocentric frame: slot 0 is the origin (at rest, the velocity components obey the same
    map), every other particle is given relative to particle 0, masses untouched -/
theorem c12_move_to_hel_slot0 (m0 x0 : K) (r : List (K × K)) :
    moveToHel ((m0, x0) :: r) = (m0, 0) :: r.map (fun p => (p.1, p.2 - x0)) ∧
    moveToHel ([] : List (K × K)) = [] :=
  ⟨moveToHel_cons m0 x0 r, rfl⟩

/-- the heliocentric shift is inverted by adding the old coordinate of particle 0 back to every
    particle: no information other than that one vector is lost -/
theorem c12_move_to_hel_roundtrip (m0 x0 : K) (r : List (K × K)) :
    (moveToHel ((m0, x0) :: r)).map (fun p => (p.1, p.2 + x0)) = (m0, x0) :: r := by
  rw [moveToHel_cons]
  simp only [List.map_cons, List.map_map, zero_add, List.cons.injEq, true_and]
  exact List.map_id'' (fun p => by simp [Function.comp]) r

/-- the same particle set seen from particle 0 twice: `move_to_hel` is idempotent -/
theorem c12_move_to_hel_idempotent (m0 x0 : K) (r : List (K × K)) :
    moveToHel (moveToHel ((m0, x0) :: r)) = moveToHel ((m0, x0) :: r) := by
  rw [moveToHel_cons, moveToHel_cons]
  simp only [List.map_map, List.cons.injEq, true_and]
  apply List.map_congr_left
  intro p _
  simp [Function.comp]

/-- `move_to_com` is inverted by adding the centre of mass it subtracted (all particles, no
    hypothesis on the masses) -/
theorem c12_move_to_com_roundtrip (ps : List (K × K)) :
    (moveToCom ps).map (fun p => (p.1, p.2 + (com ps).2)) = ps := by
  simp only [moveToCom, List.map_map]
  exact List.map_id'' (fun p => by simp [Function.comp, sc_hsub]) ps
end

section
variable {K : Type} [Field K] [LinearOrder K] [IsStrictOrderedRing K]

/-- after `move_to_com` the total mass is unchanged, the mass-weighted coordinate sum vanishes
    and `reb_simulation_com` of the moved set returns the origin (non-negative masses, positive
    total — the guard `if (p1.m>0.)` of `reb_particle_com_of_pair`) -/
theorem c12_move_to_com_slot (ps : List (K × K)) (hm : ∀ p ∈ ps, 0 ≤ p.1) (hM : 0 < msum ps) :
    msum (moveToCom ps) = msum ps ∧ mxsum (moveToCom ps) = 0 ∧ com (moveToCom ps) = (msum ps, 0) := by
  have hc := com_closed ps hm
  have h1 : mxsum (moveToCom ps) = 0 := by
    simp only [moveToCom, hc, if_pos hM, sc_hsub]
    rw [mxsum_shift]
    have : msum ps ≠ 0 := ne_of_gt hM
    field_simp; ring
  have h2 : msum (moveToCom ps) = msum ps := by
    simp only [moveToCom]; exact msum_map_snd ps _
  refine ⟨h2, h1, ?_⟩
  have hm' : ∀ p ∈ moveToCom ps, 0 ≤ p.1 := by
    intro p hp
    simp only [moveToCom, List.mem_map] at hp
    obtain ⟨a, ha, rfl⟩ := hp
    exact hm a ha
  rw [com_closed _ hm', h1, h2, if_pos hM]; simp

/-- the centre of mass `move_to_com` subtracts is the mass-weighted mean of *all* real particles
    (test particles with a mass included — `reb_simulation_com` does not look at `N_active`) -/
theorem c12_move_to_com_is_mean (ps : List (K × K)) (hm : ∀ p ∈ ps, 0 ≤ p.1) (hM : 0 < msum ps) :
    (com ps).1 = msum ps ∧ (com ps).2 = mxsum ps / msum ps := by
  rw [com_closed ps hm, if_pos hM]; exact ⟨rfl, rfl⟩

/-- hypotheses are satisfiable by a non-trivial set: three bodies, one massless, COM off origin -/
example : (∀ p ∈ [((2 : ℚ), (3 : ℚ)), (1, -1), (0, 7)], 0 ≤ p.1) ∧ 0 < msum [((2 : ℚ), (3 : ℚ)), (1, -1), (0, 7)] := by
  constructor
  · intro p hp; simp at hp; rcases hp with rfl | rfl | rfl <;> norm_num
  · norm_num [msum]
end
end RV.Frame
