import RV.Proofs.Diag
import RV.Props.C02
import RV.Proofs.WHSteps
import RV.Proofs.Kepler
import RV.Proofs.WHLink
import RV.Proofs.WHDH
import RV.Proofs.WHInt
import RV.Proofs.TraceCom
import RV.Proofs.WHJump
/-
  C04 — isolated systems conserve momentum, angular momentum and (as advertised) energy;
  the diagnostics return the defined quantities.

  Statements are about RV/Model/Diag.lean and RV/Model/Gravity.lean (the definitions that
  `drv_c04` runs on IEEE doubles against tools.c, collision.c and whole LEAPFROG steps), for
  the Wisdom–Holman family about RV/Model/Transform.lean, WHInt.lean, WHJump.lean (Jacobi map,
  interaction, jump and com steps), RV/Model/Kepler.lean (f-g update) and RV/Model/TraceCom.lean,
  instantiated at an arbitrary field `K`: exact arithmetic, every number of particles, every
  number of steps.  `mOf/xOf/vOf ps i` are the mass, position, velocity of particle `i`;
  `mass`, `momentum`, `angmom`, `mxsum` are the defining sums `Σ m`, `Σ m v`, `Σ m x×v`, `Σ m x`.
-/
namespace RV.Diag
open RV RV.Gravity
variable {K : Type} [Field K]

/-! ### the diagnostics return the defined quantities -/

/-- `reb_simulation_angular_momentum` = `Σ_i m_i x_i × v_i` over *all* particles (test particles
    included with whatever mass they carry) -/
theorem c04_angular_momentum_def (ps : Array (Part K)) : angularMomentum ps = angmom ps := by
  rw [angmom, Finset.range_eq_Ico]
  refine forRange_sum _ _ _ _ fun L i _ hi => ?_
  rw [getElem?_parts ps hi]
  ext <;> rfl

/-- `reb_simulation_energy` = kinetic energy of the interacting particles
    (`N_interact = N_active` for testparticle_type 0, `N` for type 1) minus `G m_i m_j / r_ij` over
    the pairs `i < j` with `i` active and `j` interacting, plus `energy_offset`. -/
theorem c04_energy_def (sqrt : K → K) (G off : K) (nActive : Nat) (tp : Bool) (ps : Array (Part K))
    (hNa : nActive ≤ ps.size) :
    energy sqrt G off nActive tp ps
      = (∑ i ∈ Finset.Ico 0 (if tp then ps.size else nActive),
            (1 / 2 : K) * mOf ps i * ((vOf ps i).x * (vOf ps i).x + (vOf ps i).y * (vOf ps i).y + (vOf ps i).z * (vOf ps i).z))
        + (∑ i ∈ Finset.Ico 0 nActive, ∑ j ∈ Finset.Ico (i + 1) (if tp then ps.size else nActive),
            -(G * mOf ps j * mOf ps i / sqrt (((xOf ps i).x - (xOf ps j).x) * ((xOf ps i).x - (xOf ps j).x)
              + ((xOf ps i).y - (xOf ps j).y) * ((xOf ps i).y - (xOf ps j).y)
              + ((xOf ps i).z - (xOf ps j).z) * ((xOf ps i).z - (xOf ps j).z))))
        + off := by
  have hint : (if tp = true then ps.size else nActive) ≤ ps.size := by split_ifs <;> omega
  refine congrArg₂ (· + ·) (congrArg₂ (· + ·) (forRange_sum _ _ _ _ fun L i _ hi => ?_)
    (forRange_sum _ _ _ _ fun L i _ hi => ?_)) rfl
  · rw [getElem?_parts ps (hi.trans_le hint)]
    dsimp only [half, sc_one, sc_ofNat]
    ring
  · rw [getElem?_parts ps (hi.trans_le hNa)]
    refine forRange_add _ _ _ _ (fun L j _ hj => ?_) L
    rw [getElem?_parts ps (hj.trans_le hint)]
    exact sub_eq_add_neg ..

/-- change of inertial frame `x ↦ x − R`, `v ↦ v − V` (what `reb_simulation_move_to_com` does with
    `(R, V)` = centre of mass) -/
def shiftFrame (R V : V3 K) (ps : Array (Part K)) : Array (Part K) :=
  ps.map fun p => { p with x := p.x - R, v := p.v - V }

/-- **energy under a change of frame** (König): the value returned by `reb_simulation_energy` is
    invariant under translations, and under a boost by `V` it changes by `−V·P + ½ M V²`, where `P`,
    `M` are the momentum and mass of the interacting particles.  In particular after
    `move_to_com` (all particles active, `V = P/M`) the energy is `E − P²/(2M)`; the potential part
    and every pair term are untouched. -/
theorem c04_energy_frame_shift (sqrt : K → K) (G off : K) (nActive : Nat) (tp : Bool) (ps : Array (Part K))
    (hNa : nActive ≤ ps.size) (R V : V3 K) (h2 : (2 : K) ≠ 0) :
    energy sqrt G off nActive tp (shiftFrame R V ps)
      = energy sqrt G off nActive tp ps
        - (∑ i ∈ Finset.Ico 0 (if tp then ps.size else nActive), mOf ps i * V3.dot V (vOf ps i))
        + (1 / 2 : K) * (∑ i ∈ Finset.Ico 0 (if tp then ps.size else nActive), mOf ps i) * V3.dot V V := by
  have hs : (shiftFrame R V ps).size = ps.size := Array.size_map ..
  have hint : (if tp = true then ps.size else nActive) ≤ ps.size := by split_ifs <;> omega
  have hp : ∀ i, i < ps.size → (shiftFrame R V ps)[i]? = some ⟨mOf ps i, xOf ps i - R, vOf ps i - V⟩ := fun i hi => by
    rw [shiftFrame, Array.getElem?_map, getElem?_parts ps hi]; rfl
  have hm : ∀ i, i < ps.size → mOf (shiftFrame R V ps) i = mOf ps i := fun i hi => by rw [mOf, hp i hi]; rfl
  have hx : ∀ i, i < ps.size → xOf (shiftFrame R V ps) i = xOf ps i - R := fun i hi => by rw [xOf, hp i hi]; rfl
  have hv : ∀ i, i < ps.size → vOf (shiftFrame R V ps) i = vOf ps i - V := fun i hi => by rw [vOf, hp i hi]; rfl
  rw [c04_energy_def sqrt G off nActive tp _ (hs ▸ hNa), c04_energy_def sqrt G off nActive tp ps hNa, hs,
    show ∀ a b o c d : K, a + b + o - c + d = (a - c + d) + b + o from fun a b o c d => by ring]
  congr 2
  · rw [Finset.mul_sum, Finset.sum_mul, ← Finset.sum_sub_distrib, ← Finset.sum_add_distrib]
    refine Finset.sum_congr rfl fun i hi => ?_
    have hi := (Finset.mem_Ico.1 hi).2.trans_le hint
    rw [hm i hi, hv i hi]
    dsimp only [V3.dot, V3.sub_x, V3.sub_y, V3.sub_z]
    field_simp
    ring
  · refine Finset.sum_congr rfl fun i hi => Finset.sum_congr rfl fun j hj => ?_
    have hi := (Finset.mem_Ico.1 hi).2.trans_le hNa
    have hj := (Finset.mem_Ico.1 hj).2.trans_le hint
    rw [hm i hi, hm j hj, hx i hi, hx j hj]
    dsimp only [V3.sub_x, V3.sub_y, V3.sub_z]
    simp only [sub_sub_sub_cancel_right]

/-- running mass of the first `n` particles -/
def preM (ps : Array (Part K)) (n : Nat) : K := ∑ i ∈ Finset.range n, mOf ps i

/-- `reb_simulation_com`: the returned particle carries the total mass, and (mass × its
    position / velocity) is `Σ m x` / `Σ m v`.  Hypothesis: at every stage of the running
    pairwise combination the `m > 0` test of `reb_particle_com_of_pair` succeeds on a
    non-zero mass, or fails with all masses so far equal to zero (true for non-negative
    masses over an ordered field, where the result is then the centre of mass itself). -/
theorem c04_com_def (gt0 : K → Bool) (ps : Array (Part K))
    (hpre : ∀ n, 1 ≤ n → n ≤ ps.size →
      (gt0 (preM ps n) = true ∧ preM ps n ≠ 0) ∨ (gt0 (preM ps n) = false ∧ ∀ i, i < n → mOf ps i = 0)) :
    (com gt0 ps).m = mass ps ∧ (com gt0 ps).m • (com gt0 ps).x = mxsum ps ∧
    (com gt0 ps).m • (com gt0 ps).v = momentum ps := by
  suffices key : ∀ n, n ≤ ps.size → (comRange gt0 0 n ps).m = preM ps n ∧
      (comRange gt0 0 n ps).m • (comRange gt0 0 n ps).x = ∑ i ∈ Finset.range n, mOf ps i • xOf ps i ∧
      (comRange gt0 0 n ps).m • (comRange gt0 0 n ps).v = ∑ i ∈ Finset.range n, mOf ps i • vOf ps i from
    key ps.size le_rfl
  intro n
  induction n with
  | zero => intro _; exact ⟨rfl, zero_smul .., zero_smul ..⟩
  | succ n ih =>
    intro hn
    have hn' : n < ps.size := hn
    obtain ⟨i1, i2, i3⟩ := ih hn'.le
    have hm : mOf ps n = ps[n].m := by simp [mOf, hn']
    have hx : xOf ps n = ps[n].x := by simp [xOf, hn']
    have hv : vOf ps n = ps[n].v := by simp [vOf, hn']
    have hM : (comRange gt0 0 n ps).m + ps[n].m = preM ps (n + 1) := by
      rw [preM, Finset.sum_range_succ, ← preM, i1, hm]
    rw [comRange, forRange_succ 0 n n.zero_le, ← comRange, Array.getElem?_eq_getElem hn', Finset.sum_range_succ,
      Finset.sum_range_succ, ← hM, ← i2, ← i3, hm, hx, hv]
    refine comOfPair_spec gt0 _ _ ((hpre (n + 1) n.succ_pos hn).imp (hM ▸ id) (hM ▸ And.imp_right fun hz => ?_))
    exact ⟨by rw [i1]; exact Finset.sum_eq_zero fun i hi => hz i (Nat.lt_succ_of_lt (Finset.mem_range.1 hi)),
      hm ▸ hz n n.lt_succ_self⟩

/-- drift (`x += τ v`, here τ = dt/2 as in LEAPFROG part 1) preserves mass, momentum and
    angular momentum and moves `Σ m x` by `τ · P` -/
theorem c04_drift_conserves (dt : K) (ps : Array (Part K)) :
    mass (lfDrift dt ps) = mass ps ∧ momentum (lfDrift dt ps) = momentum ps ∧
    angmom (lfDrift dt ps) = angmom ps ∧
    mxsum (lfDrift dt ps) = mxsum ps + ((1 / 2 : K) * dt) • momentum ps :=
  ⟨mass_drift dt ps, momentum_drift dt ps, angmom_drift dt ps, mxsum_drift dt ps⟩

/-- kick (+ half drift, LEAPFROG part 2) with *any* accelerations satisfying Newton's third law
    (`Σ m a = 0`) and vanishing total torque (`Σ m x×a = 0`) preserves `P` and `L` -/
theorem c04_kick_conserves (dt : K) (ps : Array (Part K)) (acc : Acc K) (hs : acc.size = ps.size)
    (h3 : ∑ i ∈ Finset.range ps.size, mOf ps i • aOf acc i = 0)
    (ht : ∑ i ∈ Finset.range ps.size, mOf ps i • V3.cross (xOf ps i) (aOf acc i) = 0) :
    mass (lfKickDrift dt ps acc) = mass ps ∧
    momentum (lfKickDrift dt ps acc) = momentum ps ∧ angmom (lfKickDrift dt ps acc) = angmom ps ∧
    mxsum (lfKickDrift dt ps acc) = mxsum ps + ((1 / 2 : K) * dt) • momentum ps := by
  have hP : momentum (lfKickDrift dt ps acc) = momentum ps := by
    rw [momentum_kick dt ps acc hs, h3]; simp
  refine ⟨mass_kick dt ps acc hs, hP, ?_, ?_⟩
  · rw [angmom_kick dt ps acc hs, ht]; simp
  · rw [mxsum_kick dt ps acc hs, hP]

/-! ### LEAPFROG with the BASIC force routine of gravity.c -/

/-- one LEAPFROG step (drift – BASIC forces – kick – drift) of an isolated system in which every
    particle is active, without ghost boxes: `P' = P`, `L' = L`, `M' = M`, `Σ m x` advances by
    `dt · P`.  Uses C02's Newton-3 and torque theorems about the BASIC loop nest. -/
theorem c04_leapfrog_step (pref : K → Nat → Nat → K) (cfg : Cfg K) (dt : K) (ps : Array (Part K))
    (hall : cfg.nActive = ps.size) (h2 : (2 : K) ≠ 0) :
    (lfStep pref cfg [0] dt ps).size = ps.size ∧
    mass (lfStep pref cfg [0] dt ps) = mass ps ∧
    momentum (lfStep pref cfg [0] dt ps) = momentum ps ∧
    angmom (lfStep pref cfg [0] dt ps) = angmom ps ∧
    mxsum (lfStep pref cfg [0] dt ps) = mxsum ps + dt • momentum ps := by
  unfold lfStep
  set ps1 := lfDrift dt ps with hps1
  have hs1 : ps1.size = ps.size := lfDrift_size dt ps
  set acc := accBasic pref cfg [0] (bodies ps1) with hacc
  have hsz : acc.size = ps1.size := by
    rw [hacc, accBasic_size]; simp [bodies]
  have hget : ∀ k, k < ps1.size →
      (accBasic pref cfg [0] (mkPs ps1.size (mOf ps1) (xOf ps1)))[k]? = some (aOf acc k) := by
    intro k hk
    rw [← bodies_eq, ← hacc]
    have : k < acc.size := by omega
    simp [aOf, Array.getElem?_eq_getElem this]
  have h3 := c02_basic_newton3 pref cfg [0] ps1.size (mOf ps1) (xOf ps1) (by omega) (aOf acc) hget
  have ht := c02_basic_torque pref cfg ps1.size (mOf ps1) (xOf ps1) (by omega) (aOf acc) hget
  obtain ⟨k1, k2, k3, k4⟩ := c04_kick_conserves dt ps1 acc hsz h3 ht
  obtain ⟨d1, d2, d3, d4⟩ := c04_drift_conserves dt ps
  refine ⟨?_, ?_, ?_, ?_, ?_⟩
  · rw [lfKickDrift_size dt ps1 acc hsz, hs1]
  · rw [k1, d1]
  · rw [k2, d2]
  · rw [k3, d3]
  · rw [k4, d4, d2, add_assoc, ← add_smul]
    congr 2
    field_simp
    ring

/-- hence LEAPFROG conserves `M`, `P`, `L` exactly for *any number of steps*, and the centre of
    mass moves uniformly: `Σ m x` after `n` steps is `Σ m x + n·dt·P`. -/
theorem c04_leapfrog_steps (pref : K → Nat → Nat → K) (cfg : Cfg K) (dt : K) (h2 : (2 : K) ≠ 0)
    (n : Nat) (ps : Array (Part K)) (hall : cfg.nActive = ps.size) :
    (lfSteps pref cfg [0] dt n ps).size = ps.size ∧
    mass (lfSteps pref cfg [0] dt n ps) = mass ps ∧
    momentum (lfSteps pref cfg [0] dt n ps) = momentum ps ∧
    angmom (lfSteps pref cfg [0] dt n ps) = angmom ps ∧
    mxsum (lfSteps pref cfg [0] dt n ps) = mxsum ps + ((n : K) * dt) • momentum ps := by
  induction n generalizing ps with
  | zero => simp [lfSteps]
  | succ n ih =>
    obtain ⟨s1, s2, s3, s4, s5⟩ := c04_leapfrog_step pref cfg dt ps hall h2
    obtain ⟨t1, t2, t3, t4, t5⟩ := ih (lfStep pref cfg [0] dt ps) (by rw [s1]; exact hall)
    simp only [lfSteps]
    refine ⟨by rw [t1, s1], by rw [t2, s2], by rw [t3, s3], by rw [t4, s4], ?_⟩
    rw [t5, s5, s3, add_assoc, ← add_smul]
    congr 2
    push_cast
    ring

/-! ### the Wisdom–Holman family in Jacobi coordinates

  `eta m i = Σ_{k≤i} m_k`; `jacV N m x` = Jacobi coordinates of `x` (slot 0: centre of mass, slot
  `i ≥ 1`: `x_i −` centre of mass of bodies `0..i−1`, the map of `inertial_to_jacobi_*`);
  `muJ N m` = Jacobi masses (`M`, then `m_i η_{i−1}/η_i`).  `LJ`, `PJ` = angular momentum and
  momentum computed from a Jacobi state. -/
open RV.WH in
/-- Jacobi decomposition (∀ N): `Σ m_i v_i = M·V_0` and `Σ m_i x_i × v_i = M R×V + Σ_{i≥1} μ_i x'_i × v'_i`.
    So `PJ`, `LJ` of the Jacobi state held in `p_jh` *are* the inertial P and L.  Hypothesis: the
    running masses `η_i` the transformation divides by are non-zero. -/
theorem c04_jacobi_decomposition (N : Nat) (hN : 1 ≤ N) (m : Nat → K) (x v : Nat → V3 K)
    (h : ∀ i, i < N → eta m i ≠ 0) :
    (∑ i ∈ Finset.range N, m i • v i = PJ N m ⟨jacV N m x, jacV N m v⟩) ∧
    (∑ i ∈ Finset.range N, m i • V3.cross (x i) (v i) = LJ N m ⟨jacV N m x, jacV N m v⟩) :=
  ⟨momentum_jacobi N hN m v (h (N - 1) (by omega)), angmom_jacobi N hN m x v h⟩

open RV.WH RV.Transform in
/-- the declarative Jacobi map used above *is* the loop of `reb_particles_transform_inertial_to_jacobi_*`
    as modelled in RV/Model/Transform.lean (C12; tied bit for bit to transformations.c): for every
    Cartesian component, every number of (active) bodies, `jacFwd` returns the total mass and the
    mass-weighted mean in slot 0 and `jrel` — the component of `jacV` — in slot `i ≥ 1`.
    Hypothesis: the running masses the C code divides by are non-zero (`SumsNZ`). -/
theorem c04_jacobi_map_is_transformations_c (m0 x0 : K) (act : List (K × K)) (h : SumsNZ m0 act) :
    let l := (m0, x0) :: act
    (jacFwd m0 x0 act []).m0 = eta (mF l) act.length ∧
    (jacFwd m0 x0 act []).x0 = wsum (mF l) (fF l) act.length / eta (mF l) act.length ∧
    (jacFwd m0 x0 act []).act = (List.range act.length).map (fun k => jrel (mF l) (fF l) (k + 1)) :=
  jacFwd_decl m0 x0 act h

open RV.WH in
/-- components of the vector Jacobi coordinates are the scalar ones -/
theorem c04_jacV_components (N : Nat) (m : Nat → K) (x : Nat → V3 K) (i : Nat) (h1 : 1 ≤ i) :
    (jacV N m x i).x = jrel m (fun k => (x k).x) i ∧ (jacV N m x i).y = jrel m (fun k => (x k).y) i ∧
    (jacV N m x i).z = jrel m (fun k => (x k).z) i := by
  have hne : i ≠ 0 := by omega
  refine ⟨?_, ?_, ?_⟩ <;> simp [jacV, hne, jrel, wsumV_x, wsumV_y, wsumV_z] <;> ring

open RV.WH in
/-- `reb_whfast_com_step` conserves P and L and moves the centre of mass by `τ·V` -/
theorem c04_wh_com_step (N : Nat) (hN : 1 ≤ N) (m : Nat → K) (τ : K) (s : JS K) :
    LJ N m (comStep τ s) = LJ N m s ∧ PJ N m (comStep τ s) = PJ N m s ∧
    (comStep τ s).X 0 = s.X 0 + τ • s.V 0 :=
  com_conserves N hN m τ s

open RV.WH RV.Kepler in
/-- `reb_whfast_kepler_step` in Jacobi coordinates: if every Jacobi body `i ≥ 1` is advanced by the
    f-g update of RV/Model/Kepler.lean under the hypotheses of C03 (`KeplerStep`: the Stiefel
    relations hold and `X` solves the universal Kepler equation for that body's mass parameter), then
    P and L are conserved and the centre of mass is not moved.  Uses the f-g Wronskian
    (`KeplerStep.angular_momentum` of RV/Proofs/Kepler.lean, the statement of C03's
    `c03_fg_angular_momentum`). -/
theorem c04_wh_kepler_step (N : Nat) (hN : 1 ≤ N) (m : Nat → K) (s s' : JS K)
    (M dt : Nat → K) (r0 Xs : Nat → K) (g : Nat → Cs3 K)
    (h0 : s'.X 0 = s.X 0 ∧ s'.V 0 = s.V 0)
    (hk : ∀ i, 1 ≤ i → i < N →
      KeplerStep (M i) (dt i) (r0 i) (Xs i) ⟨(s.X i).x, (s.X i).y, (s.X i).z, (s.V i).x, (s.V i).y, (s.V i).z⟩ (g i) ∧
      newR (M i) (r0 i) ⟨(s.X i).x, (s.X i).y, (s.X i).z, (s.V i).x, (s.V i).y, (s.V i).z⟩ (g i) ≠ 0 ∧
      (let q := fgUpdate (M i) (1 / r0 i)
          (1 / newR (M i) (r0 i) ⟨(s.X i).x, (s.X i).y, (s.X i).z, (s.V i).x, (s.V i).y, (s.V i).z⟩ (g i))
          (dt i) (g i).c1 (g i).c2 (g i).c3 ⟨(s.X i).x, (s.X i).y, (s.X i).z, (s.V i).x, (s.V i).y, (s.V i).z⟩
       s'.X i = ⟨q.x, q.y, q.z⟩ ∧ s'.V i = ⟨q.vx, q.vy, q.vz⟩)) :
    LJ N m s' = LJ N m s ∧ PJ N m s' = PJ N m s ∧ s'.X 0 = s.X 0 := by
  apply kepler_conserves N hN m s s'
  refine ⟨h0.1, h0.2, ?_⟩
  intro i h1 h2
  obtain ⟨ks, rne, hx, hv⟩ := hk i h1 h2
  obtain ⟨l1, l2, l3⟩ := ks.angular_momentum rne
  rw [hx, hv]
  ext
  · simpa [Lx] using l1
  · simpa [Ly] using l2
  · simpa [Lz] using l3

open RV.WH in
/-- `reb_whfast_interaction_step` in Jacobi coordinates (`p_j[i].v += dt·a'_i`, `a'` = the Jacobi
    transform of the inertial accelerations, plus the radial Jacobi term) with the forces of the BASIC
    loop nest of gravity.c, every particle active, any `gravity_ignore_terms` (WHFast uses 1): P and
    L are conserved, the centre of mass is not moved.  Chain: C02 Newton-3 + torque → Jacobi
    decomposition of `Σ m x×a` → `Σ_{i≥1} μ_i x'_i × a'_i = 0`. -/
theorem c04_wh_interaction_step (pref : K → Nat → Nat → K) (cfg : Cfg K) (N : Nat) (hN : 1 ≤ N)
    (m : Nat → K) (x : Nat → V3 K) (heta : ∀ i, i < N → eta m i ≠ 0) (hall : cfg.nActive = N)
    (a : Nat → V3 K) (ha : ∀ k, k < N → (accBasic pref cfg [0] (mkPs N m x))[k]? = some (a k))
    (τ : K) (c : Nat → K) (s s' : JS K) (h : InteractionLike N m τ x a c s s') :
    LJ N m s' = LJ N m s ∧ PJ N m s' = PJ N m s ∧ s'.X 0 = s.X 0 :=
  interaction_conserves N hN m heta τ x a c s s'
    (c02_basic_newton3 pref cfg [0] N m x hall a ha) (c02_basic_torque pref cfg N m x hall a ha) h

open RV.WH RV.WHInt RV.Transform in
/-- the executable model of `reb_whfast_interaction_step` (Jacobi coordinates; RV/Model/WHInt.lean, tied bit
    for bit to the exported C primitive) has exactly the shape `InteractionLike` postulates: the new
    velocity of Jacobi body `k+1` is `v + dt·(a' + c·x')`, where `a'` is the *declarative* Jacobi
    transform (`jrel`, the components of `jacV`) of the inertial accelerations and `c = rji·rj2i·G·η`
    (`0` for body 1) multiplies the body's own Jacobi position — a radial term that cannot change `x'×v'`.
    ∀ N; hypothesis: the running masses the acceleration transform divides by are non-zero. -/
theorem c04_wh_interaction_model (sqrt : K → K) (G soft dt m0 : K) (a0 : V3 K) (bodies : List (JB K))
    (as : List (V3 K)) (hlen : as.length = bodies.length)
    (hx : SumsNZ m0 ((bodies.map (·.m)).zip (as.map (·.x)))) (hy : SumsNZ m0 ((bodies.map (·.m)).zip (as.map (·.y))))
    (hz : SumsNZ m0 ((bodies.map (·.m)).zip (as.map (·.z)))) (k : Nat) (b : JB K) (hb : bodies[k]? = some b) :
    ∃ (A : V3 K) (c : K),
      (interactionJacobi sqrt G soft dt m0 a0 bodies as)[k]? = some (b.v + dt • (A + c • b.x)) ∧
      A.x = jrel (mF ((m0, a0.x) :: (bodies.map (·.m)).zip (as.map (·.x)))) (fF ((m0, a0.x) :: (bodies.map (·.m)).zip (as.map (·.x)))) (k + 1) ∧
      A.y = jrel (mF ((m0, a0.y) :: (bodies.map (·.m)).zip (as.map (·.y)))) (fF ((m0, a0.y) :: (bodies.map (·.m)).zip (as.map (·.y)))) (k + 1) ∧
      A.z = jrel (mF ((m0, a0.z) :: (bodies.map (·.m)).zip (as.map (·.z)))) (fF ((m0, a0.z) :: (bodies.map (·.m)).zip (as.map (·.z)))) (k + 1) ∧
      (k = 0 → c = 0) := by
  have hk : k < (bodies.map (·.m)).length := by
    rw [List.length_map]
    by_contra h
    have : bodies[k]? = none := by simp; omega
    rw [this] at hb; cases hb
  have hA := jacAcc_get m0 a0 (bodies.map (·.m)) as (by simpa using hlen) hx hy hz k hk
  refine ⟨⟨jrel (mF ((m0, a0.x) :: (bodies.map (·.m)).zip (as.map (·.x)))) (fF ((m0, a0.x) :: (bodies.map (·.m)).zip (as.map (·.x)))) (k + 1),
      jrel (mF ((m0, a0.y) :: (bodies.map (·.m)).zip (as.map (·.y)))) (fF ((m0, a0.y) :: (bodies.map (·.m)).zip (as.map (·.y)))) (k + 1),
      jrel (mF ((m0, a0.z) :: (bodies.map (·.m)).zip (as.map (·.z)))) (fF ((m0, a0.z) :: (bodies.map (·.m)).zip (as.map (·.z)))) (k + 1)⟩,
    coef sqrt G soft 1 m0 bodies k b, ?_, rfl, rfl, rfl, ?_⟩
  · exact kickLoop_get sqrt G soft dt bodies _ 1 m0 k b _ hb hA
  · intro h0; subst h0; simp [coef]

open RV.WH in
/-- hence **every schedule** made of Kepler steps (with or without the centre-of-mass step),
    interaction steps and force evaluations — the WHFast kernels and correctors, SABA, in Jacobi
    coordinates, as generated into RV/Gen/C01*.lean and replayed through the real primitives by
    C01/C09 — conserves P and L for any number of operators, keeps `V_com` and moves the centre
    of mass by (total centre-of-mass time)·`V_com`. -/
theorem c04_wh_schedule_conserves (N : Nat) (hN : 1 ≤ N) (m : Nat → K) (heta : ∀ i, i < N → eta m i ≠ 0)
    (ps : List (Prim K)) (s s' : JS K) (h : Runs N m ps s s') :
    LJ N m s' = LJ N m s ∧ PJ N m s' = PJ N m s ∧ s'.V 0 = s.V 0 ∧
    s'.X 0 = s.X 0 + comTime ps • s.V 0 := by
  induction h with
  | nil s => simp [comTime]
  | kepler τ wc ps s s1 s' hk _ ih =>
    obtain ⟨k1, k2, k3⟩ := kepler_conserves N hN m s s1 hk
    obtain ⟨i1, i2, i3, i4⟩ := ih
    cases wc
    · simp only [Bool.false_eq_true, if_false] at i1 i2 i3 i4
      refine ⟨by rw [i1, k1], by rw [i2, k2], by rw [i3, hk.2.1], ?_⟩
      rw [i4, k3, hk.2.1]; simp [comTime]
    · simp only [if_true] at i1 i2 i3 i4
      obtain ⟨c1, c2, c3⟩ := com_conserves N hN m τ s1
      refine ⟨by rw [i1, c1, k1], by rw [i2, c2, k2], by rw [i3]; simp [comStep, hk.2.1], ?_⟩
      rw [i4, c3, k3]
      simp only [comStep, hk.2.1, comTime, add_smul]
      abel
  | kick τ ps x a c s s1 s' h3 ht hi _ ih =>
    obtain ⟨k1, k2, k3⟩ := interaction_conserves N hN m heta τ x a c s s1 h3 ht hi
    obtain ⟨i1, i2, i3, i4⟩ := ih
    refine ⟨by rw [i1, k1], by rw [i2, k2], by rw [i3, hi.2.2.1], ?_⟩
    rw [i4, k3, hi.2.2.1]; simp [comTime]
  | force ps s s' _ ih =>
    obtain ⟨i1, i2, i3, i4⟩ := ih
    exact ⟨i1, i2, i3, by rw [i4]; simp [comTime]⟩

/-! ### democratic heliocentric coordinates (WHFast DH; frame of MERCURIUS / TRACE) -/

open RV.WH in
/-- DH decomposition (∀ N): `Σ m_i x_i × v_i = M R×V + Σ_{i≥1} m_i (x_i − x_0) × (v_i − V)` -/
theorem c04_dh_decomposition (N : Nat) (hN : 1 ≤ N) (m : Nat → K) (x v : Nat → V3 K) (hM : Mtot N m ≠ 0) :
    ∑ i ∈ Finset.range N, m i • V3.cross (x i) (v i)
      = LD N m ⟨Rcom N m x, Rcom N m v, fun i => x i - x 0, fun i => v i - Rcom N m v⟩ := by
  dsimp only [LD]
  set V := Rcom N m v with hV
  have hMV : ∑ i ∈ Finset.range N, m i • v i = Mtot N m • V := by
    rw [hV, Rcom, smul_smul, mul_one_div_cancel hM, one_smul]
  have hMR : Mtot N m • V3.cross (Rcom N m x) V = V3.cross (∑ i ∈ Finset.range N, m i • x i) V := by
    rw [Rcom, V3.smul_cross, smul_smul, mul_one_div_cancel hM, one_smul]
  -- extend the second sum to i = 0 (its term vanishes) and expand
  have h0 : ∑ i ∈ Finset.Ico 1 N, m i • V3.cross (x i - x 0) (v i - V)
      = ∑ i ∈ Finset.range N, m i • V3.cross (x i - x 0) (v i - V) := by
    rw [range_split N hN]
    have : V3.cross (x 0 - x 0) (v 0 - V) = 0 := by ext <;> simp
    rw [this]; simp
  rw [h0, hMR, V3.sum_cross, ← Finset.sum_add_distrib]
  have e : ∀ i ∈ Finset.range N, V3.cross (m i • x i) V + m i • V3.cross (x i - x 0) (v i - V)
      = m i • V3.cross (x i) (v i) - V3.cross (x 0) (m i • v i - m i • V) := by
    intro i _
    ext <;> dsimp only [V3.cross_x, V3.cross_y, V3.cross_z, V3.add_x, V3.add_y, V3.add_z, V3.sub_x, V3.sub_y, V3.sub_z,
      V3.smul_x, V3.smul_y, V3.smul_z] <;> ring
  rw [Finset.sum_congr rfl e, Finset.sum_sub_distrib, ← V3.cross_sum, Finset.sum_sub_distrib, hMV,
    ← Finset.sum_smul]
  simp [Mtot, V3.cross_zero]

open RV.WH in
/-- `reb_whfast_jump_step` in DH coordinates (every `Q_i += dt·(Σ_k m_k W_k)/m_0`) conserves L and P and
    does not touch the centre of mass: `Σ_i m_i δ × W_i = (dt/m_0) p × p = 0`. -/
theorem c04_dh_jump_step (N : Nat) (m : Nat → K) (τ : K) (s : DS K) :
    LD N m (jumpDH N m τ s) = LD N m s ∧ PD N m (jumpDH N m τ s) = PD N m s ∧
    (jumpDH N m τ s).R = s.R ∧ (jumpDH N m τ s).V = s.V :=
  jump_conserves N m τ s

open RV.WH in
/-- `reb_whfast_interaction_step` in DH coordinates (`W_i += dt·a_i`, `i ≥ 1`) with the forces of the
    BASIC loop nest for `gravity_ignore_terms = 2` (what WHFast-DH, MERCURIUS and TRACE request), every
    particle active: L and P are conserved and `Σ_{i≥1} m_i W_i` (hence the star's implicit velocity)
    is unchanged.  Uses `c02_basic_sources` (the star receives nothing), `c02_basic_newton3`,
    `c02_basic_torque`. -/
theorem c04_dh_interaction_step (kern : K → K) (soft : K) (tp : Bool) (N : Nat) (hN : 1 ≤ N)
    (m : Nat → K) (x : Nat → V3 K) (a : Nat → V3 K)
    (ha : ∀ k, k < N → (accBasic (fun s _ _ => kern s) ⟨N, tp, 2, soft⟩ [0] (mkPs N m x))[k]? = some (a k))
    (τ : K) (s : DS K) (hQ : ∀ i, s.Q i = x i - x 0) :
    LD N m (kickDH τ a s) = LD N m s ∧ PD N m (kickDH τ a s) = PD N m s ∧
    (∑ i ∈ Finset.Ico 1 N, m i • (kickDH τ a s).W i) = ∑ i ∈ Finset.Ico 1 N, m i • s.W i := by
  have ha0 : a 0 = 0 := by
    have h0 := ha 0 (by omega)
    rw [accBasic_declarative _ (fun _ _ _ => rfl) ⟨N, tp, 2, soft⟩ [0] (by intro G; simp) m x (le_refl N)
      (by simp) (by omega)] at h0
    rw [← Option.some.inj h0]
    simp [Src]
  exact kickDH_conserves N hN m τ x a s hQ ha0
    (c02_basic_newton3 _ ⟨N, tp, 2, soft⟩ [0] N m x rfl a ha)
    (c02_basic_torque _ ⟨N, tp, 2, soft⟩ N m x rfl a ha)

open RV.WH in
/-- Kepler step (each heliocentric body keeps its `Q×W`: f-g Wronskian) and com step in DH coordinates -/
theorem c04_dh_kepler_and_com (N : Nat) (m : Nat → K) (τ : K) (s s' : DS K) (hR : s'.R = s.R) (hV : s'.V = s.V)
    (h : ∀ i, 1 ≤ i → i < N → V3.cross (s'.Q i) (s'.W i) = V3.cross (s.Q i) (s.W i)) :
    (LD N m s' = LD N m s ∧ PD N m s' = PD N m s) ∧
    (LD N m { s with R := s.R + τ • s.V } = LD N m s ∧ PD N m { s with R := s.R + τ • s.V } = PD N m s) :=
  ⟨keplerDH_conserves N m s s' hR hV h, comDH_conserves N m τ s⟩

/-! ### the executable jump and com steps of WHFast (tied bitwise to `reb_whfast_jump_step` / `reb_whfast_com_step`) -/

open RV.WH RV.WHJump in
/-- `reb_whfast_jump_step`, democratic heliocentric case, as modelled on the array `p_jh`
    (RV/Model/WHJump.lean, operation order of integrator_whfast.c:451-468; op `whjump dh` of drv_c04),
    for every `N_active ≤ N`, every `N_real`, masses incl. zero, test particles: the centre-of-mass slot,
    all masses and all velocities are untouched and every slot `1 ≤ i < N_real` is displaced by
    `(dt/m_0) Σ_{1 ≤ k < N_active} m_k W_k` — the momentum sum runs over the massive bodies only, the
    displacement reaches the test particles too. -/
theorem c04_dh_jump_model (N nAct nReal : Nat) (hN : 1 ≤ N) (hA : nAct ≤ N) (m : Nat → K) (τ : K) (s : DS K) :
    RV.WHJump.jumpDH τ nAct nReal (dsArr N m s)
      = dsArr N m { s with Q := fun i => if i < nReal then s.Q i + (τ / m 0) • ∑ k ∈ Finset.Ico 1 nAct, m k • s.W k
                                           else s.Q i } :=
  jumpDH_model N nAct nReal hN hA m τ s

open RV.WH RV.WHJump in
/-- with every particle active the executable jump step IS the declarative one of `c04_dh_jump_step`, so the
    code-level step conserves L and P and leaves the centre of mass alone. -/
theorem c04_dh_jump_model_conserves (N : Nat) (hN : 1 ≤ N) (m : Nat → K) (τ : K) (s : DS K) :
    RV.WHJump.jumpDH τ N N (dsArr N m s) = dsArr N m (RV.WH.jumpDH N m τ s)
    ∧ LD N m (RV.WH.jumpDH N m τ s) = LD N m s ∧ PD N m (RV.WH.jumpDH N m τ s) = PD N m s
    ∧ (RV.WH.jumpDH N m τ s).R = s.R ∧ (RV.WH.jumpDH N m τ s).V = s.V :=
  ⟨jumpDH_model_active N hN m τ s, jump_conserves N m τ s⟩

open RV.WH RV.WHJump in
/-- `reb_whfast_com_step` on the array (op `whjump com`) is `R += dt·V`; it conserves L and P. -/
theorem c04_wh_com_model (N : Nat) (hN : 1 ≤ N) (m : Nat → K) (τ : K) (s : DS K) :
    RV.WHJump.comStep τ (dsArr N m s) = dsArr N m { s with R := s.R + τ • s.V }
    ∧ LD N m { s with R := s.R + τ • s.V } = LD N m s ∧ PD N m { s with R := s.R + τ • s.V } = PD N m s :=
  ⟨comStep_model N m τ s, comDH_conserves N m τ s⟩

open RV.WH RV.WHJump in
/-- `reb_whfast_jump_step`, WHDS case (integrator_whfast.c:469-493; op `whjump whds`), in closed form for every
    `1 ≤ N_active ≤ N`, every `N_real`: with `p = Σ_{1≤k<N_active} m_k/(m_0+m_k) W_k` a massive body is displaced by
    `dt (p − m_i/(m_0+m_i) W_i)`, a test particle by `dt p`; slot 0, masses, velocities untouched.
    PARTIAL for conservation: that this displacement conserves L and P needs the WHDS canonical momenta
    (`W_i` = barycentric-scaled velocities) and their decomposition of L, which is not in the Lean development;
    for WHDS the conservation of the jump step remains asserted by the primitive-by-primitive search. -/
theorem c04_whds_jump_model_partial (N nAct nReal : Nat) (hN : 1 ≤ N) (hA1 : 1 ≤ nAct) (hA : nAct ≤ N)
    (m : Nat → K) (τ : K) (s : DS K) :
    RV.WHJump.jumpWHDS τ nAct nReal (dsArr N m s) = dsArr N m { s with Q := whdsQ nAct nReal m τ s } := by
  rw [RV.WHJump.jumpWHDS, dsArr_get N m s hN, if_pos rfl]
  dsimp only
  rw [whdsMom_eq N nAct hA]
  refine dsArr_mapIdx N m s _ _ ?_ fun i h1 hi => ?_
  · rw [if_neg (by simp), if_neg (by omega)]
  dsimp only [whdsQ]
  by_cases ha : i < nAct
  · rw [if_pos ⟨h1, ha⟩, if_pos ha]
    congr 1
    ext <;> dsimp only [V3.add_x, V3.add_y, V3.add_z, V3.smul_x, V3.smul_y, V3.smul_z, V3.sub_x, V3.sub_y, V3.sub_z] <;> ring
  · rw [if_neg fun h => ha h.2, if_neg ha]
    by_cases hr : i < nReal
    · rw [if_pos ⟨not_lt.1 ha, hr⟩, if_pos hr]; rfl
    · rw [if_neg fun h => hr h.2, if_neg hr]

open RV.WH RV.WHJump in
/-- non-vacuity: star + massive planet + one test particle (`N_active = 2 < N = 3`) over ℚ meets the
    hypotheses; the test particle (slot 2) is displaced by `(dt/m_0) m_1 W_1` although it is not in the sum. -/
example : ∃ (m : Nat → ℚ) (s : DS ℚ), (1 ≤ 3 ∧ 2 ≤ 3) ∧
    (RV.WHJump.jumpDH (1 : ℚ) 2 3 (dsArr 3 m s))[2]?
      = some ⟨m 2, s.Q 2 + ((1 : ℚ) / m 0) • ∑ k ∈ Finset.Ico 1 2, m k • s.W k, s.W 2⟩ := by
  refine ⟨fun i => if i = 0 then 1 else if i = 1 then 1 / 1000 else 0,
    ⟨0, 0, fun i => ⟨(i : ℚ), 0, 0⟩, fun i => ⟨0, (i : ℚ), 0⟩⟩, ⟨by decide, by decide⟩, ?_⟩
  rw [jumpDH_model 3 2 3 (by decide) (by decide)]
  rw [dsArr_get 3 _ _ (by decide : 2 < 3)]
  simp

/-! ### TRACE: the centre of mass across a rejected step -/

/-- centre-of-mass bookkeeping of `reb_integrator_trace_part2` (interaction/jump/Kepler/COM sequence):
    the stored centre of mass after the step is `com + dt·v_com` of the particles the step started
    from — the same for an accepted and for a rejected-and-redone step, and independent of what
    `ri_trace.com_pos` held before (a previous step, a restore, a new simulation, a user shift). -/
theorem c04_trace_rejected_step_com (dt : K) (nAct : Nat) (rejected : Bool) (stale : V3 K)
    (ps : Array (Part K)) :
    RV.TraceCom.part2Com dt nAct rejected stale ps = RV.TraceCom.comStep dt (RV.TraceCom.dhCom nAct ps) :=
  RV.TraceCom.part2Com_eq dt nAct rejected stale ps

/-- … and that is uniform motion: total mass × stored centre of mass = `Σ m x + dt Σ m v`, the
    stored velocity is `Σ m v / Σ m` (sums over the particles `inertial_to_dh` uses). -/
theorem c04_trace_step_com_uniform (dt : K) (nAct : Nat) (rejected : Bool) (stale : V3 K)
    (ps : Array (Part K)) (hM : ∑ i ∈ Finset.Ico 0 nAct, mOf ps i ≠ 0) :
    (∑ i ∈ Finset.Ico 0 nAct, mOf ps i) • (RV.TraceCom.part2Com dt nAct rejected stale ps).pos
      = ∑ i ∈ Finset.Ico 0 nAct, mOf ps i • xOf ps i + dt • ∑ i ∈ Finset.Ico 0 nAct, mOf ps i • vOf ps i
    ∧ (∑ i ∈ Finset.Ico 0 nAct, mOf ps i) • (RV.TraceCom.part2Com dt nAct rejected stale ps).vel
      = ∑ i ∈ Finset.Ico 0 nAct, mOf ps i • vOf ps i := by
  rw [RV.TraceCom.part2Com_eq]
  dsimp only [RV.TraceCom.comStep, RV.TraceCom.dhCom]
  rw [RV.TraceCom.dhSums_eq]
  constructor <;> ext <;>
    dsimp only [V3.smul_x, V3.smul_y, V3.smul_z, V3.add_x, V3.add_y, V3.add_z] <;> field_simp

/-! ### merging collisions -/

/-- `reb_collision_resolve_merge`: the survivor carries the summed mass, and its momentum and
    mass-weighted position are the sums of the pair's (so total `M`, `P`, `Σ m x` — hence the
    centre of mass — are unchanged).  `m_i + m_j ≠ 0` is the divisor of the C code. -/
theorem c04_merge_conserves (sqrt : K → K) (G : K) (pot : Bool) (vcom : V3 K) (pi pj : Part K)
    (hm : pi.m + pj.m ≠ 0) :
    (merge sqrt G pot vcom pi pj).p.m = pi.m + pj.m ∧
    (merge sqrt G pot vcom pi pj).p.m • (merge sqrt G pot vcom pi pj).p.v = pi.m • pi.v + pj.m • pj.v ∧
    (merge sqrt G pot vcom pi pj).p.m • (merge sqrt G pot vcom pi pj).p.x = pi.m • pi.x + pj.m • pj.x := by
  dsimp only [merge]
  refine ⟨rfl, ?_, ?_⟩ <;> ext <;>
    dsimp only [V3.smul_x, V3.smul_y, V3.smul_z, V3.add_x, V3.add_y, V3.add_z, sc_one, sc_hadd, sc_hdiv] <;>
    rw [mul_one_div, mul_div_cancel₀ _ hm] <;> ring

/-- the energy bookkeeping of a merge: `dE` is (kinetic energy of the pair + its mutual potential
    energy when at least one of them is active) − (kinetic energy of the survivor), velocities
    taken in the frame shifted by `vcom` -/
theorem c04_merge_energy_offset (sqrt : K → K) (G : K) (pot : Bool) (vcom : V3 K) (pi pj : Part K) :
    (merge sqrt G pot vcom pi pj).dE
      = (1 / 2 : K) * pi.m * V3.dot (pi.v + vcom) (pi.v + vcom) + (1 / 2 : K) * pj.m * V3.dot (pj.v + vcom) (pj.v + vcom)
        + (if pot then -(G * pi.m * pj.m) / sqrt (V3.dot (pi.x - pj.x) (pi.x - pj.x)) else 0)
        - (1 / 2 : K) * (pi.m + pj.m) * V3.dot ((merge sqrt G pot vcom pi pj).p.v + vcom)
            ((merge sqrt G pot vcom pi pj).p.v + vcom) := by
  refine congrArg₂ (· - ·) ?_ (zero_add _)
  cases pot <;>
    simp only [Bool.false_eq_true, ↓reduceIte, half, V3.dot, sc_zero, sc_one, sc_ofNat, V3.add_x, V3.add_y, V3.add_z,
      V3.sub_x, V3.sub_y, V3.sub_z] <;> ring

/-! ### non-vacuity: two unit masses and a massless body over ℚ satisfy the hypotheses of
    `c04_com_def` with `gt0 = (· > 0)`, and `2 ≠ 0`. -/
example : (2 : ℚ) ≠ 0 ∧
    (let ps : Array (Part ℚ) := #[⟨0, ⟨1, 0, 0⟩, ⟨0, 1, 0⟩⟩, ⟨1, ⟨0, 2, 0⟩, ⟨0, 0, 1⟩⟩, ⟨1, ⟨0, 0, 3⟩, ⟨1, 0, 0⟩⟩]
     ∀ n, 1 ≤ n → n ≤ ps.size →
      (decide (preM ps n > 0) = true ∧ preM ps n ≠ 0) ∨ (decide (preM ps n > 0) = false ∧ ∀ i, i < n → mOf ps i = 0)) := by
  refine ⟨two_ne_zero, ?_⟩
  intro ps n h1 h2
  have e1 : preM ps 1 = 0 := by rw [preM, Finset.sum_range_one]; rfl
  have e2 : preM ps 2 = 1 := by rw [preM, Finset.sum_range_succ, ← preM, e1, zero_add]; rfl
  have e3 : preM ps 3 = 2 := by rw [preM, Finset.sum_range_succ, ← preM, e2]; exact one_add_one_eq_two
  obtain rfl | rfl | rfl : n = 1 ∨ n = 2 ∨ n = 3 := by have : ps.size = 3 := rfl; omega
  · right; rw [e1]; exact ⟨by decide, fun i hi => by rw [Nat.lt_one_iff.1 hi]; rfl⟩
  · left; rw [e2]; exact ⟨by decide, one_ne_zero⟩
  · left; rw [e3]; exact ⟨by decide, two_ne_zero⟩
end RV.Diag
