import RV.Proofs.CollisionResolve
import RV.Proofs.CollisionPrune
import RV.Proofs.CollisionTree
/-
  C13 — collisions are detected completely and resolved conservatively.

  Statements are about the definitions in RV/Model/Collision.lean — the same ones the driver
  `drv_c13` runs on IEEE doubles against collision.c / particle.c.  Arithmetic statements are
  over an arbitrary ordered field `K` (exact arithmetic); the index statements are about
  `Int`/`List` and hold for every particle payload, every identity type, every pending list,
  every processing order and every resolver.
-/
set_option linter.unusedSectionVars false
set_option linter.unusedSimpArgs false
set_option linter.unusedVariables false
namespace RV.Collision
open RV

/-! ## 1. searches -/
section search
variable {K : Type} [Field K] [LinearOrder K] [IsStrictOrderedRing K]

/-- DIRECT search, ∀ N, ∀ ghost rings: the three nested loops with their `continue`s report
    exactly the declarative list (ghost boxes × ordered pairs, filtered), in that order, each
    triple once. -/
theorem c13_direct_search_spec (ring : List (GB K)) (cand : List (Nat × Part K)) (nInner : Nat) :
    directSearch ring cand nInner = directSpec ring cand nInner := by
  unfold directSearch directSpec
  simp only [directLoopI_eq]
  rw [foldl_append_flatMap]; simp

/-- DIRECT search, declaratively: `(p1,p2,gb)` is handed on iff `p1 = particles[i]`,
    `p2 = particles[j]` with `i ≠ j`, `j < Ninner`, the ghost-shifted p1 overlaps p2
    (`‖d‖² ≤ (r₁+r₂)²`) and they are not receding (`d·dv ≤ 0`). -/
theorem c13_direct_reported_iff (ring : List (GB K)) (cand : List (Nat × Part K)) (nInner : Nat)
    (c : Coll (GB K)) :
    c ∈ directSearch ring cand nInner ↔
      ∃ gb ∈ ring, ∃ (i j : Nat) (hi : i < cand.length) (hj : j < cand.length),
        j < nInner ∧ i ≠ j ∧
        (gb.x + cand[i].2.x - cand[j].2.x)^2 + (gb.y + cand[i].2.y - cand[j].2.y)^2
          + (gb.z + cand[i].2.z - cand[j].2.z)^2 ≤ (cand[i].2.r + cand[j].2.r)^2 ∧
        (gb.vx + cand[i].2.vx - cand[j].2.vx) * (gb.x + cand[i].2.x - cand[j].2.x)
          + (gb.vy + cand[i].2.vy - cand[j].2.vy) * (gb.y + cand[i].2.y - cand[j].2.y)
          + (gb.vz + cand[i].2.vz - cand[j].2.vz) * (gb.z + cand[i].2.z - cand[j].2.z) ≤ 0 ∧
        c = ⟨(cand[i].1 : Int), (cand[j].1 : Int), gb⟩ := by
  rw [c13_direct_search_spec, mem_directSpec]
  simp only [directHit_iff, shiftGB, sc_hadd, and_assoc]

/-- LINE search, ∀ N: the loops report exactly the pairs `i < j` passing the line test -/
theorem c13_line_search_spec (dt : K) (ring : List (GB K)) (cand : List (Nat × Part K)) :
    lineSearch dt ring cand = lineSpec dt ring cand := by
  unfold lineSearch lineSpec
  simp only [lineLoopI_eq]
  rw [foldl_append_flatMap]; simp

/-- LINE search, declaratively: reported iff `i < j` and the code's `rmin2_ab ≤ (r₁+r₂)²` -/
theorem c13_line_reported_iff (dt : K) (ring : List (GB K)) (cand : List (Nat × Part K))
    (c : Coll (GB K)) :
    c ∈ lineSearch dt ring cand ↔
      ∃ gb ∈ ring, ∃ (i j : Nat) (hij : i < j) (hj : j < cand.length),
        lineRmin2 dt (shiftGB gb (cand[i]'(by omega)).2) cand[j].2
          ≤ ((cand[i]'(by omega)).2.r + cand[j].2.r)^2 ∧
        c = ⟨((cand[i]'(by omega)).1 : Int), (cand[j].1 : Int), gb⟩ := by
  simp only [c13_line_search_spec, lineSpec, List.mem_flatMap, mem_lineSpecI, lineHit_iff]

/-- the code's `rmin2_ab` is the minimum over the last step of the squared separation of the
    straight-line paths: a lower bound at every time `τ` before the end of the step with
    `0 ≤ τ/dt ≤ 1` (either sign of `dt`) … -/
theorem c13_line_rmin2_lower (dt : K) (hdt : dt ≠ 0) (g : GB K) (p2 : Part K) (τ : K)
    (h0 : 0 ≤ τ/dt) (h1 : τ/dt ≤ 1) :
    lineRmin2 dt g p2 ≤
      (g.x - p2.x - τ*(g.vx - p2.vx))^2 + (g.y - p2.y - τ*(g.vy - p2.vy))^2
        + (g.z - p2.z - τ*(g.vz - p2.vz))^2 := by
  have := lineRmin2_le dt hdt g p2 τ h0 h1
  simpa [sep2, lineQ] using this

/-- … and attained at some time of the step.  Hence a pair is reported by the LINE test iff the
    two straight-line paths came within `r₁+r₂` during the last step. -/
theorem c13_line_rmin2_attained (dt : K) (hdt : dt ≠ 0) (g : GB K) (p2 : Part K) :
    ∃ τ, 0 ≤ τ/dt ∧ τ/dt ≤ 1 ∧ lineRmin2 dt g p2 =
      (g.x - p2.x - τ*(g.vx - p2.vx))^2 + (g.y - p2.y - τ*(g.vy - p2.vy))^2
        + (g.z - p2.z - τ*(g.vz - p2.vz))^2 := by
  obtain ⟨τ, a, b, e⟩ := lineRmin2_attained dt hdt g p2
  exact ⟨τ, a, b, by simpa [sep2, lineQ] using e⟩

/-- the `dv = 0` corner (C: `t_closest = 0/0 = NaN`, both range comparisons false): for every
    value of `t_closest` and either outcome of the range test, `rmin2_ab` is the constant squared
    separation -/
theorem c13_line_dv0 (dt : K) (g : GB K) (p2 : Part K)
    (hx : g.vx = p2.vx) (hy : g.vy = p2.vy) (hz : g.vz = p2.vz) (tc : K) (inr : Bool) :
    lineRmin2Gen (lineQ dt g p2) tc inr = (g.x - p2.x)^2 + (g.y - p2.y)^2 + (g.z - p2.z)^2 := by
  have h : (lineQ dt g p2).dvx1 = 0 ∧ (lineQ dt g p2).dvy1 = 0 ∧ (lineQ dt g p2).dvz1 = 0 := by
    simp [lineQ, hx, hy, hz]
  rw [lineRmin2Gen_dv0 dt g p2 h tc inr 0]
  simp [sep2, lineQ]

/-- the ghost ring: `gbx` runs over `-c … c` with `c = min(N_ghost_x, 1)` (empty if negative) -/
theorem c13_ghost_ring (ngx ngy ngz : Int) (a b c : Int) :
    (a, b, c) ∈ ghostRing ngx ngy ngz ↔
      (-(ghostCol ngx) ≤ a ∧ a ≤ ghostCol ngx) ∧ (-(ghostCol ngy) ≤ b ∧ b ≤ ghostCol ngy) ∧
      (-(ghostCol ngz) ≤ c ∧ c ≤ ghostCol ngz) := by
  have key : ∀ (n x : Int), x ∈ ghostRange n ↔ -n ≤ x ∧ x ≤ n := by
    intro n x
    unfold ghostRange
    simp only [List.mem_map, List.mem_range]
    constructor
    · rintro ⟨k, hk, rfl⟩; omega
    · rintro ⟨h1, h2⟩; exact ⟨(x + n).toNat, by omega, by omega⟩
  unfold ghostRing
  simp only [List.mem_flatMap, List.mem_map, Prod.mk.injEq]
  constructor
  · rintro ⟨a', ha, b', hb, c', hc, rfl, rfl, rfl⟩
    exact ⟨(key _ _).mp ha, (key _ _).mp hb, (key _ _).mp hc⟩
  · rintro ⟨ha, hb, hc⟩
    exact ⟨a, (key _ _).mpr ha, b, (key _ _).mpr hb, c, (key _ _).mpr hc, rfl, rfl, rfl⟩

end search

/-! ## 2. shuffle and index fix-ups -/
section fixup
variable {α G ι : Type}

/-- the `rand_r` swap loop only permutes the pending list, whatever numbers are drawn -/
theorem c13_shuffle_perm (seed : UInt32) (l : List (Coll G)) : (shuffle seed l).1.Perm l := by
  unfold shuffle
  simpa using swapSeq_perm (drawNews l.length l.length seed).1 0 l.toArray

/-- A4, one removal: for a surviving index `p ≠ i`, the index computed by the code
    (`p-1` if `p > i` in sorted mode; `i` if `p` was the last index in swap mode) names in the
    new array the identity that `p` named in the old one. -/
theorem c13_fixup_index (ks : Bool) (l : List ι) (i p : Nat) (hi : i < l.length)
    (hp : p < l.length) (hne : p ≠ i) :
    denote (rmList ks l i) (fixIdx ks (i : Int) ((l.length : Int) - 1) (p : Int)) = l[p]? :=
  rmList_getElem? ks l i p hi hp hne

/-- A4, one iteration of collision.c:386-487 on a live entry, in every accepted configuration
    (sorted / unsorted without tree, unsorted with tree), for every resolver outcome (bits 0 and
    1 of any integer): the resolver receives the particles carrying exactly the two identities
    `a`,`b` the entry denoted; afterwards every later entry still tracks its own pair — void iff
    one of its identities was removed, otherwise naming the same two identities — and the
    identity list of the array is the old one minus exactly the requested identities (same
    order when sorted, a permutation when unsorted, unchanged when a tree exists). -/
theorem c13_fixup_step [DecidableEq ι] (v : RmVariant) (ident : α → ι) (flag : α → α)
    (hflag : ∀ a, ident (flag a) = ident a)
    (res : Sim α → Coll G → Sim α × Nat) (hres : ResOK ident res)
    (ks : Bool) (s : Sim α) (hc : Cfg ks s) (hn : (ids ident s).Nodup)
    (c : Coll G) (a b : ι) (hab : a ≠ b)
    (h1 : denote (ids ident s) c.p1 = some a) (h2 : denote (ids ident s) c.p2 = some b)
    (rest : List (Coll G)) (ds : List (ι × ι)) (dead : List ι)
    (htr : List.Forall₂ (Tracks (ids ident s) dead) rest ds) :
    ∃ s' rest' pa pb, processOne v flag res ks s c rest =
        (s', rest', some ⟨c, some pa, some pb, (res s c).2, s.nActive, s.ps.length - s.nVar⟩) ∧
      ident pa = a ∧ ident pb = b ∧
      Cfg ks s' ∧ s'.tree = s.tree ∧ (ids ident s').Nodup ∧
      List.Forall₂ (Tracks (ids ident s') (dead ++ remOf a b (res s c).2)) rest' ds ∧
      IdsAfter ks s.tree (ids ident s) (remOf a b (res s c).2) (ids ident s') :=
  processOne_live ident v flag hflag res hres ks s hc hn c a b hab h1 h2 rest ds dead htr

/-- **fix-up invariant** (A4), whole loop: ∀ particle arrays with distinct identities,
    ∀ pending lists of valid entries, ∀ processing orders `sh` (any permutation of the list —
    in particular the `rand_r` shuffle), ∀ resolvers that do not restructure the array:

    * `Run`: going through `sh` in order, the resolver is called exactly for the entries whose
      two identities are both still alive, with the particles carrying those identities; entries
      naming a removed identity are skipped (nothing is resolved after its removal, nothing twice);
      `dead` collects exactly the identities the outcomes asked to remove;
    * the final array has no duplicates; without a tree it contains exactly the identities of the
      initial array that are not in `dead` (nothing lost, nothing resurrected), in the original
      order when keep_sorted; with a tree the array is untouched (particles are only flagged). -/
theorem c13_fixup_invariant [DecidableEq ι] (v : RmVariant) (ident : α → ι) (flag : α → α)
    (hflag : ∀ a, ident (flag a) = ident a)
    (res : Sim α → Coll G → Sim α × Nat) (hres : ResOK ident res)
    (ks : Bool) (s0 : Sim α) (hc : Cfg ks s0) (hn : (ids ident s0).Nodup)
    (pend sh : List (Coll G)) (hperm : sh.Perm pend) (ds : List (ι × ι))
    (hvalid : List.Forall₂ (fun e d => d.1 ≠ d.2 ∧ denote (ids ident s0) e.p1 = some d.1 ∧
      denote (ids ident s0) e.p2 = some d.2) sh ds) :
    ∃ dead, Run ident [] ds (processLoop v flag res ks s0 sh).2 dead ∧
      (ids ident (processLoop v flag res ks s0 sh).1).Nodup ∧
      (s0.tree = false →
        (∀ x, x ∈ ids ident (processLoop v flag res ks s0 sh).1 ↔ x ∈ ids ident s0 ∧ x ∉ dead) ∧
        (ks = true → (ids ident (processLoop v flag res ks s0 sh).1).Sublist (ids ident s0))) ∧
      (s0.tree = true → ids ident (processLoop v flag res ks s0 sh).1 = ids ident s0) := by
  have hdist : ∀ d ∈ ds, d.1 ≠ d.2 := by
    clear hperm
    induction hvalid with
    | nil => intro d hd; cases hd
    | cons h _ ih =>
      intro d hd
      rcases List.mem_cons.mp hd with rfl | hd
      · exact h.1
      · exact ih d hd
  have htr : List.Forall₂ (Tracks (ids ident s0) []) sh ds := by
    refine List.Forall₂.imp ?_ hvalid
    intro e d h
    right
    exact ⟨by simp, by simp, h.2.1, h.2.2⟩
  obtain ⟨rem, hrun, hids, hnd, hcf, htf⟩ :=
    processLoop_spec ident v flag hflag res hres ks ds hdist s0 sh [] hc hn htr
  refine ⟨rem, by simpa using hrun, hnd, ?_, ?_⟩
  · intro ht
    unfold IdsAfter at hids
    rw [ht] at hids
    simp only [Bool.false_eq_true, if_false] at hids
    have hmem : ∀ x, x ∈ ids ident (processLoop v flag res ks s0 sh).1 ↔
        x ∈ rem.foldl List.erase (ids ident s0) := by
      intro x
      cases ks
      · simp only [Bool.false_eq_true, if_false] at hids; exact hids.mem_iff
      · simp only [if_true] at hids; rw [hids]
    refine ⟨fun x => by rw [hmem, mem_foldl_erase rem hn], ?_⟩
    · intro hk
      subst hk
      simp only [if_true] at hids
      rw [hids]; exact foldl_erase_sublist rem _
  · intro ht
    unfold IdsAfter at hids
    rw [ht] at hids
    simpa using hids

/-- what `reb_simulation_remove_particle` does in the refused configuration keep_sorted + tree
    (F4): with `sortedTreeErrFirst = false` it shifts the array, decrements N (and N_active), *then* reports the
    error and returns 0 — so the driver applies no fix-up to the later entries although the
    indices moved.  (With the guard moved in front, `sortedTreeErrFirst`, the array is left
    alone.)  This is why `c13_fixup_invariant` excludes that configuration (`Cfg.mode`). -/
theorem c13_sorted_tree_removal_refused (v : RmVariant) (flag : α → α) (s : Sim α) (i : Nat)
    (hi : i < s.ps.length) (h2 : 2 ≤ s.ps.length) (hv : s.nVar = 0) (ht : s.tree = true) :
    (removeParticle v flag s (i : Int) true).2 = false ∧
    (removeParticle v flag s (i : Int) true).1.err = s.err + 1 ∧
    (removeParticle v flag s (i : Int) true).1.ps =
      if v.sortedTreeErrFirst then s.ps else s.ps.eraseIdx i := by
  unfold removeParticle
  have hN : ((s.ps.length : Int) == 1) = false := by
    rw [beq_eq_false_iff_ne]; omega
  have hr : ¬ (s.ps.length ≤ i ∨ (i : Int) < 0) := by omega
  cases hf : v.sortedTreeErrFirst <;> simp [hN, hr, hv, ht, hf]

/-- the other refused cases: an index outside the array, or variational particles present,
    leave the array untouched, report an error and return 0 -/
theorem c13_removal_error_cases (v : RmVariant) (flag : α → α) (s : Sim α) (idx : Int) (ks : Bool)
    (hN : s.ps.length ≠ 1) (h : idx < 0 ∨ idx ≥ s.ps.length ∨ s.nVar ≠ 0) :
    (removeParticle v flag s idx ks).2 = false ∧ (removeParticle v flag s idx ks).1.ps = s.ps ∧
    (removeParticle v flag s idx ks).1.err = s.err + 1 := by
  unfold removeParticle
  have hN' : ((s.ps.length : Int) == 1) = false := by
    rw [beq_eq_false_iff_ne]; omega
  by_cases hr : idx ≥ (s.ps.length : Int) ∨ idx < 0
  · have : (decide (idx ≥ (s.ps.length : Int)) || decide (idx < 0)) = true := by
      simpa using hr
    simp [hN', this]
  · have hr' : (decide (idx ≥ (s.ps.length : Int)) || decide (idx < 0)) = false := by
      simp; omega
    have hv : s.nVar ≠ 0 := by
      rcases h with h | h | h
      · omega
      · omega
      · exact h
    simp [hN', hr', hv]

end fixup

/-! ## 3. merge -/
section merge
variable {K : Type} [Field K] [LinearOrder K] [IsStrictOrderedRing K]

/-- the merged particle carries the summed mass, momentum and mass-weighted position of the
    pair (total mass non-zero), keeps the survivor's identity and is stamped
    `last_collision = t` -/
theorem c13_merge_pair_conserves (mid : Bool) (cbrtF : K → K) (t : K) (pi pj : Part K) (hm : pi.m + pj.m ≠ 0) :
    let p := mergePair mid cbrtF t pi pj
    p.m = pi.m + pj.m ∧
    p.m * p.vx = pi.m * pi.vx + pj.m * pj.vx ∧ p.m * p.vy = pi.m * pi.vy + pj.m * pj.vy ∧
    p.m * p.vz = pi.m * pi.vz + pj.m * pj.vz ∧
    p.m * p.x = pi.m * pi.x + pj.m * pj.x ∧ p.m * p.y = pi.m * pi.y + pj.m * pj.y ∧
    p.m * p.z = pi.m * pi.z + pj.m * pj.z ∧ p.id = pi.id ∧ p.lc = t := by
  have h := mergePair_additive mid cbrtF t pi pj hm
  simp only [conservedQ, List.mem_cons, List.not_mem_nil, or_false, forall_eq_or_imp, forall_eq] at h
  obtain ⟨h1, h2, h3, h4, h5, h6, h7⟩ := h
  exact ⟨h1, h2, h3, h4, h5, h6, h7, (mergePair_id mid cbrtF t pi pj).1, (mergePair_id mid cbrtF t pi pj).2⟩

/-- the return value asks for the removal of the *higher* index (1 = p1, 2 = p2), the lower
    index receives the merged particle -/
theorem c13_merge_removes_higher_index (mid : Bool) (cbrtF : K → K) (t : K) (s : Sim (Part K)) (c : Coll (GB K))
    (n1 n2 : Nat) (hp1 : c.p1 = n1) (hp2 : c.p2 = n2) (h1 : n1 < s.ps.length) (h2 : n2 < s.ps.length)
    (hlc1 : s.ps[n1].lc ≠ t) (hlc2 : s.ps[n2].lc ≠ t) :
    merge mid cbrtF t s c =
      if n2 < n1 then ({ s with ps := s.ps.set n2 (mergePair mid cbrtF t s.ps[n2] s.ps[n1]) }, 1)
      else ({ s with ps := s.ps.set n1 (mergePair mid cbrtF t s.ps[n1] s.ps[n2]) }, 2) := by
  have l1 : lookup s c.p1 = some s.ps[n1] := by
    unfold lookup; rw [hp1]; simp [h1]
  have l2 : lookup s c.p2 = some s.ps[n2] := by
    unfold lookup; rw [hp2]; simp [h2]
  unfold merge
  simp only [l1, l2]
  have g1 : feq s.ps[n1].lc t = false := by
    rw [Bool.eq_false_iff]; intro h; exact hlc1 ((feq_iff _ _).mp h)
  have g2 : feq s.ps[n2].lc t = false := by
    rw [Bool.eq_false_iff]; intro h; exact hlc2 ((feq_iff _ _).mp h)
  simp only [g1, g2, Bool.or_false, Bool.false_eq_true, if_false, hp1, hp2]
  by_cases h : n2 < n1
  · have : ((n2 : Int) < (n1 : Int)) := by omega
    simp [h, this]
  · have : ¬ ((n2 : Int) < (n1 : Int)) := by omega
    simp [h, this]

/-- a particle that took part in a collision at time `t` is not merged again at `t`:
    the guard returns 0 and leaves the state alone -/
theorem c13_merge_not_twice (mid : Bool) (cbrtF : K → K) (t : K) (s : Sim (Part K)) (c : Coll (GB K))
    (q1 q2 : Part K) (l1 : lookup s c.p1 = some q1) (l2 : lookup s c.p2 = some q2)
    (h : q1.lc = t ∨ q2.lc = t) : merge mid cbrtF t s c = (s, 0) := by
  unfold merge
  simp only [l1, l2]
  have : (feq q1.lc t || feq q2.lc t) = true := by
    rcases h with h | h
    · simp [(feq_iff _ _).mpr h]
    · simp [(feq_iff _ _).mpr h]
  simp [this]

/-- merge satisfies the resolver hypothesis of `c13_fixup_invariant` -/
theorem c13_merge_is_admissible_resolver (mid : Bool) (cbrtF : K → K) (t : K) :
    ResOK (fun p : Part K => p.id) (G := GB K) (merge mid cbrtF t) := by
  intro s c
  unfold merge
  split
  · rename_i q1 q2 l1 l2
    split
    · exact ⟨rfl, rfl, rfl, rfl⟩
    · refine ⟨?_, rfl, rfl, rfl⟩
      simp only [ids]
      apply List.ext_getElem?
      intro j
      simp only [List.getElem?_map, List.getElem?_set]
      -- the particle written at index i carries the identity of the one that was there
      have key : ∀ (p : Int) (q : Part K), lookup s p = some q →
          (List.map (fun p => p.id) (s.ps.set p.toNat (mergePair mid cbrtF t q (if c.p2 < c.p1 then q1 else q2))))[j]? =
          (List.map (fun p => p.id) s.ps)[j]? := by
        intro p q hl
        unfold lookup at hl
        split at hl
        · cases hl
        · simp only [List.getElem?_map, List.getElem?_set]
          by_cases hj : p.toNat = j
          · subst hj
            obtain ⟨hlt, hq⟩ := List.getElem?_eq_some_iff.mp hl
            simp [hlt, (mergePair_id mid cbrtF t _ _).1, ← hq]
          · simp [hj]
      by_cases hsw : c.p2 < c.p1
      · have := key c.p2 q2 l2
        simp only [hsw, if_true, List.getElem?_map, List.getElem?_set] at this ⊢
        exact this
      · have := key c.p1 q1 l1
        simp only [hsw, if_false, List.getElem?_map, List.getElem?_set] at this ⊢
        exact this
  · exact ⟨rfl, rfl, rfl, rfl⟩

/-- **merge step on the array** (no tree, sorted or unsorted removal): one iteration of the
    driver with the merge resolver on a valid entry removes exactly one particle and conserves
    the array totals of mass, momentum and mass-weighted position (centre of mass). -/
theorem c13_merge_step_conserves (v : RmVariant) (mid : Bool) (cbrtF : K → K) (t : K) (ks : Bool) (s : Sim (Part K))
    (hc : Cfg ks s) (ht : s.tree = false) (c : Coll (GB K)) (rest : List (Coll (GB K)))
    (n1 n2 : Nat) (hp1 : c.p1 = n1) (hp2 : c.p2 = n2) (hne : n1 ≠ n2)
    (h1 : n1 < s.ps.length) (h2 : n2 < s.ps.length)
    (hlc1 : s.ps[n1].lc ≠ t) (hlc2 : s.ps[n2].lc ≠ t) (hm : s.ps[n1].m + s.ps[n2].m ≠ 0) :
    let s' := (processOne v flagPart (merge mid cbrtF t) ks s c rest).1
    s'.ps.length + 1 = s.ps.length ∧
    ∀ f ∈ (conservedQ : List (Part K → K)), total f s'.ps = total f s.ps := by
  have hev := c13_merge_removes_higher_index mid cbrtF t s c n1 n2 hp1 hp2 h1 h2 hlc1 hlc2
  have hcond : (c.p1 != -1 && c.p2 != -1) = true := by
    simp only [Bool.and_eq_true, bne_iff_ne]; omega
  -- the same argument for both orders of the two indices: `lo` survives, `hi` is removed
  have key : ∀ (lo hi code : Nat) (hne : lo ≠ hi) (hlo : lo < s.ps.length) (hhi : hi < s.ps.length)
      (hm : s.ps[lo].m + s.ps[hi].m ≠ 0)
      (hev : merge mid cbrtF t s c =
        ({ s with ps := s.ps.set lo (mergePair mid cbrtF t s.ps[lo] s.ps[hi]) }, code))
      (hcode : code = 1 ∧ c.p1 = hi ∨ code = 2 ∧ c.p2 = hi),
      (processOne v flagPart (merge mid cbrtF t) ks s c rest).1.ps.length + 1 = s.ps.length ∧
      ∀ f ∈ (conservedQ : List (Part K → K)),
        total f (processOne v flagPart (merge mid cbrtF t) ks s c rest).1.ps = total f s.ps := by
    intro lo hi code hne hlo hhi hm hev hcode
    set s1 : Sim (Part K) := { s with ps := s.ps.set lo (mergePair mid cbrtF t s.ps[lo] s.ps[hi]) } with hs1
    have hc1 : Cfg ks s1 := ⟨hc.nvar, hc.hyb, hc.mode⟩
    have hlen1 : hi < s1.ps.length := by simp [hs1]; exact hhi
    obtain ⟨s', hrm, hps, _, _, _⟩ := removeParticle_notree v flagPart s1 ks hi hlen1 hc1 ht
    have hproc : (processOne v flagPart (merge mid cbrtF t) ks s c rest).1 = s' := by
      unfold processOne
      simp only [hcond, if_true, hev]
      unfold removeAndFix
      rcases hcode with ⟨rfl, hp⟩ | ⟨rfl, hp⟩ <;> simp [hp, hrm] <;> split <;> rfl
    rw [hproc, hps]
    refine ⟨?_, fun f hf => ?_⟩
    · rw [rmList_length ks _ hi hlen1]; simp [hs1]; omega
    · exact total_merge f ks s.ps lo hi hne hlo hhi _ (mergePair_additive mid cbrtF t s.ps[lo] s.ps[hi] hm f hf)
  by_cases hsw : n2 < n1
  · rw [if_pos hsw] at hev
    exact key n2 n1 1 (Ne.symm hne) h2 h1 (by rw [add_comm]; exact hm) hev (.inl ⟨rfl, hp1⟩)
  · rw [if_neg hsw] at hev
    exact key n1 n2 2 hne h1 h2 hm hev (.inr ⟨rfl, hp2⟩)

/-- with the massless guard (`fixes/C13-merge-massless.diff`) two massless particles merge at
    the midpoint of their positions and velocities (no division by the zero total mass);
    without it the model, like the code, computes `(0·x + 0·x')·(1/0)` (finding F19) -/
theorem c13_merge_massless_midpoint (cbrtF : K → K) (t : K) (pi pj : Part K) (hm : pi.m + pj.m = 0) :
    let p := mergePair true cbrtF t pi pj
    p.x = 1/2*(pi.x + pj.x) ∧ p.y = 1/2*(pi.y + pj.y) ∧ p.z = 1/2*(pi.z + pj.z) ∧
    p.vx = 1/2*(pi.vx + pj.vx) ∧ p.vy = 1/2*(pi.vy + pj.vy) ∧ p.vz = 1/2*(pi.vz + pj.vz) ∧
    p.m = 0 ∧ p.id = pi.id := by
  have h0 : feq (pi.m + pj.m) (0 : K) = true := (feq_iff _ _).mpr hm
  unfold mergePair
  simp only [sc_hadd, sc_zero, h0, Bool.and_self, if_true, sc_hmul, sc_hdiv, sc_one, sc_ofNat, Nat.cast_ofNat]
  simp [hm]

/-- **energy_offset bookkeeping of a merger** (`track_energy_offset`, collision.c:827-911): what is
    added to `r->energy_offset` — kinetic energies of the two bodies plus their mutual potential
    (only when one of them is active) minus the kinetic energy of the merged body — is the
    kinetic energy of the relative motion, `½·μ·|v_i − v_j|²` with `μ = m_i m_j/(m_i+m_j)`, plus
    `−G m_i m_j / ρ` where `ρ = sqrt(|x_i − x_j|²)` as libm returns it: exactly the energy that
    disappears from the N-body system, so `E + energy_offset` keeps its pair terms. -/
theorem c13_merge_energy_offset (sqrtF cbrtF : K → K) (G t : K) (pot : Bool) (pi pj : Part K)
    (hm : pi.m + pj.m ≠ 0)
    (hρ : pot = true → sqrtF ((pi.x - pj.x)*(pi.x - pj.x) + (pi.y - pj.y)*(pi.y - pj.y) + (pi.z - pj.z)*(pi.z - pj.z)) ≠ 0) :
    mergeEnergy sqrtF G pot pi pj (mergePair false cbrtF t pi pj) =
      (pi.m * pj.m / (pi.m + pj.m)) / 2 * ((pi.vx - pj.vx)^2 + (pi.vy - pj.vy)^2 + (pi.vz - pj.vz)^2)
      - (if pot then G * pi.m * pj.m /
          sqrtF ((pi.x - pj.x)*(pi.x - pj.x) + (pi.y - pj.y)*(pi.y - pj.y) + (pi.z - pj.z)*(pi.z - pj.z)) else 0) := by
  rw [mergeEnergy_pot]
  congr 1
  simp only [mergeEnergy, mergePair, sc_hadd, sc_hsub, sc_hmul, sc_hdiv, sc_one, sc_zero, sc_ofNat,
    Nat.cast_ofNat, Bool.false_and, Bool.false_eq_true, if_false, zero_add]
  field_simp
  ring

end merge

/-! ## 4. hard sphere -/
section hardsphere
variable {K : Type} [Field K] [LinearOrder K] [IsStrictOrderedRing K]

/-- a bounce conserves the pair's momentum and moves nobody, for every impulse `dvx2`, every
    rotation and every restitution (total mass non-zero) -/
theorem c13_hardsphere_momentum (eqm : Bool) (st ct sp cp dvx2 t : K) (p1 p2 : Part K) (hM : p1.m + p2.m ≠ 0) :
    let n := hsApply eqm st ct sp cp dvx2 t p1 p2 p1 p2
    n.1.m * n.1.vx + n.2.m * n.2.vx = p1.m * p1.vx + p2.m * p2.vx ∧
    n.1.m * n.1.vy + n.2.m * n.2.vy = p1.m * p1.vy + p2.m * p2.vy ∧
    n.1.m * n.1.vz + n.2.m * n.2.vz = p1.m * p1.vz + p2.m * p2.vz ∧
    n.1.m = p1.m ∧ n.2.m = p2.m ∧
    (n.1.x, n.1.y, n.1.z) = (p1.x, p1.y, p1.z) ∧ (n.2.x, n.2.y, n.2.z) = (p2.x, p2.y, p2.z) := by
  rw [hsApply_massive eqm st ct sp cp dvx2 t p1 p2 p1 p2 hM]
  simp only [hsApply, sc_hadd, sc_hsub, sc_hmul, sc_hdiv, and_true, Bool.false_and, Bool.false_eq_true, if_false]
  refine ⟨?_, ?_, ?_⟩ <;> ring

/-- with `minimum_collision_velocity = 0` an approaching pair receives the impulse
    `−(1+ε)·vₙ` along the axis; in general the clamp can only increase it -/
theorem c13_hardsphere_impulse (eps mcv rr vn : K) (p1 p2 : Part K) :
    -(1 + eps) * vn ≤ hsDvx2 eps mcv rr vn p1 p2 ∧
    (mcv = 0 → vn ≤ 0 → 0 ≤ 1 + eps → hsDvx2 eps mcv rr vn p1 p2 = -(1 + eps) * vn) :=
  ⟨hsDvx2_ge eps mcv rr vn p1 p2, fun h1 h2 h3 => by subst h1; exact hsDvx2_unclamped eps rr vn p1 p2 h2 h3⟩

/-- the relative velocity along the impulse axis after the bounce is `vₙ + dvx2`
    (rotation given by `sin²+cos² = 1` for both angles); with `dvx2 = −(1+ε)vₙ` it is `−ε·vₙ`,
    i.e. separating for `ε ≥ 0`, `vₙ ≤ 0` -/
theorem c13_hardsphere_normal_velocity (eqm : Bool) (st ct sp cp dvx2 t : K) (gb : GB K) (p1 p2 : Part K)
    (hθ : st*st + ct*ct = 1) (hφ : sp*sp + cp*cp = 1) (hM : p1.m + p2.m ≠ 0) :
    let n := hsApply eqm st ct sp cp dvx2 t p1 p2 p1 p2
    hsVn st ct sp cp (relOf n.1 n.2 gb) = hsVn st ct sp cp (relOf p1 p2 gb) + dvx2 := by
  have hu := axis_unit st ct sp cp hθ hφ
  rw [hsApply_massive eqm st ct sp cp dvx2 t p1 p2 p1 p2 hM]
  simp only [hsApply, hsVn, relOf, sc_hadd, sc_hsub, sc_hmul, sc_hdiv, Bool.false_and, Bool.false_eq_true, if_false]
  have hone : p2.m / (p1.m + p2.m) + p1.m / (p1.m + p2.m) = 1 := by rw [← add_div, add_comm]; exact div_self hM
  linear_combination (dvx2 * (p2.m / (p1.m + p2.m) + p1.m / (p1.m + p2.m))) * hu + dvx2 * hone

/-- restitution 1 (and no velocity floor) conserves the kinetic energy of the pair, measured in
    the frame of the ghost box of p1 (`v₁ + gb.v`, `v₂`) -/
theorem c13_hardsphere_energy (eqm : Bool) (st ct sp cp t : K) (gb : GB K) (p1 p2 : Part K)
    (hθ : st*st + ct*ct = 1) (hφ : sp*sp + cp*cp = 1) (hM : p1.m + p2.m ≠ 0) :
    let vn := hsVn st ct sp cp (relOf p1 p2 gb)
    let n := hsApply eqm st ct sp cp (-(1 + 1) * vn) t p1 p2 p1 p2
    n.1.m * ((n.1.vx + gb.vx)^2 + (n.1.vy + gb.vy)^2 + (n.1.vz + gb.vz)^2)
      + n.2.m * (n.2.vx^2 + n.2.vy^2 + n.2.vz^2)
    = p1.m * ((p1.vx + gb.vx)^2 + (p1.vy + gb.vy)^2 + (p1.vz + gb.vz)^2)
      + p2.m * (p2.vx^2 + p2.vy^2 + p2.vz^2) := by
  intro vn n
  have h := bounce_energy p1.m p2.m st ct sp cp (-(1 + 1) * vn) p1.vx p1.vy p1.vz
    p2.vx p2.vy p2.vz gb.vx gb.vy gb.vz vn rfl hθ hφ hM
  rw [show 2 * vn + -(1 + 1) * vn = 0 by ring, mul_zero, add_zero] at h
  rw [show n = hsApply false st ct sp cp (-(1 + 1) * vn) t p1 p2 p1 p2 from
    hsApply_massive eqm st ct sp cp _ t p1 p2 p1 p2 hM]
  exact h

/-- the impulse axis *is* the line of centres when the two rotations align it as `atan2` does:
    `(cosθ, sinθ)·ρ = (y₂₁, z₂₁)` and `(cosφ, sinφ)·R = (x₂₁, y₂₁ₙ)`.  Then
    `R·vₙ = r₂₁·v₂₁`, so after a bounce with restitution `ε ≥ 0` the pair separates:
    `r₂₁·v₂₁' = −ε·(r₂₁·v₂₁) ≥ 0` (and ≥ that with a velocity floor). -/
theorem c13_hardsphere_separating (eqm : Bool) (st ct sp cp rr mcv t ρ R eps : K) (gb : GB K) (p1 p2 : Part K)
    (hθ : st*st + ct*ct = 1) (hφ : sp*sp + cp*cp = 1)
    (haθ : ct*ρ = (relOf p1 p2 gb).y21 ∧ st*ρ = (relOf p1 p2 gb).z21)
    (haφ : cp*R = (relOf p1 p2 gb).x21 ∧
           sp*R = ct*(relOf p1 p2 gb).y21 + st*(relOf p1 p2 gb).z21)
    (hR : 0 < R) (heps : 0 ≤ eps) (hM : p1.m + p2.m ≠ 0)
    (happ : (relOf p1 p2 gb).vx21*(relOf p1 p2 gb).x21 + (relOf p1 p2 gb).vy21*(relOf p1 p2 gb).y21
              + (relOf p1 p2 gb).vz21*(relOf p1 p2 gb).z21 ≤ 0) :
    let q := relOf p1 p2 gb
    let vn := hsVn st ct sp cp q
    let n := hsApply eqm st ct sp cp (hsDvx2 eps mcv rr vn p1 p2) t p1 p2 p1 p2
    let q' := relOf n.1 n.2 gb
    R * vn = q.vx21*q.x21 + q.vy21*q.y21 + q.vz21*q.z21 ∧
    0 ≤ q'.vx21*q'.x21 + q'.vy21*q'.y21 + q'.vz21*q'.z21 := by
  intro q vn n q'
  obtain ⟨a1, a2⟩ := haθ
  obtain ⟨b1, b2⟩ := haφ
  -- R·(cosφ, sinφ cosθ, sinφ sinθ) = r₂₁
  have hρ : ct*q.y21 + st*q.z21 = ρ := by
    show ct*(relOf p1 p2 gb).y21 + st*(relOf p1 p2 gb).z21 = ρ
    rw [← a1, ← a2]; linear_combination ρ * hθ
  have ux : cp * R = q.x21 := b1
  have uy : sp * ct * R = q.y21 := by
    show sp * ct * R = (relOf p1 p2 gb).y21
    rw [← a1]; have : sp * R = ρ := by rw [b2]; exact hρ
    linear_combination ct * this
  have uz : sp * st * R = q.z21 := by
    show sp * st * R = (relOf p1 p2 gb).z21
    rw [← a2]; have : sp * R = ρ := by rw [b2]; exact hρ
    linear_combination st * this
  have hvn : R * vn = q.vx21*q.x21 + q.vy21*q.y21 + q.vz21*q.z21 := by
    show R * hsVn st ct sp cp q = _
    rw [← ux, ← uy, ← uz]; simp only [hsVn, sc_hadd, sc_hmul]; ring
  have hvn0 : vn ≤ 0 := by
    have : R * vn ≤ 0 := by rw [hvn]; exact happ
    by_contra h
    have : 0 < R * vn := mul_pos hR (not_le.mp h)
    linarith
  refine ⟨hvn, ?_⟩
  -- positions unchanged, normal velocity becomes vn + dvx2 ≥ -eps*vn ≥ 0
  have hnv := c13_hardsphere_normal_velocity eqm st ct sp cp (hsDvx2 eps mcv rr vn p1 p2) t gb p1 p2 hθ hφ hM
  have hpos : q'.x21 = q.x21 ∧ q'.y21 = q.y21 ∧ q'.z21 = q.z21 := by
    have hn : n = hsApply false st ct sp cp (hsDvx2 eps mcv rr vn p1 p2) t p1 p2 p1 p2 := hsApply_massive eqm st ct sp cp _ t p1 p2 p1 p2 hM
    simp only [q', q, hn, relOf, hsApply, and_self]
  have hge := hsDvx2_ge eps mcv rr vn p1 p2
  have hvn' : hsVn st ct sp cp q' = vn + hsDvx2 eps mcv rr vn p1 p2 := hnv
  have hnonneg : 0 ≤ hsVn st ct sp cp q' := by
    rw [hvn']
    have : 0 ≤ eps * (-vn) := mul_nonneg heps (by linarith)
    linarith
  have : R * hsVn st ct sp cp q' = q'.vx21*q'.x21 + q'.vy21*q'.y21 + q'.vz21*q'.z21 := by
    rw [hpos.1, hpos.2.1, hpos.2.2, ← ux, ← uy, ← uz]; simp only [hsVn, sc_hadd, sc_hmul]; ring
  rw [← this]
  exact mul_nonneg hR.le hnonneg

/-- with the massless guard (`fixes/C13-hardsphere-massless.diff`) two massless particles bounce
    like equal masses: each takes half of the impulse, no division by the zero total mass -/
theorem c13_hardsphere_massless (st ct sp cp dvx2 t : K) (p1 p2 : Part K) (hM : p1.m + p2.m = 0) :
    let n := hsApply true st ct sp cp dvx2 t p1 p2 p1 p2
    n.1.vx = p1.vx + 1/2*(cp*dvx2) ∧ n.2.vx = p2.vx - 1/2*(cp*dvx2) ∧
    n.1.vy = p1.vy + 1/2*(ct*(sp*dvx2)) ∧ n.2.vy = p2.vy - 1/2*(ct*(sp*dvx2)) ∧
    n.1.vz = p1.vz + 1/2*(st*(sp*dvx2)) ∧ n.2.vz = p2.vz - 1/2*(st*(sp*dvx2)) := by
  have h0 : feq (p1.m + p2.m) (0 : K) = true := (feq_iff _ _).mpr hM
  unfold hsApply
  simp only [sc_hadd, sc_zero, h0, Bool.and_self, if_true, sc_hmul, sc_hdiv, sc_hsub, sc_one, sc_ofNat, Nat.cast_ofNat]
  simp

end hardsphere

/-! ## 5. tree pruning -/
section prune
variable {K : Type} [Field K] [LinearOrder K] [IsStrictOrderedRing K]

/-- soundness of the pruning test of the TREE walk (collision.c:579-585) as a geometric lemma:
    if p2 lies within `h` of the cell centre in every coordinate, `√3·h ≤ k·w` (stated through
    squares; `k` is the code's 0.86602540378443), p1 (ghost-shifted, at `g`) strictly overlaps
    p2, and **hypothesis H**: `r₂ ≤ max_radius1` — then the walk descends into the cell.
    H is what `max_radius0/1` are meant to guarantee for at least one end of every pair; the
    code maintains them only in `reb_simulation_add`, so H fails after radii are assigned
    later or grow in a merger (finding F8). -/
theorem c13_tree_prune_sound (k maxR1 r1 r2 w h : K) (gx gy gz x2 y2 z2 cx cy cz : K)
    (hr1 : 0 ≤ r1) (hr2 : 0 ≤ r2) (hk : 0 ≤ k) (hw : 0 ≤ w)
    (hH : r2 ≤ maxR1)
    (hcx : (x2 - cx)^2 ≤ h^2) (hcy : (y2 - cy)^2 ≤ h^2) (hcz : (z2 - cz)^2 ≤ h^2)
    (hkh : 3 * h^2 ≤ (k*w)^2)
    (hov : (gx - x2)^2 + (gy - y2)^2 + (gz - z2)^2 < (r1 + r2)^2) :
    descends k maxR1 r1 w gx gy gz cx cy cz = true :=
  descends_of_overlap_slack (s := 0) (S := 0) (r2 := r2) (x2 := x2) (y2 := y2) (z2 := z2)
    hk hw le_rfl le_rfl hH (by rw [sub_zero]; exact add_nonneg hr1 hr2)
    (by rw [add_zero]; linarith) (by rwa [sub_zero])

/-- the literal constant of the source, 0.86602540378443, is (slightly) *smaller* than √3/2, so
    the lemma covers partners within 0.49999999999999·w of the cell centre per coordinate,
    not the full half width: a partner in the outermost 2·10⁻¹⁴ of a cell corner, touching
    within the same margin, is outside the guarantee. -/
theorem c13_tree_prune_constant (w : K) (hw : 0 ≤ w) :
    3 * ((49999999999999 / 100000000000000 : K) * w)^2 ≤ ((86602540378443 / 100000000000000 : K) * w)^2 ∧
    ((86602540378443 / 100000000000000 : K))^2 < 3 / 4 := by
  constructor
  · have h : (3 : K) * (49999999999999 / 100000000000000)^2 ≤ (86602540378443 / 100000000000000)^2 := by
      norm_num
    have hw2 : 0 ≤ w^2 := sq_nonneg w
    calc 3 * ((49999999999999 / 100000000000000 : K) * w)^2
        = (3 * (49999999999999 / 100000000000000 : K)^2) * w^2 := by ring
      _ ≤ ((86602540378443 / 100000000000000 : K))^2 * w^2 := mul_le_mul_of_nonneg_right h hw2
      _ = ((86602540378443 / 100000000000000 : K) * w)^2 := by ring
  · norm_num

/-- `reb_collision_update_max_radius` (8402256) establishes hypothesis H for at least one end of
    every pair: afterwards every radius is ≤ max_radius0, the stored values have not decreased,
    and of any two different particles at least one has radius ≤ max_radius1. -/
theorem c13_max_radius_bound (old0 old1 : K) (radii : List K) :
    let m := updateMaxRadius old0 old1 radii
    (∀ x ∈ radii, x ≤ m.1) ∧ old0 ≤ m.1 ∧ old1 ≤ m.2 ∧
    ∀ (a b : Nat) (hab : a < b) (hb : b < radii.length), radii[a]'(by omega) ≤ m.2 ∨ radii[b] ≤ m.2 := by
  obtain ⟨h1, h2, h3, h4⟩ := updateMaxRadius_spec old0 old1 radii
  exact ⟨h1, h3, h4, fun a b hab hb => List.pairwise_iff_getElem.mp h2 a b _ hb hab⟩

/-- **completeness of the TREE walk** (`reb_tree_get_nearest_neighbour_in_cell`) relative to the
    DIRECT test, over the oct-tree model of C15 under its containment invariant `WF`
    (`c15_cells_contain_particles`): started from particle `i` with ghost-shifted state `g`, the
    walk appends `(i,q,gb)` for every leaf `q ≠ i` that passes the DIRECT test, provided
    H: `r_q ≤ max_radius1`, and the overlap is deeper than `ε·W` (`W` ≥ root cell width) where
    `(k+ε)² ≥ 3/4`.  For the source's `k = 0.86602540378443`, `ε = 10⁻¹⁴` works
    (`c13_tree_constant_slack`): the literal is 8.7·10⁻¹⁵ short of √3/2, so pairs touching
    within 10⁻¹⁴ of the box size can be pruned. -/
theorem c13_tree_walk_complete (k ε maxR1 W : K) (hk : 0 ≤ k) (hε : 0 ≤ ε) (hkε : 3 ≤ 4 * (k + ε)^2)
    (P : Nat → Part K) (tie : Bool) (gb g : GB K) (i q : Nat) (r1 : K)
    (hr1 : 0 ≤ r1) (hH : (P q).r ≤ maxR1) (hqi : q ≠ i)
    (hhit : directHit g r1 (P q) = true)
    (hm : 0 ≤ r1 + (P q).r - ε*W)
    (hov : (g.x - (P q).x)^2 + (g.y - (P q).y)^2 + (g.z - (P q).z)^2 < (r1 + (P q).r - ε*W)^2)
    (t : RV.Tree.T K) (c : RV.Tree.Cell K) (hwf : RV.C15.WF (psT P) tie c t) (hw0 : 0 ≤ c.w) (hwW : c.w ≤ W)
    (hq : q ∈ RV.Tree.leaves t) :
    (⟨(i : Int), (q : Int), gb⟩ : Coll (GB K)) ∈ treeWalk k maxR1 P gb g i r1 t := by
  revert t c
  refine RV.C15.WF.path_induction ?_ ?_
  · intro c gr
    simp [treeWalk, hqi, hhit]
  · intro c gr n ch o hin hw0 hwW ih
    have hd := descends_of_overlap_slack hk hw0 (mul_nonneg hε hw0)
      (mul_le_mul_of_nonneg_left hwW hε) hH hm (sq_le_of_In hin k ε hkε) hov
    simp only [treeWalk, hd, if_true, List.mem_flatMap]
    exact ⟨o, List.mem_finRange o, ih⟩

theorem c13_tree_constant_slack :
    (3 : K) ≤ 4 * ((86602540378443 / 100000000000000 : K) + 1 / 100000000000000)^2 := by
  norm_num

/-- **completeness of the TREE search relative to the DIRECT search**: with `max_radius1` as
    left by `reb_collision_update_max_radius`, every pair `i ≠ j` that the DIRECT search reports
    (in both orientations, through the mirrored ghost boxes `gb`, `gb'`) and whose particles are
    in (well-formed) trees of the forest is found by the TREE search from at least one of its
    two ends (overlap deeper than `ε·W` as above). -/
theorem c13_tree_search_complete (k ε W old0 old1 : K) (hk : 0 ≤ k) (hε : 0 ≤ ε)
    (hkε : 3 ≤ 4 * (k + ε)^2)
    (ring : List (GB K)) (P : Nat → Part K) (n : Nat) (roots : List (RV.Tree.T K)) (tie : Bool)
    (hr : ∀ q, 0 ≤ (P q).r)
    (i j : Nat) (hi : i < n) (hj : j < n) (hij : i ≠ j)
    (gb gb' : GB K) (hgb : gb ∈ ring) (hgb' : gb' ∈ ring)
    (hit1 : directHit (shiftGB gb (P i)) (P i).r (P j) = true)
    (hit2 : directHit (shiftGB gb' (P j)) (P j).r (P i) = true)
    (hm : 0 ≤ (P i).r + (P j).r - ε*W)
    (hov1 : ((shiftGB gb (P i)).x - (P j).x)^2 + ((shiftGB gb (P i)).y - (P j).y)^2
              + ((shiftGB gb (P i)).z - (P j).z)^2 < ((P i).r + (P j).r - ε*W)^2)
    (hov2 : ((shiftGB gb' (P j)).x - (P i).x)^2 + ((shiftGB gb' (P j)).y - (P i).y)^2
              + ((shiftGB gb' (P j)).z - (P i).z)^2 < ((P j).r + (P i).r - ε*W)^2)
    (tj ti : RV.Tree.T K) (cj ci : RV.Tree.Cell K) (htj : tj ∈ roots) (hti : ti ∈ roots)
    (hwfj : RV.C15.WF (psT P) tie cj tj) (hwfi : RV.C15.WF (psT P) tie ci ti)
    (hcj : 0 ≤ cj.w ∧ cj.w ≤ W) (hci : 0 ≤ ci.w ∧ ci.w ≤ W)
    (hjl : j ∈ RV.Tree.leaves tj) (hil : i ∈ RV.Tree.leaves ti) :
    let m1 := (updateMaxRadius old0 old1 ((List.range n).map fun q => (P q).r)).2
    (⟨(i : Int), (j : Int), gb⟩ : Coll (GB K)) ∈ treeSearch k m1 ring P n roots ∨
    (⟨(j : Int), (i : Int), gb'⟩ : Coll (GB K)) ∈ treeSearch k m1 ring P n roots := by
  intro m1
  have hH : (P i).r ≤ m1 ∨ (P j).r ≤ m1 := maxRadius1_pair old0 old1 P hi hj hij
  unfold treeSearch
  simp only [List.mem_flatMap, List.mem_range]
  rcases hH with hH | hH
  · right
    refine ⟨j, hj, gb', hgb', ti, hti, ?_⟩
    exact c13_tree_walk_complete k ε m1 W hk hε hkε P tie gb' _ j i (P j).r (hr j) hH hij hit2
      (by linarith) hov2 ti ci hwfi hci.1 hci.2 hil
  · left
    refine ⟨i, hi, gb, hgb, tj, htj, ?_⟩
    exact c13_tree_walk_complete k ε m1 W hk hε hkε P tie gb _ i j (P i).r (hr i) hH (Ne.symm hij) hit1
      hm hov1 tj cj hwfj hcj.1 hcj.2 hjl

/-- soundness of the TREE walk: every entry it appends is `(i,q,gb)` for a leaf `q ≠ i` of the
    tree that passes the DIRECT test — the TREE search reports nothing DIRECT would not. -/
theorem c13_tree_walk_sound (k maxR1 : K) (P : Nat → Part K) (gb g : GB K) (i : Nat) (r1 : K)
    (t : RV.Tree.T K) (e : Coll (GB K)) (h : e ∈ treeWalk k maxR1 P gb g i r1 t) :
    ∃ q, q ∈ RV.Tree.leaves t ∧ q ≠ i ∧ directHit g r1 (P q) = true ∧ e = ⟨(i : Int), (q : Int), gb⟩ := by
  induction t generalizing e with
  | nil => cases h
  | leaf c gr q =>
    unfold treeWalk at h
    split at h
    · cases h
    · rename_i hq
      split at h
      · rename_i hh
        exact ⟨q, List.mem_singleton_self q, by simpa using hq, hh, List.mem_singleton.mp h⟩
      · cases h
  | node c gr n ch ih =>
    unfold treeWalk at h
    split at h
    · obtain ⟨o, ho', ho⟩ := List.mem_flatMap.mp h
      obtain ⟨q, hq, h2⟩ := ih o e ho
      exact ⟨q, List.mem_flatMap.mpr ⟨o, ho', hq⟩, h2⟩
    · cases h

/-- **completeness of the LINETREE walk** (`reb_tree_check_for_overlapping_trajectories_in_cell`,
    as repaired by c3afa2d / 5a2eb94) relative to the LINE test: started from particle `i`, the
    walk appends `(i,q,gb)` for every leaf `q ≠ i` of a well-formed tree whose straight-line path
    came within `r_i + r_q` of p1's during the last step (deeper than `ε·W`), provided
    H: `r_q ≤ max_radius1` and `D1`, `D2` bound the drifts `|dt|·|v|` of the ghost-shifted p1 and
    of `q` (in the code: `p1_r_plus_dtv - p1_r` and `maxdrift`). -/
theorem c13_linetree_walk_complete (k ε maxR1 W dt D1 D2 : K) (hk : 0 ≤ k) (hε : 0 ≤ ε)
    (hkε : 3 ≤ 4 * (k + ε)^2) (hdt : dt ≠ 0)
    (P : Nat → Part K) (tie : Bool) (gb g : GB K) (i q : Nat) (r1 : K)
    (hr1 : 0 ≤ r1) (hH : (P q).r ≤ maxR1) (hqi : q ≠ i)
    (hD1 : 0 ≤ D1 ∧ dt^2 * (g.vx^2 + g.vy^2 + g.vz^2) ≤ D1^2)
    (hD2 : 0 ≤ D2 ∧ dt^2 * ((P q).vx^2 + (P q).vy^2 + (P q).vz^2) ≤ D2^2)
    (hhit : lineHit dt g r1 (P q) = true)
    (hm : 0 ≤ r1 + (P q).r - ε*W)
    (hov : lineRmin2 dt g (P q) < (r1 + (P q).r - ε*W)^2)
    (t : RV.Tree.T K) (c : RV.Tree.Cell K) (hwf : RV.C15.WF (psT P) tie c t) (hw0 : 0 ≤ c.w) (hwW : c.w ≤ W)
    (hq : q ∈ RV.Tree.leaves t) :
    (⟨(i : Int), (q : Int), gb⟩ : Coll (GB K)) ∈
      lineTreeWalk k maxR1 dt D2 P gb g i r1 (r1 + D1) t := by
  obtain ⟨τ, hτ0, hτ1, hτe⟩ := lineRmin2_attained dt hdt g (P q)
  have hτ2 : τ^2 ≤ dt^2 := by
    have := pow_le_pow_left₀ hτ0 hτ1 2
    rwa [div_pow, one_pow, div_le_one (sq_pos_iff.mpr hdt)] at this
  rw [hτe] at hov
  revert t c
  refine RV.C15.WF.path_induction ?_ ?_
  · intro c gr
    simp [lineTreeWalk, hqi, hhit]
  · intro c gr n ch o hin hw0 hwW ih
    have hd := descendsLine_of_path_overlap hk hw0 (mul_nonneg hε hw0)
      (mul_le_mul_of_nonneg_left hwW hε) hH hm hτ2 hD1 hD2 (sq_le_of_In hin k ε hkε) hov
    simp only [lineTreeWalk, hd, if_true, List.mem_flatMap]
    exact ⟨o, List.mem_finRange o, ih⟩

/-- the drift terms the LINETREE search computes do bound the drifts: with libm's `sqrt`, `fabs`
    behaving as square root and absolute value on the values concerned, `|dt|·√(v_i²)` and
    `maxdrift = |dt|·√(vmax2)` satisfy the hypotheses `hD1` (ghost box without velocity offset,
    i.e. not a shear image) and `hD2` (any `q < N`) of `c13_linetree_walk_complete`. -/
theorem c13_linetree_drift_bounds (sqrtF fabsF : K → K) (dt : K) (P : Nat → Part K) (n i q : Nat)
    (hq : q < n) (hfabs : fabsF dt = |dt|)
    (hsqrt : ∀ x, 0 ≤ x → 0 ≤ sqrtF x ∧ sqrtF x ^ 2 = x) :
    let si := (P i).vx^2 + (P i).vy^2 + (P i).vz^2
    (0 ≤ fabsF dt * sqrtF si ∧ dt^2 * si ≤ (fabsF dt * sqrtF si)^2) ∧
    (0 ≤ fabsF dt * sqrtF (vmax2 P n) ∧
      dt^2 * ((P q).vx^2 + (P q).vy^2 + (P q).vz^2) ≤ (fabsF dt * sqrtF (vmax2 P n))^2) := by
  intro si
  have hsi : 0 ≤ si := by positivity
  obtain ⟨hv, hv0⟩ := vmax2_ge P n q hq
  obtain ⟨a1, a2⟩ := hsqrt si hsi
  obtain ⟨b1, b2⟩ := hsqrt (vmax2 P n) hv0
  rw [hfabs]
  refine ⟨⟨mul_nonneg (abs_nonneg _) a1, ?_⟩, ⟨mul_nonneg (abs_nonneg _) b1, ?_⟩⟩
  · rw [mul_pow, sq_abs, a2]
  · rw [mul_pow, sq_abs, b2]
    exact mul_le_mul_of_nonneg_left hv (sq_nonneg dt)

/-- **completeness of the LINETREE search relative to the LINE test, with the pruning bound as a
    function of the step actually done**: `dt` below is the one `dt_last_done` that enters both the
    leaf test (`lineHit dt`) and the drift terms `|dt|·√(v²)`, `|dt|·√(vmax2)` of the pruning radius
    (a search that built the drift terms from another step length is a different function and
    fails the tie).  With `max_radius1` as left by `reb_collision_update_max_radius`, ghost boxes
    without velocity offset, and libm's `sqrt`/`fabs` behaving as such on the values concerned:
    every pair `i ≠ j` whose straight-line paths came within `r_i + r_j` during the step (seen from
    both ends through mirrored ghost boxes, deeper than `ε·W`) and whose particles are in
    well-formed trees of the forest is found by the LINETREE search from at least one end. -/
theorem c13_linetree_search_complete (sqrtF fabsF : K → K) (k ε W old0 old1 dt : K)
    (hk : 0 ≤ k) (hε : 0 ≤ ε) (hkε : 3 ≤ 4 * (k + ε)^2) (hdt : dt ≠ 0)
    (hfabs : fabsF dt = |dt|) (hsqrt : ∀ x, 0 ≤ x → 0 ≤ sqrtF x ∧ sqrtF x ^ 2 = x)
    (ring : List (GB K)) (P : Nat → Part K) (n : Nat) (roots : List (RV.Tree.T K)) (tie : Bool)
    (hr : ∀ q, 0 ≤ (P q).r)
    (i j : Nat) (hi : i < n) (hj : j < n) (hij : i ≠ j)
    (gb gb' : GB K) (hgb : gb ∈ ring) (hgb' : gb' ∈ ring)
    (hv : gb.vx = 0 ∧ gb.vy = 0 ∧ gb.vz = 0) (hv' : gb'.vx = 0 ∧ gb'.vy = 0 ∧ gb'.vz = 0)
    (hit1 : lineHit dt (shiftGB gb (P i)) (P i).r (P j) = true)
    (hit2 : lineHit dt (shiftGB gb' (P j)) (P j).r (P i) = true)
    (hm : 0 ≤ (P i).r + (P j).r - ε*W)
    (hov1 : lineRmin2 dt (shiftGB gb (P i)) (P j) < ((P i).r + (P j).r - ε*W)^2)
    (hov2 : lineRmin2 dt (shiftGB gb' (P j)) (P i) < ((P j).r + (P i).r - ε*W)^2)
    (tj ti : RV.Tree.T K) (cj ci : RV.Tree.Cell K) (htj : tj ∈ roots) (hti : ti ∈ roots)
    (hwfj : RV.C15.WF (psT P) tie cj tj) (hwfi : RV.C15.WF (psT P) tie ci ti)
    (hcj : 0 ≤ cj.w ∧ cj.w ≤ W) (hci : 0 ≤ ci.w ∧ ci.w ≤ W)
    (hjl : j ∈ RV.Tree.leaves tj) (hil : i ∈ RV.Tree.leaves ti) :
    let m1 := (updateMaxRadius old0 old1 ((List.range n).map fun q => (P q).r)).2
    (⟨(i : Int), (j : Int), gb⟩ : Coll (GB K)) ∈ lineTreeSearch sqrtF fabsF k m1 dt ring P n roots ∨
    (⟨(j : Int), (i : Int), gb'⟩ : Coll (GB K)) ∈ lineTreeSearch sqrtF fabsF k m1 dt ring P n roots := by
  intro m1
  have hH : (P i).r ≤ m1 ∨ (P j).r ≤ m1 := maxRadius1_pair old0 old1 P hi hj hij
  -- the drift terms of the search, in the form the model computes them
  have key : ∀ (a b : Nat) (g0 : GB K), a < n → b < n → g0.vx = 0 ∧ g0.vy = 0 ∧ g0.vz = 0 →
      (0 ≤ fabsF dt * sqrtF ((P a).vx*(P a).vx + (P a).vy*(P a).vy + (P a).vz*(P a).vz) ∧
        dt^2 * ((shiftGB g0 (P a)).vx^2 + (shiftGB g0 (P a)).vy^2 + (shiftGB g0 (P a)).vz^2) ≤
          (fabsF dt * sqrtF ((P a).vx*(P a).vx + (P a).vy*(P a).vy + (P a).vz*(P a).vz))^2) ∧
      (0 ≤ fabsF dt * sqrtF (vmax2 P n) ∧
        dt^2 * ((P b).vx^2 + (P b).vy^2 + (P b).vz^2) ≤ (fabsF dt * sqrtF (vmax2 P n))^2) := by
    intro a b g0 ha hb hg0
    obtain ⟨d1, d2⟩ := c13_linetree_drift_bounds sqrtF fabsF dt P n a b hb hfabs hsqrt
    have e : (P a).vx*(P a).vx + (P a).vy*(P a).vy + (P a).vz*(P a).vz
        = (P a).vx^2 + (P a).vy^2 + (P a).vz^2 := by ring
    rw [e]
    refine ⟨⟨d1.1, ?_⟩, d2⟩
    have : (shiftGB g0 (P a)).vx = (P a).vx ∧ (shiftGB g0 (P a)).vy = (P a).vy ∧
        (shiftGB g0 (P a)).vz = (P a).vz := by
      simp [shiftGB, hg0.1, hg0.2.1, hg0.2.2]
    rw [this.1, this.2.1, this.2.2]
    exact d1.2
  unfold lineTreeSearch
  simp only [List.mem_flatMap, List.mem_range, sc_hadd, sc_hmul]
  rcases hH with hH | hH
  · right
    obtain ⟨kD1, kD2⟩ := key j i gb' hj hi hv'
    refine ⟨j, hj, gb', hgb', ti, hti, ?_⟩
    exact c13_linetree_walk_complete k ε m1 W dt _ _ hk hε hkε hdt P tie gb' _ j i (P j).r (hr j) hH hij kD1 kD2 hit2
      (by linarith) hov2 ti ci hwfi hci.1 hci.2 hil
  · left
    obtain ⟨kD1, kD2⟩ := key i j gb hi hj hv
    refine ⟨i, hi, gb, hgb, tj, htj, ?_⟩
    exact c13_linetree_walk_complete k ε m1 W dt _ _ hk hε hkε hdt P tie gb _ i j (P i).r (hr i) hH (Ne.symm hij) kD1 kD2 hit1
      hm hov1 tj cj hwfj hcj.1 hcj.2 hjl

end prune

/-! ## 6. what the step hands to the search -/
section stepinput
variable {K : Type} [Field K] [LinearOrder K] [IsStrictOrderedRing K]

/-- **the collision search never sees a particle that left the box** (open boundary, end of
    `reb_simulation_step`, rebound.c:153-166, with C15's model of `reb_boundary_check`): after the
    boundary check — and, with a tree, the tree update that `tree_needs_update` triggers — every
    particle in the array is inside the box and unflagged, and every particle that was inside is
    still there.  Skipping that tree update leaves `y = NaN` particles in the array, for which every
    rejection test of the DIRECT / LINE searches is false. -/
theorem c13_search_input_inside_box (bx bY bz : K) (teo clamp : Bool) (s : Sim (Part K))
    (hnf : ∀ p ∈ s.ps, p.flagged = false) :
    (∀ p ∈ (searchInputOpen bx bY bz teo clamp s).ps, outsideBox bx bY bz p = false ∧ p.flagged = false) ∧
    (∀ p ∈ s.ps, outsideBox bx bY bz p = false → p ∈ (searchInputOpen bx bY bz teo clamp s).ps) := by
  unfold searchInputOpen
  cases ht : s.tree
  · -- no tree: the removal loops of boundary.c
    simp only [Bool.false_eq_true, if_false]
    cases teo
    · simp only [Bool.false_eq_true, if_false]
      have hp := RV.C15.openLoop_zero (outsideBox bx bY bz) s.ps
      constructor
      · intro p hpm
        have := (hp.mem_iff).mp hpm
        simp only [List.mem_filter, Bool.not_eq_true'] at this
        exact ⟨this.2, hnf p this.1⟩
      · intro p hpm ho
        exact (hp.mem_iff).mpr (by simp [List.mem_filter, hpm, ho])
    · simp only [if_true]
      rw [RV.C15.openLoopSorted_eq]
      simp only [List.take_zero, List.drop_zero, List.nil_append]
      constructor
      · intro p hpm
        simp only [List.mem_filter, Bool.not_eq_true'] at hpm
        exact ⟨hpm.2, hnf p hpm.1⟩
      · intro p hpm ho
        simp [List.mem_filter, hpm, ho]
  · -- tree: flagged by the boundary check, dropped by the tree update
    simp only [if_true]
    have markmem : ∀ (l : List (Part K)) (q : Part K), q ∈ RV.Boundary.openMark (outsideBox bx bY bz) flagPart l →
        q.flagged = false → outsideBox bx bY bz q = false ∧ q ∈ l := by
      intro l q hq hqf
      have gen : ∀ (l' : List (Part K)), q ∈ l'.map (fun a => if outsideBox bx bY bz a then flagPart a else a) →
          outsideBox bx bY bz q = false ∧ q ∈ l' := by
        intro l' h
        simp only [List.mem_map] at h
        obtain ⟨a, ha, rfl⟩ := h
        by_cases ho : outsideBox bx bY bz a = true
        · simp [ho, flagPart] at hqf
        · simp only [ho, Bool.false_eq_true, if_false]
          exact ⟨by simpa using ho, ha⟩
      rcases l with _ | ⟨a, _ | ⟨b, r⟩⟩
      · simp [RV.Boundary.openMark] at hq
      · simp only [RV.Boundary.openMark] at hq
        by_cases ho : outsideBox bx bY bz a = true
        · simp [ho] at hq
        · simp only [ho, Bool.false_eq_true, if_false, List.mem_singleton] at hq
          subst hq
          exact ⟨by simpa using ho, by simp⟩
      · exact gen _ (by simpa [RV.Boundary.openMark] using hq)
    have surv : ∀ p ∈ s.ps, outsideBox bx bY bz p = false →
        p ∈ RV.Boundary.openMark (outsideBox bx bY bz) flagPart s.ps := by
      intro p hpm ho
      rcases hl : s.ps with _ | ⟨a, _ | ⟨b, r⟩⟩
      · rw [hl] at hpm; simp at hpm
      · rw [hl] at hpm
        simp only [List.mem_singleton] at hpm
        subst hpm
        simp [RV.Boundary.openMark, ho]
      · rw [hl] at hpm
        simp only [RV.Boundary.openMark, List.mem_map]
        exact ⟨p, hpm, by simp [ho]⟩
    unfold purgeFlagged
    simp only [ht, Bool.true_and]
    split
    · constructor
      · intro p hpm
        simp only [List.mem_filter, Bool.not_eq_true'] at hpm
        exact ⟨(markmem s.ps p hpm.1 hpm.2).1, hpm.2⟩
      · intro p hpm ho
        simp only [List.mem_filter, Bool.not_eq_true']
        exact ⟨surv p hpm ho, hnf p hpm⟩
    · rename_i hany
      have hall : ∀ q ∈ RV.Boundary.openMark (outsideBox bx bY bz) flagPart s.ps, q.flagged = false := by
        intro q hq
        by_contra hne
        apply hany
        simp only [List.any_eq_true]
        exact ⟨q, hq, by simpa using hne⟩
      constructor
      · intro p hpm
        exact ⟨(markmem s.ps p hpm (hall p hpm)).1, hall p hpm⟩
      · intro p hpm ho
        exact surv p hpm ho

end stepinput

/-! ## 7. ghost boxes -/
section ghostbox
variable {K : Type} [Field K] [LinearOrder K] [IsStrictOrderedRing K]

/-- `(double)i` of the model is the integer cast -/
theorem c13_ghostbox_int_cast (i : Int) : (ofI i : K) = (i : K) := by
  unfold ofI
  by_cases h : i < 0
  · simp only [h, if_true, sc_neg, sc_ofNat]
    obtain ⟨n, hn⟩ : ∃ n : Nat, i = -(n : Int) := ⟨i.natAbs, by omega⟩
    subst hn
    simp
  · simp only [h, if_false, sc_ofNat]
    obtain ⟨n, hn⟩ : ∃ n : Nat, i = (n : Int) := ⟨i.toNat, by omega⟩
    subst hn
    simp

/-- `reb_boundary_get_ghostbox` for open and periodic boundaries: box `(i,j,k)` is the pure
    translation by `(i·Lx, j·Ly, k·Lz)` with no velocity offset; boundary none gives the zero box. -/
theorem c13_ghostbox_periodic (fmodF : K → K → K) (bx bY bz omega t : K) (i j k : Int) :
    ghostBox fmodF .periodic bx bY bz omega t i j k = ⟨bx * i, bY * j, bz * k, 0, 0, 0⟩ ∧
    ghostBox fmodF .open bx bY bz omega t i j k = ⟨bx * i, bY * j, bz * k, 0, 0, 0⟩ ∧
    ghostBox fmodF .none bx bY bz omega t i j k = ⟨0, 0, 0, 0, 0, 0⟩ := by
  simp [ghostBox, c13_ghostbox_int_cast]

/-- mirror symmetry of the ghost boxes, all four boundary kinds: box `(-i,-j,-k)` is the negative
    of box `(i,j,k)` — for the shearing sheet including the time dependent azimuthal shift and the
    velocity offset `-(3/2)·i·Ω·Lx`, given that `fmod` is odd in its first argument (C99). -/
theorem c13_ghostbox_mirror (fmodF : K → K → K) (hodd : ∀ a b, fmodF (-a) b = -fmodF a b)
    (kind : BKind) (bx bY bz omega t : K) (i j k : Int) :
    ghostBox fmodF kind bx bY bz omega t (-i) (-j) (-k) = negGB (ghostBox fmodF kind bx bY bz omega t i j k) := by
  cases kind
  · simp [ghostBox, negGB]
  · simp [ghostBox, negGB, c13_ghostbox_int_cast]
  · simp [ghostBox, negGB, c13_ghostbox_int_cast]
  · -- the column `i > 0` is the column `-i < 0` read backwards
    have key : ∀ i j k : Int, i < 0 →
        ghostBox fmodF .shear bx bY bz omega t (-i) (-j) (-k)
          = negGB (ghostBox fmodF .shear bx bY bz omega t i j k) := by
      intro i j k hi
      have h1 : ¬ (-i = 0) := by omega
      have h2 : (-i > 0) := by omega
      have h3 : ¬ (i = 0) := by omega
      have h4 : ¬ (i > 0) := by omega
      simp only [ghostBox, negGB, c13_ghostbox_int_cast, beq_iff_eq, h1, h2, h3, h4, if_true, if_false, sc_neg, sc_hmul, sc_hdiv, sc_hsub, sc_hadd,
        sc_ofNat, sc_zero, Int.cast_neg, GB.mk.injEq]
      have e : -(3 / 2 : K) * -(i : K) * omega * bx * t - bY / 2 = -(-(3 / 2 : K) * (i : K) * omega * bx * t + bY / 2) := by ring
      refine ⟨by ring, ?_, by ring, by simp, by push_cast; ring, by simp⟩
      push_cast
      rw [e, hodd]; ring
    have hneg : ∀ g : GB K, negGB (negGB g) = g := fun g => by simp [negGB]
    rcases lt_trichotomy i 0 with hi | hi | hi
    · exact key i j k hi
    · subst hi
      simp only [ghostBox, negGB, c13_ghostbox_int_cast, neg_zero, beq_self_eq_true, if_true, sc_neg, sc_hmul, sc_hdiv, sc_hsub, sc_hadd,
        sc_ofNat, sc_zero, Int.cast_neg, Int.cast_zero, mul_zero, zero_mul, GB.mk.injEq]
      have h0 : fmodF (0 : K) bY = 0 := by
        have := hodd 0 bY; simp only [neg_zero] at this; linarith
      refine ⟨by simp, ?_, by ring, by simp, by simp, by simp⟩
      push_cast
      simp only [mul_zero, zero_mul, h0]; ring
    · have := key (-i) (-j) (-k) (by omega)
      simp only [neg_neg] at this
      rw [this, hneg]

/-- the ghost ring is closed under the mirror `(a,b,c) ↦ (-a,-b,-c)` -/
theorem c13_ghost_ring_mirror (ngx ngy ngz : Int) (a b c : Int) :
    (a, b, c) ∈ ghostRing ngx ngy ngz ↔ (-a, -b, -c) ∈ ghostRing ngx ngy ngz := by
  rw [c13_ghost_ring, c13_ghost_ring]
  constructor <;> rintro ⟨⟨h1, h2⟩, ⟨h3, h4⟩, ⟨h5, h6⟩⟩ <;> refine ⟨⟨?_, ?_⟩, ⟨?_, ?_⟩, ⟨?_, ?_⟩⟩ <;> omega

/-- **the DIRECT test is symmetric under exchanging the two particles and mirroring the ghost
    box**: `(i, j, gb)` passes iff `(j, i, -gb)` passes (same squared distance, same `d·dv`).
    Together with `c13_ghostbox_mirror` and `c13_ghost_ring_mirror` this discharges the "seen from
    both ends through mirrored ghost boxes" hypotheses of `c13_tree_search_complete`: the DIRECT
    search reports every pair in both orientations. -/
theorem c13_direct_symmetric (gb : GB K) (pi pj : Part K) :
    directHit (shiftGB gb pi) pi.r pj = directHit (shiftGB (negGB gb) pj) pj.r pi := by
  rw [Bool.eq_iff_iff, directHit_iff, directHit_iff]
  have e : ∀ a b c : K, -a + b - c = -(a + c - b) := fun a b c => by ring
  simp only [shiftGB, negGB, sc_hadd, sc_neg, e, neg_sq, neg_mul_neg, add_comm pj.r]

/-- the LINE test has the same symmetry: the straight-line minimum separation of the pair does not
    depend on which particle carries the (mirrored) ghost box -/
theorem c13_line_symmetric (dt : K) (gb : GB K) (pi pj : Part K) :
    lineHit dt (shiftGB gb pi) pi.r pj = lineHit dt (shiftGB (negGB gb) pj) pj.r pi := by
  have e : ∀ a b c : K, -a + b - c = -(a + c - b) := fun a b c => by ring
  have hq : lineRmin2 dt (shiftGB (negGB gb) pj) pi = lineRmin2 dt (shiftGB gb pi) pj := by
    apply lineRmin2_neg <;> exact e _ _ _
  unfold lineHit
  rw [hq, add_comm pj.r pi.r]

end ghostbox

/-! ## 8. hypotheses are satisfiable -/

/-- a concrete instance of `c13_fixup_invariant`'s hypotheses: four particles, identities
    10,20,30,40, three pending entries forming a chain, unsorted removal without tree -/
example :
    let s0 : Sim Nat := ⟨[10, 20, 30, 40], -1, 0, false, false, 0⟩
    Cfg false s0 ∧ (ids id s0).Nodup ∧
    List.Forall₂ (fun (e : Coll Unit) (d : Nat × Nat) => d.1 ≠ d.2 ∧
        denote (ids id s0) e.p1 = some d.1 ∧ denote (ids id s0) e.p2 = some d.2)
      [⟨0, 1, ()⟩, ⟨1, 3, ()⟩, ⟨3, 2, ()⟩] [(10, 20), (20, 40), (40, 30)] := by
  intro s0
  exact ⟨⟨rfl, nofun, .inl rfl⟩, by decide,
    .cons ⟨by decide, rfl, rfl⟩ (.cons ⟨by decide, rfl, rfl⟩ (.cons ⟨by decide, rfl, rfl⟩ .nil))⟩

/-- a concrete instance of the alignment hypotheses of `c13_hardsphere_separating` over ℚ-like
    fields: relative position (3·4, 4·4, 3·... ) realised by a 3-4-5 rotation -/
example {K : Type} [Field K] [LinearOrder K] [IsStrictOrderedRing K] :
    let st : K := 4/5; let ct : K := 3/5; let sp : K := 4/5; let cp : K := 3/5
    st*st + ct*ct = 1 ∧ sp*sp + cp*cp = 1 ∧
    -- r₂₁ = (15, 12, 16): ρ = 20, y₂₁ₙ = 20, R = 25
    ct*20 = (12 : K) ∧ st*20 = (16 : K) ∧ cp*25 = (15 : K) ∧ sp*25 = ct*12 + st*16 := by
  refine ⟨?_, ?_, ?_, ?_, ?_, ?_⟩ <;> norm_num

/-- an odd `fmod` exists (hypothesis of `c13_ghostbox_mirror`): C's `fmod` is odd in its first
    argument; over ℚ-like fields e.g. `a ↦ a` itself -/
example {K : Type} [Field K] : ∃ fmodF : K → K → K, ∀ a b, fmodF (-a) b = -fmodF a b :=
  ⟨fun a _ => a, fun _ _ => rfl⟩

end RV.Collision
