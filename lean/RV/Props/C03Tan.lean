import RV.Proofs.KeplerTan2
/-
  C03 (second property module) — the tangent map of reb_whfast_kepler_solver (lines 311-342) is the
  derivative of the model's Kepler step.

  `Var.tanLines_is_eps` (RV/Proofs/VarKepler.lean, C16) shows that the last lines of the tangent map are the ε-part of the f-g
  update given `dX` and `dG_k`; the theorems here supply the other half.  "Derivative" = ε-part of the
  very same model functions (`cs6Series`, `cs6DupStep`, `cs6Finish`, `scaleGs6`, `invariants`,
  `fgUpdate` of RV/Model/Kepler.lean) run on dual numbers `a + ε b` (RV/Model/Dual.lean).
-/
namespace RV.Kepler
open RV RV.Var
variable {K : Type} [Field K] [CharZero K]

/-- a stronger invariant of the stumpff_cs duplication: with `c2² + z c3² = 2(c3 − c4)` in place of the
    quadratic relation of `Stumpff6Rel` (which it implies) the loop body still maps relations at z to
    relations at 4z -/
theorem c03_stumpff6_strong_duplication {s : Cs5 K} (h : Stumpff6S s) (n : Nat) :
    Stumpff6S (cs6DupStep s) ∧ Stumpff6S (cs6Dup n s) ∧ Stumpff6Rel s :=
  ⟨cs6DupStep_relS h, cs6Dup_invariant (fun _ => cs6DupStep_relS) n h, h.toRel⟩

/-- **derivative rules survive duplication**: if `s` carries, in its ε-parts, the derivatives
    `c2' = (2c4 − c3)/2`, `c3' = (3c5 − c4)/2` (and the ε-parts of the linear relations) at `z + ε dz`,
    so does `cs6DupStep s` at `4z + ε 4dz`, and so does the whole loop. -/
theorem c03_stumpff_derivative_duplication {s : Cs5 (Dual K)} (h : StumpffD s) (n : Nat) :
    StumpffD (cs6DupStep s) ∧ StumpffD (cs6Dup n s) := ⟨cs6DupStep_D h, cs6Dup_invariant (fun _ => cs6DupStep_D) n h⟩

/-- consequences of the rules: `c1' = (c3 − c2)/2`, `c0' = −c1/2` -/
theorem c03_stumpff_derivative_c1_c0 {s : Cs5 (Dual K)} (h : StumpffD s) :
    s.c1.eps = (s.c3.re - s.c2.re) / 2 * s.z.eps ∧
    -(s.z.eps * s.c2.re + s.z.re * s.c2.eps) = -s.c1.re / 2 * s.z.eps := ⟨h.d1, h.d0⟩

/-- the Horner series of stumpff_cs at `z + ε dz`: linear relations exact in both parts, `c3'` rule exact,
    `c2'` rule up to `z⁶/(2·15!) dz`, quadratic relation up to an explicit `z⁶·P(z)/(15!)²`. -/
theorem c03_stumpff_derivative_series (z dz : K) :
    let s := cs6Series (⟨z, dz⟩ : Dual K)
    re5 s = cs6Series z ∧
    s.c1.eps = -(s.z.eps * s.c3.re + s.z.re * s.c3.eps) ∧
    s.c2.eps = -(s.z.eps * s.c4.re + s.z.re * s.c4.eps) ∧
    s.c3.eps = -(s.z.eps * s.c5.re + s.z.re * s.c5.eps) ∧
    s.c3.eps = (3 * s.c5.re - s.c4.re) / 2 * s.z.eps ∧
    s.c2.eps = (2 * s.c4.re - s.c3.re) / 2 * s.z.eps + z ^ 6 / 2615348736000 * dz ∧
    (cs6Series z).c2 ^ 2 + z * (cs6Series z).c3 ^ 2 - 2 * ((cs6Series z).c3 - (cs6Series z).c4) =
      z ^ 6 * (z ^ 7 - 195 * z ^ 6 + 27720 * z ^ 5 - 2702700 * z ^ 4 + 165110400 * z ^ 3 - 5448643200 * z ^ 2
        + 72648576000 * z - 163459296000) / 1710012252724199424000000 := by
  obtain ⟨-, -, i2, i3, i4, i5, i6, i7, i8, i9, i10, i11, i12, i13, i14, i15, -⟩ := invfact_vals (K := K)
  refine ⟨rfl, Dual.horner_eps _ _ _ (invfact_eps 1), Dual.horner_eps _ _ _ (invfact_eps 2),
    Dual.horner_eps _ _ _ (invfact_eps 3), ?_, ?_, ?_⟩ <;>
    dsimp only [cs6Series, Dual.sub_re, Dual.sub_eps, Dual.mul_re, Dual.mul_eps] <;>
    simp only [invfact_re, invfact_eps, i2, i3, i4, i5, i6, i7, i8, i9, i10, i11, i12, i13, i14, i15] <;>
    ring

/-- stiefel_Gs: `dG_k = G_{k-1} dX + ½(k G_{k+2} − X G_{k+1}) dβ` (k = 1,2,3) — the lines
    `dG1, dG2, dG3` of the C code are the ε-parts of the scaled functions at `(β + ε dβ, X + ε dX)`. -/
theorem c03_stiefel_derivative_rules {s : Cs5 (Dual K)} (h : StumpffD s) (β X : Dual K) (hz : s.z = β * (X * X)) :
    let g := scaleGs6 X (cs6Finish s)
    g.c1.eps = g.c0.re * X.eps + 1 / 2 * (g.c3.re - X.re * g.c2.re) * β.eps ∧
    g.c2.eps = g.c1.re * X.eps + 1 / 2 * (2 * g.c4.re - X.re * g.c3.re) * β.eps ∧
    g.c3.eps = g.c2.re * X.eps + 1 / 2 * (3 * g.c5.re - X.re * g.c4.re) * β.eps ∧
    g.c0.re = 1 - β.re * g.c2.re ∧ g.c1.re = X.re - β.re * g.c3.re := scaleGs6_D h β X hz

section main
variable (M r0 r0i ri dt : K) (p dp : Kepler.P6 K) (s : Cs5 (Dual K)) (Xd : Dual K)

/-- implicit differentiation of the universal Kepler equation: with the dual inputs of the step
    (`dualIn`: p + ε dp, r0 + ε dr0, and β, η0, ζ0 computed from them by the model's `invariants`),
    the dual equation `r̂0 X̂ + η̂0 Ĝ2 + ζ̂0 Ĝ3 = dt` holds to first order **iff** the ε-part of `X̂` is the
    code's `dX` (line 325). -/
theorem c03_tangent_dX_unique (hD : StumpffD s) (hz : s.z = (dualIn M r0 r0i p dp).beta * (Xd * Xd))
    (hri : ri * (r0 + (invariants M r0 r0i p).eta0 * (scaleGs6 Xd (cs6Finish s)).c1.re
            + (invariants M r0 r0i p).zeta0 * (scaleGs6 Xd (cs6Finish s)).c2.re) = 1) :
    ((dualIn M r0 r0i p dp).r0 * Xd + (dualIn M r0 r0i p dp).eta0 * (scaleGs6 Xd (cs6Finish s)).c2
          + (dualIn M r0 r0i p dp).zeta0 * (scaleGs6 Xd (cs6Finish s)).c3).eps = (Dual.const dt).eps ↔
      Xd.eps = tanDX M r0 r0i ri Xd.re (invariants M r0 r0i p).beta (invariants M r0 r0i p).eta0
        (invariants M r0 r0i p).zeta0 (re6 (scaleGs6 Xd (cs6Finish s))) p dp := by
  have key := kepler_eps M r0 r0i ri p dp s Xd hD hz hri
  have hri0 : ri ≠ 0 := left_ne_zero_of_mul_eq_one hri
  rw [← mul_right_inj' hri0, key, Dual.const_eps, sc_zero, mul_zero, sub_eq_zero]

/-- **tangent map = derivative of the Kepler step.**  `tangentUpdate` (the Float-faithful model of lines
    311-342, tied bit for bit to the compiled code by the `var` correspondence of rv/c03.py) equals the
    ε-part of the model's f-g update evaluated on dual numbers, where every dual input is itself
    produced by the model's functions on duals and `X̂ = X + ε dX` with the code's `dX`.
    `_partial`: the hypothesis `StumpffD s` (exact first-order Stumpff data) holds for the data the
    code actually computes (`cs6Dup n (cs6Series ·)`) only up to the series truncation made explicit in
    `c03_stumpff_derivative_series`; duplication preserves it exactly
    (`c03_stumpff_derivative_duplication`).  `hri` is `ri = 1/r`, i.e. the NaN guard did not fire. -/
theorem c03_tangent_map_is_derivative_partial (hD : StumpffD s)
    (hz : s.z = (dualIn M r0 r0i p dp).beta * (Xd * Xd))
    (hri : ri * (r0 + (invariants M r0 r0i p).eta0 * (scaleGs6 Xd (cs6Finish s)).c1.re
            + (invariants M r0 r0i p).zeta0 * (scaleGs6 Xd (cs6Finish s)).c2.re) = 1)
    (hX : Xd.eps = tanDX M r0 r0i ri Xd.re (invariants M r0 r0i p).beta (invariants M r0 r0i p).eta0
        (invariants M r0 r0i p).zeta0 (re6 (scaleGs6 Xd (cs6Finish s))) p dp) :
    let D := dualIn M r0 r0i p dp
    let g := scaleGs6 Xd (cs6Finish s)
    let gs := re6 g
    let i0 := invariants M r0 r0i p
    tangentUpdate M r0 r0i ri Xd.re i0.beta i0.eta0 i0.zeta0 (fgCoeffs M r0i ri dt gs.c1 gs.c2 gs.c3) gs p dp
      = epsP6 (fgUpdate (Dual.const M) D.r0i (Scalar.one / (D.r0 + D.eta0 * g.c1 + D.zeta0 * g.c2))
          (Dual.const dt) g.c1 g.c2 g.c3 (dP6 p dp)) := by
  dsimp only
  rw [tangentUpdate_split, tanLines_is_eps, tanMid_eps M r0 r0i ri p dp s Xd hD hz hX, Dual.one_div_eq]
  · rfl
  · obtain ⟨d1, -, -, d4, d5, -⟩ := dualIn_parts M r0 r0i p dp
    dsimp only [Dual.add_re, Dual.mul_re]
    rw [d1, d4, d5]
    exact hri

end main

/-! the hypotheses are satisfiable: exact first-order data at z = 0 (c_k = 1/k!, c_k' from the rules) -/
example : StumpffD (⟨⟨0, 1⟩, ⟨1, -1/6⟩, ⟨1/2, -1/24⟩, ⟨1/6, -1/120⟩, ⟨1/24, -1/720⟩, ⟨1/120, -1/5040⟩⟩ : Cs5 (Dual ℚ)) := by
  refine ⟨⟨?_, ?_, ?_, ?_⟩, ?_, ?_, ?_, ?_, ?_⟩ <;> norm_num [re5]

end RV.Kepler
