import RV.Proofs.Conc
import RV.Gen.C19Globals
/-
  C19 — concurrent simulations do not interfere; served snapshots are consistent.

  The statements are about the transition system of RV/Model/Conc.lean (the same `step`
  that `drv_c19` runs as an acceptor on the lock/step/serialise traces logged from the real
  library by the LD_PRELOAD shim), for EVERY interleaving: `Exec tr s` is "tr is any list
  of events accepted from the initial state, ending in s".

  The server may be started at any point of the integrator's execution (`xStart`).  Every
  statement below holds for all executions with `racy = false`, i.e. in which the server was
  NOT started inside an iteration of the loop that had read `r->server_data == NULL` at
  rebound.c:842 and therefore runs its step without the mutex: started before `integrate()`,
  while paused in `reb_check_exit`, between iterations, in the prologue/epilogue
  (`c19_start_outside_iteration_is_safe`); nor stopped inside an iteration that had seen it
  (`c19_stop_outside_iteration_is_safe`, finding F21 otherwise).  For a server started inside such an iteration the
  code as it is gives NO mutual exclusion for that iteration and unlocks a mutex it does not own
  at rebound.c:868-872 (`c19_start_mid_step_breaks_exclusion`, finding F19).

  The protocol as coded does not give the full property: `reb_check_exit`
  (rebound.c:822, last-step paths 690-705), the prologue (795-818) and the epilogue (880-884)
  of `reb_simulation_integrate` write `r` WITHOUT holding `server_data->mutex`.  The model
  contains these writes (`Phase.inAdjust`), the full-strength statement is therefore refuted
  by `c19_unlocked_write_overlaps_serialise` (finding F18, reproduced on the real code by the
  search of rv/c19.py), and what does hold is proved as `…_partial` with the extra hypothesis
  naming the finding.
-/
set_option linter.unusedVariables false
namespace RV.Conc
open RV.Gen.C19

/-- the mutex has the owner the program counters say, in every reachable state of every
interleaving; in particular integrator and server are never both inside their critical sections -/
theorem c19_mutual_exclusion (tr : List Ev) (s : State) (h : Exec tr s) (hq : s.racy = false) :
    (s.owner = some .I ↔ (critI s.ipc = true ∧ s.ilock = true)) ∧ (s.owner = some .S ↔ critS s.spc = true) ∧
    ¬ ((critI s.ipc = true ∧ s.ilock = true) ∧ critS s.spc = true) ∧ s.ub = false ∧ s.memerr = false := by
  have i := exec_inv h hq
  refine ⟨i.ownI, i.ownS, fun ⟨a, b⟩ => ?_, i.noUB, i.noMem⟩
  rw [i.excl b] at a; cases a.1

/-- once the server exists, `reb_simulation_step` only ever runs while the integrator owns the mutex -/
theorem c19_step_only_under_lock (tr : List Ev) (s : State) (h : Exec tr s) (hq : s.racy = false)
    (hu : s.srvUp = true) (hm : s.sim.phase = .inStep) : s.owner = some .I := by
  have i := exec_inv h hq
  have hc : critI s.ipc = true := by rcases i.stepP.mp hm with hp | hp <;> rw [hp] <;> rfl
  exact i.ownI.mpr ⟨hc, i.crit_lock hc hu⟩

/-- the server thread does not touch anything before it exists -/
theorem c19_server_idle_until_started (tr : List Ev) (s : State) (h : Exec tr s) (hq : s.racy = false)
    (hu : s.srvUp = false) : s.spc = .accepting ∧ s.owner = none ∧ s.needCopy = false := by
  have i := exec_inv h hq
  have ha := i.downS hu
  refine ⟨ha, ?_, ?_⟩
  · cases ho : s.owner with
    | none => rfl
    | some t =>
      cases t with
      | I => have := (i.ownI.mp ho).2; have := i.lockUp this; simp_all
      | S => have := i.ownS.mp ho; simp [ha, critS] at this
  · cases hn : s.needCopy with
    | false => rfl
    | true => have := i.nc.mp hn; simp [ha, ncHigh] at this

/-- while the server is inside `reb_simulation_save_to_stream` the simulation is never `mid n`,
the number of completed steps is the one read when the serialisation began, and the only
non-boundary states it can coexist with are the three unlocked writes of the integrator -/
theorem c19_serialise_never_mid_step (tr : List Ev) (s : State) (h : Exec tr s) (hq : s.racy = false)
    (hs : s.spc = .serialising) :
    s.sim.phase ≠ .inStep ∧
    (∃ m, s.snap = some m ∧ m.steps = s.sim.steps ∧ m.phase ≠ .inStep) ∧
    (s.sim.phase = .atBoundary ∨ (s.sim.phase = .inAdjust ∧ adjPc s.ipc = true)) := by
  have i := exec_inv h hq
  have h1 : s.sim.phase ≠ .inStep := by
    intro hm
    have hx := i.excl (by rw [hs]; rfl)
    rcases i.stepP.mp hm with hp | hp <;> rw [hp] at hx <;> cases hx
  refine ⟨h1, i.snapS hs, ?_⟩
  cases hp : s.sim.phase with
  | atBoundary => exact Or.inl rfl
  | inStep => exact absurd hp h1
  | inAdjust => exact Or.inr ⟨rfl, i.adjP.mp hp⟩

/-- FULL STRENGTH (false for the code as it is, see the next theorem):
`∀ tr s, Exec tr s → s.spc = .serialising → s.sim.phase = .atBoundary ∧ s.snap = some s.sim`.

PARTIAL: it holds for every serialisation that no unlocked write of `r` overlaps — i.e.
under the hypothesis "not F18": the integrator is not inside prologue / last-step
`reb_check_exit` / epilogue when the serialisation begins (`hq`) and does not enter one while
it lasts (`hna`).  Then for the whole duration the simulation is at a step boundary and is
exactly the state that was read at the beginning. -/
theorem c19_serialise_at_boundary_partial (pre post : List Ev) (s0 s : State)
    (h0 : Exec pre s0) (hh : s0.spc = .holding) (hqa : adjPc s0.ipc = false)
    (hr : run s0 (.sSerBegin :: post) = some s) (hq : s.racy = false)
    (hna : ∀ e ∈ post, e.isAdjust = false) (hne : ∀ e ∈ post, e ≠ .sSerEnd) :
    s.spc = .serialising ∧ s.sim.phase = .atBoundary ∧ s.snap = some s.sim := by
  have hq0 : s0.racy = false := run_racy_mono hr hq
  have i0 := exec_inv h0 hq0
  simp only [run, step, hh, if_true] at hr
  have i1 : Inv { s0 with spc := .serialising, snap := some s0.sim } :=
    step_inv (e := .sSerBegin) i0 (by simp [step, hh]) (by simpa using hq0)
  have q1 : Quiet { s0 with spc := .serialising, snap := some s0.sim } := ⟨rfl, hqa, rfl⟩
  have q := run_quiet i1 q1 hr hq hna hne
  have i := run_inv i1 hr hq
  refine ⟨q.ser, ?_, q.same⟩
  cases hp : s.sim.phase with
  | atBoundary => rfl
  | inStep =>
    have hx := i.excl (by rw [q.ser]; rfl)
    rcases i.stepP.mp hp with hst | hst <;> rw [hst] at hx <;> cases hx
  | inAdjust => cases (i.adjP.mp hp).symm.trans q.nadj

/-- one step is taken while a request arrives; the server gets the mutex at the integrator's
unlock and serialises while `reb_check_exit` of the next iteration synchronises and shrinks `dt` -/
def witnessF18 : List Ev :=
  [.xStart, .iEnter, .iChkBegin, .iChkEnd true, .iSeeSrv true, .iSeeNC0, .iLock, .iSetFlag, .iStepBegin, .sReq, .sSetNC,
   .iStepEnd, .iUnlock, .iClrFlag, .sLock, .iChkBegin, .sSerBegin, .iChkSync]

/-- the hypothesis of the partial theorem cannot be dropped (finding F18): an execution of
the protocol as coded in which the server is inside `reb_simulation_save_to_stream` while
the integrator is inside the last-step path of `reb_check_exit`, writing `r` -/
theorem c19_unlocked_write_overlaps_serialise :
    ∃ tr s, Exec tr s ∧ s.racy = false ∧ s.spc = .serialising ∧ s.sim.phase = .inAdjust ∧ s.ipc = .chkAdj := by
  have h : (run init witnessF18).map (fun s => (s.racy, s.spc, s.sim.phase, s.ipc))
      = some (false, .serialising, .inAdjust, .chkAdj) := by decide
  have := exec_of_map h
  simp only [Prod.mk.injEq] at this
  exact ⟨witnessF18, this⟩

/-- projecting ANY execution of integrator + server onto the integrator's events (without the
`usleep(10)` stutter) gives a legal run of the integrator without a server that ends at the
same program point in the same simulation state — the same number of steps and of
adjustments; applied to every prefix: the same sequence of states -/
theorem c19_integrator_unaffected (tr : List Ev) (s : State) (h : Exec tr s) :
    soloRun soloInit (projI tr) = some ⟨s.ipc, s.sim⟩ := run_proj h

/-- the server can always finish a request it has started and the integrator can always
continue once the server is back in `accept`: no reachable state is a deadlock -/
theorem c19_no_deadlock (tr : List Ev) (s : State) (h : Exec tr s) (hq : s.racy = false) :
    ∃ e, (step s e).isSome = true := by
  have i := exec_inv h hq
  obtain ⟨ipc, spc, owner, nc, sim, snap, served, up, il, rc, ub, me⟩ := s
  have h1 := i.ownI
  have h2 := i.ownS
  simp only at h1 h2
  cases up
  case false => exact ⟨.xStart, by simp [step]⟩
  case true =>
  cases spc
  case accepting => exact ⟨.sReq, by simp [step]⟩
  case gotReq => exact ⟨.sSetNC, by simp [step]⟩
  case ncSet =>
    -- the mutex is free, or the integrator holds it and then the integrator can move
    cases owner with
    | none => exact ⟨.sLock, by simp [step]⟩
    | some t =>
      cases t with
      | S => simp [critS] at h2
      | I =>
        obtain ⟨hc, hl⟩ := h1.mp rfl
        cases ipc <;> simp [critI] at hc
        case postLock => exact ⟨.iSetFlag, by simp [step]⟩
        case locked => exact ⟨.iStepBegin, by simp [step]⟩
        case stepping => exact ⟨.iStepEnd, by simp [step]⟩
        case stepped => exact ⟨.iHbBegin, by simp [step]⟩
        case inHb => exact ⟨.iHbEnd, by simp [step]⟩
  case holding => exact ⟨.sSerBegin, by simp [step]⟩
  case serialising => exact ⟨.sSerEnd, by simp [step]⟩
  case serialised => exact ⟨.sClrNC, by simp [step]⟩
  case ncClr => exact ⟨.sUnlock, by simp [step, h2, critS]⟩
  case sending => exact ⟨.sSent, by simp [step]⟩

/-- starting the server at any moment at which the integrator is not inside an iteration that
runs without the mutex — before `integrate()`, in the prologue, inside `reb_check_exit` (in
particular while PAUSED), between unlock and the next `reb_check_exit`, at rebound.c:842 before
the read, in the epilogue — keeps `racy = false` for ever, so every theorem of this file
applies to the rest of the execution -/
theorem c19_start_outside_iteration_is_safe (pre post : List Ev) (s0 s : State)
    (h0 : Exec pre s0) (hq0 : s0.racy = false)
    (hout : (critI s0.ipc = true ∧ s0.ilock = false) → False)
    (hr : run s0 (.xStart :: post) = some s)
    (hn1 : ∀ e ∈ post, e ≠ .xStart) (hn2 : ∀ e ∈ post, e ≠ .xStop) : s.racy = false := by
  obtain ⟨s1, h1, hr⟩ := run_cons.mp hr
  rw [run_racy_const hr hn1 hn2]
  simp only [step] at h1
  split at h1 <;> cases h1
  cases hl : s0.ilock with
  | true => simp [hq0]
  | false => simp [hq0, not_iter (Bool.eq_false_iff.mpr fun hc => hout ⟨hc, hl⟩)]

/-- stopping the server at any moment at which the integrator is NOT between its test of `r->server_data` and the last
dereference that depends on it (i.e. not in `waitNC, wantLock, postLock, postUnlock, shotWait`, and not inside a locked iteration) is safe:
`racy` stays false (until the next start/stop), hence no use after free, and every theorem of this file applies -/
theorem c19_stop_outside_iteration_is_safe (pre post : List Ev) (s0 s : State)
    (h0 : Exec pre s0) (hq0 : s0.racy = false)
    (hout : s0.ipc ≠ .waitNC ∧ s0.ipc ≠ .wantLock ∧ s0.ipc ≠ .postLock ∧ s0.ipc ≠ .postUnlock ∧ s0.ipc ≠ .shotWait ∧
            ((critI s0.ipc = true ∧ s0.ilock = true) → False))
    (hr : run s0 (.xStop :: post) = some s)
    (hn1 : ∀ e ∈ post, e ≠ .xStart) (hn2 : ∀ e ∈ post, e ≠ .xStop) : s.racy = false ∧ s.memerr = false := by
  have hrun : run init (pre ++ .xStop :: post) = some s := by
    rw [run_append, h0]; exact hr
  obtain ⟨s1, h1, hr⟩ := run_cons.mp hr
  have hq : s.racy = false := by
    rw [run_racy_const hr hn1 hn2]
    simp only [step] at h1
    split at h1 <;> cases h1
    obtain ⟨o1, o2, o3, o4, o5, o6⟩ := hout
    cases hl : s0.ilock with
    | false => simp [hq0, o1, o2, o3, o4, o5]
    | true => simp [hq0, o1, o2, o3, o4, o5, not_iter (Bool.eq_false_iff.mpr fun hc => o6 ⟨hc, hl⟩)]
  exact ⟨hq, (exec_inv hrun hq).noMem⟩

/-- the integrator has tested `r->server_data != NULL` (rebound.c:842) and waits for `need_copy`; the server is stopped -/
def witnessF21 : List Ev :=
  [.xStart, .iEnter, .iChkBegin, .iChkEnd true, .iSeeSrv true, .xStop, .iSeeNC0, .iLock, .iSetFlag]

/-- … or it is stopped between `pthread_mutex_unlock` and `mutex_locked_by_integrate = 0` (rebound.c:872-874) -/
def witnessF21b : List Ev :=
  [.xStart, .iEnter, .iChkBegin, .iChkEnd true, .iSeeSrv true, .iSeeNC0, .iLock, .iSetFlag, .iStepBegin, .iStepEnd,
   .iUnlock, .xStop, .iClrFlag]

/-- WHAT IS TRUE OF THE UNCHANGED CODE (finding F21): `reb_simulation_stop_server` frees `server_data` without any
synchronisation with the integration loop; stopped inside an iteration that has seen the server, the loop reads
`need_copy`, locks the mutex and writes `mutex_locked_by_integrate` in freed memory -/
theorem c19_stop_mid_iteration_use_after_free :
    (∃ s, Exec witnessF21 s ∧ s.memerr = true ∧ s.srvUp = false) ∧
    (∃ s, Exec witnessF21b s ∧ s.memerr = true ∧ s.srvUp = false) := by
  have h1 : (run init witnessF21).map (fun s => (s.memerr, s.srvUp)) = some (true, false) := by decide
  have h2 : (run init witnessF21b).map (fun s => (s.memerr, s.srvUp)) = some (true, false) := by decide
  simpa only [Prod.mk.injEq] using And.intro (exec_of_map h1) (exec_of_map h2)

/-- a step begun before the server existed, the server started during it, a request served at once -/
def witnessF19 : List Ev :=
  [.iEnter, .iChkBegin, .iChkEnd true, .iSeeSrv false, .iStepBegin, .xStart, .sReq, .sSetNC, .sLock, .sSerBegin]

/-- … and the integrator then reaches rebound.c:868, reads `r->server_data != NULL` and unlocks the
mutex the server holds -/
def witnessF19ub : List Ev := witnessF19 ++ [.iStepEnd, .iUnlock]

/-- WHAT IS TRUE OF THE UNCHANGED CODE (finding F19): because `r->server_data` is read separately
at rebound.c:842 and 868, a server started while a step is in progress can serialise the
simulation mid-step (`mid 0 1`), and the integrator then calls `pthread_mutex_unlock` on the mutex
the server owns (undefined behaviour; with glibc the server's critical section loses its lock) -/
theorem c19_start_mid_step_breaks_exclusion :
    (∃ s, Exec witnessF19 s ∧ s.racy = true ∧ s.spc = .serialising ∧ s.sim = mid 0 1 ∧ s.owner = some .S) ∧
    (∃ s, Exec witnessF19ub s ∧ s.ub = true ∧ s.spc = .serialising ∧ s.owner = none) := by
  have h1 : (run init witnessF19).map (fun s => (s.racy, s.spc, s.sim, s.owner))
      = some (true, .serialising, mid 0 1, some .S) := by decide
  have h2 : (run init witnessF19ub).map (fun s => (s.ub, s.spc, s.owner))
      = some (true, .serialising, none) := by decide
  simpa only [Prod.mk.injEq] using And.intro (exec_of_map h1) (exec_of_map h2)

/-- the server only ever writes a response (`sSent`) from the program point that is reached by `pthread_mutex_unlock`, and that
program point is entered by nothing but the unlock that ends a critical section entered through `sLock` (for `/simulation`:
with `reb_simulation_save_to_stream` inside): a response produced without taking the mutex — e.g. a cached snapshot sent
again — is not an execution of the protocol, and a logged trace containing one is rejected by the acceptor -/
theorem c19_reply_only_after_critical_section (s s' : State) (e : Ev) (h : step s e = some s') :
    (e = .sSent → s.spc = .sending) ∧ (s'.spc = .sending → s.spc ≠ .sending → (e = .sUnlock ∧ s.spc = .ncClr)) := by
  apply step_ind h <;> intros <;> simp_all

/-- and the only way into `ncClr` for a `/simulation` request is through the serialisation under the lock:
`holding → serialising → serialised → ncClr` (`/keyboard` goes `holding → ncClr` without serialising) -/
theorem c19_serialisation_is_inside_the_critical_section (tr : List Ev) (s : State) (h : Exec tr s) (hq : s.racy = false)
    (hs : s.spc = .serialising ∨ s.spc = .serialised) : s.owner = some .S ∧ s.needCopy = true := by
  have i := exec_inv h hq
  rcases hs with hs | hs <;> exact ⟨i.ownS.mpr (by rw [hs]; rfl), i.nc.mpr (by rw [hs]; rfl)⟩

/-- `reb_run_heartbeat` (the user callback may change masses, add or remove particles, synchronize) runs, once the server
exists, only while the integrator owns the mutex; hence the server never serialises a simulation the heartbeat is in the middle
of modifying (`phase = inStep` covers `inHb`, see `c19_serialise_never_mid_step`).  A loop that released the mutex before its
heartbeat produces traces with `iHbBegin` after `iUnlock`, which are not executions of this model -/
theorem c19_heartbeat_only_under_lock (tr : List Ev) (s : State) (h : Exec tr s) (hq : s.racy = false)
    (hu : s.srvUp = true) (hb : s.ipc = .inHb) : s.owner = some .I ∧ s.sim.phase = .inStep ∧ s.spc ≠ .serialising := by
  have i := exec_inv h hq
  have hp : s.sim.phase = .inStep := i.stepP.mpr (Or.inr hb)
  have ho := c19_step_only_under_lock tr s h hq hu hp
  refine ⟨ho, hp, fun hs => ?_⟩
  have hx := i.excl (by rw [hs]; rfl)
  rw [hb] at hx; cases hx

/-! ### the screenshot handshake (output.c:273-323) -/

/-- `reb_simulation_output_screenshot`, called from a heartbeat inside a locked iteration, gives the mutex away while it waits
for the browser.  While the integrator waits there the step is complete: whatever the server serialises in that window is a
step-boundary state, and the integrator does not own the mutex although its iteration is a locked one -/
theorem c19_screenshot_wait_is_at_a_boundary (tr : List Ev) (s : State) (h : Exec tr s) (hq : s.racy = false)
    (hw : s.ipc = .shotWait) :
    s.sim.phase = .atBoundary ∧ s.owner ≠ some .I ∧ s.ilock = true ∧ s.srvUp = true := by
  have i := exec_inv h hq
  have hl := i.shotC hw
  refine ⟨?_, ?_, hl, i.lockUp hl⟩
  · cases hp : s.sim.phase with
    | atBoundary => rfl
    | inStep => have := i.stepP.mp hp; simp_all
    | inAdjust => have := i.adjP.mp hp; simp_all [adjPc]
  · intro ho
    have := (i.ownI.mp ho).1
    simp [hw, critI] at this

/-- a complete iteration with a screenshot taken in its heartbeat and a `/simulation` request served meanwhile -/
example : (run init [.xStart, .iEnter, .iChkBegin, .iChkEnd true, .iSeeSrv true, .iSeeNC0, .iLock, .iSetFlag, .iStepBegin,
    .iStepEnd, .iHbBegin, .iShotUnlock, .sReq, .sSetNC, .sLock, .sSerBegin, .sSerEnd, .sClrNC, .sUnlock, .sSent, .sStatic,
    .iShotLock, .iHbEnd, .iUnlock, .iClrFlag]).map (fun s => (s.ipc, s.served, s.sim, s.racy, s.owner))
    = some (.unlocked, 1, boundary 1 1, false, none) := by decide

/-- soundness of the trace acceptor `drv_c19` runs on the shim's logs: if a list of observed
events is accepted, then every final candidate state is reached by an execution of the
protocol model whose observable part (everything but the plain loads/stores of `need_copy`
and the socket I/O) is exactly the observed list — so every theorem above applies to it -/
theorem c19_accepted_trace_is_execution (obs : List Obs) (finals : List State)
    (h : accept obs = .ok finals) :
    ∀ f ∈ finals, ∃ tr, Exec tr f ∧ observable tr = obs.map (·.ev) := by
  intro f hf
  obtain ⟨s0, h0, tr, r, p⟩ := acceptFrom_sound obs [init] 0 finals h f hf
  simp only [List.mem_singleton] at h0
  subst h0
  exact ⟨tr, r, p⟩

/-- any two interleavings of independent machines with the same per-machine event sequences
end in the same product state (transitions of different machines commute) -/
theorem c19_interleavings_agree (M : Machine) (tr₁ tr₂ : List (Nat × M.ε)) (v v₁ v₂ : Nat → M.σ)
    (hp : ∀ i, proj i tr₁ = proj i tr₂)
    (h₁ : prun M v tr₁ = some v₁) (h₂ : prun M v tr₂ = some v₂) : v₁ = v₂ := by
  funext i
  have a := prun_component M h₁ i
  have b := prun_component M h₂ i
  rw [hp i] at a
  rw [a] at b
  exact Option.some.inj b

/-- every interleaving of `k` independent machines ends in the product state of the
sequential run (machine 0 to completion, then machine 1, …), and the sequential run is
accepted whenever the interleaving is -/
theorem c19_interleaving_eq_sequential (M : Machine) (k : Nat) (tr : List (Nat × M.ε))
    (v v' : Nat → M.σ) (hk : ∀ e ∈ tr, e.1 < k) (h : prun M v tr = some v') :
    prun M v (seqSched tr k) = some v' := by
  rw [prun_seq M h k]
  congr 1
  funext j
  by_cases hj : j < k
  · simp [hj]
  · simp only [hj, if_false]
    exact (prun_untouched M h j (fun e he hje => hj (hje ▸ hk e he))).symm

/-- the same for `k` copies of the integrator + server protocol machine itself -/
theorem c19_independent_simulations (k : Nat) (tr : List (Nat × Ev)) (v v' : Nat → State)
    (hk : ∀ e ∈ tr, e.1 < k) (h : prun concMachine v tr = some v') :
    prun concMachine v (seqSched tr k) = some v' ∧
    ∀ i, run (v i) (proj i tr) = some (v' i) := by
  refine ⟨c19_interleaving_eq_sequential concMachine k tr v v' hk h, fun i => ?_⟩
  have := prun_component concMachine h i
  rw [← concMachine_run]; exact this

/-! ### the "disjoint state" hypothesis on the real objects (tables regenerated every run) -/

/-- every writable symbol of every object of the library is on the allow-list -/
theorem c19_writable_globals_allowed :
    writableSyms.all (fun g => allowGlobals.contains g.2.2.1) = true := by decide +kernel

/-- no writable byte outside the named symbols (32 bytes of alignment slack per object) -/
theorem c19_no_anonymous_writable_data :
    writableBytes.all (fun o => decide (o.2.1 ≤ o.2.2 + 32)) = true := by decide +kernel

/-- the linked library has no further writable symbol except the toolchain's -/
theorem c19_shared_object_globals_allowed :
    soWritable.all (fun n => allowGlobals.contains n || allowToolchain.contains n) = true := by
  decide +kernel

/-- allow-listed "never assigned" pointers are indeed never assigned in src/ -/
theorem c19_allowed_pointers_never_assigned : assignedNeverAssigned = [] := by decide +kernel

/-- no reference to a libc routine with hidden process-global state -/
theorem c19_no_nonreentrant_libc :
    undefinedRefs.all (fun u => !nonReentrant.contains u || allowLibc.contains u) = true := by
  decide +kernel

/-- every `static` non-const object declared in the sources is on the allow-list -/
theorem c19_static_objects_allowed :
    staticMutable.all (fun d => allowStatics.contains d) = true := by decide +kernel

/-- `reb_simulation_save_to_stream` is called by the server on the LIVE simulation: the only field it may assign is the documented
IAS15 compression, and it hands `r` to nothing but the allow-listed routines (anchored mechanism "serialisation itself must not
change the evolving state", output.c:475-495; extracted from the source every run) -/
theorem c19_serialisation_writes_allowed :
    saveWrites.all (fun w => allowSaveWrites.contains w) = true ∧ saveCalls.all (fun f => allowSaveCalls.contains f) = true ∧
    2000 ≤ saveBodyLength := by decide +kernel

/-- the extraction saw the library: objects, the interrupt flag, the libc references the
protocol relies on, the re-entrant random generator -/
theorem c19_tables_populated :
    25 ≤ nObjects ∧ 60 ≤ undefinedRefs.length ∧ 40 ≤ nStaticConst ∧
    writableSyms.any (fun g => g.2.2.1 == "reb_sigint") = true ∧
    undefinedRefs.contains "pthread_mutex_lock" = true ∧
    undefinedRefs.contains "pthread_mutex_unlock" = true ∧
    undefinedRefs.contains "rand_r" = true := by decide +kernel

/-- an execution that reaches `serialise` at a step boundary after one completed step, and
completes the request -/
example : (run init [.xStart, .iEnter, .iChkBegin, .iChkEnd true, .iSeeSrv true, .iSeeNC0, .iLock, .iSetFlag, .iStepBegin, .sReq, .sSetNC,
    .iStepEnd, .iUnlock, .iClrFlag, .sLock, .iChkBegin, .sSerBegin]).map (fun s => (s.spc, s.sim, s.snap))
    = some (.serialising, boundary 1 1, some (boundary 1 1)) := by decide

/-- the integrator spins on `need_copy` and blocks on the mutex while the server serialises -/
example : (run init [.xStart, .iEnter, .iChkBegin, .iChkEnd true, .iSeeSrv true, .sReq, .sSetNC, .iSpin, .iSpin, .sLock,
    .sSerBegin, .iSpin, .sSerEnd, .sClrNC, .iSeeNC0]).map (fun s => (s.ipc, s.spc, step s .iLock))
    = some (.wantLock, .ncClr, none) := by decide

/-- a complete integrate() call of two steps with a request served in between, accepted from
what the shim can observe (silent events guessed by the acceptor) -/
example : (accept ([.xStart, .iEnter, .iChkBegin, .iChkEnd true, .iLock, .iStepBegin, .iStepEnd, .iUnlock,
    .iChkBegin, .sLock, .sSerBegin, .iChkSync, .iChkEnd true, .iSpin, .sSerEnd, .sUnlock, .sSent, .iLock,
    .iStepBegin, .iStepEnd, .iUnlock, .iChkBegin, .iChkEnd false, .iEpiSync, .iLeave].map
    (fun e => ⟨e, none⟩))).toOption.map
      (fun l => !l.isEmpty && l.all (fun s => s.sim == boundary 2 3 && s.served == 1))
    = some true := by decide +kernel

/-- and a trace in which the server serialises without the lock is rejected at that event -/
example : (match accept ([.xStart, .iEnter, .iChkBegin, .iChkEnd true, .iLock, .iStepBegin, .sSerBegin].map
    (fun e => ⟨e, none⟩)) with | .error i => i == 6 | .ok _ => false) = true := by decide +kernel

/-- a server started while the simulation is paused inside `reb_check_exit`: the first iteration
after the resume must take the mutex (a loop that had cached `r->server_data == NULL` is rejected) -/
example : ((accept ([.iEnter, .iChkBegin, .xStart, .sLock, .sSerBegin, .sSerEnd, .sUnlock, .sSent, .iChkEnd true,
      .iLock, .iStepBegin, .iStepEnd, .iUnlock].map (fun e => ⟨e, none⟩))).toOption.map
      (fun l => !l.isEmpty && l.all (fun s => !s.racy && s.served == 1 && s.sim.steps == 1)),
    match accept ([.iEnter, .iChkBegin, .xStart, .iChkEnd true, .iStepBegin].map (fun e => ⟨e, none⟩)) with
      | .error i => i == 4 | .ok _ => false) = (some true, true) := by decide +kernel

/-- two independent simulations: an interleaving and the sequential schedule agree -/
example : prun concMachine (fun _ => init)
      [(0, .iEnter), (1, .iEnter), (1, .iChkBegin), (0, .iChkBegin), (0, .iChkEnd true), (1, .xStart)]
    = prun concMachine (fun _ => init)
      (seqSched [(0, .iEnter), (1, .iEnter), (1, .iChkBegin), (0, .iChkBegin), (0, .iChkEnd true), (1, .xStart)] 2) :=
  c19_interleaving_eq_sequential concMachine 2 _ _ _ (by decide) rfl |>.symm

end RV.Conc
