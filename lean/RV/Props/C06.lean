import RV.Proofs.BinWriter
import RV.Proofs.BinArch
import RV.Proofs.Cadence
import RV.Proofs.BinPersist
/-
  C06 — every archive snapshot equals the live state when taken, under any history.

  Statements are about `RV/Model/Bin.lean`, the byte-level model of the snapshot format, of
  `reb_binary_diff(…, output_option = 0)` with its pos1/pos2 logic (`diffRaw` on bytes, `diffF`
  on field lists), of `reb_input_fields` at payload level (`applyB`/`applyF`: later value wins),
  and of the archive reader / writer.  The same definitions run natively (drv_c06) and must
  reproduce real archive files byte for byte on every check run.

  `Variant.current` is the source at repo commit d4648a4, `Variant.fixed` the source with all six repairs
  F1, F11, F2, F19, F18, F5 applied (one flag each, RV/Model/Bin.lean).
  Quantification: all field lists (well formed, unique ids), all comparison functions, all
  headers/trailers/tails — nothing is bounded.
-/
set_option linter.unusedVariables false
namespace RV.Bin

/-- `parse (enc fs) = some fs`: the strict parser inverts the encoder on every well-formed list
    of fields (types < 2³², sizes < 2⁶⁴, size = payload length, no END id inside), whatever
    follows the END marker. -/
theorem c06_parse_enc (fs : List Field) (rest : Bytes) (h : WFs fs) :
    parse (encFs fs ++ endBytes ++ rest) = some fs :=
  parse_enc fs rest h

/-- the position logic of the encoder ("field at the aligned position, else scan from the start",
    both loops) is a look-up by id whenever the ids of the new serialisation are unique -/
theorem c06_diff_positions_are_lookups (v : Variant) (cmp : Nat → Bytes → Bytes → Bool)
    (a b : List Field) (hn : (ids b).Nodup) : diffF v cmp a b = diffSpec v cmp a b :=
  diffF_eq_spec v cmp a b hn

/-- the byte-level encoder (pos1/pos2 over two buffers, three cases changed / vanished / new)
    never reads outside its buffers on well-formed input and emits exactly the encoding of the
    field-level delta: all positions it uses are field boundaries -/
theorem c06_diff_bytes_is_field_diff (v : Variant) (cmp : Nat → Bytes → Bytes → Bool)
    (h1 h2 t2 : Bytes) (a b : List Field) (hh1 : h1.length = 64) (hh2 : h2.length = 64)
    (ha : WFs a) (hb : WFs b) :
    diffRaw v cmp (h1 ++ (encFs a ++ endBytes)) (h2 ++ (encFs b ++ (endBytes ++ t2)))
      = some (encFs (diffF v cmp a b)) :=
  diffRaw_enc v cmp h1 h2 t2 a b hh1 hh2 ha hb

/-- delta-codec law for an arbitrary comparison function: id by id the overlaid state equals the
    new state, or the encoder judged old and new payload "same" and kept the old one (for the real
    `cmpReal` this happens for particle arrays that differ only in pointer members, padding, or
    the sign of a zero) -/
theorem c06_delta_law_any_cmp (v : Variant) (cmp : Nat → Bytes → Bytes → Bool)
    (init : State) (a b : List Field) (ha : (ids a).Nodup) (hb : (ids b).Nodup)
    (hinit : ∀ f ∈ a, (∀ g ∈ b, g.ty ≠ f.ty) → init.val f.ty = [])
    (k : Nat) :
    (applyF (applyF init a) (diffF v cmp a b)).val k = (applyF init b).val k ∨
    ∃ f ∈ a, ∃ g ∈ b, f.ty = k ∧ g.ty = k ∧ sameF cmp f g = true ∧
      (applyF (applyF init a) (diffF v cmp a b)).val k = f.data ∧ (applyF init b).val k = g.data :=
  delta_law_fields_gen v cmp init a b ha hb hinit k

/-- **Delta-codec law, full statement** (`DeltaLaw`, RV/Proofs/BinRaw.lean), for the source with
    fixes/F1.diff applied: for all serialisations `a`, `b` — fields may appear, disappear, grow,
    shrink — the encoder yields a delta and `load a; load delta ≈ load b` on bytes. -/
theorem c06_delta_law : DeltaLaw Variant.fixed := by
  intro cmp hc init h1 h2 t1 t2 rest a b hh1 hh2 ha hb hna hnb ua ub hinit
  exact delta_law_bytes _ cmp hc init h1 h2 t1 t2 rest a b hh1 hh2 ha hb hna hnb ua ub hinit (Or.inl rfl)

/-- the same full statement is **false of `Variant.current`** (F1, binarydiff.c:175-212: a vanished
    field is written with its old size and no payload) -/
theorem c06_delta_law_current_false : ¬ DeltaLaw Variant.current := by
  -- Snapshot `a` holds one 4-byte array (id 104, `ri_whfast.p_jh`), `b` holds none: the delta is the bare header
  -- "id 104, size 4", and the reader takes the first four bytes of the END marker as its payload.
  intro h
  have hw : WFs [⟨104, 4, [1, 2, 3, 4]⟩] := by
    intro f hf
    simp only [List.mem_singleton] at hf
    subst hf
    exact ⟨rfl, by decide, by decide, by decide⟩
  obtain ⟨delta, hd, hk⟩ := h (fun _ p q => p == q) (fun _ p q e => by simpa using e) []
    (List.replicate 64 0) (List.replicate 64 0) [] [] [] [⟨104, 4, [1, 2, 3, 4]⟩] []
    rfl rfl hw (by intro f hf; cases hf)
    (by intro f hf; simp only [List.mem_singleton] at hf; subst hf; decide)
    (by intro f hf; cases hf) (by decide) (by decide) (by intro f hf _; rfl)
  rw [diffRaw_enc _ _ _ _ _ _ _ rfl rfl hw (by intro f hf; cases hf)] at hd
  have hd' := (Option.some.inj hd).symm
  subst hd'
  have := hk 104
  revert this
  decide

/-- what holds of `Variant.current`: the law for every pair of serialisations in which no
    non-empty field of `a` is absent from `b` (`¬ Vanishes a b`) -/
theorem c06_delta_law_partial (v : Variant) (cmp : Nat → Bytes → Bytes → Bool) (hc : CmpExact cmp)
    (init : State) (h1 h2 t1 t2 rest : Bytes) (a b : List Field)
    (hh1 : h1.length = 64) (hh2 : h2.length = 64) (ha : WFs a) (hb : WFs b)
    (hna : NoHeader a) (hnb : NoHeader b) (ua : (ids a).Nodup) (ub : (ids b).Nodup)
    (hinit : ∀ f ∈ a, (∀ g ∈ b, g.ty ≠ f.ty) → init.val f.ty = [])
    (hv : ¬ Vanishes a b) :
    ∃ delta, diffRaw v cmp (h1 ++ (encFs a ++ endBytes)) (h2 ++ (encFs b ++ (endBytes ++ t2))) = some delta ∧
      ∀ k, (applyB (applyB init (encFs a ++ (endBytes ++ t1))) (delta ++ (endBytes ++ rest))).val k
            = (applyB init (encFs b ++ (endBytes ++ t2))).val k :=
  delta_law_bytes v cmp hc init h1 h2 t1 t2 rest a b hh1 hh2 ha hb hna hnb ua ub hinit (Or.inr hv)

/-- **archive theorem, index part**: the reader's index of the archive with first snapshot `fs0` and
    deltas `ds` (as written by `n = ds.length` appends: trailer-chain invariant `offset_prev` of blob k+1 =
    `offset_next` of blob k = size of delta k + 16, last `offset_next` = 0) has exactly `n + 1` entries,
    entry 0 at offset 0, entry k+1 right after trailer k; each carries the time field found in its blob -/
theorem c06_index_count_offsets (v : Variant) (hdr : Bytes) (fs0 : List Field) (ds : List (List Field))
    (h : ArchOK hdr fs0 ds) :
    index v (archI hdr fs0 ds) = fixTimes v (archEntries fs0 ds) ∧
    (archEntries fs0 ds).length = ds.length + 1 := by
  refine ⟨index_intact v hdr fs0 ds h, ?_⟩
  simp [archEntries, chainEntries_length]

/-- appending one more delta to a well-formed archive is again one (induction step of the archive theorem) -/
theorem c06_append_keeps_chain (hdr : Bytes) (fs0 : List Field) (ds : List (List Field)) (dn : List Field) :
    overwrite (archI hdr fs0 ds) ((archI hdr fs0 ds).length - 12) (pendingData ds dn)
      = archI hdr fs0 (ds ++ [dn]) :=
  append_shape hdr fs0 ds dn

/-- **the archive of a history is what the write protocol produces**: saving `fs0` to a fresh file and
    running `reb_simulation_save_to_file`'s append path (scan of the first blob, corruption test — which
    never fires on a well-formed archive —, patch of the previous trailer, delta, END, new trailer) once per
    serialisation yields `archOf`, the archive the theorems below talk about -/
theorem c06_appends_is_archive (v : Variant) (cmp : Nat → Bytes → Bytes → Bool) (hdr : Bytes) (fs0 : List Field)
    (strm : List (Bytes × List Field × Bytes))
    (h : HistOK v cmp hdr fs0 (strm.map (·.2.1)))
    (hv : v.f1 = true ∨ ∀ b ∈ strm.map (·.2.1), ¬ Vanishes fs0 b)
    (h64 : ∀ s ∈ strm, s.1.length = 64) (hn : strm.length < 4294967296) :
    appends v cmp (encStream hdr fs0) (strm.map streamOf)
      = some (archOf v cmp hdr fs0 (strm.map (·.2.1))) := by
  have h0 : encStream hdr fs0 = archI hdr fs0 [] := by
    simp [encStream, archI, archG, chainG, finIntact, List.append_assoc]
  have hA0 : ArchOK hdr fs0 [] := ⟨h.hdr, h.b0, h.s0, h.ver, fun x hx => by cases hx⟩
  rw [h0, appends_archI v cmp hdr fs0 strm [] hA0 ?_ (by simpa using hn)]
  · simp [archOf, deltas, List.map_map, Function.comp_def]
  · intro s hs
    have hb : s.2.1 ∈ strm.map (·.2.1) := List.mem_map_of_mem hs
    obtain ⟨hbo, hbu, hbt, hbl⟩ := h.each _ hb
    exact ⟨h64 s hs, hbo.wf, diffF_BlobOK v cmp fs0 _ h.b0 hbo hbu (hv.imp_right fun hv => hv _ hb) hbt, hbl⟩

/-- **archive theorem — snapshots, full statement** (source with fixes/F1.diff: `v.f1 = true`): for every
    history `fs0, bs` (fields may appear, vanish, grow, shrink, reappear), loading snapshot `j+1` of the
    archive gives id by id the state `bs[j]` that was appended -/
theorem c06_archive_snapshot (v : Variant) (hf1 : v.f1 = true) (cmp : Nat → Bytes → Bytes → Bool)
    (hc : CmpExact cmp) (init : State) (hdr : Bytes) (fs0 : List Field) (bs : List (List Field))
    (h : HistOK v cmp hdr fs0 bs) (j : Nat) (b : List Field) (hj : bs[j]? = some b)
    (hinit : ∀ f ∈ fs0, (∀ g ∈ b, g.ty ≠ f.ty) → init.val f.ty = []) :
    ∃ st, snapshot init (archOf v cmp hdr fs0 bs)
            ((index v (archOf v cmp hdr fs0 bs)).map (·.off)) (j + 1) = some st ∧
          ∀ k, st.val k = (applyF init b).val k :=
  archive_snapshot v cmp hc init hdr fs0 bs h (Or.inl hf1) j b hj hinit

/-- what holds of `Variant.current` (F1): the same for histories in which no non-empty field of the
    first snapshot is ever absent later -/
theorem c06_archive_snapshot_partial (v : Variant) (cmp : Nat → Bytes → Bytes → Bool)
    (hc : CmpExact cmp) (init : State) (hdr : Bytes) (fs0 : List Field) (bs : List (List Field))
    (h : HistOK v cmp hdr fs0 bs) (hnv : ∀ b ∈ bs, ¬ Vanishes fs0 b)
    (j : Nat) (b : List Field) (hj : bs[j]? = some b)
    (hinit : ∀ f ∈ fs0, (∀ g ∈ b, g.ty ≠ f.ty) → init.val f.ty = []) :
    ∃ st, snapshot init (archOf v cmp hdr fs0 bs)
            ((index v (archOf v cmp hdr fs0 bs)).map (·.off)) (j + 1) = some st ∧
          ∀ k, st.val k = (applyF init b).val k :=
  archive_snapshot v cmp hc init hdr fs0 bs h (Or.inr hnv) j b hj hinit

/-- **archive theorem — count**: `n` appends, `n + 1` snapshots (`_partial`: under F1 only without vanishing
    fields; with `v.f1 = true` unconditionally) -/
theorem c06_archive_count_partial (v : Variant) (cmp : Nat → Bytes → Bytes → Bool) (hdr : Bytes) (fs0 : List Field)
    (bs : List (List Field)) (h : HistOK v cmp hdr fs0 bs) (hv : v.f1 = true ∨ ∀ b ∈ bs, ¬ Vanishes fs0 b) :
    (index v (archOf v cmp hdr fs0 bs)).length = bs.length + 1 := by
  have hA := archOK_of_hist v cmp hdr fs0 bs h hv
  rw [archOf, index_intact v hdr fs0 _ hA]
  rw [fixTimes_length]
  simp [archEntries, chainEntries_length, deltas]

/-- **archive theorem — times, full statement** (source with fixes/F11.diff: `v.f11 = true`): the index
    reports for snapshot `j+1` the time of the appended state -/
theorem c06_archive_time (v : Variant) (hf11 : v.f11 = true) (cmp : Nat → Bytes → Bytes → Bool) (hc : CmpExact cmp)
    (hdr : Bytes) (fs0 : List Field) (bs : List (List Field)) (h : HistOK v cmp hdr fs0 bs)
    (hv : v.f1 = true ∨ ∀ b ∈ bs, ¬ Vanishes fs0 b)
    (j : Nat) (b : List Field) (hj : bs[j]? = some b) (t0 tb : Field)
    (h0 : t0 ∈ fs0) (hb : tb ∈ b) (h0t : t0.ty = T_ID) (hbt : tb.ty = T_ID) :
    ∃ off, (index v (archOf v cmp hdr fs0 bs))[j + 1]? = some ⟨off, some tb.data⟩ := by
  obtain ⟨off, ho⟩ := archive_time v cmp hdr fs0 bs h hv j b hj t0 tb h0 hb h0t hbt
  refine ⟨off, ?_⟩
  rw [ho, hf11]
  by_cases hs : sameF cmp t0 tb = true
  · have : t0.data = tb.data := by
      simp only [sameF, Bool.and_eq_true] at hs
      exact hc _ _ _ hs.2
    simp [hs, this]
  · simp [hs]

/-- what holds of `Variant.current` (F11, simulationarchive.c:222,243): the time is right whenever the
    encoder saw it change against the first snapshot; otherwise the slot is never written (`none`:
    the reader reports 0, or garbage beyond the first 1024 slots) -/
theorem c06_archive_time_partial (v : Variant) (cmp : Nat → Bytes → Bytes → Bool)
    (hdr : Bytes) (fs0 : List Field) (bs : List (List Field)) (h : HistOK v cmp hdr fs0 bs)
    (hv : v.f1 = true ∨ ∀ b ∈ bs, ¬ Vanishes fs0 b)
    (j : Nat) (b : List Field) (hj : bs[j]? = some b) (t0 tb : Field)
    (h0 : t0 ∈ fs0) (hb : tb ∈ b) (h0t : t0.ty = T_ID) (hbt : tb.ty = T_ID) :
    ∃ off, (index v (archOf v cmp hdr fs0 bs))[j + 1]? =
      some ⟨off, if sameF cmp t0 tb then (if v.f11 then some t0.data else none) else some tb.data⟩ :=
  archive_time v cmp hdr fs0 bs h hv j b hj t0 tb h0 hb h0t hbt

/-- non-vacuity: a two-field serialisation, one field changed, one vanished, one new -/
example :
    let a : List Field := [⟨0, 2, [1, 2]⟩, ⟨104, 3, [7, 8, 9]⟩]
    let b : List Field := [⟨0, 2, [1, 3]⟩, ⟨85, 1, [5]⟩]
    WFs a ∧ WFs b ∧ (ids a).Nodup ∧ (ids b).Nodup ∧ Vanishes a b ∧
    diffF Variant.fixed (fun _ p q => p == q) a b = [⟨0, 2, [1, 3]⟩, ⟨104, 0, []⟩, ⟨85, 1, [5]⟩] ∧
    diffF Variant.current (fun _ p q => p == q) a b = [⟨0, 2, [1, 3]⟩, ⟨104, 3, []⟩, ⟨85, 1, [5]⟩] := by
  refine ⟨?_, ?_, by decide, by decide, ⟨⟨104, 3, [7, 8, 9]⟩, by simp, by decide, by decide⟩, by decide, by decide⟩
  · intro f hf
    simp only [List.mem_cons, List.not_mem_nil, or_false] at hf
    rcases hf with rfl | rfl <;> exact ⟨rfl, by decide, by decide, by decide⟩
  · intro f hf
    simp only [List.mem_cons, List.not_mem_nil, or_false] at hf
    rcases hf with rfl | rfl <;> exact ⟨rfl, by decide, by decide, by decide⟩

/-- **cadence, interval mode, both directions of integration** (`reb_simulationarchive_heartbeat`, exact time
    arithmetic): `s = ±1` is the sign of `dt`, `d > 0` the interval, the heartbeat runs at step boundaries `ts`
    that advance in direction `s` by at most one interval each (`|dt| ≤ |Δ|`), and `next` starts ahead of the
    last boundary seen.  Then a snapshot is taken at a boundary iff the prescribed time has been reached, that
    boundary is less than one interval past it, and the next prescribed time is exactly one interval further. -/
theorem c06_cadence_interval_exact (s d : Int) (hs : s = 1 ∨ s = -1) (hd : 0 < d) (p next : Int) (ts : List Int)
    (hinv : s * p < s * next) (hc : RV.Cadence.Chain s d p ts) :
    RV.Cadence.Exact s d next ts (RV.Cadence.run RV.Cadence.intOps s d next ts).1 :=
  RV.Cadence.cadence_exact s d hs p next ts hinv hc

/-- the persisted cadence state after any run = start + (number of snapshots) · sign · interval -/
theorem c06_cadence_next_advances (s d next : Int) (ts : List Int) :
    (RV.Cadence.run RV.Cadence.intOps s d next ts).2
      = next + (RV.Cadence.count (RV.Cadence.run RV.Cadence.intOps s d next ts).1 : Int) * (s * d) :=
  RV.Cadence.cadence_next s d next ts

/-- two heartbeats at the same time (end of one `integrate()`, start of the next; rebound.c:918 and 881): the second one
    writes nothing, provided the boundary was less than one interval past its prescribed time -/
theorem c06_cadence_same_time_no_duplicate (s d next t : Int) (hs : s = 1 ∨ s = -1) (hfire : s * next ≤ s * t)
    (hnl : s * t < s * next + d) :
    RV.Cadence.hb RV.Cadence.intOps s d (RV.Cadence.hb RV.Cadence.intOps s d next t).2 t = (false, next + s * d) := by
  have h1 : RV.Cadence.hb RV.Cadence.intOps s d next t = (true, next + s * d) := by rw [RV.Cadence.hb_int]; simp [hfire]
  rw [h1]
  exact RV.Cadence.hb_no_refire s d next t hs hnl

/-- ... and with the prescribed time a whole interval or more behind (interval shorter than a step) the second
    heartbeat writes the same state again: the model follows the source (finding `cadence:lagging-next-duplicate`) -/
theorem c06_cadence_lagging_duplicates (s d next t : Int) (hfire : s * next ≤ s * t) (hlag : s * (next + s * d) ≤ s * t) :
    (RV.Cadence.hb RV.Cadence.intOps s d (RV.Cadence.hb RV.Cadence.intOps s d next t).2 t).1 = true := by
  have h1 : RV.Cadence.hb RV.Cadence.intOps s d next t = (true, next + s * d) := by rw [RV.Cadence.hb_int]; simp [hfire]
  rw [h1]
  exact RV.Cadence.hb_refire_lagging s d next t hlag

/-- repaired heartbeat (`fixes/C06-cadence-skip-passed-output-times.diff`, model variant selected by a behavioural probe):
    it is the heartbeat of the source as it stands whenever the boundary is less than one interval past the prescribed time ... -/
theorem c06_cadence_repaired_same_when_not_lagging (s d next t : Int) (hs : s = 1 ∨ s = -1) (hd : 0 < d)
    (hnl : s * t < s * next + d) :
    RV.Cadence.hbR RV.Cadence.intOpsR s d next t = RV.Cadence.hb RV.Cadence.intOps s d next t :=
  RV.Cadence.hbR_eq_hb s d next t hs hnl

/-- ... after every snapshot the prescribed time is the next one of the grid strictly ahead of `t` (for ANY ratio of step
    and interval) ... -/
theorem c06_cadence_repaired_next_ahead (s d next t : Int) (hs : s = 1 ∨ s = -1) (hd : 0 < d) (hfire : s * next ≤ s * t) :
    s * t < s * (RV.Cadence.hbR RV.Cadence.intOpsR s d next t).2 ∧ s * (RV.Cadence.hbR RV.Cadence.intOpsR s d next t).2 ≤ s * t + d :=
  RV.Cadence.hbR_next_ahead s d next t hs hd hfire

/-- ... hence a second heartbeat at the same time never writes the state again -/
theorem c06_cadence_repaired_never_twice (s d next t : Int) (hs : s = 1 ∨ s = -1) (hd : 0 < d) (hfire : s * next ≤ s * t) :
    RV.Cadence.hbR RV.Cadence.intOpsR s d (RV.Cadence.hbR RV.Cadence.intOpsR s d next t).2 t
      = (false, (RV.Cadence.hbR RV.Cadence.intOpsR s d next t).2) :=
  RV.Cadence.hbR_no_refire s d next t hs hd hfire

/-- cadence, step mode: snapshots exactly at `steps_done = first + j·step` -/
theorem c06_cadence_step_exact (step : Nat) (hd : 0 < step) (p next : Nat) (ts : List Nat)
    (hinv : p < next) (hc : RV.Cadence.ChainStep step p ts) :
    RV.Cadence.ExactStep step next ts (RV.Cadence.runStep step next ts).1 :=
  RV.Cadence.cadence_step_exact step p next ts hinv hc

/-- **cadence, wall-time mode** (`auto_walltime`; the wall clock is an arbitrary input): for EVERY sequence of clock
    values seen by the heartbeat a snapshot is taken iff the prescribed wall time has been reached — never early,
    never omitted, at most one per heartbeat -/
theorem c06_cadence_walltime_sound (d next : Int) (ws : List Int) :
    RV.Cadence.WallSound d next ws (RV.Cadence.runWall RV.Cadence.intOps d next ws).1 :=
  RV.Cadence.wall_sound d next ws

/-- … `next` advances by exactly one interval per snapshot … -/
theorem c06_cadence_walltime_next (d next : Int) (ws : List Int) :
    (RV.Cadence.runWall RV.Cadence.intOps d next ws).2
      = next + (RV.Cadence.count (RV.Cadence.runWall RV.Cadence.intOps d next ws).1 : Int) * d :=
  RV.Cadence.wall_next d next ws

/-- … and when the clock is non-decreasing and advances by at most one interval between heartbeats the cadence is
    exact (first heartbeat at or after each prescribed wall time, none skipped) -/
theorem c06_cadence_walltime_exact (d : Int) (hd : 0 < d) (p next : Int) (ws : List Int)
    (hinv : p < next) (hc : RV.Cadence.Chain 1 d p ws) :
    RV.Cadence.Exact 1 d next ws (RV.Cadence.runWall RV.Cadence.intOps d next ws).1 :=
  RV.Cadence.wall_exact d hd p next ws hinv hc

/-- **bridge to C05** (field-level model RV/Model/Persist.lean, descriptor-driven `encode`/`decodeFields` over
    `(id, List UInt8)`): with the adapter `toBin`/`toP` (same id, size = payload length, bytes as naturals) the byte
    stream of a simulation is `encStream hdr (fields)`, and parsing it gives the fields back -/
theorem c06_c05_fields_of_stream (hdr : Bytes) (hh : hdr.length = 64) (fs : List RV.Persist.Field)
    (h : RV.BinPersist.StreamOK fs) :
    RV.BinPersist.fieldsOfBytes (RV.BinPersist.streamBytes hdr fs) = some fs :=
  RV.BinPersist.fields_of_stream hdr hh fs h

/-- **C05's codec lifts to bytes**: byte-level load ∘ byte-level save = field-level decode ∘ field-level encode,
    for every table and simulation whose stream has ids < 2³², payloads < 2⁶⁴ bytes and END id 9999 -/
theorem c06_c05_decode_encode_bytes (hdr : Bytes) (hh : hdr.length = 64) (psz : Nat) (sp : RV.Persist.Special)
    (tbl : List RV.Persist.Desc) (s init : RV.Persist.Sim) (fp : Bool)
    (hs : RV.BinPersist.StreamOK (RV.Persist.body sp (RV.Persist.encode psz sp tbl s fp))) :
    RV.BinPersist.decodeBytes psz sp tbl init (RV.BinPersist.encodeBytes hdr psz sp tbl s fp)
      = some (RV.Persist.decodeFields psz sp tbl (init, []) (RV.Persist.encode psz sp tbl s fp)) :=
  RV.BinPersist.decodeBytes_encodeBytes hdr hh psz sp tbl s init fp hs

/-- hence `decodeBytes (encodeBytes img) = img` (C05's round trip, on the real byte stream) -/
theorem c06_c05_bytes_roundtrip (hdr : Bytes) (hh : hdr.length = 64) {psz : Nat} {sp : RV.Persist.Special}
    {tbl : List RV.Persist.Desc} (ok : RV.Persist.TableOK psz sp tbl) (s init : RV.Persist.Sim)
    (hwf : RV.Persist.WF psz tbl s) (hp : RV.Persist.Persisted psz tbl init s)
    (hs : RV.BinPersist.StreamOK (RV.Persist.body sp (RV.Persist.encode psz sp tbl s false))) :
    RV.BinPersist.decodeBytes psz sp tbl init (RV.BinPersist.encodeBytes hdr psz sp tbl s false) = some (s, []) := by
  rw [RV.BinPersist.decodeBytes_encodeBytes hdr hh psz sp tbl s init false hs,
      RV.Persist.decode_encode ok s init false hwf, RV.Persist.restore_eq_self init s hp]
  rfl

/-- the payload-level reader of the byte model on a C05 stream is "later value wins" on its field list -/
theorem c06_c05_applyB_stream (hdr : Bytes) (hh : hdr.length = 64) (fs : List RV.Persist.Field)
    (h : RV.BinPersist.StreamOK fs) (hnh : ∀ f ∈ fs, f.1 ≠ HEADER) (st : State) :
    applyB st ((RV.BinPersist.streamBytes hdr fs).drop 64) = applyF st (fs.map RV.BinPersist.toBin) := by
  rw [RV.BinPersist.streamBytes_drop hdr hh]
  apply applyB_enc _ _ _ (RV.BinPersist.toBin_WFs fs h)
  intro g hg
  obtain ⟨f, hf, rfl⟩ := List.mem_map.mp hg
  exact hnh f hf

/-- the reader's index arrays (capacity 1024, enlarged by 1024 when `i == nblobsmax-1`) always have slot `i`
    when blob `i` is recorded, for every number of blobs: the unbounded `indexLoop` of the model is what the
    growth schedule of the source implements -/
theorem c06_index_capacity (i : Nat) : i < RV.Cadence.capAt i := RV.Cadence.cap_ok i

/-- non-vacuity of the archive theorem: a concrete history satisfying `HistOK` (time 5 at both snapshots, a
    setting changed in between), for which the delta carries no time field — the F11 situation -/
example :
    let hdr : Bytes := [82, 69, 66, 79] ++ List.replicate 60 0
    let fs0 : List Field := [⟨0, 8, [0, 0, 0, 0, 0, 0, 20, 64]⟩, ⟨1, 1, [1]⟩, ⟨125, 4, [3, 0, 0, 0]⟩]
    let b : List Field := [⟨0, 8, [0, 0, 0, 0, 0, 0, 20, 64]⟩, ⟨1, 1, [2]⟩, ⟨125, 4, [3, 0, 0, 0]⟩]
    HistOK Variant.current (fun _ p q => p == q) hdr fs0 [b] ∧ ¬ Vanishes fs0 b ∧
    tOf (diffF Variant.current (fun _ p q => p == q) fs0 b) none = none := by
  refine ⟨⟨⟨rfl, by decide⟩, ⟨?_, ?_, ?_⟩, ⟨?_, ?_, ?_, ?_⟩, by decide, by decide, ?_⟩, ?_, by decide⟩
  any_goals
    (intro f hf; simp only [List.mem_cons, List.not_mem_nil, or_false] at hf
     rcases hf with rfl | rfl | rfl <;> first | exact ⟨rfl, by decide, by decide, by decide⟩ | decide)
  · intro b' hb'
    simp only [List.mem_singleton] at hb'
    subst hb'
    refine ⟨⟨?_, ?_, ?_⟩, by decide, ?_, by decide⟩
    any_goals
      (intro f hf; simp only [List.mem_cons, List.not_mem_nil, or_false] at hf
       rcases hf with rfl | rfl | rfl <;> first | exact ⟨rfl, by decide, by decide, by decide⟩ | decide)
  · rintro ⟨f, hf, hne, hno⟩
    simp only [List.mem_cons, List.not_mem_nil, or_false] at hf
    rcases hf with rfl | rfl | rfl
    · exact hno _ (List.mem_cons_self ..) rfl
    · exact hno ⟨1, 1, [2]⟩ (by simp) rfl
    · exact hno ⟨125, 4, [3, 0, 0, 0]⟩ (by simp) rfl

end RV.Bin
